import QModel
import QProofs.PyLemmas
import QProofs.PyForall
import QProofs.DictLemmas
import QProofs.ListLemmas
import QProofs.ArithLemmas
import QProofs.ArrLemmas
import QProofs.ArithRounded
import QProofs.BytesProofs
import QProofs.CalibProofs
import QProofs.EvalProofs
import QProofs.GenInstsGroup
import QProofs.GenInstsInfo
import QProofs.GenInstsOK
import QProofs.GraphBasics
import QProofs.GraphInv
import QProofs.GraphStep
import QProofs.GraphTotal
import QProofs.Locality
import QProofs.NFCheckProofs
import QProofs.PipeAbs
import QProofs.PipeDefs
import QProofs.PipeGen
import QProofs.MatAPI
import QProofs.MatEmit
import QProofs.MatLoop
import QProofs.PipeMat
import QProofs.PipeNF
import QProofs.PipeNameMap
import QProofs.PipeOps
import QProofs.PipeStdShape
import QProofs.PipeUpdate
import QProofs.PipelineWF
import QProofs.PipelineWFExamples
import QProofs.PrecLemmas
import QProofs.ConfigProofs
import QProofs.RecipeHistory
import QProofs.RoundedAux
import QProofs.Rounding
import QProofs.SerializeProofs
import QProofs.SharingProofs
import QProofs.SkeletonProof
import QProofs.StepTypes
import QProofs.ValidateProofs
import QProofs.RunRule
import QProofs.Wiring
import QProofs.RunDesc
import QProofs.CalibExact
import QProofs.SharingE2E
import QProofs.SharingHub
import QProofs.SharingGen
import QProofs.ReqTrace
import QProofs.SharingData
import QProofs.NdReduce
import QProofs.MatParams
import QProofs.LocalityGen
import QProofs.LocalityQsv
import QProofs.LocalityMat
import QProofs.LocalityRename
import QProofs.LocalityPipe
import QProofs.LocalityShare
import QProofs.LocalityCompat
import QProofs.ConstBytes
import QProofs.ConstQuant
import QProofs.ConstValue
import QProofs.ConstE2E
import QProofs.ConstSrc
import QProofs.TypingGraph
import QProofs.TypingReq
import QProofs.TypingShape
import QProofs.TypingSrq
import QProofs.RunStages
import QProofs.TypingE2E
import QProofs.TypingModes
import QProofs.MatKind
import QProofs.MatSites
import QProofs.MatTotal
import QProofs.MatTotalPolicy
import QProofs.MatTotalOps
import QProofs.MatTotalProd
import QProofs.MatTotalGen
import QProofs.MatTotalCheck
import QProofs.MatTotalMain
import QProofs.MatTotalPipe
import QProofs.MatTotalSound
import QProofs.ValidateE2E
import QProofs.IOContract
import QProofs.NumericScalar
import QProofs.NumericArray
import QProofs.NumericSites
import QProofs.NumericTotal
import QProofs.NumericCalib
import QProofs.ParamsGraph
import QProofs.ParamsSrc
import QProofs.ParamsStats
import QProofs.ParamAPI
import QProofs.ParamsE2E
import QProofs.ParamsWF
import QProofs.ParamsOps
import QProofs.KernelSpec
import QProofs.KernelSig
import QProofs.KernelSigRun
import QProofs.KernelSigMode
import QProofs.KernelSigOps
import QProofs.KernelSigBits
import QProofs.KernelSigIns
import QProofs.KernelSigF32
import QProofs.KernelSigMain
import QProofs.NumericSessions
import QProofs.EmulatedSpec
import QProofs.EmulatedInv
import QProofs.EmulatedWF
import QProofs.EmulatedNames
import QProofs.EmulatedThms
import QProofs.BlockwiseSpec
import QProofs.BlockwiseLaws
import QProofs.BlockwiseHalf
import QProofs.EmuSemProofs
import QProofs.EmuSemMain
