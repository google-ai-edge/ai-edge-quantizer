import QProofs.ArithLemmas
/-!
Scalar totality of the arithmetic.  Powers of two inside the normal exponent range are fixed points of `Prec.rn`; with
monotonicity this bounds every rounded intermediate by a power of two, without loss.  `NumT.B = 2^63` is the magnitude
bound under which no intermediate of `zpScale1`, `quantize1` and the bias quantization leaves the float32 range.
-/
open Num Arith PrecL ArithL

set_option autoImplicit false

namespace NumT

/-- the formats of scales and statistics: float32, float64, or `exact` (statistics of integer tensors; python numbers) -/
abbrev F3264 (pr : Prec) : Prop := pr = .f32 ∨ pr = .f64 ∨ pr = .exact

theorem F3264.ne16 {pr : Prec} (h : F3264 pr) : pr ≠ .f16 := by
  rintro rfl
  rcases h with h | h | h <;> cases h

theorem rn_abs_le_pow (pr : Prec) (k : Int) (hk : pr = .exact ∨ pr.emin ≤ k) {x : Rat} (h : |x| ≤ (2:Rat)^k) :
    |pr.rn x| ≤ (2:Rat)^k := by
  obtain ⟨h1, h2⟩ := abs_le.mp h
  refine abs_le.mpr ⟨?_, rn_le_pow pr k hk h2⟩
  have := rn_le_pow pr k hk (x := -x) (by linarith)
  rw [rn_neg] at this
  linarith

theorem F3264.join {a b : Prec} (ha : F3264 a) (hb : F3264 b) : F3264 (a.join b) := by
  rcases ha with rfl | rfl | rfl <;> rcases hb with rfl | rfl | rfl <;> simp [F3264, Prec.join]

theorem F3264.promote {a : Prec} (ha : F3264 a) (w : Nat) : F3264 (promoteInt a w) := by
  rcases ha with rfl | rfl | rfl
  · unfold promoteInt; simp only []; split <;> simp [F3264]
  · right; left; rfl
  · right; right; rfl

theorem isFin_of_abs_le (pr : Prec) (hpr : F3264 pr) {x : Rat} (h : |x| ≤ (2:Rat)^(127:Int)) : pr.isFin x = true := by
  obtain ⟨h1, h2⟩ := abs_le.mp h
  rcases hpr with rfl | rfl | rfl
  · have hm : (2:Rat)^(127:Int) ≤ Prec.f32.maxFinite := by norm_num [Prec.maxFinite, Prec.p, Prec.emax]
    simp only [Prec.isFin, Bool.and_eq_true, decide_eq_true_eq]
    constructor <;> linarith
  · have hm : (2:Rat)^(127:Int) ≤ Prec.f64.maxFinite := by
      have e : Prec.f64.maxFinite = ((2:Rat)^(53:Int) - 1) * (2:Rat)^(971:Int) := by
        norm_num [Prec.maxFinite, Prec.p, Prec.emax]
      rw [e]
      have h971 : (2:Rat)^(127:Int) ≤ (2:Rat)^(971:Int) := zpow_le_zpow_right₀ (by norm_num) (by norm_num)
      have h53 : (1:Rat) ≤ (2:Rat)^(53:Int) - 1 := by norm_num
      have hpos := Rounding.two_zpow_pos 971
      calc (2:Rat)^(127:Int) ≤ 1 * (2:Rat)^(971:Int) := by rw [one_mul]; exact h971
        _ ≤ ((2:Rat)^(53:Int) - 1) * (2:Rat)^(971:Int) := mul_le_mul_of_nonneg_right h53 (le_of_lt hpos)
    simp only [Prec.isFin, Bool.and_eq_true, decide_eq_true_eq]
    constructor <;> linarith
  · rfl

theorem pow_le_pow {a b : Int} (h : a ≤ b) : (2:Rat)^a ≤ (2:Rat)^b := zpow_le_zpow_right₀ (by norm_num) h

theorem pow_mul (a b : Int) : (2:Rat)^a * (2:Rat)^b = (2:Rat)^(a + b) := (zpow_add₀ (by norm_num) a b).symm

def B : Rat := (2:Rat)^(63:Int)

theorem B_pos : 0 < B := Rounding.two_zpow_pos 63
theorem one_le_B : 1 ≤ B := by unfold B; norm_num

/-- lower bound of every scale `tensor_zp_scale_from_min_max` returns: `2^-30` -/
def sLo : Rat := (2:Rat)^(-30:Int)

theorem sLo_pos : 0 < sLo := Rounding.two_zpow_pos _

theorem rn_pow_fin (pr : Prec) (hpr : F3264 pr) (k : Int) (hk : -126 ≤ k) (hk' : k ≤ 127) {x : Rat}
    (h : |x| ≤ (2:Rat)^k) : |pr.rn x| ≤ (2:Rat)^k ∧ pr.isFin (pr.rn x) = true :=
  have hr := rn_abs_le_pow pr k (expOK pr hpr.ne16 hk) h
  ⟨hr, isFin_of_abs_le pr hpr (le_trans hr (pow_le_pow hk'))⟩

/-- on statistics within `B` every finiteness check of `zpScale1` passes, for 2 to 16 bits, symmetric or not,
    `min ≤ max` or not -/
theorem chan_bounded (pr : Prec) (hpr : F3264 pr) (bits : Nat) (hb2 : 2 ≤ bits) (hb16 : bits ≤ 16) (sym : Bool)
    (mn mx : Rat) (hmn : |mn| ≤ B) (hmx : |mx| ≤ B) : chanFin pr bits sym mn mx = true := by
  have hs1 : sLo ≤ chanScale pr bits sym mn mx := chanScale_ge pr hpr.ne16 bits hb2 hb16 sym mn mx
  have hs2 : chanScale pr bits sym mn mx ≤ B :=
    chanScale_le pr hpr.ne16 bits hb2 hb16 sym mn mx 63 (by norm_num) hmn hmx
  have hs0 := sLo_pos.trans_le hs1
  have fs : pr.isFin (chanScale pr bits sym mn mx) = true :=
    isFin_of_abs_le pr hpr (by rw [abs_of_pos hs0]; exact hs2.trans (pow_le_pow (by norm_num)))
  cases sym with
  | true => exact fs
  | false =>
    have hs1 : sLo ≤ asymScale pr bits mn mx := hs1
    have hs0 : 0 < asymScale pr bits mn mx := hs0
    obtain ⟨hq1, -, hqmin, hq3⟩ := steps_bounds bits hb2 hb16
    have hB : (2:Rat)^(64:Int) = 2 * B := by unfold B; norm_num
    -- the range `max(mx, 0) − min(mn, 0)` lies in `[0, 2^64]`
    have hm0 : minR mn 0 ≤ 0 := minR_le_right mn 0
    have hm1 : -B ≤ minR mn 0 := le_minR (abs_le.mp hmn).1 (neg_nonpos.2 B_pos.le)
    have hD : |maxR mx 0 - minR mn 0| ≤ (2:Rat)^(64:Int) := by
      have := maxR_ge_right mx 0
      have : maxR mx 0 ≤ B := maxR_le (abs_le.mp hmx).2 B_pos.le
      rw [hB, abs_of_nonneg (by linarith)]; linarith
    have f1 : fin pr (asymDiff pr mn mx) = true := (rn_pow_fin pr hpr 64 (by norm_num) (by norm_num) hD).2
    -- the quotient `min / scale` is at most `2^63 / 2^-30`
    have hquo : |minR mn 0 / asymScale pr bits mn mx| ≤ (2:Rat)^(93:Int) := by
      rw [abs_div, abs_of_pos hs0, div_le_iff₀ hs0, abs_of_nonpos hm0]
      calc -minR mn 0 ≤ B := by linarith
        _ = (2:Rat)^(93:Int) * sLo := by unfold B sLo; rw [pow_mul]; norm_num
        _ ≤ (2:Rat)^(93:Int) * asymScale pr bits mn mx := mul_le_mul_of_nonneg_left hs1 (Rounding.two_zpow_pos _).le
    obtain ⟨hq, f3⟩ : |asymQuo pr bits mn mx| ≤ (2:Rat)^(93:Int) ∧ fin pr (asymQuo pr bits mn mx) = true :=
      rn_pow_fin pr hpr 93 (by norm_num) (by norm_num) hquo
    -- the zero point before rounding to an integer
    have hzraw : |qminF bits - asymQuo pr bits mn mx| ≤ (2:Rat)^(94:Int) := by
      have h94 : (2:Rat)^(94:Int) = 2 * (2:Rat)^(93:Int) := by
        rw [show (94:Int) = 1 + 93 by norm_num, ← pow_mul]; norm_num
      have h93 : (32768:Rat) ≤ (2:Rat)^(93:Int) :=
        le_trans (by norm_num) (pow_le_pow (a := 15) (by norm_num))
      obtain ⟨a, b⟩ := abs_le.mp hq
      rw [hqmin, h94]
      exact abs_le.mpr ⟨by linarith only [b, hq3, h93], by linarith only [a, hq1]⟩
    have f4 : fin pr (asymZpF pr bits mn mx) = true := (rn_pow_fin pr hpr 94 (by norm_num) (by norm_num) hzraw).2
    exact Bool.and_eq_true_iff.2 ⟨Bool.and_eq_true_iff.2 ⟨Bool.and_eq_true_iff.2 ⟨f1, fs⟩, f3⟩, f4⟩

theorem zpScale1_total (pr : Prec) (hpr : F3264 pr) (bits : Nat) (hb2 : 2 ≤ bits) (hb16 : bits ≤ 16) (sym : Bool)
    (mn mx : Rat) (hmn : |mn| ≤ B) (hmx : |mx| ≤ B) :
    ∃ z s, zpScale1 pr bits sym mn mx = .ok (z, s) ∧ sLo ≤ s ∧ s ≤ B :=
  ⟨_, _, zpScale1_ok_iff.2 ⟨chan_bounded pr hpr bits hb2 hb16 sym mn mx hmn hmx, rfl, rfl⟩,
    chanScale_ge pr hpr.ne16 bits hb2 hb16 sym mn mx,
    chanScale_le pr hpr.ne16 bits hb2 hb16 sym mn mx 63 (by norm_num) hmn hmx⟩

/-- the scalar core of `uniform_quantize` is total: data within `2^63`, a scale of at least `2^-60`
    (every scale of `zpScale1_total`, and every bias scale `s_in · s_w`), a zero point within the
    64-bit range -/
theorem quantize1_total (xpr spr : Prec) (hx : F3264 xpr) (hs : F3264 spr) (zw bits : Nat) (narrow : Bool)
    (x scale : Rat) (zp : Int) (hxb : |x| ≤ B) (hs1 : (2:Rat)^(-60:Int) ≤ scale)
    (hz : |(zp : Rat)| ≤ (2:Rat)^(63:Int)) :
    ∃ q, quantize1 xpr spr zw bits narrow x scale zp = .ok q := by
  have hs0 : 0 < scale := lt_of_lt_of_le (Rounding.two_zpow_pos _) hs1
  have hj := F3264.join hx hs
  have hinv : |1 / scale| ≤ (2:Rat)^(60:Int) := by
    rw [abs_of_pos (one_div_pos.mpr hs0), div_le_iff₀ hs0]
    calc (1:Rat) = (2:Rat)^(60:Int) * (2:Rat)^(-60:Int) := by rw [pow_mul]; norm_num
      _ ≤ (2:Rat)^(60:Int) * scale := mul_le_mul_of_nonneg_left hs1 (Rounding.two_zpow_pos _).le
  obtain ⟨hi, f1⟩ : |qInv spr scale| ≤ (2:Rat)^(60:Int) ∧ fin spr (qInv spr scale) = true :=
    rn_pow_fin spr hs 60 (by norm_num) (by norm_num) hinv
  have hpraw : |x * qInv spr scale| ≤ (2:Rat)^(123:Int) := by
    rw [abs_mul]
    calc |x| * |qInv spr scale| ≤ B * (2:Rat)^(60:Int) := mul_le_mul hxb hi (abs_nonneg _) B_pos.le
      _ = (2:Rat)^(123:Int) := by unfold B; rw [pow_mul]; norm_num
  obtain ⟨hp, f2⟩ : |qProd xpr spr x scale| ≤ (2:Rat)^(123:Int) ∧ fin (xpr.join spr) (qProd xpr spr x scale) = true :=
    rn_pow_fin _ hj 123 (by norm_num) (by norm_num) hpraw
  have hsraw : |qProd xpr spr x scale + (zp : Rat)| ≤ (2:Rat)^(124:Int) := by
    have h124 : (2:Rat)^(124:Int) = 2 * (2:Rat)^(123:Int) := by
      rw [show (124:Int) = 1 + 123 by norm_num, ← pow_mul]; norm_num
    have h63 : (2:Rat)^(63:Int) ≤ (2:Rat)^(123:Int) := pow_le_pow (by norm_num)
    rw [h124]
    calc |qProd xpr spr x scale + (zp : Rat)| ≤ |qProd xpr spr x scale| + |(zp : Rat)| := abs_add_le _ _
      _ ≤ (2:Rat)^(123:Int) + (2:Rat)^(63:Int) := add_le_add hp hz
      _ ≤ 2 * (2:Rat)^(123:Int) := by linarith
  have f3 : fin (promoteInt (xpr.join spr) zw) (qSum xpr spr zw x scale zp) = true :=
    (rn_pow_fin _ (F3264.promote hj zw) 124 (by norm_num) (by norm_num) hsraw).2
  exact ⟨_, quantize1_ok_iff.2 ⟨hs0.ne', by rw [f1, f2, f3]; rfl, rfl⟩⟩

theorem sLo_ge60 : (2:Rat)^(-60:Int) ≤ sLo := pow_le_pow (by norm_num)

/-- the product of two scales neither overflows nor underflows to 0: for scales in `[2^-30, 2^63]`
    (what `zpScale1_total` returns) the rounded product lies in `[2^-60, 2^126]` -/
theorem scaleProd_total (pr : Prec) (hpr : F3264 pr) (a b : Rat) (ha1 : sLo ≤ a) (ha2 : a ≤ B) (hb1 : sLo ≤ b) (hb2 : b ≤ B) :
    ∃ s, pr.chk (a * b) = .ok s ∧ (2:Rat)^(-60:Int) ≤ s := by
  have ha0 : 0 < a := lt_of_lt_of_le sLo_pos ha1
  have hb0 : 0 < b := lt_of_lt_of_le sLo_pos hb1
  have h1 : (2:Rat)^(-60:Int) ≤ a * b := by
    calc (2:Rat)^(-60:Int) = sLo * sLo := by unfold sLo; rw [pow_mul]; norm_num
      _ ≤ a * b := mul_le_mul ha1 hb1 (le_of_lt sLo_pos) (le_of_lt ha0)
  have h2 : a * b ≤ (2:Rat)^(126:Int) := by
    calc a * b ≤ B * B := mul_le_mul ha2 hb2 (le_of_lt hb0) (le_of_lt B_pos)
      _ = (2:Rat)^(126:Int) := by unfold B; rw [pow_mul]; norm_num
  have hf := (rn_pow_fin pr hpr 126 (by norm_num) (by norm_num)
    (by rw [abs_of_nonneg (le_trans (Rounding.two_zpow_pos _).le h1)]; exact h2)).2
  exact ⟨_, chk_ok_iff.2 ⟨hf, rfl⟩, rn_ge_pow pr _ (expOK pr hpr.ne16 (by norm_num)) h1⟩

theorem rn16_max : Prec.f16.rn 65504 = 65504 := by decide +kernel

theorem f16_total (x : Rat) (h : |x| ≤ 65504) : ∃ y, Prec.f16.chk x = .ok y := by
  obtain ⟨h1, h2⟩ := abs_le.mp h
  have a : Prec.f16.rn x ≤ 65504 := rn16_max ▸ rn_mono .f16 h2
  have b : Prec.f16.rn (-x) ≤ 65504 := rn16_max ▸ rn_mono .f16 (show -x ≤ 65504 by linarith only [h1])
  rw [rn_neg] at b
  refine ⟨_, chk_ok_iff.2 ⟨?_, rfl⟩⟩
  simp only [Prec.isFin, maxFinite_f16, Bool.and_eq_true, decide_eq_true_eq]
  exact ⟨a, by linarith only [b]⟩

theorem wrapInt_abs (w : Nat) (hw : 1 ≤ w) (z : Int) : |((wrapInt w z : Int) : Rat)| ≤ (2:Rat)^(w-1) := by
  obtain ⟨h1, h2⟩ := BytesProofs.wrapInt_range w hw z
  have : |wrapInt w z| ≤ (2:Int)^(w-1) := abs_le.mpr ⟨h1, h2.le⟩
  exact_mod_cast this

theorem storage_zp_abs (bits : Nat) (z : Int) : |((wrapInt (storageBits bits) z : Int) : Rat)| ≤ (2:Rat)^(63:Int) := by
  have hw : 1 ≤ storageBits bits ∧ storageBits bits ≤ 64 := by
    unfold storageBits; split_ifs <;> omega
  refine le_trans (wrapInt_abs _ hw.1 z) ?_
  rw [← zpow_natCast]
  exact pow_le_pow (by omega)

/-- the zero point of a channel fits 64 bits: 0, or a wrapped storage integer -/
theorem chanZp_abs (pr : Prec) (bits : Nat) (sym : Bool) (mn mx : Rat) :
    |((chanZp pr bits sym mn mx : Int) : Rat)| ≤ (2:Rat)^(63:Int) := by
  cases sym
  · exact storage_zp_abs _ _
  · rw [chanZp_sym, Int.cast_zero, abs_zero]; exact (Rounding.two_zpow_pos _).le

/-- the model's report of an IEEE `inf` / `nan` -/
def isNonfinite {α} (x : PyM α) : Bool := match x with | .error .nonfinite => true | _ => false

/-- a scale that underflows to 0 makes `uniform_quantize` fail (`1/scale` is infinite) -/
theorem quantize1_zero_scale : quantize1 .f32 .f32 32 32 true 1 0 0 = .error .nonfinite := rfl

end NumT
