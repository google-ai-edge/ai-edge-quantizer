import QProofs.KernelSigMode
import QProofs.KernelSigF32
import QProps.C03d
/-!
# Kernel signatures (C01b): every ORIGINAL operator of the output, mode by mode
Absent operands and operands that are not float32 are the same in every mode (`sig_of_slots`); for the float32 bias and the float32
tensors in data and weight slots every proof reads the conclusion of the typing theorem of its mode (`C03d` / `TypingModes`). -/
open Graph Mat Cfg Pipeline GraphStep

set_option autoImplicit false

namespace KernelSig

theorem untouched_dtype {env : Env} {m' : Model} {sg sg' : Subgraph} {o' : Op} {j : Nat} {t : Int}
    (h : TypingE2E.UntouchedOperand env m' sg sg' o' j t) :
    ∃ z, o'.inputs[j]? = some z ∧ dtypeAt sg' z = dtypeAt sg t := by
  rcases h with ⟨rfl, hz⟩ | ⟨tn, h0, htn, hcase⟩
  · exact ⟨-1, hz, by rw [dtypeAt_neg _ _ (by omega), dtypeAt_neg _ _ (by omega)]⟩
  · rcases hcase with ⟨hz, htn', -⟩ | ⟨-, hf, x, tx, ci, hx, hxl, htx, hdx, -⟩
    · exact ⟨t, hz, by rw [dtypeAt_some _ _ h0 _ htn', dtypeAt_some _ _ h0 _ htn]⟩
    · exact ⟨x, hx, by rw [dtypeAt_some sg' x (by omega) _ htx, dtypeAt_some _ _ h0 _ htn, hdx, hf]⟩

structure Loc (env : Env) (m' : Model) (s : Nat) (sg sg' : Subgraph) (k : Nat) (op : Op) (code : Nat) : Prop where
  run : Run env m'
  hsg : env.model.subgraphs[s]? = some sg
  hsg' : m'.subgraphs[s]? = some sg'
  hop : sg.ops[k]? = some op
  hcode : env.model.opcodes[op.code]? = some code
  wfop : OpOK env.model sg k op

theorem Same.slot {sg' : Subgraph} {k : Nat} {op o' : Op} (S : Same sg' k op o') (j : Nat) (z : Int)
    (hz : o'.inputs[j]? = some z) : op.inputs[j]? = some (Skeleton.root sg' z) := by
  rw [← S.root, List.getElem?_map, hz]
  rfl

theorem Same.slot' {sg' : Subgraph} {k : Nat} {op o' : Op} (S : Same sg' k op o') (j : Nat) (t : Int)
    (ht : op.inputs[j]? = some t) : ∃ z, o'.inputs[j]? = some z ∧ Skeleton.root sg' z = t := by
  have hj : j < o'.inputs.length := by rw [S.len]; exact (List.getElem?_eq_some_iff.1 ht).1
  refine ⟨o'.inputs[j], List.getElem?_eq_getElem hj, ?_⟩
  have := S.slot j _ (List.getElem?_eq_getElem hj)
  rw [ht] at this
  exact (Option.some.inj this).symm

theorem Loc.absent {env : Env} {m' : Model} {s : Nat} {sg sg' : Subgraph} {k : Nat} {op : Op} {code : Nat}
    (L : Loc env m' s sg sg' k op code) {o' : Op} (S : Same sg' k op o') (j : Nat)
    (ht : op.inputs[j]? = some (-1)) : o'.inputs[j]? = some (-1) := by
  obtain ⟨z, hz, hr⟩ := S.slot' j _ ht
  have := root_neg (L.run.sk s sg sg' L.hsg L.hsg') (L.run.insNonneg s sg' L.hsg') z (by rw [hr]; omega)
  rw [hr] at this
  rw [hz, ← this]

theorem Loc.code' {env : Env} {m' : Model} {s : Nat} {sg sg' : Subgraph} {k : Nat} {op : Op} {code : Nat}
    (L : Loc env m' s sg sg' k op code) {o' : Op} (S : Same sg' k op o') : m'.opcodes[o'.code]? = some code := by
  rw [S.code]
  exact L.run.codes _ _ L.hcode

/-- a row of the table for `o'`.  An absent operand stays absent (`Loc.absent`), an operand that is not float32 is never touched
    (`F32.nonf32_slot`), and every row reads these like the float row (`hidx`, `hnone`); what depends on the mode is what becomes
    of a float32 bias, of a float32 tensor in a data or weight slot, and of the results -/
theorem sig_of_slots (rx : String → String → Bool) (env : Env) (st : Recipe.State) (qsvs : Option Qsvs) (m' : Model)
    (tbl : List Param) (hnf : PipelineWF.NF env st) (h : quantizePure rx env st qsvs = .ok (m', tbl))
    (hfl : FloatModel env.model) {s : Nat} {sg sg' : Subgraph} {k : Nat} {op : Op} {code : Nat}
    (L : Loc env m' s sg sg' k op code) {o' : Op} (S : Same sg' k op o') {nm : String} (hmem : nm ∈ names)
    (fl : floatSig nm (op.inputs.map (dtypeAt sg)) (op.outputs.map (dtypeAt sg)) = true)
    (row : Kind → DT → Bool) (res : Nat)
    (hidx : ∀ d, floatRow nm .index d = true → row .index d = true)
    (hnone : floatRow nm .bias none = true → row .bias none = true)
    (hbias : ∀ j t tn, op.inputs[j]? = some t → 0 ≤ t → sg.tensors[t.toNat]? = some tn → tn.dtype = Tables.ttFloat32 →
      kind nm j = .bias → ∃ z d, o'.inputs[j]? = some z ∧ dtypeAt sg' z = d ∧ row .bias d = true)
    (hreg : ∀ j t tn, op.inputs[j]? = some t → 0 ≤ t → sg.tensors[t.toNat]? = some tn → tn.dtype = Tables.ttFloat32 →
      kind nm j = .data ∨ kind nm j = .weight → PipeNF.slotRole nm j = 0 →
      ∃ z d, o'.inputs[j]? = some z ∧ dtypeAt sg' z = d ∧ row (kind nm j) d = true)
    (hout : ∀ t ∈ op.outputs, dtypeAt sg' t = some res) :
    sig row res nm (o'.inputs.map (dtypeAt sg')) (o'.outputs.map (dtypeAt sg')) = true := by
  rw [sig_iff, List.length_map, List.length_map, S.outs, S.len]
  refine ⟨fl_arity fl, fun j d hj => ?_, fun d hd => ?_⟩
  · obtain ⟨z, hz, rfl⟩ := Option.map_eq_some_iff.1 ((List.getElem?_map ..).symm.trans hj)
    have ht := S.slot j z hz
    generalize Skeleton.root sg' z = t at ht
    have hrow := fl_row fl ht
    have hrole := (slot_table nm hmem _ _ (fl_arity fl) j (List.getElem?_eq_some_iff.1 ht).1).1
    -- `z'` is what `o'` reads in slot `j`; it is `z`
    suffices ∃ z' d, o'.inputs[j]? = some z' ∧ dtypeAt sg' z' = d ∧ row (kind nm j) d = true by
      obtain ⟨z', d, hz', rfl, hr⟩ := this
      rwa [Option.some.inj (hz.symm.trans hz')]
    rcases L.wfop.ins t (List.mem_of_getElem? ht) with rfl | ⟨⟨h0, hlt⟩, -⟩
    · rw [dtypeAt_neg _ _ (by omega)] at hrow
      refine ⟨-1, none, L.absent S j ht, dtypeAt_neg _ _ (by omega), ?_⟩
      cases hk : kind nm j <;> rw [hk] at hrow
      · cases hrow
      · cases hrow
      · exact hnone hrow
      · cases hrow
    · obtain ⟨tn, htn⟩ : ∃ tn, sg.tensors[t.toNat]? = some tn := ⟨_, List.getElem?_eq_getElem (by omega)⟩
      rw [dtypeAt_some _ _ h0 _ htn] at hrow
      by_cases hd : tn.dtype = Tables.ttFloat32
      · cases hk : kind nm j <;> rw [hk] at hrole
        · rw [← hk]; exact hreg j t tn ht h0 htn hd (.inl hk) hrole.symm
        · rw [← hk]; exact hreg j t tn ht h0 htn hd (.inr hk) hrole.symm
        · exact hbias j t tn ht h0 htn hd hk
        · rw [hk, hd] at hrow
          cases hrow
      · obtain ⟨z1, z2⟩ := F32.nonf32_slot rx env st qsvs m' tbl hnf h hfl s sg sg' L.hsg L.hsg' k op L.hop j t ht h0 tn htn
          hd o' S.mem S.orig
        refine ⟨t, _, z1, dtypeAt_some _ _ h0 _ z2, ?_⟩
        -- only an index position of a float operator holds a tensor that is not float32
        have hne : (some tn.dtype == some Tables.ttFloat32) = false := by simpa using hd
        cases hk : kind nm j <;> rw [hk] at hrow
        · exact absurd hrow (by rw [floatRow, hne]; exact Bool.false_ne_true)
        · exact absurd hrow (by rw [floatRow, hne]; exact Bool.false_ne_true)
        · exact absurd hrow (by simp only [floatRow, hne]; simp)
        · exact hidx _ hrow
  · obtain ⟨t, ht, rfl⟩ := List.mem_map.1 hd
    exact hout t ht

theorem opOK_of (m' : Model) (sg' : Subgraph) (o' : Op) (code : Nat) (nm : String)
    (hc : m'.opcodes[o'.code]? = some code) (hn : nameOfCode code = some nm)
    (h : accepts nm (o'.inputs.map (dtypeAt sg')) (o'.outputs.map (dtypeAt sg')) = true) :
    opOK m' sg' o' = true := by
  unfold opOK opSig
  rw [hc]
  simp only [Option.map_some, sigOK, hn]
  exact h

theorem noquant_sig (rx : String → String → Bool) (env : Env) (st : Recipe.State)
    (qsvs : Option Qsvs) (m' : Model) (tbl : List Param) (hnf : PipelineWF.NF env st)
    (h : quantizePure rx env st qsvs = .ok (m', tbl))
    (s : Nat) (sg sg' : Subgraph) (k : Nat) (op : Op) (code : Nat) (L : Loc env m' s sg sg' k op code)
    (hnq : TypingE2E.ResolvesNoQuant rx env st sg op) :
    ∃ o', Same sg' k op o' ∧ opSig m' sg' o' = opSig env.model sg op := by
  obtain ⟨o', m1, m2, m3, m4, m5, m6, m7, hres, hopd⟩ :=
    TypingE2E.noquant_op_untouched rx env st qsvs m' tbl hnf h s sg sg' L.hsg L.hsg' k op L.hop hnq
  have S : Same sg' k op o' := ⟨m1, m2, m3, m4, m5, m6, m7⟩
  refine ⟨o', S, ?_⟩
  unfold opSig
  rw [L.code' S, L.hcode]
  simp only [Option.map_some, Option.some.injEq, Prod.mk.injEq, true_and]
  constructor
  · apply List.ext_getElem?
    intro j
    rw [List.getElem?_map, List.getElem?_map]
    cases hj : op.inputs[j]? with
    | none =>
      have : o'.inputs[j]? = none := by
        rw [List.getElem?_eq_none_iff, m6, ← List.getElem?_eq_none_iff]; exact hj
      rw [this]
      rfl
    | some t =>
      obtain ⟨z, hz, hd⟩ := untouched_dtype (hopd j t hj)
      rw [hz]
      simp only [Option.map_some, hd]
  · rw [m5]
    apply List.map_congr_left
    intro t ht
    by_cases h0 : t < 0
    · rw [dtypeAt_neg _ _ h0, dtypeAt_neg _ _ h0]
    · obtain ⟨tn, h1, h2⟩ := hres t ht (by omega)
      rw [dtypeAt_some _ _ (by omega) _ h1, dtypeAt_some _ _ (by omega) _ h2]

theorem sigMode_cases (nm : String) (c : OpCfg) (h : sigMode nm c = true) :
    ∃ w, c.weight = some w ∧ (w.bits = 4 ∨ w.bits = 8) ∧
      ((c.cp = .integer ∧ ∃ a, c.act = some a ∧ (a.bits = 8 ∨ a.bits = 16) ∧
          (nm = "INPUT" ∨ nm = "OUTPUT" ∨
            (intOps.contains nm = true ∧ (w.bits = 4 → staticInt4Ops.contains nm = true)))) ∨
       (c.cp = .integer ∧ c.act = none ∧ Tables.drqOps.contains nm = true ∧ hybridOps.contains nm = true ∧
          (w.bits = 4 → hybridInt4Ops.contains nm = true)) ∨
       (c.cp = .float ∧ c.act = none ∧ c.explicitDeq = true ∧ Tables.woOps.contains nm = true)) := by
  unfold sigMode at h
  rw [Bool.and_eq_true] at h
  obtain ⟨w, hw, -, hwb, hcase⟩ := MatTotal.modeOK_facts nm c h.1
  have h2 := h.2
  refine ⟨w, hw, hwb, ?_⟩
  rcases hcase with ⟨hcp, a, ha, hab, -⟩ | ⟨hcp, ha, hdrq⟩ | ⟨hcp, ha, hwo, hed⟩ <;> rw [hcp, ha, hw] at h2 <;>
    simp only [Bool.or_eq_true, Bool.and_eq_true, beq_iff_eq, bne_iff_ne, ne_eq] at h2
  · refine .inl ⟨hcp, a, ha, hab, ?_⟩
    rcases h2 with (h2 | h2) | ⟨h2, h3⟩
    · exact .inl h2
    · exact .inr (.inl h2)
    · exact .inr (.inr ⟨h2, fun h4 => h3.resolve_left (not_not.2 h4)⟩)
  · exact .inr (.inl ⟨hcp, ha, hdrq, h2.1, fun h4 => h2.2.resolve_left (not_not.2 h4)⟩)
  · exact .inr (.inr ⟨hcp, ha, hed, hwo⟩)

theorem floatRow_f32 (nm : String) (k : Kind) (hk : k ≠ .index) : floatRow nm k (some Tables.ttFloat32) = true := by
  cases k
  · rfl
  · rfl
  · simp [floatRow]
  · exact absurd rfl hk

theorem tcfgOf_weight (env : Env) (oi : OpInfo) (sg : Subgraph) (t : Int) (h0 : 0 ≤ t) (tn : Tensor)
    (htn : sg.tensors[t.toNat]? = some tn) (hc : isConst env.model sg t = true)
    (hw : Tables.woOps.contains oi.opName = true) : MatParams.tcfgOf env oi tn = oi.cfg.weight := by
  unfold MatParams.tcfgOf
  rw [Pipe.constData_isSome env sg t.toNat tn htn, show ((t.toNat : Nat) : Int) = t by omega, hc, hw]
  rfl

theorem outs_f32 {nm : String} {sg sg' : Subgraph} {op : Op}
    (fl : floatSig nm (op.inputs.map (dtypeAt sg)) (op.outputs.map (dtypeAt sg)) = true)
    (H8 : ∀ (j : Nat) (t : Int), op.outputs[j]? = some t → t ≠ -1 →
      ∃ tn, sg.tensors[t.toNat]? = some tn ∧ sg'.tensors[t.toNat]? = some tn) :
    ∀ t ∈ op.outputs, dtypeAt sg' t = some Tables.ttFloat32 := by
  intro t ht
  obtain ⟨h0, tn, htn, hd⟩ := fl_out fl t ht
  obtain ⟨j, hj⟩ := List.mem_iff_getElem?.1 ht
  obtain ⟨tn', h1, h2⟩ := H8 j t hj (by omega)
  rw [htn] at h1
  cases h1
  rw [dtypeAt_some _ _ h0 _ h2, hd]

theorem kept {nm : String} {sg sg' : Subgraph} {op o' : Op} {j : Nat} {t : Int}
    (fl : floatSig nm (op.inputs.map (dtypeAt sg)) (op.outputs.map (dtypeAt sg)) = true)
    (hj : op.inputs[j]? = some t) (h : ∃ z', o'.inputs[j]? = some z' ∧ dtypeAt sg' z' = dtypeAt sg t) :
    ∃ z d, o'.inputs[j]? = some z ∧ dtypeAt sg' z = d ∧ floatRow nm (kind nm j) d = true :=
  let ⟨z', hz', hdz⟩ := h
  ⟨z', _, hz', hdz, fl_row fl hj⟩

theorem wo_sig (rx : String → String → Bool) (env : Env) (st : Recipe.State)
    (qsvs : Option Qsvs) (m' : Model) (tbl : List Param) (hnf : PipelineWF.NF env st)
    (h : quantizePure rx env st qsvs = .ok (m', tbl)) (hfl : FloatModel env.model)
    (s : Nat) (sg sg' : Subgraph) (k : Nat) (op : Op) (code : Nat) (L : Loc env m' s sg sg' k op code)
    (nm : String) (hnm : opNameOfCode code = some nm)
    (fl : floatSig nm (op.inputs.map (dtypeAt sg)) (op.outputs.map (dtypeAt sg)) = true)
    (cfg : OpCfg) (hres : TypingE2E.ResolvesMinMax rx env st sg op nm cfg)
    (hcp : cfg.cp = .float) (hed : cfg.explicitDeq = true) (hact : cfg.act = none)
    (hwo : Tables.woOps.contains nm = true) (w : TCfg) (hw : cfg.weight = some w) :
    ∃ o', Same sg' k op o' ∧
      floatSig nm (o'.inputs.map (dtypeAt sg')) (o'.outputs.map (dtypeAt sg')) = true := by
  obtain ⟨o', m1, m2, m3, m4, m5, m6, m7, h8, h9, h10⟩ :=
    C03.wo_op_typed rx env st qsvs m' tbl hnf h s sg sg' L.hsg L.hsg' k op L.hop nm cfg hres hcp hed hact
  have S : Same sg' k op o' := ⟨m1, m2, m3, m4, m5, m6, m7⟩
  have hmem := name_mem code nm hnm
  refine ⟨o', S, sig_of_slots rx env st qsvs m' tbl hnf h hfl L S hmem fl _ _ (fun _ hr => hr) (fun hr => hr)
    (fun j t tn hj h0 htn hd hk => ?_) (fun j t tn hj h0 htn hd hk hrole => ?_) (outs_f32 fl h8)⟩
  · obtain ⟨hbs, hne, -⟩ := (slot_table nm hmem _ _ (fl_arity fl) j (List.getElem?_eq_some_iff.1 hj).1).2.1 hk
    rw [← hk]
    exact kept fl hj (untouched_dtype (h9 j t tn hj (by omega) htn (.inr (.inr ⟨hbs, hne⟩))))
  · cases hc : isConst env.model sg t with
    | false => exact kept fl hj (untouched_dtype (h9 j t tn hj (by omega) htn (.inl hc)))
    | true =>
      -- a constant in a data or weight slot is read through an inserted DEQUANTIZE
      have htc := tcfgOf_weight env { sgIdx := s, op := op, opName := nm, opId := (k : Int), cfg := cfg } sg _ h0 tn
        htn hc hwo
      obtain ⟨tz, pid, z', tzz, ci, -, -, -, -, hz', hzl, htzz, hdz, -⟩ :=
        h10 j _ tn hj (by omega) htn hrole hd hc w (by rw [htc]; exact hw)
      refine ⟨z', _, hz', by rw [dtypeAt_some sg' z' (by omega) _ htzz, hdz], floatRow_f32 nm _ ?_⟩
      rcases hk with hk | hk <;> rw [hk] <;> nofun

theorem hybridRow_of_float (nm : String) (k : Kind) (d : DT) (hk : k ≠ .weight) (h : floatRow nm k d = true) :
    hybridRow nm k d = true := by
  cases k
  · exact h
  · exact absurd rfl hk
  · exact h
  · exact h

theorem drq_sig (rx : String → String → Bool) (env : Env) (st : Recipe.State)
    (qsvs : Option Qsvs) (m' : Model) (tbl : List Param) (hnf : PipelineWF.NF env st)
    (h : quantizePure rx env st qsvs = .ok (m', tbl)) (hfl : FloatModel env.model)
    (s : Nat) (sg sg' : Subgraph) (k : Nat) (op : Op) (code : Nat) (L : Loc env m' s sg sg' k op code)
    (nm : String) (hnm : opNameOfCode code = some nm)
    (fl : floatSig nm (op.inputs.map (dtypeAt sg)) (op.outputs.map (dtypeAt sg)) = true)
    (cfg : OpCfg) (hres : TypingE2E.ResolvesMinMax rx env st sg op nm cfg)
    (hcp : cfg.cp = .integer) (hact : cfg.act = none)
    (hdrq : Tables.drqOps.contains nm = true) (w : TCfg) (hw : cfg.weight = some w)
    (hwb : w.bits = 4 ∨ w.bits = 8) (h4 : w.bits = 4 → hybridInt4Ops.contains nm = true)
    (hdata : nm ≠ "EMBEDDING_LOOKUP" → ∀ t, op.inputs[PipeNF.dataSlot nm]? = some t → isConst env.model sg t = false) :
    ∃ o', Same sg' k op o' ∧
      (floatSig nm (o'.inputs.map (dtypeAt sg')) (o'.outputs.map (dtypeAt sg')) = true ∨
       sig (hybridRow nm) Tables.ttFloat32 nm (o'.inputs.map (dtypeAt sg')) (o'.outputs.map (dtypeAt sg')) = true) := by
  obtain ⟨o', m1, m2, m3, m4, m5, m6, m7, h8, h9, h10⟩ :=
    C03.drq_op_typed rx env st qsvs m' tbl hnf h s sg sg' L.hsg L.hsg' k op L.hop nm cfg hres hcp hact
  have S : Same sg' k op o' := ⟨m1, m2, m3, m4, m5, m6, m7⟩
  refine ⟨o', S, ?_⟩
  have har := fl_arity fl
  have hmem := name_mem code nm hnm
  have hwo : Tables.woOps.contains nm = true := by rw [← MatTotal.drq_eq_wo]; exact hdrq
  -- bias and data operand keep their dtype (the data operand is a runtime tensor, `hdata`); what remains is the weight, slot 1
  have hbias : ∀ j t tn, op.inputs[j]? = some t → 0 ≤ t → sg.tensors[t.toNat]? = some tn → kind nm j = .bias →
      ∃ z', o'.inputs[j]? = some z' ∧ dtypeAt sg' z' = dtypeAt sg t := by
    intro j t tn hj h0 htn hk
    obtain ⟨hbs, hne, -⟩ := (slot_table nm hmem _ _ har j (List.getElem?_eq_some_iff.1 hj).1).2.1 hk
    exact untouched_dtype (h9 j t tn hj (by omega) htn (.inr (.inr ⟨hbs, hne⟩)))
  have hdat : ∀ j t tn, op.inputs[j]? = some t → 0 ≤ t → sg.tensors[t.toNat]? = some tn → kind nm j = .data →
      ∃ z', o'.inputs[j]? = some z' ∧ dtypeAt sg' z' = dtypeAt sg t := by
    intro j t tn hj h0 htn hk
    obtain ⟨e1, e2⟩ := (slot_table nm hmem _ _ har j (List.getElem?_eq_some_iff.1 hj).1).2.2.2.1 hk hwo
    exact untouched_dtype (h9 j t tn hj (by omega) htn (.inl (hdata e2 t (e1 ▸ hj))))
  by_cases hwc : ∃ t, op.inputs[1]? = some t ∧ isConst env.model sg t = true
  · -- constant weight: the hybrid kernel
    obtain ⟨tw, htw, hcw⟩ := hwc
    refine .inr (sig_of_slots rx env st qsvs m' tbl hnf h hfl L S hmem fl _ _ (fun _ hr => hr) (fun hr => hr)
      (fun j t tn hj h0 htn _ hk => ?_) (fun j t tn hj h0 htn hd hk hrole => ?_) (outs_f32 fl h8))
    · obtain ⟨z', hz', hdz⟩ := hbias j t tn hj h0 htn hk
      exact ⟨z', _, hz', hdz, hk ▸ hybridRow_of_float nm _ _ (by rw [hk]; nofun) (fl_row fl hj)⟩
    · rcases hk with hk | hk
      · obtain ⟨z', hz', hdz⟩ := hdat j t tn hj h0 htn hk
        exact ⟨z', _, hz', hdz, hybridRow_of_float nm _ _ (by rw [hk]; nofun) (fl_row fl hj)⟩
      · obtain rfl := ((slot_table nm hmem _ _ har j (List.getElem?_eq_some_iff.1 hj).1).2.2.1 hk).2
        obtain rfl : tw = t := Option.some.inj (htw.symm.trans hj)
        have htc := tcfgOf_weight env { sgIdx := s, op := op, opName := nm, opId := (k : Int), cfg := cfg } sg _ h0 tn
          htn hcw hwo
        obtain ⟨tz, pid, hz', htz, hdz, -⟩ := h10 1 _ tn hj (by omega) htn hrole hd hcw w (by rw [htc]; exact hw)
        refine ⟨tw, _, hz', by rw [dtypeAt_some sg' _ h0 _ htz, hdz], ?_⟩
        rw [hk]
        rcases hwb with hb | hb
        · have : C03.intOfBits w.bits.toNat = Tables.ttInt4 := by rw [hb]; rfl
          rw [this]
          simp only [hybridRow, h4 hb, Bool.and_true, Bool.or_eq_true, beq_iff_eq]
          exact .inr trivial
        · have : C03.intOfBits w.bits.toNat = Tables.ttInt8 := by rw [hb]; rfl
          rw [this]
          simp only [hybridRow, Bool.or_eq_true, beq_iff_eq]
          exact .inl trivial
  · -- runtime weight: nothing is quantized
    refine .inl (sig_of_slots rx env st qsvs m' tbl hnf h hfl L S hmem fl _ _ (fun _ hr => hr) (fun hr => hr)
      (fun j t tn hj h0 htn _ hk => hk ▸ kept fl hj (hbias j t tn hj h0 htn hk))
      (fun j t tn hj h0 htn _ hk _ => ?_) (outs_f32 fl h8))
    rcases hk with hk | hk
    · exact kept fl hj (hdat j t tn hj h0 htn hk)
    · obtain rfl := ((slot_table nm hmem _ _ har j (List.getElem?_eq_some_iff.1 hj).1).2.2.1 hk).2
      cases hc : isConst env.model sg t with
      | false => exact kept fl hj (untouched_dtype (h9 1 t tn hj (by omega) htn (.inl hc)))
      | true => exact absurd ⟨_, hj, hc⟩ hwc

/-- dtype of a static-range activation of width `b` -/
def actType (b : Int) : Nat := TypingE2E.intOfBits b.toNat
/-- `quantizeBias`: 32 bits, 64 for 16-bit activations -/
def biasType (b : Int) : Nat := TypingE2E.intOfBits (if b.toNat = 16 then 64 else 32)

theorem srq_sig (rx : String → String → Bool) (env : Env) (st : Recipe.State)
    (qsvs : Option Qsvs) (m' : Model) (tbl : List Param) (hnf : PipelineWF.NF env st)
    (h : quantizePure rx env st qsvs = .ok (m', tbl)) (hfl : FloatModel env.model)
    (s : Nat) (sg sg' : Subgraph) (k : Nat) (op : Op) (code : Nat) (L : Loc env m' s sg sg' k op code)
    (nm : String) (hnm : opNameOfCode code = some nm)
    (fl : floatSig nm (op.inputs.map (dtypeAt sg)) (op.outputs.map (dtypeAt sg)) = true)
    (cfg : OpCfg) (hres : TypingE2E.ResolvesMinMax rx env st sg op nm cfg)
    (hcp : cfg.cp = .integer) (a : TCfg) (ha : cfg.act = some a) (hab : a.bits = 8 ∨ a.bits = 16)
    (w : TCfg) (hw : cfg.weight = some w)
    (hwb : w.bits = 4 ∨ w.bits = 8) (h4 : w.bits = 4 → staticInt4Ops.contains nm = true)
    (hdata : weightOp nm = true → nm ≠ "EMBEDDING_LOOKUP" →
      ∀ t, op.inputs[PipeNF.dataSlot nm]? = some t → isConst env.model sg t = false)
    (hwc : a.bits = 16 → weightOp nm = true → weightActOps.contains nm = false →
      ∀ t, op.inputs[1]? = some t → isConst env.model sg t = true) :
    ∃ o', Same sg' k op o' ∧
      sig (intRow (actType a.bits) (biasType a.bits) nm) (actType a.bits) nm
        (o'.inputs.map (dtypeAt sg')) (o'.outputs.map (dtypeAt sg')) = true := by
  have hsrq : isSRQ cfg = true := by unfold isSRQ; rw [hcp, ha]; rfl
  obtain ⟨o', m1, m2, m3, m4, m5, m6, m7, h8, h10, -⟩ :=
    TypingE2E.srq_op_typed rx env st qsvs m' tbl hnf h s sg sg' L.hsg L.hsg' k op L.hop nm cfg hres hsrq a ha
  have S : Same sg' k op o' := ⟨m1, m2, m3, m4, m5, m6, m7⟩
  have har := fl_arity fl
  have hmem := name_mem code nm hnm
  refine ⟨o', S, sig_of_slots rx env st qsvs m' tbl hnf h hfl L S hmem fl _ _ (fun _ hr => hr) (fun hr => hr)
    (fun j t tn hj h0 htn hd hk => ?_) (fun j t tn hj h0 htn hd hk hrole => ?_) (fun t ht => ?_)⟩
  · obtain ⟨hbs, hnemb, hwop⟩ := (slot_table nm hmem _ _ har j (List.getElem?_eq_some_iff.1 hj).1).2.1 hk
    obtain ⟨o'', tn2, tz, pid, a_in, b1, b2, b3, -, b5, b6, -, -, b9, b10⟩ :=
      TypingE2E.srq_bias_typed rx env st qsvs m' tbl hnf h s sg sg' L.hsg L.hsg' k op L.hop nm cfg hres hsrq a ha
        j hbs hnemb _ hj (by omega)
    obtain rfl : o'' = o' := m3 o'' b1 b2
    refine ⟨_, _, b5, dtypeAt_some sg' _ h0 _ b6, ?_⟩
    rw [b10 (hdata hwop hnemb a_in b9)]
    simp only [intRow, biasType, Bool.or_eq_true, beq_iff_eq]
    exact .inr trivial
  · obtain ⟨-, -, hweight, hdat, -, -⟩ := slot_table nm hmem _ _ har j (List.getElem?_eq_some_iff.1 hj).1
    obtain ⟨hrt, hct⟩ := h10 j _ tn hj (by omega) htn hd hrole
    cases hc : isConst env.model sg t with
    | false =>
      -- a runtime tensor gets the activation type
      obtain ⟨z', tz, z1, -, z3, z4, -, z6⟩ := hrt hc
      have hz0 : 0 ≤ z' := by
        rcases z6 with rfl | ⟨hl, -⟩
        · exact h0
        · omega
      refine ⟨z', _, z1, dtypeAt_some sg' _ hz0 _ z3, ?_⟩
      rw [z4]
      rcases hk with hk | hk <;> rw [hk]
      · simp only [intRow, actType, beq_iff_eq]
      · obtain ⟨hwop, rfl⟩ := hweight hk
        simp only [intRow, actType, Bool.or_eq_true, Bool.and_eq_true, beq_iff_eq]
        rcases hab with hb | hb
        · left; left
          rw [hb]; rfl
        · -- with 16-bit activations only the `weightActOps` kernels read a runtime weight; `hwc` excludes the others
          cases hbmm : weightActOps.contains nm with
          | true => exact .inr ⟨rfl, trivial⟩
          | false =>
            have := hwc hb hwop hbmm _ hj
            rw [hc] at this; cases this
    | true =>
      rcases hk with hk | hk
      · -- a constant data operand: only where there is no weight config
        cases hwop : weightOp nm with
        | true =>
          obtain ⟨e1, e2⟩ := hdat hk hwop
          rw [e1] at hj
          have := hdata hwop e2 _ hj
          rw [hc] at this; cases this
        | false =>
          have hwo : Tables.woOps.contains nm = false := hwop
          have htc := TypingSrq.tcfgOf_noWo env { sgIdx := s, op := op, opName := nm, opId := (k : Int), cfg := cfg } tn
            ⟨hwo, by rw [MatTotal.drq_eq_wo]; exact hwo⟩
          obtain ⟨tz, pid, z1, z2, z3, -⟩ := hct hc a (by rw [htc]; exact ha)
          refine ⟨_, _, z1, dtypeAt_some sg' _ h0 _ z2, ?_⟩
          rw [z3, hk]
          simp only [intRow, actType, beq_iff_eq]
      · obtain ⟨hwop, -⟩ := hweight hk
        have htc := tcfgOf_weight env { sgIdx := s, op := op, opName := nm, opId := (k : Int), cfg := cfg } sg _ h0
          tn htn hc hwop
        obtain ⟨tz, pid, z1, z2, z3, -⟩ := hct hc w (by rw [htc]; exact hw)
        refine ⟨_, _, z1, dtypeAt_some sg' _ h0 _ z2, ?_⟩
        rw [z3, hk]
        simp only [intRow, Bool.or_eq_true, Bool.and_eq_true, beq_iff_eq]
        rcases hwb with hb | hb
        · left; right
          exact ⟨by rw [hb]; rfl, h4 hb⟩
        · left; left
          rw [hb]; rfl
  · obtain ⟨h0, tn, htn, hd⟩ := fl_out fl t ht
    obtain ⟨j, hj⟩ := List.mem_iff_getElem?.1 ht
    obtain ⟨tn', h1, h2, -⟩ := h8 j t tn hj (by omega) htn hd
    rw [dtypeAt_some _ _ h0 _ h1, h2]
    rfl

theorem fc_ops : ∀ nm ∈ Tables.fcSupportedOps, weightOp nm = true ∧ ∀ L ∈ layout nm, L.multiOut = false := by
  decide +kernel

theorem f16_sig (rx : String → String → Bool) (env : Env) (st : Recipe.State)
    (qsvs : Option Qsvs) (m' : Model) (tbl : List Param) (hnf : PipelineWF.NF env st)
    (h : quantizePure rx env st qsvs = .ok (m', tbl)) (hfl : FloatModel env.model)
    (s : Nat) (sg sg' : Subgraph) (k : Nat) (op : Op) (code : Nat) (L : Loc env m' s sg sg' k op code)
    (nm : String) (hnm : opNameOfCode code = some nm)
    (fl : floatSig nm (op.inputs.map (dtypeAt sg)) (op.outputs.map (dtypeAt sg)) = true)
    (hres : TypingE2E.ResolvesFloatCast rx env st sg op nm) (hfc : Tables.fcSupportedOps.contains nm = true) :
    ∃ o', Same sg' k op o' ∧
      floatSig nm (o'.inputs.map (dtypeAt sg')) (o'.outputs.map (dtypeAt sg')) = true := by
  obtain ⟨o', iB, m1, m2, m3, m4, m5, m6, m7, hbs, hwt, hdat, hbias, hout⟩ :=
    TypingE2E.f16_op_typed rx env st qsvs m' tbl hnf h s sg sg' L.hsg L.hsg' k op L.hop nm hres
  have S : Same sg' k op o' := ⟨m1, m2, m3, m4, m5, m6, m7⟩
  have har := fl_arity fl
  have hmem := name_mem code nm hnm
  obtain ⟨hwop, hone⟩ := fc_ops nm (by simpa using hfc)
  refine ⟨o', S, sig_of_slots rx env st qsvs m' tbl hnf h hfl L S hmem fl _ _ (fun _ hr => hr) (fun hr => hr)
    (fun j t tn hj h0 htn hd hk => ?_) (fun j t tn hj h0 htn hd hk hrole => ?_) (fun t ht => ?_)⟩
  · obtain rfl : iB = j :=
      Option.some.inj (hbs.symm.trans ((slot_table nm hmem _ _ har j (List.getElem?_eq_some_iff.1 hj).1).2.1 hk).1)
    rw [← hk]
    exact kept fl hj (untouched_dtype (hbias _ hj))
  · obtain ⟨-, -, hw, hd', -, -⟩ := slot_table nm hmem _ _ har j (List.getElem?_eq_some_iff.1 hj).1
    rcases hk with hk | hk
    · obtain ⟨rfl, -⟩ := hd' hk hwop
      obtain ⟨sIn, d1, d2⟩ := hdat
      obtain rfl := Option.some.inj (d1.symm.trans hj)
      exact kept fl hj (untouched_dtype d2)
    · -- the weight is read through an inserted DEQUANTIZE
      obtain ⟨-, rfl⟩ := hw hk
      obtain ⟨sW, tw, tz, pid, z', tzz, ci, -, -, -, -, -, -, -, w8, w9, w10, w11, -⟩ := hwt
      exact ⟨z', _, w8, by rw [dtypeAt_some sg' z' (by omega) _ w10, w11], by rw [hk]; rfl⟩
  · obtain ⟨h0, tn, htn, hd⟩ := fl_out fl t ht
    -- `f16_op_typed` speaks of result 0 only: by `fc_ops` there is no other
    have h1 : op.outputs.length = 1 := by
      unfold arityOK at har
      cases hl : layout nm with
      | none => rw [hl] at har; cases har
      | some L =>
        rw [hl] at har
        simp only [hone L hl, Bool.false_or, Bool.and_eq_true, decide_eq_true_eq] at har
        exact har.2
    obtain ⟨sOut, tn', o1, o2, o3⟩ := hout
    obtain rfl : t = sOut := by
      match hops : op.outputs, h1 with
      | [x], _ =>
        rw [hops] at ht o1
        simp only [List.mem_singleton] at ht
        simp only [List.getElem?_cons_zero, Option.some.injEq] at o1
        rw [ht, o1]
    rw [htn] at o2
    cases o2
    rw [dtypeAt_some _ _ h0 _ o3, hd]

end KernelSig
