import QProofs.NumericCalib
import QProofs.NumericTotal
/-!
From a calibration history (`calibrateSessions`: sessions `(subgraph index, samples)`, each resumed from the result of the
previous one) to the statistics hypotheses of `C08.quantize_total`: `Hyp.stats` when every subgraph is calibrated on at
least one sample, `Bounded.stats` when the contents of the float32 runtime tensors are finite, and `Bounded.concat` from the
rank of the recorded arrays -- the rank-1 branch of `fix_quantization_params_rank` is not reachable from calibrated statistics.
-/
open Graph Mat Arith Num Calib CalibExact NumT MatParams Pipe GenInstsOK

set_option autoImplicit false

namespace MatTotal

/-- the same-as-input operators (RESHAPE, TRANSPOSE, …) selected for quantization act on RUNTIME float tensors (the
    converter folds a reshape of a float constant); nothing is asked of their integer operands -/
def PassRuntime (rx : String → String → Bool) (env : Env) (st : Recipe.State) : Prop :=
  ∀ sg ∈ env.model.subgraphs, ∀ q ∈ allOps sg, ∀ k scope ops fn, Selected rx env st sg q k scope ops fn →
    (kindOf (Recipe.resolve rx st k scope).1 fn).isPass = true →
    ∀ a ∈ q.1.inputs ++ q.1.outputs, a ≠ -1 → ∀ t, tensorAt sg a = .ok t → t.dtype = Tables.ttFloat32 → constData env t = none

theorem statName_not_const (rx : String → String → Bool) (env : Env) (st : Recipe.State) (hnu : namesUnique env.model)
    (hp : PassRuntime rx env st) (n : String) (h : StatName rx env st n) : ¬ ConstNamed env n := by
  obtain ⟨sg, hsg, q, hq, k, scope, ops, fn, S, _, a, ha, hane, t, hat, rfl, hfl, hc⟩ := h
  rintro ⟨sg2, hsg2, t2, ht2, hn2, d, hd, _⟩
  have hnc : constData env t = none := by
    rcases hc with hc | ⟨hpass, _⟩
    · exact hc
    · exact hp sg hsg q hq k scope ops fn S hpass a ha hane t hat hfl
  obtain ⟨s, hs⟩ := List.getElem?_of_mem hsg
  obtain ⟨i, hi⟩ := List.getElem?_of_mem (Py.index_mem _ a t hat)
  obtain ⟨-, rfl⟩ := ReqTrace.named_at_mem hnu hs hi hsg2 ht2 hn2
  unfold constAny at hd
  rw [hnc] at hd
  cases hd

theorem stats_bounded_of_calibration (rx : String → String → Bool) (env : Env) (st : Recipe.State) (sg : Subgraph)
    (hone : env.model.subgraphs = [sg]) (hnd : (sg.tensors.map (·.name)).Nodup)
    (hpass : ∀ q ∈ allOps sg, ∀ k scope ops fn, Selected rx env st sg q k scope ops fn →
      (kindOf (Recipe.resolve rx st k scope).1 fn).isPass = true →
      ∀ a ∈ q.1.inputs ++ q.1.outputs, a ≠ -1 → ∀ t, tensorAt sg a = .ok t → constData env t = none)
    (samples : List Contents) (qs : Qsvs)
    (hneed : Recipe.needCalibration st = true)
    (h : calibrate rx env st 0 none samples = .ok qs)
    (hcont : ∀ c ∈ samples, ∀ n d, Py.dictGet? c n = some d → d.pr = .f32 ∧ ∀ v ∈ d.arr.data, |v| ≤ B) :
    ∀ n, StatName rx env st n → ∀ mn mx, Py.dictGet? qs n = some (some (mn, mx)) → StatOrd mn mx := by
  have hnu : namesUnique env.model := by unfold namesUnique; rw [hone]; simpa using hnd
  have hP := statName_not_const rx env st hnu fun sg' hsg' q hq k scope ops fn S hp a ha hane t hat _ => by
    obtain rfl : sg' = sg := by rw [hone] at hsg'; simpa using hsg'
    exact hpass q hq k scope ops fn S hp a ha hane t hat
  refine calibrate_ginv (StatName rx env st) (fun _ => StatOrd) (fun _ mn mx a b v O N h => ema_ord mn mx a b O N v h)
    rx env st hP 0 none samples qs hneed (fun _ _ _ _ h => nomatch h) ?_ h
  intro c hc n _ m hm
  unfold sampleStat at hm
  cases hd : Py.dictGet? c n with
  | none => rw [hd] at hm; cases hm
  | some d =>
    rw [hd] at hm
    obtain ⟨hp, hb⟩ := hcont c hc n d hd
    obtain ⟨mn, mx, hv, K, hpr⟩ := minMaxAll_ordK d (.inl hp) hb m hm
    exact ⟨mn, mx, hv, hpr.trans hp, K.prEq.trans (hpr.trans hp), K.shape, K.ones, K.bMn, K.bMx, K.ord⟩

theorem statsComplete_of_sessions (rx : String → String → Bool) (env : Env) (st : Recipe.State) (hns : NoSkip st)
    (hp : PassRuntime rx env st) (hneed : Recipe.needCalibration st = true)
    (previous : Option Qsvs) (L : List (Nat × List Contents)) (r : Option Qsvs)
    (h : calibrateSessions rx env st previous L = .ok r)
    (hcov : ∀ i sg, env.model.subgraphs[i]? = some sg → ∃ s ∈ L, s.1 = i ∧ s.2 ≠ []) :
    StatsComplete rx env st (r.getD []) := by
  intro sg hsg q hq k scope ops fn S hact a ha hane t hat hfl hc
  obtain ⟨i, hi⟩ := List.mem_iff_getElem?.1 hsg
  obtain ⟨s, hs, rfl, hne⟩ := hcov i sg hi
  have hop := isOp_of_selected rx env st sg q hq k scope fn ops S
  have halg := S.minmax_of_act hns hact
  have hnc : constAny env t = none := by
    rcases hc with hc | hc
    · exact hc
    · exact hp sg hsg q hq k scope ops fn S hc a ha hane t hat hfl
  exact sessions_complete rx env st hneed previous L r h s hs hne sg hi q.1 k scope hop S.hscope halg a ha hane t hat hnc

theorem sessions_isSome (rx : String → String → Bool) (env : Env) (st : Recipe.State) :
    ∀ (L : List (Nat × List Contents)) (previous r : Option Qsvs), (L ≠ [] ∨ previous.isSome = true) →
    calibrateSessions rx env st previous L = .ok r → r.isSome = true := by
  intro L
  induction L with
  | nil =>
    intro previous r hne h
    rcases hne with hne | hne
    · exact absurd rfl hne
    · unfold calibrateSessions at h
      simp only [List.foldlM_nil, pure, Except.pure, Except.ok.injEq] at h
      subst h; exact hne
  | cons s L ih =>
    intro previous r _ h
    unfold calibrateSessions at h
    rw [List.foldlM_cons] at h
    obtain ⟨p', hstep, h⟩ := PyM.bind_ok _ _ _ h
    obtain ⟨q, _, rfl⟩ := session_step rx env st previous p' s hstep
    exact ih (some q) r (.inr rfl) h

theorem stats_of_sessions (rx : String → String → Bool) (env : Env) (st : Recipe.State) (hnu : namesUnique env.model)
    (hp : PassRuntime rx env st) (hneed : Recipe.needCalibration st = true) (rk : String → Nat)
    (previous : Option Qsvs) (L : List (Nat × List Contents)) (r : Option Qsvs)
    (hprev : SInv (StatName rx env st) rk (previous.getD []))
    (hcont : ∀ s ∈ L, ∀ c ∈ s.2, ContOK (StatName rx env st) rk c)
    (h : calibrateSessions rx env st previous L = .ok r) : SInv (StatName rx env st) rk (r.getD []) :=
  sessions_sinv (StatName rx env st) rk rx env st (statName_not_const rx env st hnu hp) hneed previous L r hprev hcont h

theorem fixRank_calibrated (k : Nat) (mn mx : FArr) (O : StatOrdK k mn mx) (bits : Nat) (sym : Bool) (qdim : Option Nat)
    (zp : IArr) (scale : FArr) (h : zpScale bits sym mn mx = .ok (zp, scale)) (sh : List Nat) (hk : sh.length = k) :
    fixRank sh { bits := bits, qdim := qdim, scale := scale, zp := zp, symmetric := sym } =
      .ok { bits := bits, qdim := qdim, scale := scale, zp := zp, symmetric := sym } := by
  refine fixRank_same ?_
  show sh.length = scale.arr.shape.length
  rw [((zpScale_ok_iff bits sym mn mx _ rfl O.shape.symm zp scale).1 h).2.2.1, O.rank, hk]

theorem expandShape_none_length (r n : Nat) : (expandShape r none n).length = r + 1 := by
  simp [expandShape]

theorem expandShape_ge_length (r q n : Nat) (h : r ≤ q) : (expandShape r (some q) n).length = r + 1 := by
  unfold expandShape
  simp only [if_neg (by omega : ¬ q < r)]
  simp

theorem fixRank_expand_fails (x : FArr) (qp : QParams) (h0 : x.arr.shape.length ≠ 0)
    (h1 : x.arr.shape.length ≠ qp.scale.arr.rank) (hr : qp.scale.arr.rank = 1 ∧ qp.zp.arr.rank = 1)
    (hq : qp.qdim = none ∨ ∃ q, qp.qdim = some q ∧ x.arr.shape.length ≤ q) :
    uniformQuantize x qp = .error .valueError := by
  unfold uniformQuantize
  have hfix : fixRank x.arr.shape qp = .ok
      { qp with scale := { qp.scale with arr := ⟨expandShape x.arr.shape.length qp.qdim qp.scale.arr.size, qp.scale.arr.data⟩ },
                zp := { qp.zp with arr := ⟨expandShape x.arr.shape.length qp.qdim qp.zp.arr.size, qp.zp.arr.data⟩ } } := by
    unfold fixRank
    rw [if_neg h1, if_neg h0, if_pos hr]
  rw [hfix]
  simp only [bind, Except.bind]
  have hlen : (expandShape x.arr.shape.length qp.qdim qp.scale.arr.size).length = x.arr.shape.length + 1 := by
    rcases hq with hq | ⟨q, hq, hle⟩
    · rw [hq]; exact expandShape_none_length _ _
    · rw [hq]; exact expandShape_ge_length _ _ _ hle
  have hv : validParams x.arr.shape
      { qp with scale := { qp.scale with arr := ⟨expandShape x.arr.shape.length qp.qdim qp.scale.arr.size, qp.scale.arr.data⟩ },
                zp := { qp.zp with arr := ⟨expandShape x.arr.shape.length qp.qdim qp.zp.arr.size, qp.zp.arr.data⟩ } } =
      .error .valueError := by
    unfold validParams
    split
    · rfl
    · rw [if_pos]
      show x.arr.shape.length ≠ (expandShape x.arr.shape.length qp.qdim qp.scale.arr.size).length
      rw [hlen]; omega
  rw [hv]

/-- the hypotheses of the totality theorem that speak of the model and the recipe only (`Hyp` without its two clauses about
    the statistics) -/
structure HypModel (rx : String → String → Bool) (env : Env) (st : Recipe.State) : Prop where
  nf : PipelineWF.NF env st
  float : (env.model.subgraphs.any fun sg => sg.tensors.any (·.quant.isSome)) = false
  names : namesUnique env.model
  noSkip : NoSkip st
  inputsNodup : ∀ sg ∈ env.model.subgraphs, sg.inputs.Nodup
  tensorsNE : ∀ sg ∈ env.model.subgraphs, sg.tensors ≠ []
  constNE : ∀ sg ∈ env.model.subgraphs, ∀ t ∈ sg.tensors, ∀ d, constData env t = some d → d.data ≠ []
  shape : ∀ sg ∈ env.model.subgraphs, ∀ (j : Nat) (op : Op), sg.ops[j]? = some op → ∀ k scope ops fn,
    Selected rx env st sg (op, none, (j : Int)) k scope ops fn →
    OpShape env sg op (Recipe.resolve rx st k scope).2 (kindOf (Recipe.resolve rx st k scope).1 fn)

theorem HypModel.hyp {rx : String → String → Bool} {env : Env} {st : Recipe.State} (M : HypModel rx env st) (qs : Qsvs)
    (hs : StatsComplete rx env st qs) : Hyp rx env st (some qs) :=
  { nf := M.nf, float := M.float, names := M.names, statsGiven := fun _ => rfl, noSkip := M.noSkip,
    inputsNodup := M.inputsNodup, tensorsNE := M.tensorsNE, constNE := M.constNE, stats := hs, shape := M.shape }

theorem Hyp.model {rx : String → String → Bool} {env : Env} {st : Recipe.State} {qsvs : Option Qsvs}
    (H : Hyp rx env st qsvs) : HypModel rx env st :=
  ⟨H.nf, H.float, H.names, H.noSkip, H.inputsNodup, H.tensorsNE, H.constNE, H.shape⟩

/-- the clauses of `Bounded` that speak of the model only; `rk n` is the rank of the contents of the tensor named `n` (its
    declared rank).  `cat`: the result of a same-as-output operator (CONCATENATION) that has a CONSTANT float operand is a
    float32 runtime tensor of the operand's rank. -/
structure BoundedModel (rx : String → String → Bool) (env : Env) (st : Recipe.State) (rk : String → Nat) : Prop where
  consts : ∀ sg ∈ env.model.subgraphs, ∀ t ∈ sg.tensors, ∀ d, constData env t = some d → ∀ x ∈ d.data, |x| ≤ B
  cat : ∀ sg ∈ env.model.subgraphs, ∀ q ∈ allOps sg, ∀ k scope ops fn, Selected rx env st sg q k scope ops fn →
    ∀ gi, kindOf (Recipe.resolve rx st k scope).1 fn = .std .sameAsOutput gi →
    ∀ a ∈ q.1.inputs, a ≠ -1 → ∀ t, tensorAt sg a = .ok t → t.dtype = Tables.ttFloat32 → constData env t ≠ none →
    ∀ b ∈ q.1.outputs, b ≠ -1 → ∀ t', tensorAt sg b = .ok t' →
      t'.dtype = Tables.ttFloat32 ∧ constData env t' = none ∧ rk t'.name = t.shape.length
  bias : ∀ sg ∈ env.model.subgraphs, ∀ q ∈ allOps sg, ∀ k scope ops fn, Selected rx env st sg q k scope ops fn →
    isSRQ (Recipe.resolve rx st k scope).2 = true →
    ∀ iIn iW iB, convSlots (kindOf (Recipe.resolve rx st k scope).1 fn) = some (iIn, iW, iB) →
    ∀ a bt, q.1.inputs[iB]? = some a → a ≠ -1 → tensorAt sg a = .ok bt →
      (∃ n, shapeNat bt = [n] ∧ ∀ aw tW, q.1.inputs[iW]? = some aw → tensorAt sg aw = .ok tW →
        ∀ qd, Py.dictGet? Tables.weightQDim k = some qd → (shapeNat tW).getD qd 1 = n) ∧
      (∀ ai tI, q.1.inputs[iIn]? = some ai → tensorAt sg ai = .ok tI → constData env tI = none)
  cast : ∀ sg ∈ env.model.subgraphs, ∀ q ∈ allOps sg, ∀ k scope ops fn, Selected rx env st sg q k scope ops fn →
    ∀ a b c, kindOf (Recipe.resolve rx st k scope).1 fn = .cast a b c →
    ∀ slot tw d, q.1.inputs[b]? = some slot → tensorAt sg slot = .ok tw → constData env tw = some d → ∀ x ∈ d.data, |x| ≤ 65504

theorem concat_of_rank (rx : String → String → Bool) (env : Env) (st : Recipe.State) (rk : String → Nat)
    (BM : BoundedModel rx env st rk) (qs : Qsvs) (hI : SInv (StatName rx env st) rk qs) :
    ∀ sg ∈ env.model.subgraphs, ∀ q ∈ allOps sg, ∀ k scope ops fn, Selected rx env st sg q k scope ops fn →
    ∀ gi, kindOf (Recipe.resolve rx st k scope).1 fn = .std .sameAsOutput gi →
    ∀ a ∈ q.1.inputs, a ≠ -1 → ∀ t, tensorAt sg a = .ok t → t.dtype = Tables.ttFloat32 → constData env t ≠ none →
    ∀ b ∈ q.1.outputs, b ≠ -1 → ∀ t', tensorAt sg b = .ok t' →
    ∀ mn mx, Py.dictGet? qs t'.name = some (some (mn, mx)) → mn.arr.shape.length = t.shape.length := by
  intro sg hsg q hq k scope ops fn S gi hk a ha hane t hat hfl hc b hb hbne t' hbt mn mx hget
  obtain ⟨hfl', hrun, hrk⟩ := BM.cat sg hsg q hq k scope ops fn S gi hk a ha hane t hat hfl hc b hb hbne t' hbt
  have hA := (Pipe.kindAlg_of_registry S.hops S.hfn).2
  rw [hk] at hA
  have hsn : StatName rx env st t'.name :=
    ⟨sg, hsg, q, hq, k, scope, ops, fn, S, hA.1, b, List.mem_append_right _ hb, hbne, t', hbt, rfl, hfl', .inl hrun⟩
  rw [← hrk]
  exact (hI t'.name hsn mn mx hget).rank

theorem bounded_of_sessions (rx : String → String → Bool) (env : Env) (st : Recipe.State) (hnu : namesUnique env.model)
    (hp : PassRuntime rx env st) (hneed : Recipe.needCalibration st = true) (rk : String → Nat)
    (BM : BoundedModel rx env st rk)
    (previous : Option Qsvs) (L : List (Nat × List Contents)) (r : Option Qsvs)
    (hprev : SInv (StatName rx env st) rk (previous.getD []))
    (hcont : ∀ s ∈ L, ∀ c ∈ s.2, ContOK (StatName rx env st) rk c)
    (h : calibrateSessions rx env st previous L = .ok r) : Bounded rx env st r := by
  have hI := stats_of_sessions rx env st hnu hp hneed rk previous L r hprev hcont h
  exact { consts := BM.consts
          stats := fun n hn mn mx hget => (hI n hn mn mx hget).good
          concat := concat_of_rank rx env st rk BM (r.getD []) hI
          bias := BM.bias
          cast := BM.cast }

theorem hyp_of_sessions (rx : String → String → Bool) (env : Env) (st : Recipe.State) (M : HypModel rx env st)
    (hp : PassRuntime rx env st) (hneed : Recipe.needCalibration st = true)
    (previous : Option Qsvs) (L : List (Nat × List Contents)) (qs : Qsvs)
    (h : calibrateSessions rx env st previous L = .ok (some qs))
    (hcov : ∀ i sg, env.model.subgraphs[i]? = some sg → ∃ s ∈ L, s.1 = i ∧ s.2 ≠ []) : Hyp rx env st (some qs) :=
  M.hyp qs (statsComplete_of_sessions rx env st M.noSkip hp hneed previous L (some qs) h hcov)

def reformatQsv (p : Prec) (v : Qsv) : Qsv := v.map fun mm => (⟨mm.1.arr, p⟩, ⟨mm.2.arr, p⟩)

/-- **the same statistics in another array format** -- what comes back when a calibration result is saved and restored:
    JSON keeps the values (float32 values are python floats) and forgets the dtype (`f64`: the lists become float64 arrays;
    `exact`: python numbers) -/
def reformat (p : Prec) (qs : Qsvs) : Qsvs := qs.map fun e => (e.1, reformatQsv p e.2)

theorem dictGet?_reformat (p : Prec) (qs : Qsvs) (n : String) :
    Py.dictGet? (reformat p qs) n = (Py.dictGet? qs n).map (reformatQsv p) :=
  Py.dictGet?_map (reformatQsv p) qs n

theorem reformat_get (p : Prec) (qs : Qsvs) (n : String) (mn mx : FArr)
    (h : Py.dictGet? (reformat p qs) n = some (some (mn, mx))) :
    ∃ mn0 mx0, Py.dictGet? qs n = some (some (mn0, mx0)) ∧ mn = ⟨mn0.arr, p⟩ ∧ mx = ⟨mx0.arr, p⟩ := by
  rw [dictGet?_reformat] at h
  cases hg : Py.dictGet? qs n with
  | none => rw [hg] at h; cases h
  | some v =>
    rw [hg] at h
    cases v with
    | none => cases h
    | some mm =>
      simp only [Option.map_some, reformatQsv, Option.some.injEq, Prod.mk.injEq] at h
      exact ⟨mm.1, mm.2, rfl, h.1.symm, h.2.symm⟩

theorem StatGood.reformat {mn mx : FArr} (h : StatGood mn mx) (p : Prec) (hp : F3264 p) : StatGood ⟨mn.arr, p⟩ ⟨mx.arr, p⟩ :=
  ⟨⟨hp, hp, h.fin.shape, h.fin.bMn, h.fin.bMx⟩, h.ones⟩

theorem StatOrdK.reformat {k : Nat} {mn mx : FArr} (h : StatOrdK k mn mx) (p : Prec) (hp : F3264 p) :
    StatOrdK k ⟨mn.arr, p⟩ ⟨mx.arr, p⟩ :=
  ⟨hp, rfl, h.shape, h.ones, h.rank, h.bMn, h.bMx, h.ord⟩

theorem sInv_reformat (P : String → Prop) (rk : String → Nat) (qs : Qsvs) (h : SInv P rk qs) (p : Prec) (hp : F3264 p) :
    SInv P rk (reformat p qs) := by
  intro n hn mn mx hget
  obtain ⟨mn0, mx0, h0, rfl, rfl⟩ := reformat_get p qs n mn mx hget
  exact (h n hn mn0 mx0 h0).reformat p hp

theorem statsComplete_reformat (rx : String → String → Bool) (env : Env) (st : Recipe.State) (qs : Qsvs)
    (h : StatsComplete rx env st qs) (p : Prec) : StatsComplete rx env st (reformat p qs) := by
  intro sg hsg q hq k scope ops fn S hact a ha hane t hat hfl hc
  obtain ⟨mm, hmm⟩ := h sg hsg q hq k scope ops fn S hact a ha hane t hat hfl hc
  exact ⟨_, by rw [dictGet?_reformat, hmm]; rfl⟩

theorem hyp_reformat (rx : String → String → Bool) (env : Env) (st : Recipe.State) (qs : Qsvs)
    (H : Hyp rx env st (some qs)) (p : Prec) : Hyp rx env st (some (reformat p qs)) :=
  H.model.hyp _ (statsComplete_reformat rx env st qs H.stats p)

theorem bounded_reformat (rx : String → String → Bool) (env : Env) (st : Recipe.State) (qs : Qsvs)
    (Bd : Bounded rx env st (some qs)) (p : Prec) (hp : F3264 p) : Bounded rx env st (some (reformat p qs)) :=
  { consts := Bd.consts
    stats := by
      intro n hn mn mx hget
      obtain ⟨mn0, mx0, h0, rfl, rfl⟩ := reformat_get p qs n mn mx hget
      exact (Bd.stats n hn mn0 mx0 h0).reformat p hp
    concat := by
      intro sg hsg q hq k scope ops fn S gi hk a ha hane t hat hfl hc b hb hbne t' hbt mn mx hget
      obtain ⟨mn0, mx0, h0, rfl, rfl⟩ := reformat_get p qs t'.name mn mx hget
      exact Bd.concat sg hsg q hq k scope ops fn S gi hk a ha hane t hat hfl hc b hb hbne t' hbt mn0 mx0 h0
    bias := Bd.bias
    cast := Bd.cast }

end MatTotal
