import QProofs.ParamsE2E
import QProps.C04b
/-!
# C04 end to end: the side conditions of well-formedness, and the values in the table

The predicates of the C04 statements, then: the statistics in force are ordered and not float16 if the CALLER's are
(`statSrc_ok`: fixed ranges write back ordered float64 values); a parameter object with a source is well formed or a bias
(`refOf_facts`, `psrc_wellformed`); what a tensor that holds a uniform object carries (`holds_values`, `holds_same`).
-/
open Graph Mat Cfg Pipe Arith Nd MatParams Num
open ParamsSrc ParamsStats

set_option autoImplicit false

namespace C04

/-- Python `==` on the parameters of two uniform parameter objects (array dtypes are not compared) -/
def SameValues (qp0 qp : QParams) : Prop :=
  qp0.bits = qp.bits ∧ qp0.qdim = qp.qdim ∧ qp0.scale.arr = qp.scale.arr ∧ qp0.zp.arr = qp.zp.arr ∧
    qp0.symmetric = qp.symmetric

/-- side condition on one op config: every tensor config has 2..16 bits (the range of the C17 laws), and
    the activation config is per-tensor -/
def CfgOK (c : OpCfg) : Prop :=
  (∀ tc, c.act = some tc → 2 ≤ tc.bits.toNat ∧ tc.bits.toNat ≤ 16 ∧ tc.gran ≠ Gran.channelwise) ∧
  (∀ tc, c.weight = some tc → 2 ≤ tc.bits.toNat ∧ tc.bits.toNat ≤ 16)

def RecipeOK (st : Recipe.State) : Prop := ∀ e ∈ st, ∀ r ∈ e.2, CfgOK r.cfg

def DictOK (qs : Qsvs) : Prop :=
  ∀ n mn mx, Py.dictGet? qs n = some (some (mn, mx)) → StatsOrdered mn mx ∧ mn.pr.join mx.pr ≠ .f16

/-- a bias parameter object: symmetric, zero points 0, 32 bits (64 for 16-bit activations), scale = input
    scale × weight scale (element-wise float product, squeezed) of WELL-FORMED operand parameters -/
def IsBias (qp : QParams) : Prop :=
  ∃ (qi qw : QParams) (prod : Arr Rat), WellFormed qi.bits qi.symmetric qi ∧ WellFormed qw.bits qw.symmetric qw ∧
    qp.symmetric = true ∧ qp.bits = (if qi.bits = 16 then 64 else 32) ∧ (∀ z ∈ qp.zp.arr.data, z = 0) ∧
    zipB (fun a b => (qi.scale.pr.join qw.scale.pr).chk (a * b)) qi.scale.arr qw.scale.arr = .ok prod ∧
    qp.scale = ⟨squeeze1 prod, qi.scale.pr.join qw.scale.pr⟩

end C04

namespace ParamsWF
open C04

theorem fixedParams_wf (sl : Bool) (bits : Nat) (fp : QParams) (h : fixedParams sl bits = some fp) :
    WellFormed bits fp.symmetric fp ∧ fp.qdim = none ∧ fp.scale.arr.data.length = 1 := by
  have mk : ∀ (b : Nat) (s : Rat) (z : Int) (sym : Bool), 0 < s → Prec.f64.isFin s = true →
      (qmin b ≤ z ∧ z ≤ qmax b) → (sym = true → z = 0) →
      WellFormed b sym { bits := b, qdim := none, scale := ⟨⟨[], [s]⟩, .f64⟩, zp := ⟨⟨[], [z]⟩, 64⟩, symmetric := sym } := by
    intro b s z sym hs hf hz hz0
    refine ⟨rfl, rfl, rfl, rfl, rfl, ?_, ?_, ?_, ?_⟩
    · intro x hx; rw [List.mem_singleton.1 hx]; exact hs
    · intro x hx; rw [List.mem_singleton.1 hx]; exact hf
    · intro x hx; rw [List.mem_singleton.1 hx]; exact hz
    · intro hsym x hx; rw [List.mem_singleton.1 hx]; exact hz0 hsym
  rcases (fixedParams_some h).1 with rfl | rfl <;> cases sl <;> cases h
  all_goals exact ⟨mk _ _ _ _ (by decide +kernel) (by decide +kernel) (by decide +kernel) (by decide), rfl, rfl⟩

/-- a decidable sufficient condition for `StatsOrdered` -/
def ordB (mn mx : FArr) : Bool :=
  mn.arr.shape == mx.arr.shape && mn.arr.data.length == mx.arr.data.length &&
    (mn.arr.data.zip mx.arr.data).all (fun p => decide (p.1 ≤ p.2))

theorem ordB_sound (mn mx : FArr) (h : ordB mn mx = true) : StatsOrdered mn mx := by
  unfold ordB at h
  simp only [Bool.and_eq_true, beq_iff_eq, List.all_eq_true, decide_eq_true_eq] at h
  obtain ⟨⟨h1, h2⟩, h3⟩ := h
  refine ⟨h1, ?_⟩
  intro k
  by_cases hk : k < mn.arr.data.length
  · have hk' : k < mx.arr.data.length := by omega
    have hz : (mn.arr.data[k], mx.arr.data[k]) ∈ mn.arr.data.zip mx.arr.data := by
      apply List.mem_of_getElem? (i := k)
      rw [List.getElem?_zip_eq_some]
      exact ⟨List.getElem?_eq_getElem hk, List.getElem?_eq_getElem hk'⟩
    have := h3 _ hz
    simp only [List.getD_eq_getElem?_getD, List.getElem?_eq_getElem hk, List.getElem?_eq_getElem hk', Option.getD_some]
    exact this
  · have hk' : ¬ k < mx.arr.data.length := by omega
    simp only [List.getD_eq_getElem?_getD]
    rw [List.getElem?_eq_none (by omega), List.getElem?_eq_none (by omega)]

theorem fixed_minmax_ok (sl : Bool) (bits : Nat) (sym : Bool) (fp : QParams) (mm : FArr × FArr)
    (h : fixedParams sl bits = some fp) (hm : minMaxFromParams bits sym fp = .ok mm) :
    StatsOrdered mm.1 mm.2 ∧ mm.1.pr.join mm.2.pr ≠ .f16 := by
  -- the table: two bit widths, two ranges, two symmetry flags
  have key : ∀ b ∈ [8, 16], ∀ sl sym : Bool,
      (match fixedParams sl b with
       | none => true
       | some fp => match minMaxFromParams b sym fp with
          | .ok mm => ordB mm.1 mm.2 && decide (mm.1.pr.join mm.2.pr ≠ .f16)
          | .error _ => true) = true := by
    decide +kernel
  have := key bits (by simpa using (fixedParams_some h).1) sl sym
  rw [h] at this
  simp only [hm, Bool.and_eq_true, decide_eq_true_eq] at this
  exact ⟨ordB_sound _ _ this.1, this.2⟩

/-- the caller's statistics: `min ≤ max` cell by cell, one shape, not float16 -/
def StatsOK (qsvs : Option Qsvs) : Prop :=
  ∀ n mn mx, Py.dictGet? (qsvs.getD []) n = some (some (mn, mx)) → StatsOrdered mn mx ∧ mn.pr.join mx.pr ≠ .f16

theorem statSrc_ok {rx : String → String → Bool} {env : Env} {st : Recipe.State} {qsvs : Option Qsvs}
    (hok : StatsOK qsvs) (n : String) (e : Qsv) (h : StatSrc rx env st qsvs n e) :
    ∀ mn mx, e = some (mn, mx) → StatsOrdered mn mx ∧ mn.pr.join mx.pr ≠ .f16 := by
  induction h with
  | given n e hg =>
    intro mn mx he
    subst he
    exact hok n mn mx hg
  | copied s sg j q k scope fn t0 t e _ _ _ _ _ _ _ _ _ ih => exact ih
  | fixed s sg j q k scope fn t a fp mm _ _ _ _ _ _ _ _ hfp hmm =>
    intro mn mx he
    cases he
    exact fixed_minmax_ok _ _ _ fp (mn, mx) hfp hmm

theorem statsOK_of (qs : Qsvs) (h : qs.all (fun e => match e.2 with
    | some (mn, mx) => ordB mn mx && decide (mn.pr.join mx.pr ≠ .f16)
    | none => true) = true) : StatsOK (some qs) := by
  intro n mn mx hget
  have hm := Py.dictGet?_mem _ _ _ hget
  rw [List.all_eq_true] at h
  have := h _ hm
  simp only [Bool.and_eq_true, decide_eq_true_eq] at this
  exact ⟨ordB_sound _ _ this.1, this.2⟩

theorem cfgOK_resolve (rx : String → String → Bool) (st : Recipe.State) (hst : RecipeOK st) (k scope : String) :
    CfgOK (Recipe.resolve rx st k scope).2 :=
  C11.resolve_cfg CfgOK rx st k scope ⟨fun tc h => (by cases h), fun tc h => (by cases h)⟩ hst

/-- **what the reference parameters are like**: well formed for the config in force; one scale / zero point per channel
    for a constant; no quantized dimension and the shape of the statistics entry for a runtime tensor -/
theorem refOf_facts (env : Env) (qs : Qsvs) (oi : OpInfo) (t : Tensor) (qp : QParams) (d : Option IArr)
    (h : RefOf env qs oi t qp d) (hcfg : CfgOK oi.cfg) (hqs : DictOK qs) :
    ∃ tc, tcfgOf env oi t = some tc ∧ WellFormed tc.bits.toNat tc.symmetric qp ∧
      (∀ dd, constData env t = some dd →
        qp.scale.arr.data.length = channels dd.shape qp.qdim ∧ qp.zp.arr.data.length = channels dd.shape qp.qdim) ∧
      (constData env t = none → qp.qdim = none ∧
        ∃ mn mx, Py.dictGet? qs t.name = some (some (mn, mx)) ∧ qp.scale.arr.shape = mn.arr.shape) := by
  obtain ⟨tc, mn, mx, qdim, htc, hst, hq, hp, -⟩ := h
  have hbits : 2 ≤ tc.bits.toNat ∧ tc.bits.toNat ≤ 16 := by
    rcases tcfgOf_cases htc with ⟨hw, -⟩ | ha
    · exact hcfg.2 tc hw
    · exact ⟨(hcfg.1 tc ha).1, (hcfg.1 tc ha).2.1⟩
  have hact : ActPerTensor oi.cfg := fun a ha => (hcfg.1 a ha).2.2
  refine ⟨tc, htc, ?_⟩
  cases hc : constData env t with
  | some dd =>
    rw [hc] at hq
    have hi := (statsOf_const env qs oi t dd mn mx hc).1 hst
    obtain ⟨hwf, e2, -, -, -, e6, e7⟩ := weight_params_shape env oi t tc dd mn mx qdim qp hc htc hact hbits.1 hbits.2 hi hq hp
    exact ⟨hwf, fun dd' hdd => by cases hdd; rw [e2]; exact ⟨e6, e7⟩, fun hn => (nomatch hn)⟩
  | none =>
    have hd := (statsOf_runtime env qs oi t _ hc).1 hst
    obtain ⟨hord, hpr⟩ := hqs _ _ _ hd
    obtain ⟨hwf, e2, e3, -, -⟩ := ref_params_wellformed _ _ _ mn mx qp hbits.1 hbits.2 hpr hord hp
    -- a runtime tensor is under the activation config, which is per-tensor
    rw [tcfgOf_nonconst env oi t hc] at htc
    rw [refQDim_perTensor (hact tc htc)] at hq
    cases hq
    exact ⟨hwf, fun dd' hdd => (nomatch hdd), fun _ => ⟨e2, mn, mx, hd, e3⟩⟩

theorem wellformed_own {bits : Nat} {sym : Bool} {qp : QParams} (h : WellFormed bits sym qp) :
    WellFormed qp.bits qp.symmetric qp := by
  have h1 := h.bits_eq
  have h2 := h.sym_eq
  subst h1 h2
  exact h

theorem psrc_wellformed (env : Env) (sg : Subgraph) (qs : Qsvs) (oi : OpInfo) (t : Tensor) (qp : QParams)
    (d : Option IArr) (h : PSrc env sg qs oi t (.uniform qp d)) (hcfg : CfgOK oi.cfg) (hqs : DictOK qs) :
    WellFormed qp.bits qp.symmetric qp ∨ IsBias qp := by
  cases h with
  | ref _ _ hr =>
    obtain ⟨tc, -, hwf, -⟩ := refOf_facts env qs oi t qp d hr hcfg hqs
    exact .inl (wellformed_own hwf)
  | lent b t0 _ d0 _ _ _ hr _ _ =>
    obtain ⟨tc, -, hwf, -⟩ := refOf_facts env qs oi t0 qp d0 hr hcfg hqs
    exact .inl (wellformed_own hwf)
  | fixed sl a _ _ hf _ => exact .inl (wellformed_own (fixedParams_wf sl _ qp hf).1)
  | bias aIn aW tin tw qi di qw dw bd _ q _ _ _ _ hi hw _ hb =>
    obtain ⟨tci, -, hwi, -⟩ := refOf_facts env qs oi tin qi di hi hcfg hqs
    obtain ⟨tcw, -, hww, -⟩ := refOf_facts env qs oi tw qw dw hw hcfg hqs
    obtain ⟨b1, b2, -, b4, prod, b5, b6⟩ := bias_params _ _ _ _ _ hb
    exact .inr ⟨qi, qw, prod, wellformed_own hwi, wellformed_own hww, b1, b2, b4, b5, b6⟩

theorem values_of_index {tbl : List Param} {qp : QParams} {d : Option IArr} {pid : PId}
    (h : tbl.findIdx? (fun q => q.eqv (.uniform qp d)) = some pid) :
    ∃ qp0 d0, tbl[pid]? = some (.uniform qp0 d0) ∧ SameValues qp0 qp := by
  obtain ⟨hlt, heqv, -⟩ := List.findIdx?_eq_some_iff_getElem.1 h
  obtain ⟨qp0, d0, he, e1, e2, e3, e4, e5, -⟩ := eqv_uniform heqv
  exact ⟨qp0, d0, by rw [List.getElem?_eq_getElem hlt, he], e1, e2, e3, e4, e5⟩

theorem holds_values (tbl : List Param) (qp : QParams) (d : Option IArr) (tn : Tensor)
    (h : TypingE2E.HoldsParam tbl (.uniform qp d) tn) :
    ∃ pid qp0 d0, tn.quant = some pid ∧ tbl[pid]? = some (.uniform qp0 d0) ∧ SameValues qp0 qp := by
  obtain ⟨pid, ty, h1, -, -, h4⟩ := h
  obtain ⟨qp0, d0, he, hv⟩ := values_of_index h1
  exact ⟨pid, qp0, d0, h4 rfl, he, hv⟩

theorem holds_same {tbl : List Param} {qp : QParams} {d : Option IArr} {t1 t2 : Tensor}
    (h1 : TypingE2E.HoldsParam tbl (.uniform qp d) t1) (h2 : TypingE2E.HoldsParam tbl (.uniform qp d) t2) :
    t1.quant = t2.quant := by
  obtain ⟨pid, -, a1, -, -, a4⟩ := h1
  obtain ⟨pid', -, b1, -, -, b4⟩ := h2
  rw [a1] at b1
  cases b1
  rw [a4 rfl, b4 rfl]

end ParamsWF
