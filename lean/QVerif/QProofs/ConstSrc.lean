import QProofs.ConstE2E
import QProps.C04b
/-!
# What each source of quantized data guarantees about the stored bytes
`Fits` (scale array of the tensor's rank, every dimension 1 or the tensor's) is the condition under which the stored bytes have the
length implied by the tensor's shape; borrowed parameters and biases need it, their scale shape comes from the statistics.
At the end `ConstOwnAll.own_decode_all`: a constant quantized with its own reference parameters decodes, element by element, to within the C17 bound. -/
open Graph Mat Cfg Pipeline Arith Nd MatParams Num
open ConstBytes ConstProv ConstQuant

set_option autoImplicit false

namespace ConstSrc

def storedCount : Param → Option Nat
  | .uniform _ (some q) => some (numel q.arr.shape)
  | .nonlinear _ (some d) => some d.data.length
  | _ => none

/-- the parameter object fits a tensor of shape `shape` (per-tensor / per-channel parameters in TFLite's sense) -/
def Fits (P : Param) (shape : List Nat) : Prop :=
  match P with
  | .uniform qp _ => shape.length = qp.scale.arr.shape.length ∧ Into qp.scale.arr.shape shape
  | .nonlinear _ (some d) => d.data.length = numel shape
  | .nonlinear _ none => True

theorem Fits_uniform (qp : QParams) (dq : Option IArr) (shape : List Nat) :
    Fits (.uniform qp dq) shape ↔ shape.length = qp.scale.arr.shape.length ∧ Into qp.scale.arr.shape shape :=
  Iff.rfl

/-- the reference parameters `qp` of the on-the-spot statistics of the constant `d` -/
structure OwnParams (env : Env) (oi : OpInfo) (tc : TCfg) (d : Arr Rat) (mn mx : FArr) (qdim : Option Nat)
    (qp : QParams) : Prop where
  bits : qp.bits = tc.bits.toNat
  sym : qp.symmetric = tc.symmetric
  pr : qp.scale.pr = .f32
  zw : qp.zp.w = storageBits qp.bits
  shape : qp.scale.arr.shape = keepShape d.shape (reduceDims (statQDim env oi d.shape.length) d.shape.length)
  rank : d.shape.length = qp.scale.arr.shape.length
  into : Into qp.scale.arr.shape d.shape
  slen : qp.scale.arr.data.length = numel qp.scale.arr.shape
  zlen : qp.zp.arr.data.length = numel qp.scale.arr.shape
  chan : ∀ j < numel qp.scale.arr.shape,
    zpScale1 .f32 qp.bits qp.symmetric (mn.arr.data.getD j 0) (mx.arr.data.getD j 0)
      = .ok (qp.zp.arr.data.getD j 0, qp.scale.arr.data.getD j 0)

theorem own_facts (env : Env) (oi : OpInfo) (t : Tensor) (tc : TCfg) (d : Arr Rat) (mn mx : FArr)
    (qdim : Option Nat) (qp : QParams)
    (hd : constData env t = some d) (hi : initMinMax env oi t d = .ok (mn, mx))
    (hp : refParams tc.bits.toNat tc.symmetric qdim mn mx = .ok qp) :
    OwnParams env oi tc d mn mx qdim qp := by
  obtain ⟨p1, p2, hord, hsh, _⟩ := C04.weight_stats_true_minmax env oi t d mn mx hd hi
  obtain ⟨zp, sc, hz, rfl⟩ := (refParams_ok_iff _ _ _ _ _ _).1 hp
  obtain ⟨hpr, hw, s2, -, hP⟩ := (zpScale_ok_iff _ _ mn mx _ rfl hord.1.symm _ _).1 hz
  rw [p1, p2] at hpr hP
  rw [← s2] at hP
  exact ⟨rfl, rfl, hpr, hw, s2.trans hsh, (keepShape_length _ _).symm.trans (congrArg _ (s2.trans hsh).symm),
    (s2.trans hsh) ▸ keepShape_compat _ _, hP.scLen, hP.zpLen, hP.par⟩

theorem own_wellformed (env : Env) (oi : OpInfo) (t : Tensor) (tc : TCfg) (d : Arr Rat) (mn mx : FArr)
    (qdim : Option Nat) (qp : QParams)
    (hd : constData env t = some d) (hi : initMinMax env oi t d = .ok (mn, mx))
    (hp : refParams tc.bits.toNat tc.symmetric qdim mn mx = .ok qp)
    (hb2 : 2 ≤ tc.bits.toNat) (hb16 : tc.bits.toNat ≤ 16) :
    WellFormed tc.bits.toNat tc.symmetric qp := by
  obtain ⟨p1, p2, hord, _⟩ := C04.weight_stats_true_minmax env oi t d mn mx hd hi
  have hpr : mn.pr.join mx.pr ≠ .f16 := by rw [p1, p2]; decide
  exact (C04.ref_params_wellformed _ _ _ mn mx qp hb2 hb16 hpr hord hp).1

/-- **a constant quantized with its own reference parameters**: they fit the tensor, the stored bytes have the length implied
    by the TENSOR's shape and decode to exactly the codes; and for 2..16 bits an element in the representable range of its
    channel dequantizes to within `s·(1/2 + 2^(bits+3)·2^-24)` of itself -/
theorem own_stored (env : Env) (oi : OpInfo) (t : Tensor) (tc : TCfg) (d : Arr Rat) (mn mx : FArr)
    (qdim : Option Nat) (qp : QParams) (q : IArr) (dt : Nat) (bs : List Nat)
    (hd : constData env t = some d) (hi : initMinMax env oi t d = .ok (mn, mx))
    (hp : refParams tc.bits.toNat tc.symmetric qdim mn mx = .ok qp)
    (hu : uniformQuantize ⟨d, .f32⟩ qp = .ok q)
    (hdt : Perform.dtypeOf ⟨true, qp.bits, true⟩ = .ok dt)
    (hbs : paramBytes (.uniform qp (some q)) = some bs) :
    Fits (.uniform qp (some q)) d.shape ∧
      byteLen dt (numel d.shape) = some bs.length ∧
      decodeStored dt (numel d.shape) bs = .inl q.arr.data ∧
      q.arr.shape = d.shape ∧
      (2 ≤ qp.bits → qp.bits ≤ 16 →
        ∀ i < numel d.shape, ∀ (s : Rat) (z : Int),
          s = qp.scale.arr.data.getD (bindex d.shape qp.scale.arr.shape i) 0 →
          z = qp.zp.arr.data.getD (bindex d.shape qp.scale.arr.shape i) 0 →
          0 < s ∧ qmin qp.bits ≤ z ∧ z ≤ qmax qp.bits ∧ (qp.symmetric = true → z = 0) ∧
          ((2:Rat)^(-100:Int) ≤ s → s ≤ (2:Rat)^(100:Int) →
            ((qmin qp.bits + (if qp.symmetric then 1 else 0) - z : Int) : Rat) * s ≤ d.data.getD i 0 →
            d.data.getD i 0 ≤ ((qmax qp.bits - z : Int) : Rat) * s →
            |dqVal true (storageBits qp.bits) (storageBits qp.bits) .f32 ((decodeInts dt (numel d.shape) bs).getD i 0) z s
                - d.data.getD i 0| ≤ s * (1/2 + (2:Rat)^(qp.bits + 3) * ArithRounded.u32))) := by
  have F := own_facts env oi t tc d mn mx qdim qp hd hi hp
  have hshape := (uq_fit _ _ _ hu F.rank F.into).1
  obtain ⟨hlen, hdec⟩ := quantized_bytes _ _ _ dt bs hu hdt hbs
  rw [hshape] at hlen hdec
  refine ⟨⟨F.rank, F.into⟩, hlen, by rw [decodeStored_int qp.bits true _ _ _ hdt, hdec], hshape, ?_⟩
  intro hb2 hb16 i hi' s z hs hz
  have hwf := own_wellformed env oi t tc d mn mx qdim qp hd hi hp (F.bits ▸ hb2) (F.bits ▸ hb16)
  have hj := NumT.bindex_compat_lt F.into i hi'
  have hsm : s ∈ qp.scale.arr.data := hs ▸ List.getD_mem _ _ _ (F.slen ▸ hj)
  have hzm : z ∈ qp.zp.arr.data := hz ▸ List.getD_mem _ _ _ (F.zlen ▸ hj)
  have hzr := hwf.zp z hzm
  rw [← F.bits] at hzr
  refine ⟨hwf.pos s hsm, hzr.1, hzr.2, fun hsym => hwf.zp0 (F.sym ▸ hsym) z hzm, ?_⟩
  intro hs1 hs2 hlo hhi
  have hzw : qp.zp.w = 8 ∨ qp.zp.w = 16 := F.zw ▸ ArithL.storageBits_le16 qp.bits hb16
  have := ConstValue.weight_value d qp q hu F.pr hzw hb2 hb16 F.rank F.into i hi' s z hs hz hs1 hs2 hzr.1 hzr.2 hlo hhi
  rw [F.zw] at this
  rw [hdec]
  exact this

theorem fits_stored (d : Arr Rat) (qp : QParams) (q : IArr) (dt : Nat)
    (hu : uniformQuantize ⟨d, .f32⟩ qp = .ok q) (hdt : Perform.dtypeOf ⟨true, qp.bits, true⟩ = .ok dt)
    (hfit : Fits (.uniform qp (some q)) d.shape) :
    q.arr.shape = d.shape ∧
    ∃ bs, paramBytes (.uniform qp (some q)) = some bs ∧ byteLen dt (numel d.shape) = some bs.length ∧
      decodeInts dt (numel d.shape) bs = q.arr.data := by
  have hshape := (uq_fit _ _ _ hu hfit.1 hfit.2).1
  refine ⟨hshape, _, rfl, ?_⟩
  rw [← hshape]
  exact quantized_bytes _ _ _ dt _ hu hdt rfl

theorem src_cases {env : Env} {t : Tensor} {d : Arr Rat} {P : Param} (h : Src env t d P) :
    (∃ qp q, P = .uniform qp (some q) ∧ uniformQuantize ⟨d, .f32⟩ qp = .ok q) ∨
    (∃ hh, P = .nonlinear 16 (some ⟨d.shape, hh⟩) ∧ d.data.mapM Prec.f16.chk = .ok hh) := by
  cases h with
  | own oi tc mn mx qdim qp q _ _ _ _ _ hu => exact .inl ⟨qp, q, rfl, hu⟩
  | lent qp q hu => exact .inl ⟨qp, q, rfl, hu⟩
  | bias qi qw qp q hb => exact .inl ⟨qp, q, rfl, C04.quantizeBias_uq _ _ _ _ _ hb⟩
  | f16 hh hm => exact .inr ⟨hh, rfl, hm⟩

theorem typed_dtype (tbl : List Param) (p : PId) (tn' : Tensor) (P0 P : Param)
    (ht : SharingE2E.TypedBy (ptableOf tbl) p tn') (h0 : tbl[p]? = some P0) (he : P0.eqv P = true) :
    Perform.dtypeOf (pinfoOf P) = .ok tn'.dtype ∧ ((pinfoOf P).uniform = true → tn'.quant = some p) := by
  obtain ⟨pi, ty, h1, h2, h3, h4⟩ := ht
  rw [Pipe.pinfo_ptableOf, h0] at h1
  simp only [Option.map_some, Option.some.injEq] at h1
  subst h1
  rw [Pipe.eqv_pinfoOf _ _ he] at h2 h4
  exact ⟨by rw [h2, h3], h4⟩

end ConstSrc

open ConstSrc

namespace ConstOwnAll

/-- **EVERY element of a constant quantized with its own reference parameters decodes to within
    `s·(1/2 + 2^(bits+4)·2^-24)`**: the parameters of a channel are `zpScale1` of the channel's true min and max, every element
    lies between them, and `ConstCover.decode_minmax` covers the clipped ones -/
theorem own_decode_all (env : Env) (oi : OpInfo) (t : Tensor) (tc : TCfg) (d : Arr Rat) (mn mx : FArr)
    (qdim : Option Nat) (qp : QParams) (q : IArr)
    (hd : constData env t = some d) (hi : initMinMax env oi t d = .ok (mn, mx))
    (hp : refParams tc.bits.toNat tc.symmetric qdim mn mx = .ok qp)
    (hu : uniformQuantize ⟨d, .f32⟩ qp = .ok q)
    (hb2 : 2 ≤ qp.bits) (hb16 : qp.bits ≤ 16)
    (hwf : d.data.length = numel d.shape)
    (hmag : ∀ i < numel d.shape, |d.data.getD i 0| ≤ (2:Rat)^(99:Int)) :
    ∀ i < numel d.shape,
      |dqVal true (storageBits qp.bits) (storageBits qp.bits) .f32 (q.arr.data.getD i 0)
          (qp.zp.arr.data.getD (bindex d.shape qp.scale.arr.shape i) 0)
          (qp.scale.arr.data.getD (bindex d.shape qp.scale.arr.shape i) 0) - d.data.getD i 0|
        ≤ qp.scale.arr.data.getD (bindex d.shape qp.scale.arr.shape i) 0
            * (1/2 + (2:Rat)^(qp.bits + 4) * ArithRounded.u32) := by
  have F := own_facts env oi t tc d mn mx qdim qp hd hi hp
  obtain ⟨_, _, _, _, _, _, _, hcell, hall⟩ := C04.weight_stats_true_minmax env oi t d mn mx hd hi
  intro i hilt
  have hsz : d.size = numel d.shape := hwf
  have hisz : i < d.size := hsz.symm ▸ hilt
  -- the element lies between the statistics of its channel
  obtain ⟨hjc, hlo, hhi⟩ := hall hwf i hisz
  rw [← F.shape] at hjc hlo hhi
  -- the statistics of the channel are elements of the channel
  have hstat : |mn.arr.data.getD (bindex d.shape qp.scale.arr.shape i) 0| ≤ (2:Rat)^(99:Int) ∧
      |mx.arr.data.getD (bindex d.shape qp.scale.arr.shape i) 0| ≤ (2:Rat)^(99:Int) := by
    rcases hcell _ hjc with ⟨hn, _, _⟩ | ⟨⟨i1, hi1, _, e1⟩, ⟨i2, hi2, _, e2⟩, _⟩
    · rw [← F.shape] at hn
      exact absurd rfl (hn i hisz)
    · rw [show mn.arr.data.getD (bindex d.shape qp.scale.arr.shape i) 0 = d.data.getD i1 0 from e1,
        show mx.arr.data.getD (bindex d.shape qp.scale.arr.shape i) 0 = d.data.getD i2 0 from e2]
      exact ⟨hmag i1 (hsz ▸ hi1), hmag i2 (hsz ▸ hi2)⟩
  rw [(uq_fit _ _ _ hu F.rank F.into).2 i hilt, F.pr, F.zw]
  exact ConstCover.decode_minmax qp.bits hb2 hb16 qp.symmetric (storageBits qp.bits)
    (ArithL.storageBits_le16 qp.bits hb16) _ _ (le_trans hlo hhi)
    _ _ (F.chan _ (NumT.bindex_compat_lt F.into i hilt)) hstat.1 hstat.2 _ hlo hhi

end ConstOwnAll
