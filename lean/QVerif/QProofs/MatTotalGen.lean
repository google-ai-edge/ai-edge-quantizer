import QProofs.MatTotalProd
import QProofs.SharingData
/-!
# The structural raise sites of one entry of the operator list are excluded under `MatTotal.Hyp` (C08)

Under `Hyp` (no `skip_checks`, complete statistics, operators of the shape their materialize functions expect) every selected
entry has its `KindCtx` (`entry_ctx`, through `KindView`: what resolution can select, kind by kind).  The one site that needs the
whole walk is the producer conflict: entries share no result name (`flatOps_pairwise`), carried as `Inv` along the walk.
-/
open Graph Mat Arith Cfg Pipe GraphStep GenInstsOK

set_option autoImplicit false

namespace MatTotal

/-- a convolution-like operator (data at `iIn`, weight at `iW`, optional bias at `iB`) -/
structure ConvShape (env : Env) (sg : Subgraph) (op : Op) (cfg : OpCfg) (iIn iW iB : Nat) : Prop where
  mandatory : ∀ i < iB, ∃ a, op.inputs[i]? = some a ∧ a ≠ -1
  float : ∀ i a t, (i = iIn ∨ i = iW) → op.inputs[i]? = some a → tensorAt sg a = .ok t → t.dtype = Tables.ttFloat32
  biasConst : isSRQ cfg = true → ∀ a bt, op.inputs[iB]? = some a → a ≠ -1 → tensorAt sg a = .ok bt →
    constData env bt ≠ none

structure CastShape (env : Env) (sg : Subgraph) (op : Op) (iIn iW iB : Nat) : Prop where
  dataSlot : ∃ a, op.inputs[iIn]? = some a
  weightSlot : ∃ a, op.inputs[iW]? = some a
  out : ∃ a, op.outputs[0]? = some a ∧ a ≠ -1
  weightConst : ∀ a tw, op.inputs[iW]? = some a → tensorAt sg a = .ok tw → constData env tw ≠ none

/-- what the materialize function of kind `k` expects of the operator's shape -/
def OpShape (env : Env) (sg : Subgraph) (op : Op) (cfg : OpCfg) : Kind → Prop
  | .std .sameAsInput gi => ∀ inT outT, FloatSlots sg op.inputs gi inT → FloatSlots sg op.outputs [] outT →
      (inT = [] ∧ outT = []) ∨ inT.length = 1
  | .std .sameAsOutput gi => ∀ inT outT, FloatSlots sg op.inputs gi inT → FloatSlots sg op.outputs [] outT →
      (inT = [] ∧ outT = []) ∨ outT.length = 1
  | .std .none _ => True
  | .conv => ConvShape env sg op cfg 0 1 2
  | .convT => ConvShape env sg op cfg 2 1 3
  | .fixed _ => op.outputs.length = 1 ∧ ∀ a t, a ∈ op.outputs → a ≠ -1 → tensorAt sg a = .ok t → t.dtype = Tables.ttFloat32
  | .cast a b c => CastShape env sg op a b c
  | .unknown => True

/-- **statistics are complete**: for every selected operator that quantizes activations, every float32
    runtime tensor it reads or writes -- and the data operand of a same-as-input operator even when it is
    a constant -- has a non-empty statistics entry -/
def StatsComplete (rx : String → String → Bool) (env : Env) (st : Recipe.State) (qs : Qsvs) : Prop :=
  ∀ sg ∈ env.model.subgraphs, ∀ q ∈ allOps sg, ∀ k scope ops fn, Selected rx env st sg q k scope ops fn →
    (Recipe.resolve rx st k scope).2.act.isSome = true →
    ∀ a ∈ q.1.inputs ++ q.1.outputs, a ≠ -1 → ∀ t, tensorAt sg a = .ok t → t.dtype = Tables.ttFloat32 →
      (constData env t = none ∨ (kindOf (Recipe.resolve rx st k scope).1 fn).isPass = true) → Present qs t.name

/-- the hypotheses of `genSite_struct_absurd` / `generate_cases` (`MatTotalMain`), which need `Unshared` besides -/
structure Hyp (rx : String → String → Bool) (env : Env) (st : Recipe.State) (qsvs : Option Qsvs) : Prop where
  nf : PipelineWF.NF env st
  /-- excludes `GenSite.notFloat` -/
  float : (env.model.subgraphs.any fun sg => sg.tensors.any (·.quant.isSome)) = false
  /-- excludes `GenSite.dupNames` -/
  names : namesUnique env.model
  /-- excludes `GenSite.noStats` -/
  statsGiven : Recipe.needCalibration st = true → qsvs.isSome = true
  /-- a `skip_checks` rule can select what the policy refuses (`C08.Inst.stSkip`) -/
  noSkip : NoSkip st
  /-- else the INPUT pseudo-operator makes two producer requests for one tensor (`StepSite.conflict`) -/
  inputsNodup : ∀ sg ∈ env.model.subgraphs, sg.inputs.Nodup
  /-- a slot `-1` is Python's `tensors[-1]`, which needs a non-empty list (`tensorAt_total`) -/
  tensorsNE : ∀ sg ∈ env.model.subgraphs, sg.tensors ≠ []
  /-- excludes `TensorSite.statsEmpty` for a constant -/
  constNE : ∀ sg ∈ env.model.subgraphs, ∀ t ∈ sg.tensors, ∀ d, constData env t = some d → d.data ≠ []
  stats : StatsComplete rx env st (qsvs.getD [])
  shape : ∀ sg ∈ env.model.subgraphs, ∀ (j : Nat) (op : Op), sg.ops[j]? = some op → ∀ k scope ops fn,
    Selected rx env st sg (op, none, (j : Int)) k scope ops fn →
    OpShape env sg op (Recipe.resolve rx st k scope).2 (kindOf (Recipe.resolve rx st k scope).1 fn)

theorem entry_valid (m : Model) (sg : Subgraph) (hS : SgOK m sg) (q : Op × Option String × Int) (h : q ∈ allOps sg) :
    SlotsValid sg q.1.inputs ∧ SlotsValid sg q.1.outputs := by
  rcases mem_allOps_iff.1 h with ⟨j, op, hop, rfl⟩ | rfl | rfl
  · have hO := hS.ops j op hop
    exact ⟨fun a ha => (hO.ins a ha).imp id (·.1), fun a ha => (hO.outs a ha).imp id (·.1)⟩
  · exact ⟨fun a ha => (by cases ha), fun a ha => Or.inr (hS.ins a ha)⟩
  · exact ⟨fun a ha => Or.inr (hS.outs a ha), fun a ha => (by cases ha)⟩

theorem srq_of_mode (k : String) (c : OpCfg) (h : C13.modeOK k c = true) (hw : weightOp k = false) : isSRQ c = true := by
  obtain ⟨w, _, _, _, hmodes⟩ := modeOK_facts _ _ h
  unfold weightOp at hw
  simp only [Bool.or_eq_false_iff] at hw
  rcases hmodes with ⟨hcp, a, ha, _, _⟩ | ⟨_, _, hd⟩ | ⟨_, _, hd, _⟩
  · unfold isSRQ; rw [hcp, ha]; rfl
  · rw [hw.2] at hd; cases hd
  · rw [hw.1] at hd; cases hd

theorem Selected.entry_cases {rx : String → String → Bool} {env : Env} {st : Recipe.State} {sg : Subgraph}
    {q : Op × Option String × Int} {k scope fn : String} {ops : List (String × String)}
    (S : Selected rx env st sg q k scope ops fn) (hq : q ∈ allOps sg) :
    (∃ (j : Nat) (op : Op), sg.ops[j]? = some op ∧ q = (op, none, (j : Int))) ∨ (q = inEntry sg ∧ k = "INPUT") ∨
      (q = outEntry sg ∧ k = "OUTPUT") := by
  have hkey := S.hkey
  rcases mem_allOps_iff.1 hq with h | rfl | rfl
  · exact .inl h
  · simp only [keyOf, inEntry, pure, Except.pure, Except.ok.injEq, Option.some.injEq] at hkey
    exact .inr (.inl ⟨rfl, hkey.symm⟩)
  · simp only [keyOf, outEntry, pure, Except.pure, Except.ok.injEq, Option.some.injEq] at hkey
    exact .inr (.inr ⟨rfl, hkey.symm⟩)

/-- the pseudo-operators INPUT / OUTPUT are registered for the unconstrained standard materialisation only -/
theorem Selected.real {rx : String → String → Bool} {env : Env} {st : Recipe.State} {sg : Subgraph}
    {q : Op × Option String × Int} {k scope fn : String} {ops : List (String × String)}
    (S : Selected rx env st sg q k scope ops fn) (hq : q ∈ allOps sg)
    (hk : (kindOf (Recipe.resolve rx st k scope).1 fn).isStdNone = false) :
    ∃ (j : Nat) (op : Op), sg.ops[j]? = some op ∧ q = (op, none, (j : Int)) := by
  rcases S.entry_cases hq with h | ⟨-, hin⟩ | ⟨-, hout⟩
  · exact h
  · rw [pseudo_isStdNone S.hops S.hfn (.inl hin)] at hk; cases hk
  · rw [pseudo_isStdNone S.hops S.hfn (.inr hout)] at hk; cases hk

/-- **what can be selected** under a recipe without `skip_checks`: the kind of the registered function, with what the policy
    check (`CfgGood`) and the registry (`Pipe.KindAlg`, `Pipe.KindOK`) say about algorithm, operator and config -/
inductive KindView (alg k : String) (c : OpCfg) : Kind → Prop
  | std (con : Constraint) (gi : List Nat) : alg = Tables.algMinMax → C13.modeOK k c = true →
      (con ≠ .none → weightOp k = false) → KindView alg k c (.std con gi)
  | conv : alg = Tables.algMinMax → C13.modeOK k c = true → Tables.woOps.contains k = true → KindView alg k c .conv
  | convT : alg = Tables.algMinMax → C13.modeOK k c = true → Tables.woOps.contains k = true → KindView alg k c .convT
  | fixed (sl : Bool) : alg = Tables.algMinMax → C13.modeOK k c = true → isSRQ c = true → KindView alg k c (.fixed sl)
  | cast (a b d : Nat) : alg = Tables.algFloatCasting → c.act = none → KindView alg k c (.cast a b d)

theorem Selected.view {rx : String → String → Bool} {env : Env} {st : Recipe.State} {sg : Subgraph}
    {q : Op × Option String × Int} {k scope fn : String} {ops : List (String × String)}
    (S : Selected rx env st sg q k scope ops fn) (hns : NoSkip st) :
    KindView (Recipe.resolve rx st k scope).1 k (Recipe.resolve rx st k scope).2 (kindOf (Recipe.resolve rx st k scope).1 fn) := by
  obtain ⟨hgood, -⟩ := resolve_selected rx st hns k scope S.halg
  obtain ⟨hK, hA⟩ := Pipe.kindAlg_of_registry S.hops S.hfn
  have hw : Tables.woOps.contains k = false → Tables.drqOps.contains k = false → weightOp k = false := fun h1 h2 => by
    unfold weightOp; rw [h1, h2]; rfl
  generalize kindOf (Recipe.resolve rx st k scope).1 fn = kd at hK hA ⊢
  cases kd with
  | std con g =>
    obtain ⟨-, -, hcon, -⟩ := hK
    exact .std con g hA.1 (hgood.minmax hA.1) fun hc => hw (hcon hc).1 (hcon hc).2
  | conv => exact .conv hA.1 (hgood.minmax hA.1) hA.2.1
  | convT => exact .convT hA.1 (hgood.minmax hA.1) hA.2.1
  | fixed sl =>
    obtain ⟨halg, hwo, hdrq, -⟩ := hA
    exact .fixed sl halg (hgood.minmax halg) (srq_of_mode k _ (hgood.minmax halg) (hw hwo hdrq))
  | cast a b d =>
    obtain ⟨-, -, hact, -⟩ := hgood.cast hA.1
    exact .cast a b d hA.1 hact
  | unknown => exact hA.elim

theorem KindView.mode {alg k : String} {c : OpCfg} {kd : Kind} (V : KindView alg k c kd)
    (hk : ∀ a b d, kd ≠ .cast a b d) : C13.modeOK k c = true := by
  cases V with
  | cast a b d => exact absurd rfl (hk a b d)
  | std _ _ _ h => exact h
  | conv _ h => exact h
  | convT _ h => exact h
  | fixed _ _ h => exact h

theorem Selected.minmax_of_act {rx : String → String → Bool} {env : Env} {st : Recipe.State} {sg : Subgraph}
    {q : Op × Option String × Int} {k scope fn : String} {ops : List (String × String)}
    (S : Selected rx env st sg q k scope ops fn) (hns : NoSkip st)
    (hact : (Recipe.resolve rx st k scope).2.act.isSome = true) : (Recipe.resolve rx st k scope).1 = Tables.algMinMax := by
  have V := S.view hns
  generalize kindOf (Recipe.resolve rx st k scope).1 fn = kd at V
  cases V with
  | cast _ _ _ _ hnone => rw [hnone] at hact; cases hact
  | std _ _ h => exact h
  | conv h => exact h
  | convT h => exact h
  | fixed _ h => exact h

theorem ConvCtx.of_std {env : Env} {sg : Subgraph} {qs : Qsvs} {oi : OpInfo} {gi : List Nat} {iIn iW iB : Nat}
    (C : StdCtx env sg qs oi .none gi []) (sh : ConvShape env sg oi.op oi.cfg iIn iW iB) (hlt : iIn < iB ∧ iW < iB)
    (hng : iIn ∉ gi ∧ iW ∉ gi) (hwo : Tables.woOps.contains oi.opName = true) : ConvCtx env sg oi gi iIn iW iB :=
  { validIn := C.validIn, validOut := C.validOut, tensors := C.tensors, mode := C.mode, lt := hlt, notGiven := hng,
    mandatory := sh.mandatory, float := sh.float, biasConst := sh.biasConst, weightOp := hwo }

/-- **the context facts of one selected entry**, at any statistics that extend the given ones -/
theorem entry_ctx (rx : String → String → Bool) (env : Env) (st : Recipe.State) (qsvs : Option Qsvs)
    (H : Hyp rx env st qsvs) (sg : Subgraph) (hsg : sg ∈ env.model.subgraphs) (sIdx : Nat)
    (q : Op × Option String × Int) (hq : q ∈ allOps sg) (k scope fn : String) (ops : List (String × String))
    (S : Selected rx env st sg q k scope ops fn) (qs : Qsvs)
    (hQ : ∀ n, Present (qsvs.getD []) n → Present qs n) :
    KindCtx env sg qs
      { sgIdx := sIdx, op := q.1, opName := k, opId := q.2.2, cfg := (Recipe.resolve rx st k scope).2 }
      (kindOf (Recipe.resolve rx st k scope).1 fn) := by
  have hS : SgOK env.model sg := ((modelOK_iff _).1 H.nf.wf).2.1 sg hsg
  obtain ⟨hvI, hvO⟩ := entry_valid env.model sg hS q hq
  -- `Hyp.shape` speaks of real operators only: it applies once the kind is not the one of the pseudo-operators;
  -- `Hyp.stats` covers a constant operand only for a same-as-input operator (second disjunct of `hstats`)
  have hshape : (kindOf (Recipe.resolve rx st k scope).1 fn).isStdNone = false →
      OpShape env sg q.1 (Recipe.resolve rx st k scope).2 (kindOf (Recipe.resolve rx st k scope).1 fn) := fun hk => by
    obtain ⟨j, op, hop, rfl⟩ := S.real hq hk
    exact H.shape sg hsg j op hop k scope ops fn S
  have hstats : (Recipe.resolve rx st k scope).2.act.isSome = true → ∀ (b : Bool) (gi : List Nat) (t : Tensor),
      SlotTensor sg q.1 b gi t →
      (constData env t = none ∨ (kindOf (Recipe.resolve rx st k scope).1 fn).isPass = true) → Present qs t.name := by
    intro hact b gi t ⟨i, a, hia, hane, hat, hf, _⟩ hc
    refine hQ _ (H.stats sg hsg q hq k scope ops fn S hact a ?_ hane t hat hf hc)
    cases b
    · exact List.mem_append_right _ (List.mem_of_getElem? hia)
    · exact List.mem_append_left _ (List.mem_of_getElem? hia)
  have stdctx : ∀ con gi, C13.modeOK k (Recipe.resolve rx st k scope).2 = true →
      (con = .sameAsInput → ∀ inT outT, FloatSlots sg q.1.inputs gi inT → FloatSlots sg q.1.outputs [] outT →
        (inT = [] ∧ outT = []) ∨ (inT.length = 1 ∧ ∀ t ∈ inT, Present qs t.name)) →
      (con = .sameAsOutput → ∀ inT outT, FloatSlots sg q.1.inputs gi inT → FloatSlots sg q.1.outputs [] outT →
        (inT = [] ∧ outT = []) ∨ outT.length = 1) →
      StdCtx env sg qs
        { sgIdx := sIdx, op := q.1, opName := k, opId := q.2.2, cfg := (Recipe.resolve rx st k scope).2 } con gi [] :=
    fun con gi hmode h1 h2 =>
    { validIn := hvI, validOut := hvO, tensors := H.tensorsNE sg hsg, mode := hmode
      stats := fun hact b t hst hc => hstats hact b _ t hst (.inl hc)
      constNE := H.constNE sg hsg, arityIn := h1, arityOut := h2 }
  have V := S.view H.noSkip
  generalize kindOf (Recipe.resolve rx st k scope).1 fn = kd at V hshape hstats ⊢
  cases V with
  | std con gi _ hmode hcon =>
    refine stdctx con gi hmode ?_ ?_
    · rintro rfl inT outT hI hO
      -- a same-as-input operator has no weight support, so it runs under static-range quantization
      have hsrq := srq_of_mode k _ hmode (hcon nofun)
      have hact : (Recipe.resolve rx st k scope).2.act.isSome = true := by
        unfold isSRQ at hsrq; simp only [Bool.and_eq_true] at hsrq; exact hsrq.2
      exact (hshape rfl inT outT hI hO).imp_right fun h => ⟨h, fun t ht =>
        hstats hact true gi t (floatSlots_mem sg q.1 true gi inT hI t ht) (.inr rfl)⟩
    · rintro rfl inT outT hI hO
      exact hshape rfl inT outT hI hO
  | conv _ hmode hwo =>
    have C := stdctx .none [2] hmode nofun nofun
    exact ⟨C, .of_std C (hshape rfl) (by decide) (by decide) hwo⟩
  | convT _ hmode hwo =>
    have C := stdctx .none [0, 3] hmode nofun nofun
    exact ⟨C, .of_std C (hshape rfl) (by decide) (by decide) hwo⟩
  | fixed sl _ hmode hsrq =>
    exact { std := stdctx .none [] hmode nofun nofun, outputs := (hshape rfl).1, srq := hsrq
            outFloat := fun a t ha hane hat => ⟨(hshape rfl).2 a t ha hane hat,
              (ConstProv.outNC_allOps env st H.nf.genHyp sg hsg q hq).atSlot ⟨a, ha, hane, hat⟩⟩ }
  | cast a b c =>
    have hsh := hshape rfl
    exact { validIn := hvI, validOut := hvO, tensors := H.tensorsNE sg hsg, dataSlot := hsh.dataSlot
            weightSlot := hsh.weightSlot, out := hsh.out, weightConst := hsh.weightConst }

theorem present_dictSet (qs : Qsvs) (k : String) (mm : FArr × FArr) (n : String) (h : Present qs n) :
    Present (Py.dictSet qs k (some mm)) n := by
  unfold Present
  rw [Py.dictGet?_dictSet]
  split
  · exact ⟨mm, rfl⟩
  · exact h

theorem present_writes (w : List (String × Qsv)) : ∀ (qs : Qsvs), (∀ e ∈ w, ∃ mm, e.2 = some mm) →
    ∀ n, Present qs n → Present (Locality.applyW w qs) n := by
  induction w with
  | nil => intro qs _ n h; exact h
  | cons e w ih =>
    intro qs hw n h
    refine ih _ (fun e' he' => hw e' (List.mem_cons_of_mem _ he')) n ?_
    obtain ⟨mm, hmm⟩ := hw e List.mem_cons_self
    show Present (Py.dictSet qs e.1 e.2) n
    rw [hmm]
    exact present_dictSet qs e.1 mm n h

theorem opReqs_present (rx : String → String → Bool) (env : Env) (st : Recipe.State) (qsvs : Option Qsvs)
    (H : Hyp rx env st qsvs) (sg : Subgraph) (hsg : sg ∈ env.model.subgraphs) (sIdx : Nat)
    (q : Op × Option String × Int) (hq : q ∈ allOps sg) (qs : Qsvs) (rs : List CReq) (qs' : Qsvs)
    (hQ : ∀ n, Present (qsvs.getD []) n → Present qs n)
    (h : opReqs rx env st sIdx sg qs q = .ok (rs, qs')) : ∀ n, Present qs n → Present qs' n := by
  rcases opReqs_ok h with ⟨_, rfl, -⟩ | ⟨k, scope, ops, fn, S, hrun⟩
  · exact fun n h => h
  have C := entry_ctx rx env st qsvs H sg hsg sIdx q hq k scope fn ops S qs hQ
  obtain ⟨w, rfl, hw⟩ := runKind_writes hrun
  refine present_writes w qs (fun e he => ?_)
  generalize kindOf (Recipe.resolve rx st k scope).1 fn = kd at hw C
  cases hw e he with
  | fixed sl a fp mm n => exact ⟨mm, rfl⟩
  | copy gi t o outT iq hI hO ho hiq =>
    -- the copied entry is the one of the data operand, which `Hyp.stats` makes non-empty
    rcases StdCtx.arityIn C rfl [t] outT hI hO with hh | hh
    · cases hh.1
    · obtain ⟨mm, hmm⟩ := hh.2 t List.mem_cons_self
      exact ⟨mm, Option.some.inj (hiq.symm.trans hmm)⟩

theorem opReqs_prodNames (rx : String → String → Bool) (env : Env) (st : Recipe.State) (qsvs : Option Qsvs)
    (H : Hyp rx env st qsvs) (sg : Subgraph) (hsg : sg ∈ env.model.subgraphs) (sIdx : Nat)
    (q : Op × Option String × Int) (hq : q ∈ allOps sg) (qs : Qsvs) (rs : List CReq) (qs' : Qsvs)
    (hQ : ∀ n, Present (qsvs.getD []) n → Present qs n)
    (h : opReqs rx env st sIdx sg qs q = .ok (rs, qs')) : (prodNames rs).Sublist (outNames sg q.1) := by
  rcases opReqs_ok h with ⟨hn, _⟩ | ⟨k, scope, ops, fn, S, hrun⟩
  · rw [noQuantOp_prodNames sg q.1 q.2.2 rs hn]
  · have C := entry_ctx rx env st qsvs H sg hsg sIdx q hq k scope fn ops S qs hQ
    refine runKind_prodNames env sg qs _ _ rs qs' ?_ hrun
    intro a b c hk
    rw [hk] at C
    obtain ⟨x, hx, hne⟩ := C.out
    show q.1.outputs[0]? ≠ some (-1)
    rw [hx]
    intro hh
    cases hh
    exact hne rfl

theorem nameAt_some (sg : Subgraph) (a : Int) (n : String) (h : nameAt sg a = some n) :
    ∃ t, tensorAt sg a = .ok t ∧ t.name = n := by
  unfold nameAt at h
  cases ht : tensorAt sg a with
  | error e => rw [ht] at h; cases h
  | ok t => rw [ht] at h; cases h; exact ⟨t, rfl, rfl⟩

theorem mem_outNames (sg : Subgraph) (op : Op) (n : String) (h : n ∈ outNames sg op) :
    ∃ a ∈ op.outputs, a ≠ -1 ∧ ∃ t, tensorAt sg a = .ok t ∧ t.name = n := by
  unfold outNames at h
  obtain ⟨a, ha, hn⟩ := List.mem_filterMap.1 h
  obtain ⟨ha1, ha2⟩ := List.mem_filter.1 ha
  exact ⟨a, ha1, by simpa using ha2, nameAt_some sg a n hn⟩

theorem slot_of_name (sg : Subgraph) (hn : (sg.tensors.map (·.name)).Nodup) (a b : Int) (ta tb : Tensor)
    (ha : ValidT sg a) (hb : ValidT sg b) (hta : tensorAt sg a = .ok ta) (htb : tensorAt sg b = .ok tb)
    (h : ta.name = tb.name) : a = b := by
  obtain ⟨h1, h2⟩ := tensorAt_valid sg a ta ha hta
  obtain ⟨h3, h4⟩ := tensorAt_valid sg b tb hb htb
  have := name_inj sg hn _ _ ta tb h1 h3 h
  omega

theorem nodup_filterMap_mem {α β} (f : α → Option β) : ∀ (l : List α),
    (∀ a ∈ l, ∀ a' ∈ l, ∀ b, f a = some b → f a' = some b → a = a') → l.Nodup → (l.filterMap f).Nodup :=
  fun _ h hnd => List.Pairwise.filterMap f (fun _ _ h => h)
    (hnd.imp_of_mem fun ha ha' hne b hb _ hb' hbb => hne (h _ ha _ ha' b hb (hbb ▸ hb')))

theorem outNames_nodup (sg : Subgraph) (hn : (sg.tensors.map (·.name)).Nodup) (op : Op)
    (hv : SlotsValid sg op.outputs) (hnd : (op.outputs.filter (· != -1)).Nodup) : (outNames sg op).Nodup := by
  unfold outNames
  refine nodup_filterMap_mem _ _ ?_ hnd
  intro a ha a' ha' n h1 h2
  obtain ⟨ha1, ha2⟩ := List.mem_filter.1 ha
  obtain ⟨hb1, hb2⟩ := List.mem_filter.1 ha'
  obtain ⟨t, ht, htn⟩ := nameAt_some sg a n h1
  obtain ⟨t', ht', htn'⟩ := nameAt_some sg a' n h2
  have va : ValidT sg a := (hv a ha1).resolve_left (by simpa using ha2)
  have vb : ValidT sg a' := (hv a' hb1).resolve_left (by simpa using hb2)
  exact slot_of_name sg hn a a' t t' va vb ht ht' (htn.trans htn'.symm)

def NoCommonOut (x' x : (Subgraph × Nat) × (Op × Option String × Int)) : Prop :=
  ∀ n, n ∈ outNames x'.1.1 x'.2.1 → n ∉ outNames x.1.1 x.2.1

def NoCommonSlot (q' q : Op × Option String × Int) : Prop := ∀ a, a ≠ -1 → a ∈ q'.1.outputs → a ∉ q.1.outputs

theorem noCommonOut_of_slot (sg : Subgraph) (hn : (sg.tensors.map (·.name)).Nodup) (p : Subgraph × Nat) (hp : p.1 = sg)
    (q' q : Op × Option String × Int) (hv' : SlotsValid sg q'.1.outputs) (hv : SlotsValid sg q.1.outputs)
    (h : NoCommonSlot q' q) : NoCommonOut (p, q') (p, q) := by
  intro n h1 h2
  simp only [hp] at h1 h2
  obtain ⟨a, ha, hane, t, hat, htn⟩ := mem_outNames sg _ n h1
  obtain ⟨b, hb, hbne, t', hbt, htn'⟩ := mem_outNames sg _ n h2
  have va : ValidT sg a := (hv' a ha).resolve_left hane
  have vb : ValidT sg b := (hv b hb).resolve_left hbne
  have := slot_of_name sg hn a b t t' va vb hat hbt (htn.trans htn'.symm)
  subst this
  exact h a hane ha hb

theorem allOps_pairwise (m : Model) (sg : Subgraph) (hS : SgOK m sg) : (allOps sg).Pairwise NoCommonSlot := by
  rw [allOps_eq_append, List.pairwise_append]
  refine ⟨?_, ?_, ?_⟩
  · rw [List.pairwise_iff_getElem]
    intro i j hi hj hij
    simp only [List.length_map, List.length_zipIdx] at hi hj
    simp only [List.getElem_map, List.getElem_zipIdx, Nat.zero_add]
    intro a hane ha hb
    have hO := hS.ops j sg.ops[j] (List.getElem?_eq_getElem hj)
    rcases hO.outs a hb with h | h
    · exact hane h
    · exact h.2.2.2 ⟨i, sg.ops[i], hij, List.getElem?_eq_getElem hi, ha⟩
  · refine List.pairwise_cons.2 ⟨?_, List.pairwise_singleton _ _⟩
    intro q hq
    simp only [List.mem_singleton] at hq
    subst hq
    intro a _ _ hb
    cases hb
  · intro q' hq' q hq
    obtain ⟨pp, hpp, rfl⟩ := List.mem_map.1 hq'
    have hop := List.mem_zipIdx_iff_getElem?.1 hpp
    simp only [List.mem_cons, List.mem_nil_iff, or_false] at hq
    intro a hane ha hb
    rcases hq with rfl | rfl
    · have hO := hS.ops pp.2 pp.1 (by simpa using hop)
      rcases hO.outs a ha with h | h
      · exact hane h
      · exact h.2.1 hb
    · cases hb

theorem flatOps_pairwise (m : Model) (hwf : WF.modelOK m = true) (hnu : namesUnique m) :
    (flatOps m).Pairwise NoCommonOut := by
  have hSg := ((modelOK_iff m).1 hwf).2.1
  unfold flatOps
  rw [List.pairwise_flatMap]
  refine ⟨?_, ?_⟩
  · intro p hp
    have hpm : p.1 ∈ m.subgraphs := List.mem_of_getElem? (List.mem_zipIdx_iff_getElem?.1 hp)
    have hS := hSg p.1 hpm
    rw [List.pairwise_map]
    refine (allOps_pairwise m p.1 hS).imp_of_mem ?_
    intro q' q hq' hq h
    exact noCommonOut_of_slot p.1 hS.names p rfl q' q (entry_valid m p.1 hS q' hq').2 (entry_valid m p.1 hS q hq).2 h
  · unfold namesUnique at hnu
    obtain ⟨_, hpw⟩ := List.nodup_flatMap.1 hnu
    have : (m.subgraphs.zipIdx.map (·.1)).Pairwise
        (fun a b => Function.onFun List.Disjoint (fun sg => sg.tensors.map (·.name)) a b) := by
      rw [List.zipIdx_map_fst]; exact hpw
    rw [List.pairwise_map] at this
    refine this.imp ?_
    intro p' p hdis x' hx' x hx n h1 h2
    obtain ⟨q', _, rfl⟩ := List.mem_map.1 hx'
    obtain ⟨q, _, rfl⟩ := List.mem_map.1 hx
    obtain ⟨a, _, _, t, hat, htn⟩ := mem_outNames _ _ n h1
    obtain ⟨b, _, _, t', hbt, htn'⟩ := mem_outNames _ _ n h2
    exact hdis (List.mem_map.2 ⟨t, Py.index_mem _ a t hat, htn⟩) (List.mem_map.2 ⟨t', Py.index_mem _ b t' hbt, htn'⟩)

/-- the result names of the entries walked so far -/
def producedBy (pre : List ((Subgraph × Nat) × (Op × Option String × Int))) : List String :=
  pre.flatMap fun x => outNames x.1.1 x.2.1

theorem fresh_outNames (m : Model) (hwf : WF.modelOK m = true) (hnu : namesUnique m)
    (pre post : List ((Subgraph × Nat) × (Op × Option String × Int))) (x : (Subgraph × Nat) × (Op × Option String × Int))
    (hl : flatOps m = pre ++ x :: post) (n : String) (h1 : n ∈ producedBy pre) : n ∉ outNames x.1.1 x.2.1 := by
  obtain ⟨x', hx', hn'⟩ := List.mem_flatMap.1 h1
  have hpw := flatOps_pairwise m hwf hnu
  rw [hl, List.pairwise_append] at hpw
  exact hpw.2.2 x' hx' x List.mem_cons_self n hn'

theorem mem_flatOps (m : Model) (x : (Subgraph × Nat) × (Op × Option String × Int)) (h : x ∈ flatOps m) :
    m.subgraphs[x.1.2]? = some x.1.1 ∧ x.2 ∈ allOps x.1.1 := by
  unfold flatOps at h
  obtain ⟨p, hp, hx⟩ := List.mem_flatMap.1 h
  obtain ⟨q, hq, rfl⟩ := List.mem_map.1 hx
  exact ⟨List.mem_zipIdx_iff_getElem?.1 hp, hq⟩

structure Inv (qsvs : Option Qsvs) (pre : List ((Subgraph × Nat) × (Op × Option String × Int))) (s : GState) : Prop where
  /-- the statistics only grow -/
  present : ∀ n, Present (qsvs.getD []) n → Present s.1 n
  /-- a producer side comes from an entry walked before -/
  prod : ∀ n, HasProd s.2 n → n ∈ producedBy pre

theorem inv_step (rx : String → String → Bool) (env : Env) (st : Recipe.State) (qsvs : Option Qsvs)
    (H : Hyp rx env st qsvs) (pre : List ((Subgraph × Nat) × (Op × Option String × Int)))
    (x : (Subgraph × Nat) × (Op × Option String × Int)) (hx : x ∈ flatOps env.model) (s s' : GState)
    (hI : Inv qsvs pre s) (h : flatStep rx env st s x = .ok s') : Inv qsvs (pre ++ [x]) s' := by
  obtain ⟨hsg, hq⟩ := mem_flatOps env.model x hx
  have hsgm : x.1.1 ∈ env.model.subgraphs := List.mem_of_getElem? hsg
  obtain ⟨rs, hr, hu⟩ := opStep_ok rx env st x.1.2 x.1.1 s s' x.2 h
  refine ⟨fun n hn => opReqs_present rx env st qsvs H x.1.1 hsgm x.1.2 x.2 hq s.1 rs s'.1 hI.present hr n (hI.present n hn), ?_⟩
  intro n hn
  unfold producedBy
  rw [List.flatMap_append, List.mem_append]
  rcases updateResults_hasProd rs s.2 s'.2 hu n hn with h1 | h1
  · exact .inl (hI.prod n h1)
  · refine .inr ?_
    simp only [List.flatMap_cons, List.flatMap_nil, List.append_nil]
    exact (opReqs_prodNames rx env st qsvs H x.1.1 hsgm x.1.2 x.2 hq s.1 rs s'.1 hI.present hr).subset h1

theorem reach_inv (rx : String → String → Bool) (env : Env) (st : Recipe.State) (qsvs : Option Qsvs)
    (H : Hyp rx env st qsvs) (pre post : List ((Subgraph × Nat) × (Op × Option String × Int))) (s : GState)
    (hl : flatOps env.model = pre ++ post) (h : Reach rx env st qsvs pre s) : Inv qsvs pre s :=
  reach_rule (Inv qsvs) ⟨fun _ h => h, fun n ⟨c, hc, _⟩ => by cases hc⟩ (fun p x a b hx hI hs => inv_step rx env st qsvs H p x hx a b hI hs) hl h

theorem stepSite_struct_absurd (rx : String → String → Bool) (env : Env) (st : Recipe.State) (qsvs : Option Qsvs)
    (H : Hyp rx env st qsvs) (pre post : List ((Subgraph × Nat) × (Op × Option String × Int)))
    (sg : Subgraph) (sIdx : Nat) (q : Op × Option String × Int) (s : GState) (e : PyErr)
    (hl : flatOps env.model = pre ++ ((sg, sIdx), q) :: post) (hI : Inv qsvs pre s) :
    ¬ StepSite rx env st sIdx sg s.1 s.2 q false e := by
  have hx : ((sg, sIdx), q) ∈ flatOps env.model := by rw [hl]; exact List.mem_append_right _ List.mem_cons_self
  obtain ⟨hsg, hq⟩ := mem_flatOps env.model _ hx
  have hsgm : sg ∈ env.model.subgraphs := List.mem_of_getElem? hsg
  have hS : SgOK env.model sg := ((modelOK_iff _).1 H.nf.wf).2.1 sg hsgm
  obtain ⟨hvI, hvO⟩ := entry_valid env.model sg hS q hq
  intro hsite
  cases hsite with
  | opcode hio hc =>
    rcases (mem_allOps_iff (sg := sg)).1 hq with ⟨j, op, hop, rfl⟩ | rfl | rfl
    · have := (hS.ops j op hop).code
      have : env.model.opcodes[op.code]? ≠ none := by
        rw [List.getElem?_eq_getElem this]; exact fun h => by cases h
      exact this hc
    · cases hio
    · cases hio
  | slot e hs => exact slotSite_absurd sg _ e (slotsValid_append hvI hvO) (H.tensorsNE sg hsgm) hs
  | unregistered k scope hk hs hne hnone =>
    obtain ⟨_, ops, fn, ho, hf, _⟩ := resolve_selected rx st H.noSkip k scope hne
    rw [ho] at hnone
    simp only [Option.bind_some] at hnone
    rw [hf] at hnone
    cases hnone
  | op num k scope fn ops e hk hs hne ho hf hop =>
    exact opSite_struct_absurd env sg s.1 _ _ e
      (entry_ctx rx env st qsvs H sg hsgm sIdx q hq k scope fn ops ⟨hk, hs, hne, ho, hf⟩ s.1 hI.present) hop
  | conflict rs qs' pre' post' r cur mid hr hrs hmid hd hp hc =>
    have hsub := opReqs_prodNames rx env st qsvs H sg hsgm sIdx q hq s.1 rs qs' hI.present hr
    have hnd : (outNames sg q.1).Nodup := by
      refine outNames_nodup sg hS.names q.1 hvO ?_
      rcases (mem_allOps_iff (sg := sg)).1 hq with ⟨j, op, hop, rfl⟩ | rfl | rfl
      · exact hS.nodupOut op (List.mem_of_getElem? hop)
      · exact (H.inputsNodup sg hsgm).filter _
      · exact List.nodup_nil
    rw [hrs] at hsub
    have hsplit : prodNames (pre' ++ r :: post') = prodNames pre' ++ (r.name :: prodNames post') := by
      rw [prodNames_append]
      congr 1
      simp only [prodNames, List.filter_cons, hp, if_true, List.map_cons]
    rw [hsplit] at hsub
    -- the earlier producer side of `r.name` is from an entry walked before (then two entries share a result name:
    -- `fresh_outNames`) or from a request of this entry before `r` (then `outNames` of this entry repeats a name: `hnd`)
    rcases updateResults_hasProd pre' s.2 mid hmid r.name ⟨cur, hd, hc⟩ with h1 | h1
    · have := fresh_outNames env.model H.nf.wf H.names pre post ((sg, sIdx), q) hl r.name (hI.prod _ h1)
      exact this (hsub.subset (List.mem_append_right _ List.mem_cons_self))
    · have hnd' := hsub.nodup hnd
      rw [List.nodup_append] at hnd'
      exact hnd'.2.2 _ h1 _ List.mem_cons_self rfl

end MatTotal
