import QProofs.MatTotalMain
import QProofs.GraphTotal
import QProofs.ParamAPI
/-!
# `Pipeline.quantizePure` is total up to the numeric sites of the materialisation stage (C08)

The generated requests carry usable parameters (`ResGood`), which gives the graph stage its request-level hypotheses.
-/
open Graph Mat Arith Pipe SharingGen SharingData Perform Pipeline

set_option autoImplicit false

namespace MatTotal

/-- the bit width the graph stage can map to a tensor type -/
def bitsOK : Param → Prop
  | .uniform qp _ => qp.bits ≤ 64
  | .nonlinear b _ => b = 16 ∨ b = 32

def SideGood (o : CO2T) : Prop :=
  (∀ P, o.param = some P → bitsOK P) ∧ ((∃ x ∈ o.xfs, isInsertion x = true) → o.param.isSome = true)

def ReqGood (r : CReq) : Prop := ReqSides (fun _ => SideGood) (fun _ => SideGood) r

def ResGood (res : List (String × CReq)) : Prop := DictSides (fun _ => SideGood) (fun _ => SideGood) res

theorem reqGood_sideReq {n : String} {b : Bool} {c : CO2T} (h : SideGood c) : ReqGood (sideReq n b c) :=
  reqSides_sideReq.2 (by cases b <;> exact h)

theorem sideGood_noQuant (o : Int) : SideGood ⟨o, [.noQuant], none⟩ := by
  refine ⟨fun P h => (by cases h), ?_⟩
  rintro ⟨x, hx, hi⟩
  rw [List.mem_singleton.1 hx] at hi
  cases hi

theorem bitsOK_stripData (p : Option Param) (h : ∀ P, p = some P → bitsOK P) : ∀ P, stripData p = some P → bitsOK P := by
  intro P hP
  cases p with
  | none => cases hP
  | some q =>
    cases q with
    | nonlinear b d => cases hP; exact h _ rfl
    | uniform qp d =>
      cases d with
      | none => cases hP; exact h _ rfl
      | some v => cases hP; exact (h _ rfl : bitsOK (.uniform qp (some v)))

theorem quantizeBias_bits (bias : FArr) (qi qw qp : QParams) (q : IArr) (h : quantizeBias bias qi qw = .ok (qp, q)) :
    qp.bits ≤ 64 := by
  obtain ⟨prod, -, rfl, -⟩ := Arith.quantizeBias_ok_iff.1 h
  show (if qi.bits = 16 then 64 else 32) ≤ 64
  split <;> decide

/-- a tensor without a config stays float: under a legal min/max mode it is a runtime tensor, or the operator
    has no weight operand -/
theorem tensorXfs_unconfigured {env : Env} {oi : OpInfo} {t : Tensor} {b : Bool} {xfs : List Xf}
    (hmode : C13.modeOK oi.opName oi.cfg = true) (h : MatParams.tcfgOf env oi t = none)
    (hx : tensorXfs oi.cfg b (constData env t).isSome = .ok xfs) : xfs = [.noQuant] := by
  obtain ⟨w, hw, _, _, hmodes⟩ := modeOK_facts _ _ hmode
  unfold MatParams.tcfgOf at h
  split at h
  · rw [hw] at h; cases h
  · rename_i hc
    have hnc : (constData env t).isSome = false := by
      cases hcc : (constData env t).isSome with
      | false => rfl
      | true =>
        refine absurd ?_ hc
        rcases hmodes with ⟨_, a, ha, _⟩ | ⟨_, _, hd⟩ | ⟨_, _, hd, _⟩
        · rw [h] at ha; cases ha
        · rw [hcc, hd, Bool.or_true]; rfl
        · rw [hcc, hd, Bool.true_or]; rfl
    have hns : isSRQ oi.cfg = false := by unfold isSRQ; rw [h]; exact Bool.and_false _
    rw [hnc] at hx
    obtain ⟨x, rfl, hcase⟩ := tensorXfs_ok hx
    cases hcase with
    | srqIn hs => rw [hns] at hs; cases hs
    | srqOut _ hs => rw [hns] at hs; cases hs
    | woOther => rfl
    | deqOther => rfl

theorem wrapperParam_bits {env : Env} {qs : Qsvs} {oi : OpInfo} {t : Tensor} {g p : Option Param}
    (hmode : C13.modeOK oi.opName oi.cfg = true) (hg : ∀ P, g = some P → bitsOK P)
    (h : wrapperParam env qs oi t g = .ok p) : ∀ P, p = some P → bitsOK P := by
  intro P hP
  cases wrapperParam_ok h with
  | unconfigured _ => cases hP
  | computed tc mm q htc _ hq =>
    obtain ⟨qp, d, rfl, _, hb, _⟩ := tensorQuantParams_ok hq
    cases hP
    show qp.bits ≤ 64
    rw [hb]
    exact le_trans (tc_bits env oi t tc hmode htc).2 (by decide)
  | requantized qp d q _ _ => cases hP; exact hg (.uniform qp none) rfl
  | kept P' _ => cases hP; exact hg _ rfl

theorem handedParam_bits {env : Env} {sg : Subgraph} {qs : Qsvs} {oi : OpInfo} {con : Constraint} {b : Bool}
    {g : Option Param} (hmode : C13.modeOK oi.opName oi.cfg = true) (h : HandedParam env sg qs oi con b g) :
    ∀ P, g = some P → bitsOK P := by
  have hnone : ∀ P, (none : Option Param) = some P → bitsOK P := fun P hP => by cases hP
  cases h with
  | none => exact hnone
  | ofResult t p _ _ hp => exact wrapperParam_bits hmode hnone hp
  | ofOperand t p _ _ hp => exact bitsOK_stripData p (wrapperParam_bits hmode hnone hp)

theorem stdEntry_good {env : Env} {sg : Subgraph} {qs : Qsvs} {oi : OpInfo} {con : Constraint} {t : Tensor} {b : Bool}
    {i : Nat} {c : CO2T} (hmode : C13.modeOK oi.opName oi.cfg = true) (he : StdEntry env sg qs oi con b i t c) :
    SideGood c := by
  cases he with
  | noQuant => exact sideGood_noQuant _
  | wrapped g p xfs _ _ hg hp hx =>
    refine ⟨wrapperParam_bits hmode (handedParam_bits hmode hg) hp, ?_⟩
    rintro ⟨x, hxm, hi⟩
    cases p with
    | some _ => rfl
    | none =>
      -- only a tensor without a config gets no parameters
      cases wrapperParam_ok hp with
      | unconfigured hcfg =>
        rw [tensorXfs_unconfigured hmode hcfg hx, List.mem_singleton] at hxm
        subst hxm; cases hi

/-- **every entry the materialisation emits is good**: under a legal mode for the min/max functions; float casting
    emits `[NO_QUANTIZE]` entries and the float16 weight -/
theorem emitted_good {env : Env} {sg : Subgraph} {qs : Qsvs} {oi : OpInfo} {k : Kind} {t : Tensor} {b : Bool}
    {c : CO2T} (hmode : (∀ iIn iW iB, k ≠ .cast iIn iW iB) → C13.modeOK oi.opName oi.cfg = true)
    (he : EmittedK env sg qs oi k t b c) : SideGood c := by
  cases he with
  | std _ i _ _ hk hs => exact stdEntry_good (hmode hk) hs
  | biasPlain iI iW iB a _ xfs _ _ _ _ hsrq hx =>
    obtain ⟨x, rfl, hcase⟩ := tensorXfs_ok hx
    cases hcase with
    | srqIn hs => rw [hsrq] at hs; cases hs
    | woOther => exact sideGood_noQuant _
    | deqOther => exact sideGood_noQuant _
  | biasQuant =>
    exact ⟨fun P hP => by cases hP; exact quantizeBias_bits _ _ _ _ _ ‹quantizeBias _ _ _ = _›, fun _ => rfl⟩
  | fixed sl i _ c a fp hk _ ha hfp =>
    refine ⟨fun P hP => ?_, fun _ => rfl⟩
    cases hP
    -- a fixed range exists for 8 and 16 bits only, and has that width
    obtain ⟨hb, s, z, sym, rfl⟩ := Mat.fixedParams_some hfp
    show a.bits.toNat ≤ 64
    rcases hb with h | h
    · rw [h]; decide
    · rw [h]; decide
  | castPlain => exact sideGood_noQuant _
  | f16 => exact ⟨fun P hP => by cases hP; exact .inl rfl, fun _ => rfl⟩

theorem reqGood_opReqs {rx : String → String → Bool} {env : Env} {st : Recipe.State} {sIdx : Nat} {sg : Subgraph}
    {qs : Qsvs} {q : Op × Option String × Int} {rs : List CReq} {qs' : Qsvs} (hns : NoSkip st)
    (h : opReqs rx env st sIdx sg qs q = .ok (rs, qs')) : ∀ r ∈ rs, ReqGood r := by
  intro r hr
  obtain ⟨t, b, -, ⟨-, rfl⟩ | ⟨k, scope, ops, fn, c, S, he, rfl⟩⟩ := opReqs_emitted h r hr
  · exact reqGood_sideReq (sideGood_noQuant _)
  · exact reqGood_sideReq (emitted_good (S.view hns).mode he)

theorem dtypeOf_ok (Q : Param) (h : bitsOK Q) : ∃ ty, dtypeOf (pinfoOf Q) = .ok ty := by
  cases Q with
  | uniform q d =>
    unfold bitsOK at h
    unfold dtypeOf pinfoOf
    simp only [if_true]
    repeat' split
    all_goals exact ⟨_, rfl⟩
  | nonlinear b d =>
    unfold bitsOK at h
    unfold dtypeOf pinfoOf
    simp only [Bool.false_eq_true, if_false]
    rcases h with rfl | rfl
    · exact ⟨_, rfl⟩
    · exact ⟨_, rfl⟩

theorem paramOK_of_good (tbl : List Param) (c : CO2T) (hid : ∀ P, c.param = some P → HasId tbl P) (hg : SideGood c)
    (hx : ∃ x ∈ c.xfs, isInsertion x = true) : GraphTotal.ParamOK (ptableOf tbl) (absO tbl c).param := by
  have hsome := hg.2 hx
  cases hcp : c.param with
  | none => rw [hcp] at hsome; cases hsome
  | some P =>
    have hP := hg.1 P hcp
    obtain ⟨i, hpar⟩ := hid P hcp
    obtain ⟨hi, hq, _⟩ := List.findIdx?_eq_some_iff_getElem.1 hpar
    obtain ⟨ty, hty⟩ := dtypeOf_ok P hP
    rw [← eqv_pinfoOf _ P hq] at hty
    refine ⟨i, pinfoOf tbl[i], ty, by simp only [absO, hcp, Option.bind_some, hpar], ?_, hty⟩
    rw [pinfo_ptableOf, List.getElem?_eq_getElem hi]
    rfl

theorem graph_hyps {m : Model} {res : List (String × CReq)} (C : Ctx m res) (U : Unshared m) (hG : ResGood res) :
    (∀ a ∈ areqsOf res, GraphTotal.ReqParamsKnown (ptableOf (tblOf res)) a) ∧
    (∀ a ∈ areqsOf res, GraphTotal.NoMixed a) := by
  have hent : ∀ a ∈ areqsOf res, ∃ e ∈ res, a = absR (tblOf res) e.2 := by
    intro a ha
    rw [ReqTrace.areqsOf_eq] at ha
    obtain ⟨e, he, rfl⟩ := List.mem_map.1 ha
    exact ⟨e, he, rfl⟩
  have hid : ∀ e ∈ res, ∀ c ∈ e.2.sides, ∀ P, c.param = some P → HasId (tblOf res) P := fun e he c hc P hP =>
    absReqs_hasId (res.map (·.2)) P (List.mem_flatMap.2 ⟨e.2, List.mem_map_of_mem he, mem_paramsOfR.2 ⟨c, hc, hP⟩⟩)
  refine ⟨?_, ?_⟩
  · intro a ha o ho hx
    obtain ⟨e, he, rfl⟩ := hent a ha
    rcases ho with ho | ⟨os, hos, hom⟩
    · obtain ⟨c, hc, rfl⟩ := Option.map_eq_some_iff.1 ho
      exact paramOK_of_good _ c (hid e he c (mem_sides.2 (.inl hc))) ((hG e he).1 c hc) hx
    · obtain ⟨cs, hcs, rfl⟩ := Option.map_eq_some_iff.1 hos
      obtain ⟨c, hc, rfl⟩ := List.mem_map.1 hom
      exact paramOK_of_good _ c (hid e he c (mem_sides.2 (.inr ⟨cs, hcs, hc⟩))) ((hG e he).2 cs c hcs hc) hx
  · intro a ha os hos htrig o hom
    obtain ⟨e, he, rfl⟩ := hent a ha
    have hE := C.entries e he
    obtain ⟨s, sg, i, hloc⟩ := hE.loc
    obtain ⟨cs, hcs, rfl⟩ := Option.map_eq_some_iff.1 hos
    -- a consumer entry that rewrites the tensor makes it a constant with ONE reader …
    have key : ∀ c ∈ cs, (c.xfs = [.quantTensor] ∨ c.xfs = [.addDequant]) → False := by
      intro c hc hxo
      obtain ⟨hCS, hCA⟩ := hE.cons cs c hcs hc s sg i hloc
      obtain ⟨x, hx, _, hconst⟩ := hCS.xf
      have hconst' : isConst m sg (i : Int) = true := by
        refine hconst ?_
        rcases hxo with h | h <;> rw [h] at hx <;> cases hx
        · exact .inl rfl
        · exact .inr rfl
      -- … so no producer side, and every consumer entry is the reader's
      have hnp := const_noProd C e he s sg i hloc hconst'
      rcases htrig with ⟨p, hp, _⟩ | ⟨o', ho', hx'⟩
      · rw [ReqTrace.absR_producer hnp] at hp; cases hp
      · obtain ⟨c', hc', rfl⟩ := List.mem_map.1 ho'
        have hCA' := (hE.cons cs c' hcs hc' s sg i hloc).2
        have hid := U.oneReader sg (List.mem_of_getElem? hloc.1) i hconst' _ _ hCA hCA'
        obtain ⟨hxx, _⟩ := hE.coh cs c c' hcs hc hc' hid
        have : c.xfs = [.noQuant] := hxx.trans hx'
        rcases hxo with h | h <;> rw [h] at this <;> cases this
    obtain ⟨c, hc, rfl⟩ := List.mem_map.1 hom
    exact ⟨fun h => key c hc (.inl h), fun h => key c hc (.inr h)⟩

/-- **once `generate` has returned, the rest of `quantize()` cannot raise** -/
theorem quantize_of_generate (rx : String → String → Bool) (env : Env) (st : Recipe.State) (qsvs : Option Qsvs)
    (H : Hyp rx env st qsvs) (U : Unshared env.model) (hrec : (Recipe.getRecipe st).isEmpty = false)
    (reqs : List CReq) (hgen : Mat.generate rx env st qsvs = .ok reqs) :
    ∃ m', quantizePure rx env st qsvs = .ok (m', (absReqs reqs).1) ∧ WF.modelOK m' = true := by
  obtain ⟨-, -, -, qs, res, hcore, -, -, hreqs⟩ := generate_ok_iff.1 hgen
  obtain ⟨C, _⟩ := generateLoop_res rx env st qsvs H.nf.genHyp H.names (qs, res) hcore
  have hG : ResGood res := generate_sides (fun _ _ _ _ _ _ _ _ h => reqGood_opReqs H.noSkip h) hcore
  obtain ⟨hpar, hmix⟩ := graph_hyps C U hG
  subst hreqs
  have hreq := reqOK_of_ctx C
  obtain ⟨m', hm'⟩ := GraphTotal.modify_total (ptableOf (tblOf res)) env.model (areqsOf res) H.nf.wf H.names hreq hpar hmix
  exact ⟨m', PipelineWF.quantizePure_ok_iff.2 ⟨hrec, _, hgen, rfl, hm'⟩, GenInstsOK.modify_ok _ env.model m' _ H.nf.wf hreq hm'⟩

end MatTotal
