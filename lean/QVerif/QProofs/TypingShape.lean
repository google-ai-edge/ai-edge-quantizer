import QProofs.MatLoop
/-!
# C03 end to end, request stage: typing facts about every request side
`Pipe.generate_sides` instantiated with `PTyp` / `CTyp`: a producer side `[ADD_DEQUANTIZE]` and a consumer side `[ADD_QUANTIZE]` are only
requested for float32 tensors (they come from `wrapper`, which is only called for slots that are not ignored); every parameter object is
uniform, except the float16 parameters of the float-casting algorithm, which sit on a consumer side `[ADD_DEQUANTIZE]`.
-/
open Graph Mat Cfg Pipe

namespace TypingShape

section Generic
variable (Qp Qc : String → CO2T → Prop)

def DSides (res : List (String × CReq)) : Prop :=
  ∀ e ∈ res, (∀ p, e.2.producer = some p → Qp e.1 p) ∧ (∀ cs c, e.2.consumers = some cs → c ∈ cs → Qc e.1 c)

end Generic

def F32 (sg : Subgraph) (n : String) : Prop := ∃ t ∈ sg.tensors, t.name = n ∧ t.dtype = Tables.ttFloat32

def UniformP (P : Param) : Prop := ∃ qp d, P = .uniform qp d

def PTypS (sg : Subgraph) (n : String) (p : CO2T) : Prop :=
  (p.xfs = [.addDequant] → F32 sg n) ∧ ∀ P, p.param = some P → UniformP P

def F32NC (env : Env) (sg : Subgraph) (n : String) : Prop :=
  ∃ t ∈ sg.tensors, t.name = n ∧ t.dtype = Tables.ttFloat32 ∧ (constData env t).isSome = false

def CTypS (env : Env) (sg : Subgraph) (n : String) (c : CO2T) : Prop :=
  (c.xfs = [.addQuant] → F32NC env sg n) ∧
  ∀ P, c.param = some P → UniformP P ∨ (c.xfs = [.addDequant] ∧ ∃ d, P = .nonlinear 16 d)

theorem stripData_uniform (p0 : Option Param) (h : ∀ q, p0 = some q → UniformP q) :
    ∀ q, stripData p0 = some q → UniformP q := by
  intro q hq
  cases p0 with
  | none => cases hq
  | some q0 =>
    obtain ⟨qp, d, rfl⟩ := h q0 rfl
    cases d with
    | none => cases hq; exact ⟨_, _, rfl⟩
    | some v => cases hq; exact ⟨_, _, rfl⟩

theorem handed_uniform {env : Env} {sg : Subgraph} {qs : Qsvs} {oi : OpInfo} {con : Constraint} {b : Bool}
    {g : Option Param} (h : HandedParam env sg qs oi con b g) : ∀ P, g = some P → UniformP P := by
  cases h with
  | none => intro P hP; cases hP
  | ofResult t p _ _ hp => exact (wrapperParam_ok hp).uniform (fun P hP => by cases hP)
  | ofOperand t p _ _ hp => exact stripData_uniform p ((wrapperParam_ok hp).uniform (fun P hP => by cases hP))

theorem addQuant_runtime {c : OpCfg} {b isC : Bool} {xfs : List Xf} (h : tensorXfs c b isC = .ok xfs)
    (hq : xfs = [.addQuant]) : isC = false ∧ isSRQ c = true := by
  obtain ⟨x, rfl, hx⟩ := tensorXfs_ok h
  cases hq
  cases hx
  exact ⟨rfl, ‹_›⟩

theorem noQuant_typ (env : Env) (sg : Subgraph) (n : String) (o : Int) (b : Bool) :
    bif b then CTypS env sg n ⟨o, [.noQuant], none⟩ else PTypS sg n ⟨o, [.noQuant], none⟩ := by
  cases b
  · exact ⟨fun h => (by cases h), fun P h => (by cases h)⟩
  · exact ⟨fun h => (by cases h), fun P h => (by cases h)⟩

theorem stdEntry_typ {env : Env} {sg : Subgraph} {qs : Qsvs} {oi : OpInfo} {con : Constraint} {t : Tensor}
    {b : Bool} {i : Nat} {c : CO2T} (he : StdEntry env sg qs oi con b i t c) :
    bif b then CTypS env sg t.name c else PTypS sg t.name c := by
  cases he with
  | noQuant _ => exact noQuant_typ env sg t.name oi.opId b
  | wrapped g p xfs hs hf hg hp hx =>
    have hu := (wrapperParam_ok hp).uniform (handed_uniform hg)
    cases b
    · exact ⟨fun _ => ⟨t, hs.atSlot.mem, rfl, hf⟩, hu⟩
    · exact ⟨fun hq => ⟨t, hs.atSlot.mem, rfl, hf, (addQuant_runtime hx hq).1⟩, fun P hP => .inl (hu P hP)⟩

theorem emitted_typ {env : Env} {sg : Subgraph} {qs : Qsvs} {oi : OpInfo} {k : MatTotal.Kind} {t : Tensor}
    {b : Bool} {c : CO2T} (he : EmittedK env sg qs oi k t b c) :
    bif b then CTypS env sg t.name c else PTypS sg t.name c := by
  cases he with
  | std b i t c _ hs => exact stdEntry_typ hs
  | biasPlain iI iW iB a _ xfs _ _ _ _ hsrq hx =>
    refine ⟨fun hq => ?_, fun P hP => (by cases hP)⟩
    rw [(addQuant_runtime hx hq).2] at hsrq
    cases hsrq
  | biasQuant iI iW iB a _ bd tI tW cI cW qi qw di dw qp q xfs _ _ _ _ _ _ _ _ _ _ _ hx =>
    refine ⟨fun hq => ?_, fun P hP => (by cases hP; exact .inl ⟨_, _, rfl⟩)⟩
    cases (addQuant_runtime hx hq).1
  | fixed sl i _ c a fp _ hs _ _ =>
    exact ⟨(stdEntry_typ hs).1, fun P hP => (by cases hP; exact ⟨_, _, rfl⟩)⟩
  | castPlain => exact noQuant_typ env sg t.name oi.opId b
  | f16 =>
    exact ⟨fun h => (by cases h), fun P hP => (by cases hP; exact .inr ⟨rfl, _, rfl⟩)⟩

theorem opReqs_typ (rx : String → String → Bool) (env : Env) (st : Recipe.State) (s : Nat) (sg : Subgraph)
    (qs : Qsvs) (q : Op × Option String × Int) (rs : List CReq) (qs' : Qsvs)
    (h : opReqs rx env st s sg qs q = .ok (rs, qs')) : ∀ r ∈ rs, ReqSides (PTypS sg) (CTypS env sg) r := by
  intro r hr
  obtain ⟨t, b, -, ⟨-, rfl⟩ | ⟨k, scope, ops, fn, c, -, he, rfl⟩⟩ := opReqs_emitted h r hr
  · rw [noQuantReq_eq]
    exact reqSides_sideReq.2 (noQuant_typ env sg t.name q.2.2 b)
  · exact reqSides_sideReq.2 (emitted_typ he)

def PTyp (env : Env) (n : String) (p : CO2T) : Prop := ∃ sg ∈ env.model.subgraphs, PTypS sg n p

def CTyp (env : Env) (n : String) (c : CO2T) : Prop := ∃ sg ∈ env.model.subgraphs, CTypS env sg n c

theorem generate_typ {rx : String → String → Bool} {env : Env} {st : Recipe.State} {qsvs : Option Qsvs}
    {qs : Qsvs} {res : List (String × CReq)} (h : generateLoop rx env st qsvs = .ok (qs, res)) :
    DSides (PTyp env) (CTyp env) res := by
  refine Pipe.generate_sides (fun s sg hsg q _ qs0 rs qs1 h r hr => ?_) h
  have hm : sg ∈ env.model.subgraphs := List.mem_of_getElem? hsg
  obtain ⟨h1, h2⟩ := opReqs_typ rx env st s sg qs0 q rs qs1 h r hr
  exact ⟨fun p hp => ⟨sg, hm, h1 p hp⟩, fun cs c hcs hc => ⟨sg, hm, h2 cs c hcs hc⟩⟩

end TypingShape
