import QProofs.ArithLemmas
import QProofs.ArrLemmas
/-!
The array functions the statistics go through: `zpScale` on statistics of one shape in closed form (`zpScale_ok_iff`: one
`zpScale1` pair per cell, `BlockwiseL.CellPar`), `reduceKeep` with `minR` / `maxR` as the true per-cell minimum / maximum
(`reduceKeep_spec`), and the counting lemmas about `numel`, `keepShape`, `bindex` behind "one cell per channel".
-/
open Mat Arith Num Nd

set_option autoImplicit false

namespace BlockwiseL

/-- one `zpScale1` pair per cell, from the cell's extrema `lo`, `hi` -/
structure CellPar (pr : Prec) (bits : Nat) (sym : Bool) (cells : Nat) (lo hi : Nat → Rat) (zp : List Int)
    (sc : List Rat) : Prop where
  zpLen : zp.length = cells
  scLen : sc.length = cells
  par : ∀ j < cells, zpScale1 pr bits sym (lo j) (hi j) = .ok (zp.getD j 0, sc.getD j 0)

theorem CellPar.of_mem_sc {pr : Prec} {bits : Nat} {sym : Bool} {cells : Nat} {lo hi : Nat → Rat} {zp : List Int}
    {sc : List Rat} (h : CellPar pr bits sym cells lo hi zp sc) {s : Rat} (hs : s ∈ sc) :
    ∃ j z, zpScale1 pr bits sym (lo j) (hi j) = .ok (z, s) := by
  obtain ⟨j, hj, rfl⟩ := List.mem_iff_getElem.1 hs
  exact ⟨j, _, by simpa [List.getD_eq_getElem?_getD, hj] using h.par j (h.scLen ▸ hj)⟩

theorem CellPar.of_mem_zp {pr : Prec} {bits : Nat} {sym : Bool} {cells : Nat} {lo hi : Nat → Rat} {zp : List Int}
    {sc : List Rat} (h : CellPar pr bits sym cells lo hi zp sc) {z : Int} (hz : z ∈ zp) :
    ∃ j s, zpScale1 pr bits sym (lo j) (hi j) = .ok (z, s) := by
  obtain ⟨j, hj, rfl⟩ := List.mem_iff_getElem.1 hz
  exact ⟨j, _, by simpa [List.getD_eq_getElem?_getD, hj] using h.par j (h.zpLen ▸ hj)⟩

end BlockwiseL

namespace MatParams

open BlockwiseL (CellPar)

theorem zipB_ok {α β γ} [Inhabited α] [Inhabited β] (f : α → β → PyM γ) (a : Arr α) (b : Arr β) (c : Arr γ)
    (h : zipB f a b = .ok c) :
    ∃ rs, bshapeAny a.shape b.shape = some rs ∧ c.shape = rs ∧ c.data.length = numel rs ∧
      ∀ (i : Nat) x, c.data[i]? = some x →
        f (a.data.getD (bindex rs a.shape i) default) (b.data.getD (bindex rs b.shape i) default) = .ok x := by
  obtain ⟨hrs, hd⟩ := zipB_ok_iff.1 h
  refine ⟨c.shape, hrs, rfl, (zipB_shape h).2, fun i x hx => ?_⟩
  have hi : i < numel c.shape := by
    have := (List.getElem?_eq_some_iff.1 hx).1
    rwa [(zipB_shape h).2] at this
  exact PyM.mapM_ok_getElem? hd i i x (List.getElem?_range hi) hx

/-- **`tensor_zp_scale_from_min_max` on statistics of one shape** (all the library ever passes): one `zpScale1` pair per cell -/
theorem zpScale_ok_iff (bits : Nat) (sym : Bool) (mn mx : FArr) (s : List Nat) (hmn : mn.arr.shape = s) (hmx : mx.arr.shape = s)
    (zp : IArr) (sc : FArr) :
    zpScale bits sym mn mx = .ok (zp, sc) ↔
      sc.pr = mn.pr.join mx.pr ∧ zp.w = storageBits bits ∧ sc.arr.shape = s ∧ zp.arr.shape = s ∧
      CellPar (mn.pr.join mx.pr) bits sym (numel s) (fun i => mn.arr.data.getD i 0) (fun i => mx.arr.data.getD i 0)
        zp.arr.data sc.arr.data := by
  obtain ⟨⟨zs, zd⟩, zw⟩ := zp
  obtain ⟨⟨ss, sd⟩, sp⟩ := sc
  unfold zpScale
  simp only [PyM.bind_eq_ok_iff, PyM.pure_eq_ok_iff, Prod.mk.injEq, IArr.mk.injEq, FArr.mk.injEq, Arr.map, Arr.mk.injEq,
    zipB_ok_iff, hmn, hmx, bshapeAny_self, Option.some.injEq, PyM.mapM_range_ok_iff _ (default : Int × Rat)]
  constructor
  · rintro ⟨⟨bs, bd⟩, ⟨rfl, hl, hc⟩, ⟨⟨rfl, rfl⟩, rfl⟩, ⟨rfl, rfl⟩, rfl⟩
    refine ⟨rfl, rfl, rfl, rfl, by simp [hl], by simp [hl], fun j hj => ?_⟩
    have := hc j hj
    rw [ConstQuant.bindex_self _ _ hj] at this
    have hjd : j < bd.length := hl ▸ hj
    simpa [List.getD_eq_getElem?_getD, hjd, show (default : Rat) = 0 from rfl] using this
  · rintro ⟨rfl, rfl, rfl, rfl, hz, hs, hpar⟩
    refine ⟨⟨zs, zd.zip sd⟩, ⟨rfl, by simp [hz, hs], fun i hi => ?_⟩,
      ⟨⟨rfl, List.map_fst_zip (Nat.le_of_eq (hz.trans hs.symm))⟩, rfl⟩,
      ⟨rfl, List.map_snd_zip (Nat.le_of_eq (hs.trans hz.symm))⟩, rfl⟩
    rw [ConstQuant.bindex_self _ _ hi]
    refine (hpar i hi).trans ?_
    have hzi : i < zd.length := hz ▸ hi
    have hsi : i < sd.length := hs ▸ hi
    simp [List.getD_eq_getElem?_getD, hzi, hsi]

/-- an order-selecting fold operator (`minR` with `≤`, `maxR` with `≥`) -/
structure Sel (f : Rat → Rat → Rat) (R : Rat → Rat → Prop) : Prop where
  sel : ∀ y x, f y x = y ∨ f y x = x
  r1 : ∀ y x, R (f y x) x
  r2 : ∀ y x z, R y z → R (f y x) z
  refl : ∀ x, R x x

theorem sel_min : Sel minR (· ≤ ·) where
  sel := by intro y x; unfold minR; split <;> simp
  r1 := ArithL.minR_le_right
  r2 := fun y x z h => le_trans (ArithL.minR_le_left y x) h
  refl := le_refl

theorem sel_max : Sel maxR (· ≥ ·) where
  sel := by intro y x; unfold maxR; split <;> simp
  r1 := ArithL.maxR_ge_right
  r2 := fun y x z h => le_trans h (ArithL.maxR_ge_left y x)
  refl := le_refl

/-- state of one cell after the first `m` elements: empty iff no element of the channel was seen;
    otherwise it holds one of the channel's elements, `R`-related to all of them -/
def CellInv (R : Rat → Rat → Prop) (J : Nat → Nat) (X : Nat → Rat) (m : Nat) (c : Option Rat) (j : Nat) : Prop :=
  match c with
  | none => ∀ i < m, J i ≠ j
  | some v => (∃ i < m, J i = j ∧ v = X i) ∧ ∀ i < m, J i = j → R v (X i)

theorem reduce_fold (f : Rat → Rat → Rat) (R : Rat → Rat → Prop) (hf : Sel f R) (J : Nat → Nat) (X : Nat → Rat)
    (n : Nat) : ∀ m,
    ((List.range m).foldl (fun acc i =>
        acc.set (J i) (match acc.getD (J i) none with | none => some (X i) | some y => some (f y (X i))))
      (List.replicate n none)).length = n ∧
    ∀ j < n, CellInv R J X m (((List.range m).foldl (fun acc i =>
        acc.set (J i) (match acc.getD (J i) none with | none => some (X i) | some y => some (f y (X i))))
      (List.replicate n none)).getD j none) j := by
  intro m
  induction m with
  | zero =>
    refine ⟨by simp, ?_⟩
    intro j hj
    simp only [List.range_zero, List.foldl_nil, List.getD_eq_getElem?_getD, List.getElem?_replicate, hj, if_true,
      Option.getD_some]
    intro i hi
    omega
  | succ m ih =>
    rw [List.range_succ, List.foldl_append]
    generalize (List.range m).foldl _ (List.replicate n none) = cells at ih
    obtain ⟨hlen, hinv⟩ := ih
    simp only [List.foldl_cons, List.foldl_nil]
    refine ⟨by simp [hlen], ?_⟩
    intro j hj
    -- the cell hit by element `m` gains `m`; every other cell keeps its witnesses
    by_cases hjm : J m = j
    · subst hjm
      have hold := hinv (J m) hj
      rw [List.getD_eq_getElem?_getD, List.getElem?_set_self (by omega), Option.getD_some]
      cases hc : cells.getD (J m) none with
      | none =>
        rw [hc] at hold
        refine ⟨⟨m, by omega, rfl, rfl⟩, ?_⟩
        intro i hi hji
        by_cases him : i = m
        · subst him; exact hf.refl _
        · exact absurd hji (hold i (by omega))
      | some y =>
        rw [hc] at hold
        obtain ⟨⟨i0, hi0, hj0, hv0⟩, hall⟩ := hold
        refine ⟨?_, ?_⟩
        · rcases hf.sel y (X m) with h | h
          · exact ⟨i0, by omega, hj0, by rw [h]; exact hv0⟩
          · exact ⟨m, by omega, rfl, h⟩
        · intro i hi hji
          by_cases him : i = m
          · subst him; exact hf.r1 _ _
          · exact hf.r2 _ _ _ (hall i (by omega) hji)
    · have hold := hinv j hj
      rw [List.getD_eq_getElem?_getD, List.getElem?_set_ne hjm, ← List.getD_eq_getElem?_getD]
      cases hc : cells.getD j none with
      | none =>
        rw [hc] at hold
        intro i hi
        by_cases him : i = m
        · subst him; exact hjm
        · exact hold i (by omega)
      | some v =>
        rw [hc] at hold
        obtain ⟨⟨i0, hi0, hj0, hv0⟩, hall⟩ := hold
        refine ⟨⟨i0, by omega, hj0, hv0⟩, ?_⟩
        intro i hi hji
        by_cases him : i = m
        · subst him; exact absurd hji hjm
        · exact hall i (by omega) hji

/-- the cells of `reduceKeep` before the final `getD 0` -/
def cellsOf (f : Rat → Rat → Rat) (a : Arr Rat) (ks : List Nat) : List (Option Rat) :=
  (List.range a.size).foldl (fun acc i =>
      acc.set (bindex a.shape ks i)
        (match acc.getD (bindex a.shape ks i) none with
         | none => some (a.data.getD i 0) | some y => some (f y (a.data.getD i 0))))
    (List.replicate (numel ks) none)

theorem reduceKeep_eq (f : Rat → Rat → Rat) (a : Arr Rat) (dims : Option (List Nat)) :
    reduceKeep f a dims = if a.data.isEmpty then .error .valueError
      else .ok ⟨keepShape a.shape dims, (cellsOf f a (keepShape a.shape dims)).map (·.getD 0)⟩ := rfl

theorem cellsOf_inv (f : Rat → Rat → Rat) (R : Rat → Rat → Prop) (hf : Sel f R) (a : Arr Rat) (ks : List Nat) :
    (cellsOf f a ks).length = numel ks ∧
    ∀ j < numel ks, CellInv R (bindex a.shape ks) (fun i => a.data.getD i 0) a.size ((cellsOf f a ks).getD j none) j :=
  reduce_fold f R hf (bindex a.shape ks) (fun i => a.data.getD i 0) (numel ks) a.size

/-- **`reduceKeep` with `minR` / `maxR`**: every cell is an element of its channel, `R`-related to all of them -/
theorem reduceKeep_spec (f : Rat → Rat → Rat) (R : Rat → Rat → Prop) (hf : Sel f R) (a : Arr Rat)
    (dims : Option (List Nat)) (r : Arr Rat) (h : reduceKeep f a dims = .ok r) :
    a.data ≠ [] ∧ r.shape = keepShape a.shape dims ∧ r.data.length = numel (keepShape a.shape dims) ∧
    ∀ j < numel (keepShape a.shape dims),
      ((∀ i < a.size, bindex a.shape (keepShape a.shape dims) i ≠ j) ∧ r.data.getD j 0 = 0) ∨
      ((∃ i < a.size, bindex a.shape (keepShape a.shape dims) i = j ∧ r.data.getD j 0 = a.data.getD i 0) ∧
        ∀ i < a.size, bindex a.shape (keepShape a.shape dims) i = j → R (r.data.getD j 0) (a.data.getD i 0)) := by
  rw [reduceKeep_eq] at h
  split at h
  · cases h
  · rename_i hne
    simp only [Except.ok.injEq] at h
    subst h
    obtain ⟨hlen, hinv⟩ := cellsOf_inv f R hf a (keepShape a.shape dims)
    generalize cellsOf f a (keepShape a.shape dims) = cells at hlen hinv
    refine ⟨by intro h0; rw [h0] at hne; exact hne rfl, rfl, by simp only [List.length_map]; exact hlen, ?_⟩
    intro j hj
    have hc := hinv j hj
    have hj' : j < cells.length := by omega
    simp only [List.getD_eq_getElem?_getD, List.getElem?_map, List.getElem?_eq_getElem hj',
      Option.getD_some, Option.map_some] at hc ⊢
    cases hcj : cells[j] with
    | none =>
      rw [hcj] at hc
      exact .inl ⟨hc, rfl⟩
    | some v =>
      rw [hcj] at hc
      exact .inr hc

theorem reduceKeep_min_le_max (a : Arr Rat) (dims : Option (List Nat)) (lo hi : Arr Rat)
    (hlo : reduceKeep minR a dims = .ok lo) (hhi : reduceKeep maxR a dims = .ok hi) :
    lo.shape = hi.shape ∧ ∀ k, lo.data.getD k 0 ≤ hi.data.getD k 0 := by
  obtain ⟨_, s1, l1, c1⟩ := reduceKeep_spec _ _ sel_min a dims lo hlo
  obtain ⟨_, s2, l2, c2⟩ := reduceKeep_spec _ _ sel_max a dims hi hhi
  refine ⟨by rw [s1, s2], ?_⟩
  intro k
  by_cases hk : k < numel (keepShape a.shape dims)
  · rcases c1 k hk with ⟨n1, z1⟩ | ⟨⟨i1, hi1, hj1, e1⟩, all1⟩
    · rcases c2 k hk with ⟨n2, z2⟩ | ⟨⟨i2, hi2, hj2, e2⟩, all2⟩
      · rw [z1, z2]
      · exact absurd hj2 (n1 i2 hi2)
    · rcases c2 k hk with ⟨n2, z2⟩ | ⟨⟨i2, hi2, hj2, e2⟩, all2⟩
      · exact absurd hj1 (n2 i1 hi1)
      · rw [e2]; exact all1 i2 hi2 hj2
  · rw [List.getD_eq_getElem?_getD, List.getD_eq_getElem?_getD, List.getElem?_eq_none (by omega),
      List.getElem?_eq_none (by omega)]

theorem numel_ones {α} (l : List α) : numel (l.map fun _ => 1) = 1 := by
  induction l with
  | nil => rfl
  | cons a l ih => rw [List.map_cons, numel_cons, ih]

theorem numel_map_ite (q c : Nat) : ∀ (l : List Nat), l.Nodup →
    numel (l.map fun i => if i = q then c else 1) = if q ∈ l then c else 1 := by
  intro l
  induction l with
  | nil => intro _; rfl
  | cons a l ih =>
    intro hn
    obtain ⟨ha, hl⟩ := List.nodup_cons.1 hn
    rw [List.map_cons, numel_cons, ih hl]
    by_cases haq : a = q
    · subst haq
      simp [ha]
    · have : ¬ q = a := fun h => haq h.symm
      simp [haq, this]

theorem numel_keepShape_none (shape : List Nat) : numel (keepShape shape none) = 1 := numel_ones shape

theorem keepShape_qdim (shape : List Nat) (q : Nat) :
    keepShape shape (reduceDims (some q) shape.length) =
      (List.range shape.length).map (fun i => if i = q then shape.getD q 1 else 1) := by
  unfold keepShape reduceDims
  simp only [Option.map_some]
  apply List.map_congr_left
  intro i hi
  rw [List.mem_range] at hi
  by_cases hiq : i = q
  · subst hiq
    simp
  · simp [hiq, hi]

theorem numel_keepShape_qdim (shape : List Nat) (q : Nat) :
    numel (keepShape shape (reduceDims (some q) shape.length)) = shape.getD q 1 := by
  rw [keepShape_qdim, numel_map_ite _ _ _ List.nodup_range]
  by_cases hq : q < shape.length
  · simp [hq]
  · simp only [List.mem_range, hq, if_false]
    rw [List.getD_eq_getElem?_getD, List.getElem?_eq_none (by omega)]
    rfl

theorem keepShape_compat (shape : List Nat) (dims : Option (List Nat)) :
    List.Forall₂ (fun k r => k = 1 ∨ k = r) (keepShape shape dims) shape := by
  rw [List.forall₂_iff_get]
  cases dims with
  | none =>
    refine ⟨by simp [keepShape], ?_⟩
    intro i h1 h2
    left
    simp [keepShape]
  | some ds =>
    refine ⟨by simp [keepShape], ?_⟩
    intro i h1 h2
    simp only [keepShape, List.get_eq_getElem, List.getElem_map, List.getElem_range]
    split
    · exact .inl rfl
    · right
      rw [List.getD_eq_getElem?_getD, List.getElem?_eq_getElem h2, Option.getD_some]

theorem keepShape_length (shape : List Nat) (dims : Option (List Nat)) :
    (keepShape shape dims).length = shape.length := by
  cases dims <;> simp [keepShape]

end MatParams
