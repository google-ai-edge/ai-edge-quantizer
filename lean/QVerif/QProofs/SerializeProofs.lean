import QModel.Serialize
/-!
# Large-model serialisation: the external constants are where the offsets say (C16)

The `foldl`s of the model are restated as structural recursions (`offsAux`, `fieldsAux`).  The `isSome`
pattern of the fields depends only on the number of offsets, so with `LenInvariant` the final
flatbuffer is as long as the dummy one; `appendConsts` and `offsAux` are then described together, by
induction over the constants from a 16-aligned starting byte list.  That the recorded ranges do not overlap
is a fact about `offsets` alone (`offsAux_pairwise`, `offsets_disjoint`).
-/
open Ser

namespace SerializeProofs

/-- the writer's output length does not depend on the *values* of the offset/size fields, only on
    which buffers have them (true of the flatbuffers writer as long as no real field value equals the
    default 0, which is why empty buffers are not externalised) -/
def LenInvariant (fb : List (Option (Nat × Nat)) → List Nat) : Prop :=
  ∀ f g : List (Option (Nat × Nat)), f.map Option.isSome = g.map Option.isSome → (fb f).length = (fb g).length

/-- `n` rounded up to a multiple of 16 (the local `pad` of `Ser.offsets`) -/
def pad (n : Nat) : Nat := n + (16 - n % 16) % 16

theorem pad_mod (n : Nat) : pad n % 16 = 0 := by unfold pad; omega

theorem le_pad (n : Nat) : n ≤ pad n := by unfold pad; omega

theorem pad16_length (l : List Nat) : (pad16 l).length = pad l.length := by
  simp [pad16, pad]

def offsAux (start : Nat) : List Nat → List (Nat × Nat)
  | [] => []
  | s :: rest => (start, s) :: offsAux (pad (start + s)) rest

theorem offsets_foldl : ∀ (sizes : List Nat) (st : Nat) (acc : List (Nat × Nat)),
    (sizes.foldl (fun (st : Nat × List (Nat × Nat)) s => (pad (st.1 + s), st.2 ++ [(st.1, s)]))
      (st, acc)).2 = acc ++ offsAux st sizes
  | [], st, acc => by simp [offsAux]
  | s :: rest, st, acc => by
    rw [List.foldl_cons, offsets_foldl rest]
    simp [offsAux]

theorem offsets_eq (d : Nat) (sizes : List Nat) : offsets d sizes = offsAux (pad d) sizes := by
  have h := offsets_foldl sizes (pad d) []
  rw [List.nil_append] at h
  exact h

theorem offsAux_length : ∀ (sizes : List Nat) (st : Nat), (offsAux st sizes).length = sizes.length
  | [], _ => rfl
  | _ :: rest, st => by simp [offsAux, offsAux_length rest]

theorem offsAux_ge : ∀ (sizes : List Nat) (st : Nat), ∀ p ∈ offsAux st sizes, st ≤ p.1
  | [], _, _, h => nomatch h
  | s :: rest, st, p, h => by
    rcases List.mem_cons.1 h with rfl | h
    · exact Nat.le_refl _
    · have := offsAux_ge rest _ p h
      have := le_pad (st + s)
      omega

theorem offsAux_pairwise : ∀ (sizes : List Nat) (st : Nat),
    (offsAux st sizes).Pairwise fun p q => p.1 + p.2 ≤ q.1
  | [], _ => List.Pairwise.nil
  | s :: rest, st =>
    List.Pairwise.cons (fun q hq => Nat.le_trans (le_pad (st + s)) (offsAux_ge rest _ q hq)) (offsAux_pairwise rest _)

theorem offsets_disjoint (d : Nat) (sizes : List Nat) (j k oj sj ok sk : Nat) (hjk : j < k)
    (hj : (offsets d sizes)[j]? = some (oj, sj)) (hk : (offsets d sizes)[k]? = some (ok, sk)) :
    oj + sj ≤ ok := by
  obtain ⟨hj', ej⟩ := List.getElem?_eq_some_iff.1 hj
  obtain ⟨hk', ek⟩ := List.getElem?_eq_some_iff.1 hk
  have hp : (offsets d sizes).Pairwise fun p q => p.1 + p.2 ≤ q.1 := offsets_eq d sizes ▸ offsAux_pairwise sizes (pad d)
  have := List.pairwise_iff_getElem.1 hp j k hj' hk' hjk
  rwa [ej, ek] at this

def fieldsAux : List (Option (List Nat)) → List (Nat × Nat) → List (Option (Nat × Nat))
  | [], _ => []
  | none :: rest, offs => none :: fieldsAux rest offs
  | some d :: rest, offs =>
    if d.isEmpty then none :: fieldsAux rest offs else offs.head? :: fieldsAux rest offs.tail

theorem fields_foldl : ∀ (bufs : List (Option (List Nat))) (offs : List (Nat × Nat))
    (acc : List (Option (Nat × Nat))),
    (bufs.foldl (fun (st : List (Nat × Nat) × List (Option (Nat × Nat))) b =>
      match b with
      | some d => if d.isEmpty then (st.1, st.2 ++ [none])
                  else (st.1.tail, st.2 ++ [st.1.head?])
      | none => (st.1, st.2 ++ [none])) (offs, acc)).2 = acc ++ fieldsAux bufs offs
  | [], offs, acc => by simp [fieldsAux]
  | none :: rest, offs, acc => by
    rw [List.foldl_cons]
    rw [fields_foldl rest]
    simp [fieldsAux]
  | some d :: rest, offs, acc => by
    rw [List.foldl_cons]
    by_cases hd : d.isEmpty
    · simp only [hd, if_true]
      rw [fields_foldl rest]
      simp [fieldsAux, hd]
    · simp only [hd]
      rw [fields_foldl rest]
      simp [fieldsAux, hd]

theorem fields_eq (bufs : List (Option (List Nat))) (offs : List (Nat × Nat)) :
    fields bufs offs = fieldsAux bufs offs := by
  have h := fields_foldl bufs offs []
  rw [List.nil_append] at h
  exact h

theorem fieldsAux_isSome : ∀ (bufs : List (Option (List Nat))) (o o' : List (Nat × Nat)),
    o.length = o'.length →
    (fieldsAux bufs o).map Option.isSome = (fieldsAux bufs o').map Option.isSome
  | [], _, _, _ => rfl
  | none :: rest, o, o', h => by
    simp only [fieldsAux, List.map_cons, fieldsAux_isSome rest o o' h]
  | some d :: rest, o, o', h => by
    have ht : o.tail.length = o'.tail.length := by simp [h]
    have hh : o.head?.isSome = o'.head?.isSome := by
      cases o <;> cases o' <;> simp_all
    by_cases hd : d.isEmpty
    · simp only [fieldsAux, hd, if_true, List.map_cons, fieldsAux_isSome rest o o' h]
    · have := fieldsAux_isSome rest _ _ ht
      simp [fieldsAux, hd, hh, this]

theorem external_nil : external [] = [] := rfl

theorem external_none (rest : List (Option (List Nat))) : external (none :: rest) = external rest := by
  simp [external]

theorem external_some (d : List Nat) (rest : List (Option (List Nat))) :
    external (some d :: rest) = if d.isEmpty then external rest else d :: external rest := by
  by_cases hd : d = []
  · subst hd; simp [external]
  · simp [external, hd]

/-- buffer `i` with non-empty data `d` is some `k`-th external constant and its field is `offs[k]?` -/
theorem fieldsAux_index : ∀ (bufs : List (Option (List Nat))) (offs : List (Nat × Nat)) (i : Nat)
    (d : List Nat), bufs[i]? = some (some d) → d ≠ [] →
    ∃ k : Nat, (external bufs)[k]? = some d ∧ (fieldsAux bufs offs)[i]? = some (offs[k]?)
  | [], _, _, _, h, _ => nomatch h
  | none :: rest, offs, 0, d, h, _ => nomatch h
  | none :: rest, offs, i + 1, d, h, hne => by
    obtain ⟨k, hk1, hk2⟩ := fieldsAux_index rest offs i d h hne
    exact ⟨k, by rw [external_none]; exact hk1, hk2⟩
  | some d0 :: rest, offs, 0, d, h, hne => by
    cases h
    have hd : d0.isEmpty = false := by
      cases d0 with
      | nil => exact absurd rfl hne
      | cons _ _ => rfl
    refine ⟨0, ?_, ?_⟩
    · rw [external_some, hd]; rfl
    · rw [fieldsAux, hd, List.head?_eq_getElem?]; rfl
  | some d0 :: rest, offs, i + 1, d, h, hne => by
    by_cases hd : d0.isEmpty
    · obtain ⟨k, hk1, hk2⟩ := fieldsAux_index rest offs i d h hne
      refine ⟨k, ?_, ?_⟩
      · rw [external_some, if_pos hd]; exact hk1
      · rw [fieldsAux, if_pos hd]; exact hk2
    · obtain ⟨k, hk1, hk2⟩ := fieldsAux_index rest offs.tail i d h hne
      refine ⟨k + 1, ?_, ?_⟩
      · rw [external_some, if_neg hd]; exact hk1
      · rw [fieldsAux, if_neg hd, List.getElem?_cons_succ, hk2, List.getElem?_tail]

theorem appendConsts_cons (b c : List Nat) (cs : List (List Nat)) :
    appendConsts b (c :: cs) = appendConsts (pad16 (b ++ c)) cs := rfl

theorem appendConsts_prefix : ∀ (cs : List (List Nat)) (b : List Nat),
    ∃ rest, appendConsts b cs = b ++ rest
  | [], b => ⟨[], by simp [appendConsts]⟩
  | c :: cs, b => by
    obtain ⟨r, hr⟩ := appendConsts_prefix cs (pad16 (b ++ c))
    refine ⟨c ++ List.replicate ((16 - (b ++ c).length % 16) % 16) 0 ++ r, ?_⟩
    rw [appendConsts_cons, hr]
    simp [pad16]

theorem appendConsts_layout : ∀ (cs : List (List Nat)) (b : List Nat), b.length % 16 = 0 →
    ∀ (k : Nat) c off size, cs[k]? = some c →
      (offsAux b.length (cs.map (·.length)))[k]? = some (off, size) →
      size = c.length ∧ off % 16 = 0 ∧ b.length ≤ off ∧
      off + size ≤ (appendConsts b cs).length ∧ slice (appendConsts b cs) off size = c
  | [], _, _, k, c, off, size, hc, _ => by simp at hc
  | c0 :: cs, b, hb, 0, c, off, size, hc, ho => by
    cases hc
    cases ho
    obtain ⟨r, hr⟩ := appendConsts_prefix cs (pad16 (b ++ c0))
    have hout : appendConsts b (c0 :: cs)
        = b ++ (c0 ++ (List.replicate ((16 - (b ++ c0).length % 16) % 16) 0 ++ r)) := by
      rw [appendConsts_cons, hr]; simp only [pad16, List.append_assoc]
    refine ⟨rfl, hb, Nat.le_refl _, ?_, ?_⟩
    · rw [hout]; simp only [List.length_append]; omega
    · rw [hout, slice, List.drop_left, List.take_left]
  | c0 :: cs, b, hb, k + 1, c, off, size, hc, ho => by
    have hb' : (pad16 (b ++ c0)).length = pad (b.length + c0.length) := by
      rw [pad16_length, List.length_append]
    have ih := appendConsts_layout cs (pad16 (b ++ c0)) (by rw [hb']; exact pad_mod _) k c off size hc
    rw [hb'] at ih
    simp only [List.map_cons, offsAux, List.getElem?_cons_succ] at ho ⊢
    obtain ⟨h1, h2, h3, h4, h5⟩ := ih ho
    rw [appendConsts_cons]
    refine ⟨h1, h2, ?_, h4, h5⟩
    have := le_pad (b.length + c0.length)
    omega

theorem final_length (fb : List (Option (Nat × Nat)) → List Nat) (hfb : LenInvariant fb)
    (bufs : List (Option (List Nat))) (offs : List (Nat × Nat))
    (hlen : offs.length = (external bufs).length) :
    (fb (fields bufs offs)).length
      = (fb (fields bufs ((external bufs).map fun _ => (1, 1)))).length := by
  apply hfb
  rw [fields_eq, fields_eq]
  apply fieldsAux_isSome
  simp [hlen]

theorem layout (fb : List (Option (Nat × Nat)) → List Nat) (hfb : LenInvariant fb)
    (bufs : List (Option (List Nat))) :
    let ext := external bufs
    let dummyLen := (fb (fields bufs (ext.map fun _ => (1, 1)))).length
    let offs := offsets dummyLen (ext.map (·.length))
    let out := serializeLarge fb bufs
    offs.length = ext.length ∧
    ∀ k c off size, ext[k]? = some c → offs[k]? = some (off, size) →
      size = c.length ∧ off % 16 = 0 ∧ dummyLen ≤ off ∧ off + size ≤ out.length ∧ slice out off size = c ∧
      (∀ off' size', offs[k+1]? = some (off', size') → off + size ≤ off') := by
  intro ext dummyLen offs out
  have hlen : offs.length = ext.length := by
    show (offsets dummyLen (ext.map (·.length))).length = ext.length
    rw [offsets_eq, offsAux_length, List.length_map]
  refine ⟨hlen, ?_⟩
  intro k c off size hc ho
  have hF : (fb (fields bufs offs)).length = dummyLen := final_length fb hfb bufs offs hlen
  have hP : (pad16 (fb (fields bufs offs))).length = pad dummyLen := by
    rw [pad16_length, hF]
  have hoffs : offs = offsAux (pad16 (fb (fields bufs offs))).length (ext.map (·.length)) := by
    rw [hP]; exact offsets_eq _ _
  have hout : out = appendConsts (pad16 (fb (fields bufs offs))) ext := rfl
  have key := appendConsts_layout ext (pad16 (fb (fields bufs offs)))
    (by rw [hP]; exact pad_mod _) k c off size hc (by rw [← hoffs]; exact ho)
  rw [← hout, hP] at key
  obtain ⟨h1, h2, h3, h4, h5⟩ := key
  refine ⟨h1, h2, ?_, h4, h5, fun off' size' h =>
    offsets_disjoint _ _ k (k + 1) off size off' size' (Nat.lt_succ_self k) ho h⟩
  have := le_pad dummyLen
  omega

end SerializeProofs
