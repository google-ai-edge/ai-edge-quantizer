import QProofs.NumericArray
import QModel.Blockwise
import QProofs.EmuSemProofs
/-!
# What the BLOCKWISE functions of `QModel/Blockwise.lean` compute: per-cell quantization
BLOCKWISE, the per-block reference and CHANNELWISE take statistics per cell of a cell map, one `zpScale1` pair per cell (`CellPar`) and the
`quantize1` code of every element under the pair of its cell (`CellCode`); each function succeeds with a result iff the result is that
(`cellParams_iff` for ANY cell map; `params_iff`, `quantize_iff`, `channelwise_iff`).  The library's cells are WHOLE rows. -/
open Num Nd Arith MatParams Blockwise
open EmuSemProofs (mul_add_lt mul_add_div mul_add_mod numel2 numel4)

set_option autoImplicit false

namespace BlockwiseL

/-! The layouts: an `[o, f]` weight, transposed and reshaped to `[1, f / bs, bs, o]`; statistics of shape `[1, 1, 1, o]` (the library),
`[1, f / bs, 1, o]` (the per-block reference), `[o, 1]` (the ordinary CHANNELWISE quantization). -/

/-- for the closed instances, which are checked by `decide` -/
scoped instance decExcept {ε α} [DecidableEq ε] [DecidableEq α] : DecidableEq (Except ε α) := fun a b =>
  match a, b with
  | .ok x, .ok y => if h : x = y then isTrue (by rw [h]) else isFalse (by intro e; cases e; exact h rfl)
  | .error x, .error y => if h : x = y then isTrue (by rw [h]) else isFalse (by intro e; cases e; exact h rfl)
  | .ok _, .error _ => isFalse (by intro e; cases e)
  | .error _, .ok _ => isFalse (by intro e; cases e)

theorem bindex_chan (B bs o i : Nat) : bindex [1, B, bs, o] [1, 1, 1, o] i = i % o := by
  simp only [bindex, padLeft, unravel, bproj, ravel, numel, List.foldl, List.length, Nat.sub_self, List.replicate,
    List.nil_append, Nat.one_mul, Nat.zero_mul, Nat.zero_add, Nat.add_zero, if_true, Nat.div_one, Nat.mul_one]
  by_cases ho : o = 1
  · subst ho; simp [Nat.mod_one]
  · rw [if_neg ho, Nat.mod_mod_of_dvd _ (Dvd.intro_left _ rfl), Nat.mod_mod_of_dvd _ (Dvd.intro_left _ rfl)]

theorem bindex_row (o f i : Nat) (hi : i < o * f) : bindex [o, f] [o, 1] i = i / f := by
  simp only [bindex, padLeft, unravel, bproj, ravel, numel, List.foldl, List.length, Nat.sub_self, List.replicate,
    List.nil_append, Nat.one_mul, Nat.zero_add, Nat.add_zero, if_true, Nat.div_one, Nat.mul_one]
  by_cases ho : o = 1
  · subst ho
    rw [if_pos rfl]
    rw [Nat.one_mul] at hi
    exact (Nat.div_eq_of_lt hi).symm
  · rw [if_neg ho]

theorem bindex_block (B bs o i : Nat) (hi : i < B * bs * o) :
    bindex [1, B, bs, o] [1, B, 1, o] i = i / (bs * o) * o + i % o := by
  simp only [bindex, padLeft, unravel, bproj, ravel, numel, List.foldl, List.length, Nat.sub_self, List.replicate,
    List.nil_append, Nat.one_mul, Nat.zero_mul, Nat.zero_add, Nat.add_zero, if_true, Nat.div_one, Nat.mul_one]
  have hmod : i % (B * bs * o) = i := Nat.mod_eq_of_lt hi
  rw [hmod, Nat.mod_mod_of_dvd _ (Dvd.intro_left _ rfl)]
  have h1 : (if B = 1 then 0 else i / (bs * o)) = i / (bs * o) := by
    split
    · rename_i hB
      subst hB
      rw [Nat.one_mul] at hi
      exact (Nat.div_eq_of_lt hi).symm
    · rfl
  have h2 : (if o = 1 then 0 else i % o) = i % o := by
    split
    · rename_i ho; subst ho; rw [Nat.mod_one]
    · rfl
  rw [h1, h2]

theorem compat_chan (B bs o : Nat) : NumT.Compat [1, 1, 1, o] [1, B, bs, o] :=
  .cons (.inl rfl) (.cons (.inl rfl) (.cons (.inl rfl) (.cons (.inr rfl) .nil)))

theorem compat_block (B bs o : Nat) : NumT.Compat [1, B, 1, o] [1, B, bs, o] :=
  .cons (.inl rfl) (.cons (.inr rfl) (.cons (.inl rfl) (.cons (.inr rfl) .nil)))

theorem compat_row (o f : Nat) : NumT.Compat [o, 1] [o, f] :=
  .cons (.inr rfl) (.cons (.inl rfl) .nil)

theorem tdata_length (o f : Nat) (d : List Rat) : (Blockwise.tdata o f d).length = f * o := by
  simp [Blockwise.tdata]

theorem tdata_getD (o f : Nat) (d : List Rat) (i : Nat) (hi : i < f * o) :
    (Blockwise.tdata o f d).getD i 0 = d.getD (i % o * f + i / o) 0 := by
  unfold Blockwise.tdata
  rw [List.getD_eq_getElem?_getD, List.getElem?_map, List.getElem?_range hi]
  rfl

theorem tdata_el (o f : Nat) (d : List Rat) (j c : Nat) (hc : c < o) (hj : j < f) :
    (Blockwise.tdata o f d).getD (j * o + c) 0 = d.getD (c * f + j) 0 := by
  rw [tdata_getD o f d _ (mul_add_lt hj hc), mul_add_mod hc, mul_add_div hc]

theorem pos_of_mul_pos {a b : Nat} (h : 0 < a * b) : 0 < a ∧ 0 < b :=
  ⟨Nat.pos_of_ne_zero fun h0 => by rw [h0, Nat.zero_mul] at h; exact Nat.lt_irrefl _ h,
   Nat.pos_of_ne_zero fun h0 => by rw [h0, Nat.mul_zero] at h; exact Nat.lt_irrefl _ h⟩

theorem tdata_ne_nil {o f : Nat} (d : List Rat) (hf : 0 < f) (ho : 0 < o) : tdata o f d ≠ [] :=
  List.ne_nil_of_length_pos (tdata_length o f d ▸ Nat.mul_pos hf ho)

theorem tdata_pos {o f : Nat} {d : List Rat} (h : tdata o f d ≠ []) : 0 < f ∧ 0 < o :=
  pos_of_mul_pos (tdata_length o f d ▸ List.length_pos_iff.2 h)

/-- element `[c][j]` of a row-major `[o, f]` weight -/
def el (d : List Rat) (f c j : Nat) : Rat := d.getD (c * f + j) 0

/-- `min` / `max` of `g 0, …, g (n-1)` as numpy folds them -/
def segMin (g : Nat → Rat) (n : Nat) : Rat := ((List.range n).map g).foldl minR (g 0)
def segMax (g : Nat → Rat) (n : Nat) : Rat := ((List.range n).map g).foldl maxR (g 0)

/-- extrema of the WHOLE row `c` (all input features, i.e. all blocks) -/
def rowMin (d : List Rat) (f c : Nat) : Rat := segMin (el d f c) f
def rowMax (d : List Rat) (f c : Nat) : Rat := segMax (el d f c) f

def blockMin (d : List Rat) (f bs c b : Nat) : Rat := segMin (fun k => el d f c (b * bs + k)) bs
def blockMax (d : List Rat) (f bs c b : Nat) : Rat := segMax (fun k => el d f c (b * bs + k)) bs

/-- `v` is the minimum (`R` is `≤`) or the maximum (`≥`) of `g 0 … g (n-1)` -/
structure IsSel (R : Rat → Rat → Prop) (g : Nat → Rat) (n : Nat) (v : Rat) : Prop where
  mem : ∃ k < n, v = g k
  all : ∀ k < n, R v (g k)

theorem seg_fold (f : Rat → Rat → Rat) (R : Rat → Rat → Prop) (hf : Sel f R) (g : Nat → Rat) : ∀ n,
    ((((List.range n).map g).foldl f (g 0)) = g 0 ∨ ∃ k < n, ((List.range n).map g).foldl f (g 0) = g k) ∧
    R (((List.range n).map g).foldl f (g 0)) (g 0) ∧
    ∀ k < n, R (((List.range n).map g).foldl f (g 0)) (g k) := by
  intro n
  induction n with
  | zero => exact ⟨.inl rfl, hf.refl _, fun k hk => absurd hk (Nat.not_lt_zero _)⟩
  | succ n ih =>
    rw [List.range_succ, List.map_append, List.foldl_append]
    simp only [List.map_cons, List.map_nil, List.foldl_cons, List.foldl_nil]
    generalize ((List.range n).map g).foldl f (g 0) = v at ih
    obtain ⟨h1, h2, h3⟩ := ih
    refine ⟨?_, hf.r2 _ _ _ h2, ?_⟩
    · rcases hf.sel v (g n) with h | h
      · rw [h]
        rcases h1 with h1 | ⟨k, hk, h1⟩
        · exact .inl h1
        · exact .inr ⟨k, by omega, h1⟩
      · exact .inr ⟨n, by omega, h⟩
    · intro k hk
      by_cases hkn : k = n
      · subst hkn; exact hf.r1 _ _
      · exact hf.r2 _ _ _ (h3 k (by omega))

theorem seg_isSel (f : Rat → Rat → Rat) (R : Rat → Rat → Prop) (hf : Sel f R) (g : Nat → Rat) (n : Nat) (hn : 0 < n) :
    IsSel R g n (((List.range n).map g).foldl f (g 0)) := by
  obtain ⟨h1, _, h3⟩ := seg_fold f R hf g n
  refine ⟨?_, h3⟩
  rcases h1 with h | h
  · exact ⟨0, hn, h⟩
  · exact h

theorem segMin_isSel (g : Nat → Rat) (n : Nat) (hn : 0 < n) : IsSel (· ≤ ·) g n (segMin g n) :=
  seg_isSel minR _ sel_min g n hn
theorem segMax_isSel (g : Nat → Rat) (n : Nat) (hn : 0 < n) : IsSel (· ≥ ·) g n (segMax g n) :=
  seg_isSel maxR _ sel_max g n hn

theorem IsSel.unique {R : Rat → Rat → Prop} (hanti : ∀ a b, R a b → R b a → a = b) {g : Nat → Rat} {n : Nat}
    {v v' : Rat} (h : IsSel R g n v) (h' : IsSel R g n v') : v = v' := by
  obtain ⟨k, hk, e⟩ := h.mem
  obtain ⟨k', hk', e'⟩ := h'.mem
  exact hanti v v' (e' ▸ h.all k' hk') (e ▸ h'.all k hk)

theorem IsSel.congr {R : Rat → Rat → Prop} {g g' : Nat → Rat} {n : Nat} {v : Rat} (h : IsSel R g n v)
    (hg : ∀ k < n, g k = g' k) : IsSel R g' n v :=
  ⟨let ⟨k, hk, e⟩ := h.mem; ⟨k, hk, e.trans (hg k hk)⟩, fun k hk => hg k hk ▸ h.all k hk⟩

theorem IsSel.bounded {R : Rat → Rat → Prop} {g : Nat → Rat} {n : Nat} {v B : Rat} (h : IsSel R g n v)
    (hb : ∀ k, |g k| ≤ B) : |v| ≤ B := by
  obtain ⟨k, _, e⟩ := h.mem
  exact e ▸ hb k

theorem segMin_eq {g : Nat → Rat} {n : Nat} {v : Rat} (hn : 0 < n) (h : IsSel (· ≤ ·) g n v) : v = segMin g n :=
  h.unique (fun _ _ => le_antisymm) (segMin_isSel g n hn)

theorem segMax_eq {g : Nat → Rat} {n : Nat} {v : Rat} (hn : 0 < n) (h : IsSel (· ≥ ·) g n v) : v = segMax g n :=
  h.unique (fun _ _ h1 h2 => le_antisymm h2 h1) (segMax_isSel g n hn)

/-- `reduceKeep` when the cells are known: `J` maps a flat index to its cell, and cell `j` has the `n` members
    `g j 0, …, g j (n-1)`.  The three layouts below differ only in `J`, `g` and the arithmetic that relates them. -/
theorem stats_cells (f : Rat → Rat → Rat) (R : Rat → Rat → Prop) (hf : Sel f R) (a : Arr Rat) (dims : Option (List Nat))
    (r : Arr Rat) (h : reduceKeep f a dims = .ok r) (J : Nat → Nat)
    (hJ : ∀ i < a.size, bindex a.shape (keepShape a.shape dims) i = J i)
    (n : Nat) (g : Nat → Nat → Nat) (hn : a.data ≠ [] → 0 < n)
    (hg : ∀ j < numel (keepShape a.shape dims), ∀ k < n, g j k < a.size ∧ J (g j k) = j)
    (hsurj : ∀ i < a.size, ∃ k < n, i = g (J i) k) :
    a.data ≠ [] ∧ r.shape = keepShape a.shape dims ∧ r.data.length = numel (keepShape a.shape dims) ∧
    ∀ j < numel (keepShape a.shape dims), IsSel R (fun k => a.data.getD (g j k) 0) n (r.data.getD j 0) := by
  obtain ⟨hne, hs, hl, hc⟩ := reduceKeep_spec f R hf a dims r h
  refine ⟨hne, hs, hl, fun j hj => ?_⟩
  obtain ⟨h0, h0J⟩ := hg j hj 0 (hn hne)
  rcases hc j hj with ⟨hno, _⟩ | ⟨⟨i, hi, hji, e⟩, hall⟩
  · exact absurd ((hJ _ h0).trans h0J) (hno _ h0)
  · rw [hJ i hi] at hji
    obtain ⟨k, hk, hik⟩ := hsurj i hi
    refine ⟨⟨k, hk, by rw [e, hik, hji]⟩, fun k hk => ?_⟩
    obtain ⟨h1, h1J⟩ := hg j hj k hk
    exact hall _ h1 ((hJ _ h1).trans h1J)

theorem reduceKeep_of (f : Rat → Rat → Rat) (a : Arr Rat) (dims : Option (List Nat)) (h : a.data ≠ []) :
    ∃ r, reduceKeep f a dims = .ok r := by
  rw [reduceKeep_eq]
  have : a.data.isEmpty = false := by
    cases hd : a.data with
    | nil => exact absurd hd h
    | cons _ _ => rfl
  rw [this]
  exact ⟨_, rfl⟩

structure CellCode (xpr spr : Prec) (zw bits : Nat) (sym : Bool) (N : Nat) (J : Nat → Nat) (x : Nat → Rat) (zp : List Int)
    (sc : List Rat) (q : List Int) : Prop where
  qLen : q.length = N
  code : ∀ i < N, quantize1 xpr spr zw bits sym (x i) (sc.getD (J i) 0) (zp.getD (J i) 0) = .ok (q.getD i 0)

/-- what the parameter record says besides the data -/
structure ParamsOf (qp : QParams) (pr : Prec) (bits : Nat) (sym : Bool) (qdim : Option Nat) (ks : List Nat) : Prop where
  bits_eq : qp.bits = bits
  sym_eq : qp.symmetric = sym
  qdim_eq : qp.qdim = qdim
  pr_eq : qp.scale.pr = pr
  w_eq : qp.zp.w = storageBits bits
  sshape : qp.scale.arr.shape = ks
  zshape : qp.zp.arr.shape = ks

section
variable {pr xpr spr : Prec} {zw bits : Nat} {sym : Bool} {cells N : Nat} {J : Nat → Nat} {lo hi x : Nat → Rat}
  {zp zp' : List Int} {sc sc' : List Rat} {q q' : List Int}

theorem CellPar.unique (h : CellPar pr bits sym cells lo hi zp sc) (h' : CellPar pr bits sym cells lo hi zp' sc') :
    zp = zp' ∧ sc = sc' := by
  have hp := fun j hj => Prod.mk.inj (Except.ok.inj ((h.par j hj).symm.trans (h'.par j hj)))
  exact ⟨List.eq_of_getD _ _ 0 (h.zpLen.trans h'.zpLen.symm) fun i hi => (hp i (h.zpLen ▸ hi)).1,
    List.eq_of_getD _ _ 0 (h.scLen.trans h'.scLen.symm) fun i hi => (hp i (h.scLen ▸ hi)).2⟩

theorem CellCode.unique (h : CellCode xpr spr zw bits sym N J x zp sc q) (h' : CellCode xpr spr zw bits sym N J x zp sc q') :
    q = q' :=
  List.eq_of_getD _ _ 0 (h.qLen.trans h'.qLen.symm) fun i hi =>
    Except.ok.inj ((h.code i (h.qLen ▸ hi)).symm.trans (h'.code i (h.qLen ▸ hi)))

/-- the same codes read through another enumeration `σ` of the elements (a transposition of the layout) -/
theorem CellCode.reindex (h : CellCode xpr spr zw bits sym N J x zp sc q) {N' : Nat} (σ : Nat → Nat)
    (hσ : ∀ i < N', σ i < N) {J' : Nat → Nat} {x' : Nat → Rat} (hJ : ∀ i < N', J' i = J (σ i))
    (hx : ∀ i < N', x' i = x (σ i)) :
    CellCode xpr spr zw bits sym N' J' x' zp sc ((List.range N').map fun i => q.getD (σ i) 0) := by
  refine ⟨by simp, fun i hi => ?_⟩
  rw [hJ i hi, hx i hi, h.code (σ i) (hσ i hi)]
  simp [List.getD_eq_getElem?_getD, hi]

end

theorem join_self (pr : Prec) : pr.join pr = pr := by cases pr <;> rfl

/-- **statistics over `dims`, then `zpScale`, for any cell map** (`J`, members `g j k` as in `stats_cells`; `ks`, `cells`, `lo`, `hi`
    name the kept shape, the number of cells and the extrema of a cell the way the caller wants to see them) -/
theorem cellParams_iff (x : Arr Rat) (pr : Prec) (dims : Option (List Nat)) (bits : Nat) (sym : Bool)
    (J : Nat → Nat) (hJ : ∀ i < x.size, bindex x.shape (keepShape x.shape dims) i = J i)
    (n : Nat) (g : Nat → Nat → Nat) (hn : x.data ≠ [] → 0 < n)
    (hg : ∀ j < numel (keepShape x.shape dims), ∀ k < n, g j k < x.size ∧ J (g j k) = j)
    (hsurj : ∀ i < x.size, ∃ k < n, i = g (J i) k)
    (ks : List Nat) (hks : keepShape x.shape dims = ks) (cells : Nat) (hcells : numel ks = cells) (lo hi : Nat → Rat)
    (hlo : 0 < n → ∀ j < cells, segMin (fun k => x.data.getD (g j k) 0) n = lo j ∧
      segMax (fun k => x.data.getD (g j k) 0) n = hi j) (zp : IArr) (sc : FArr) :
    (∃ mn mx, reduceKeep minR x dims = .ok mn ∧ reduceKeep maxR x dims = .ok mx ∧
        zpScale bits sym ⟨mn, pr⟩ ⟨mx, pr⟩ = .ok (zp, sc)) ↔
      x.data ≠ [] ∧ sc.pr = pr ∧ zp.w = storageBits bits ∧ sc.arr.shape = ks ∧ zp.arr.shape = ks ∧
      CellPar pr bits sym cells lo hi zp.arr.data sc.arr.data := by
  subst hks hcells
  -- on non-empty data both reductions succeed, and their cells are the extrema
  have hst : x.data ≠ [] → ∃ mn mx, reduceKeep minR x dims = .ok mn ∧ reduceKeep maxR x dims = .ok mx := fun hne =>
    let ⟨mn, h1⟩ := reduceKeep_of minR x dims hne; let ⟨mx, h2⟩ := reduceKeep_of maxR x dims hne; ⟨mn, mx, h1, h2⟩
  have hval : ∀ mn mx, reduceKeep minR x dims = .ok mn → reduceKeep maxR x dims = .ok mx →
      x.data ≠ [] ∧ mn.shape = keepShape x.shape dims ∧ mx.shape = keepShape x.shape dims ∧
      ∀ j < numel (keepShape x.shape dims), mn.data.getD j 0 = lo j ∧ mx.data.getD j 0 = hi j := fun mn mx h1 h2 => by
    obtain ⟨hne, s1, _, c1⟩ := stats_cells minR _ sel_min x dims mn h1 J hJ n g hn hg hsurj
    obtain ⟨_, s2, _, c2⟩ := stats_cells maxR _ sel_max x dims mx h2 J hJ n g hn hg hsurj
    exact ⟨hne, s1, s2, fun j hj => ⟨(segMin_eq (hn hne) (c1 j hj)).trans (hlo (hn hne) j hj).1,
      (segMax_eq (hn hne) (c2 j hj)).trans (hlo (hn hne) j hj).2⟩⟩
  have hcp : ∀ mn mx : Arr Rat, (∀ j < numel (keepShape x.shape dims), mn.data.getD j 0 = lo j ∧ mx.data.getD j 0 = hi j) →
      (CellPar pr bits sym (numel (keepShape x.shape dims)) (fun i => mn.data.getD i 0) (fun i => mx.data.getD i 0)
          zp.arr.data sc.arr.data ↔ CellPar pr bits sym (numel (keepShape x.shape dims)) lo hi zp.arr.data sc.arr.data) :=
    fun mn mx hv => ⟨fun h => ⟨h.zpLen, h.scLen, fun j hj => by rw [← (hv j hj).1, ← (hv j hj).2]; exact h.par j hj⟩,
      fun h => ⟨h.zpLen, h.scLen, fun j hj => by rw [(hv j hj).1, (hv j hj).2]; exact h.par j hj⟩⟩
  constructor
  · rintro ⟨mn, mx, h1, h2, h3⟩
    obtain ⟨hne, s1, s2, hv⟩ := hval mn mx h1 h2
    obtain ⟨z1, z2, z3, z4, hP⟩ := (zpScale_ok_iff bits sym ⟨mn, pr⟩ ⟨mx, pr⟩ _ s1 s2 zp sc).1 h3
    rw [join_self] at z1 hP
    exact ⟨hne, z1, z2, z3, z4, (hcp mn mx hv).1 hP⟩
  · rintro ⟨hne, z1, z2, z3, z4, hP⟩
    obtain ⟨mn, mx, h1, h2⟩ := hst hne
    obtain ⟨_, s1, s2, hv⟩ := hval mn mx h1 h2
    exact ⟨mn, mx, h1, h2, (zpScale_ok_iff bits sym ⟨mn, pr⟩ ⟨mx, pr⟩ _ s1 s2 zp sc).2
      ⟨by rw [join_self]; exact z1, z2, z3, z4, by rw [join_self]; exact (hcp mn mx hv).2 hP⟩⟩

theorem seg_congr {g g' : Nat → Rat} {n : Nat} (hn : 0 < n) (h : ∀ k < n, g k = g' k) :
    segMin g n = segMin g' n ∧ segMax g n = segMax g' n :=
  ⟨segMin_eq hn ((segMin_isSel g n hn).congr h), segMax_eq hn ((segMax_isSel g n hn).congr h)⟩

/-- **the library's BLOCKWISE statistics**: the cells of `axis=(0,1,2)` of the reshaped weight are its output channels, cell `c`
    holding the WHOLE row `c` of the weight -/
theorem chan_params_iff (o f B bs bits : Nat) (sym : Bool) (d : List Rat) (pr : Prec) (zp : IArr) (sc : FArr) :
    (∃ mn mx, reduceKeep minR ⟨[1, B, bs, o], tdata o f d⟩ (some [0, 1, 2]) = .ok mn ∧
        reduceKeep maxR ⟨[1, B, bs, o], tdata o f d⟩ (some [0, 1, 2]) = .ok mx ∧
        zpScale bits sym ⟨mn, pr⟩ ⟨mx, pr⟩ = .ok (zp, sc)) ↔
      tdata o f d ≠ [] ∧ sc.pr = pr ∧ zp.w = storageBits bits ∧ sc.arr.shape = [1, 1, 1, o] ∧ zp.arr.shape = [1, 1, 1, o] ∧
      CellPar pr bits sym o (rowMin d f) (rowMax d f) zp.arr.data sc.arr.data :=
  have hnum : numel [1, 1, 1, o] = o := by rw [numel4]; simp
  have hsize : (⟨[1, B, bs, o], tdata o f d⟩ : Arr Rat).size = f * o := tdata_length o f d
  cellParams_iff ⟨[1, B, bs, o], tdata o f d⟩ pr (some [0, 1, 2]) bits sym (· % o) (fun i _ => bindex_chan _ _ _ i) f
    (fun c k => k * o + c) (fun hne => (tdata_pos hne).1)
    (fun c hc k hk => ⟨by rw [hsize]; exact mul_add_lt hk (hnum ▸ hc), mul_add_mod (hnum ▸ hc)⟩)
    (fun i hi => ⟨i / o, Nat.div_lt_of_lt_mul (by rw [hsize, Nat.mul_comm] at hi; exact hi), (Nat.div_add_mod' i o).symm⟩)
    [1, 1, 1, o] rfl o hnum (rowMin d f) (rowMax d f) (fun hf c hc => seg_congr hf fun k hk => tdata_el o f d k c hc hk) zp sc

/-- the ordinary per-channel statistics of a `[o, f]` weight (`axis=(1,)`): the same row extrema -/
theorem row_params_iff (o f bits : Nat) (sym : Bool) (d : List Rat) (hd : d.length = o * f) (pr : Prec) (zp : IArr) (sc : FArr) :
    (∃ mn mx, reduceKeep minR ⟨[o, f], d⟩ (some [1]) = .ok mn ∧ reduceKeep maxR ⟨[o, f], d⟩ (some [1]) = .ok mx ∧
        zpScale bits sym ⟨mn, pr⟩ ⟨mx, pr⟩ = .ok (zp, sc)) ↔
      d ≠ [] ∧ sc.pr = pr ∧ zp.w = storageBits bits ∧ sc.arr.shape = [o, 1] ∧ zp.arr.shape = [o, 1] ∧
      CellPar pr bits sym o (rowMin d f) (rowMax d f) zp.arr.data sc.arr.data :=
  have hnum : numel [o, 1] = o := by rw [numel2]; simp
  have hpos : d ≠ [] → 0 < o ∧ 0 < f := fun h => pos_of_mul_pos (hd ▸ List.length_pos_iff.2 h)
  cellParams_iff ⟨[o, f], d⟩ pr (some [1]) bits sym (· / f) (fun i hi => bindex_row o f i (hd ▸ hi)) f
    (fun c k => c * f + k) (fun hne => (hpos hne).2)
    (fun c hc k hk => ⟨by show c * f + k < d.length; rw [hd]; exact mul_add_lt (hnum ▸ hc) hk, mul_add_div hk⟩)
    (fun i hi => ⟨i % f, Nat.mod_lt _ (hpos (List.ne_nil_of_length_pos (Nat.zero_lt_of_lt hi))).2,
      (Nat.div_add_mod' i f).symm⟩)
    [o, 1] rfl o hnum (rowMin d f) (rowMax d f) (fun _ _ _ => ⟨rfl, rfl⟩) zp sc

theorem reshaped_eq (o f bs : Nat) (d : List Rat) : reshaped ⟨[o, f], d⟩ bs =
    if 0 < bs ∧ bs ∣ f then .ok ⟨[1, f / bs, bs, o], tdata o f d⟩ else .error .valueError := by
  show (if bs = 0 then _ else if f % bs ≠ 0 then _ else _) = _
  by_cases hb : bs = 0
  · rw [if_pos hb, if_neg (by omega)]
  · by_cases hm : f % bs = 0
    · rw [if_neg hb, if_neg (by omega), if_pos ⟨by omega, Nat.dvd_of_mod_eq_zero hm⟩]
    · rw [if_neg hb, if_pos hm, if_neg fun h => hm (Nat.mod_eq_zero_of_dvd h.2)]


/-- statistics of the reshaped weight over `dims`, then `paramsOf`: `Blockwise.params` at `dims = [0,1,2]`, `refParams` at `[0,2]` -/
theorem statParams_ok_iff (dims : Option (List Nat)) (o f bs bits : Nat) (sym : Bool) (d : List Rat) (pr : Prec) (qp : QParams) :
    ((do let r ← reshaped (⟨[o, f], d⟩ : Arr Rat) bs
         let mn ← reduceKeep minR r dims
         let mx ← reduceKeep maxR r dims
         pure ((⟨mn, pr⟩, ⟨mx, pr⟩) : FArr × FArr)) >>= fun mm => paramsOf bits sym mm.1 mm.2) = .ok qp ↔
      (0 < bs ∧ bs ∣ f) ∧ qp.bits = bits ∧ qp.symmetric = sym ∧ qp.qdim = none ∧
      ∃ mn mx, reduceKeep minR ⟨[1, f / bs, bs, o], tdata o f d⟩ dims = .ok mn ∧
        reduceKeep maxR ⟨[1, f / bs, bs, o], tdata o f d⟩ dims = .ok mx ∧
        zpScale bits sym ⟨mn, pr⟩ ⟨mx, pr⟩ = .ok (qp.zp, qp.scale) := by
  rw [reshaped_eq]
  by_cases hb : 0 < bs ∧ bs ∣ f
  · rw [if_pos hb]
    simp only [paramsOf, PyM.bind_eq_ok_iff, PyM.pure_eq_ok_iff, Except.ok.injEq]
    constructor
    · rintro ⟨_, ⟨_, rfl, mn, h1, mx, h2, rfl⟩, ⟨zp, sc⟩, h3, rfl⟩
      exact ⟨hb, rfl, rfl, rfl, mn, mx, h1, h2, h3⟩
    · rintro ⟨_, q1, q2, q3, mn, mx, h1, h2, h3⟩
      obtain ⟨b, qd, sc, zp, sy⟩ := qp
      cases q1; cases q2; cases q3
      exact ⟨_, ⟨_, rfl, mn, h1, mx, h2, rfl⟩, (zp, sc), h3, rfl⟩
  · rw [if_neg hb]
    exact ⟨fun h => (nomatch h), fun h => absurd h.1 hb⟩

/-- **`Blockwise.params`**: one (zero point, scale) per output channel, computed from the extrema of the WHOLE row -/
theorem params_iff (o f bs bits : Nat) (sym : Bool) (d : List Rat) (pr : Prec) (qp : QParams) :
    params ⟨⟨[o, f], d⟩, pr⟩ bs bits sym = .ok qp ↔ (0 < bs ∧ bs ∣ f) ∧ tdata o f d ≠ [] ∧
      ParamsOf qp pr bits sym none [1, 1, 1, o] ∧
      CellPar pr bits sym o (rowMin d f) (rowMax d f) qp.zp.arr.data qp.scale.arr.data := by
  refine (statParams_ok_iff (some [0, 1, 2]) o f bs bits sym d pr qp).trans ?_
  rw [chan_params_iff]
  exact ⟨fun ⟨hb, q1, q2, q3, hne, z1, z2, z3, z4, hP⟩ => ⟨hb, hne, ⟨q1, q2, q3, z1, z2, z3, z4⟩, hP⟩,
    fun ⟨hb, hne, hq, hP⟩ => ⟨hb, hq.bits_eq, hq.sym_eq, hq.qdim_eq, hne, hq.pr_eq, hq.w_eq, hq.sshape, hq.zshape, hP⟩⟩


/-- the `mapM` over the elements that `uniformQuantize` and `quantizeWith` come down to (`Nd.zipPair_fit`) -/
theorem codes_ok_iff (xpr spr : Prec) (zw bits : Nat) (sym : Bool) (sh : List Nat) (w N : Nat) (K J : Nat → Nat)
    (hJ : ∀ i < N, K i = J i) (xs : List Rat) (xe : Nat → Rat) (hxe : ∀ i < N, xs.getD i 0 = xe i) (zp : List Int)
    (sc : List Rat) (q : IArr) :
    ((List.range N).mapM (fun i => quantize1 xpr spr zw bits sym (xs.getD i 0) (sc.getD (K i) 0) (zp.getD (K i) 0)) >>=
        fun dd => pure (⟨⟨sh, dd⟩, w⟩ : IArr)) = .ok q ↔
      q.w = w ∧ q.arr.shape = sh ∧ CellCode xpr spr zw bits sym N J xe zp sc q.arr.data := by
  obtain ⟨⟨qs, qd⟩, qw⟩ := q
  simp only [PyM.bind_eq_ok_iff, PyM.pure_eq_ok_iff, PyM.mapM_range_ok_iff _ (0 : Int), IArr.mk.injEq, Arr.mk.injEq]
  constructor
  · rintro ⟨dd, ⟨hl, hc⟩, ⟨rfl, rfl⟩, rfl⟩
    exact ⟨rfl, rfl, hl, fun i hi => by rw [← hJ i hi, ← hxe i hi]; exact hc i hi⟩
  · rintro ⟨rfl, rfl, hl, hc⟩
    exact ⟨qd, ⟨hl, fun i hi => by rw [hJ i hi, hxe i hi]; exact hc i hi⟩, ⟨rfl, rfl⟩, rfl⟩

/-- **the layout**: parameters of a shape `ps` that broadcasts into `[1, f/bs, bs, o]`; the code at `[0][b][k][c]` (flat `i = j * o + c`,
    `j = b * bs + k`) is the scalar core on `w[c][j]` and the parameter cell `J i` of that position -/
theorem quantizeWith_iff (o f bs : Nat) (d : List Rat) (pr : Prec) (qp : QParams) (bits : Nat) (sym : Bool) (qd : Option Nat)
    (ps : List Nat) (hq : ParamsOf qp pr bits sym qd ps) (hcp : NumT.Compat ps [1, f / bs, bs, o]) (J : Nat → Nat)
    (hJ : ∀ i < f * o, bindex [1, f / bs, bs, o] ps i = J i) (q : IArr) :
    quantizeWith ⟨⟨[o, f], d⟩, pr⟩ qp bs = .ok q ↔ (0 < bs ∧ bs ∣ f) ∧ q.w = storageBits bits ∧
      q.arr.shape = [1, f / bs, bs, o] ∧
      CellCode pr pr (storageBits bits) bits sym (f * o) J (fun i => el d f (i % o) (i / o)) qp.zp.arr.data
        qp.scale.arr.data q.arr.data := by
  have key : quantizeWith ⟨⟨[o, f], d⟩, pr⟩ qp bs = if 0 < bs ∧ bs ∣ f then
      (zipB (fun (s : Rat) (z : Int) => (pure (s, z) : PyM (Rat × Int))) qp.scale.arr qp.zp.arr >>= fun sz =>
        zipB (fun v (p : Rat × Int) => quantize1 pr qp.scale.pr qp.zp.w qp.bits qp.symmetric v p.1 p.2)
          ⟨[1, f / bs, bs, o], tdata o f d⟩ sz) >>= fun out => pure ⟨out, storageBits qp.bits⟩
      else .error .valueError := by
    unfold quantizeWith
    show (reshaped ⟨[o, f], d⟩ bs >>= _) = _
    rw [reshaped_eq]
    split
    · simp only [bind_assoc]; rfl
    · rfl
  rw [key, Nd.zipPair_fit _ _ _ _ (hq.sshape.trans hq.zshape.symm) (hq.sshape ▸ hcp)]
  by_cases hb : 0 < bs ∧ bs ∣ f
  · have hnum : numel [1, f / bs, bs, o] = f * o := by rw [numel4, Nat.one_mul, Nat.div_mul_cancel hb.2]
    rw [if_pos hb, hq.bits_eq, hq.sym_eq, hq.pr_eq, hq.w_eq, hq.sshape, hnum]
    simp only [bind_assoc, pure_bind, hb, true_and]
    exact codes_ok_iff pr pr _ bits sym _ _ (f * o) _ J hJ _ _ (fun i hi => tdata_getD o f d i hi) _ _ q
  · rw [if_neg hb]
    exact ⟨fun h => (nomatch h), fun h => absurd h.1 hb⟩

/-- **`Blockwise.quantize`**: the codes, in the layout `data[0][b][k][c] = q(w[c][b*bs + k])`, every element of row `c` being
    quantized with the ONE (zero point, scale) of channel `c` -/
theorem quantize_iff (o f bs bits : Nat) (sym : Bool) (d : List Rat) (pr : Prec) (q : IArr) :
    quantize ⟨⟨[o, f], d⟩, pr⟩ bs bits sym = .ok q ↔ ∃ qp, params ⟨⟨[o, f], d⟩, pr⟩ bs bits sym = .ok qp ∧
      q.w = storageBits bits ∧ q.arr.shape = [1, f / bs, bs, o] ∧
      CellCode pr pr (storageBits bits) bits sym (f * o) (· % o) (fun i => el d f (i % o) (i / o)) qp.zp.arr.data
        qp.scale.arr.data q.arr.data := by
  refine PyM.bind_eq_ok_iff.trans (exists_congr fun qp => and_congr_right fun hp => ?_)
  obtain ⟨hb, _, hq, _⟩ := (params_iff o f bs bits sym d pr qp).1 hp
  rw [quantizeWith_iff o f bs d pr qp bits sym none _ hq (compat_chan _ _ _) (· % o) (fun i _ => bindex_chan _ _ _ i)]
  exact and_iff_right hb

theorem channelwise_eq (o f bits : Nat) (sym : Bool) (d : List Rat) (pr : Prec) :
    channelwise ⟨⟨[o, f], d⟩, pr⟩ bits sym =
      (do
        let mn ← reduceKeep minR ⟨[o, f], d⟩ (some [1])
        let mx ← reduceKeep maxR ⟨[o, f], d⟩ (some [1])
        let zs ← zpScale bits sym ⟨mn, pr⟩ ⟨mx, pr⟩
        let q ← uniformQuantize ⟨⟨[o, f], d⟩, pr⟩
          { bits := bits, qdim := some 0, scale := zs.2, zp := zs.1, symmetric := sym }
        pure ({ bits := bits, qdim := some 0, scale := zs.2, zp := zs.1, symmetric := sym }, q)) := rfl


theorem quantize_code {o f bs bits : Nat} {sym : Bool} {d : List Rat} {pr : Prec} {qp : QParams} {q : IArr}
    (hp : params ⟨⟨[o, f], d⟩, pr⟩ bs bits sym = .ok qp) (hq : quantize ⟨⟨[o, f], d⟩, pr⟩ bs bits sym = .ok q) :
    q.w = storageBits bits ∧ q.arr.shape = [1, f / bs, bs, o] ∧
    CellCode pr pr (storageBits bits) bits sym (f * o) (· % o) (fun i => el d f (i % o) (i / o)) qp.zp.arr.data
      qp.scale.arr.data q.arr.data := by
  obtain ⟨qp', hp', h⟩ := (quantize_iff o f bs bits sym d pr q).1 hq
  cases hp.symm.trans hp'
  exact h

theorem CellCode.chan {xpr spr : Prec} {zw bits : Nat} {sym : Bool} {o f c j : Nat} {d : List Rat} {zp : List Int}
    {sc : List Rat} {q : List Int}
    (h : CellCode xpr spr zw bits sym (f * o) (· % o) (fun i => el d f (i % o) (i / o)) zp sc q) (hc : c < o) (hj : j < f) :
    quantize1 xpr spr zw bits sym (el d f c j) (sc.getD c 0) (zp.getD c 0) = .ok (q.getD (j * o + c) 0) := by
  have := h.code (j * o + c) (mul_add_lt hj hc)
  rwa [mul_add_mod hc, mul_add_div hc] at this

theorem uniformQuantize_row_iff (o f : Nat) (d : List Rat) (pr : Prec) (qp : QParams) (bits : Nat) (sym : Bool) (qd : Option Nat)
    (hq : ParamsOf qp pr bits sym qd [o, 1]) (q : IArr) :
    uniformQuantize ⟨⟨[o, f], d⟩, pr⟩ qp = .ok q ↔ q.w = storageBits bits ∧ q.arr.shape = [o, f] ∧
      CellCode pr pr (storageBits bits) bits sym (o * f) (· / f) (fun i => d.getD i 0) qp.zp.arr.data qp.scale.arr.data
        q.arr.data := by
  rw [uniformQuantize_fit _ qp (hq.sshape.trans hq.zshape.symm) (hq.sshape ▸ compat_row o f)]
  rw [hq.bits_eq, hq.sym_eq, hq.pr_eq, hq.w_eq, hq.sshape, numel2]
  exact codes_ok_iff pr pr _ bits sym _ _ (o * f) _ (· / f) (fun i hi => bindex_row o f i hi) _ _ (fun _ _ => rfl) _ _ q

/-- **the ordinary per-channel quantization** (quantized dimension 0) of a well-formed `[o, f]` weight: the same cells (whole
    rows) as BLOCKWISE, the elements in the untransposed order -/
theorem channelwise_iff (o f bits : Nat) (sym : Bool) (d : List Rat) (hd : d.length = o * f) (pr : Prec) (qp : QParams)
    (q : IArr) :
    channelwise ⟨⟨[o, f], d⟩, pr⟩ bits sym = .ok (qp, q) ↔ d ≠ [] ∧ ParamsOf qp pr bits sym (some 0) [o, 1] ∧
      CellPar pr bits sym o (rowMin d f) (rowMax d f) qp.zp.arr.data qp.scale.arr.data ∧
      q.w = storageBits bits ∧ q.arr.shape = [o, f] ∧
      CellCode pr pr (storageBits bits) bits sym (o * f) (· / f) (fun i => d.getD i 0) qp.zp.arr.data qp.scale.arr.data
        q.arr.data := by
  rw [channelwise_eq]
  simp only [PyM.bind_eq_ok_iff, PyM.pure_eq_ok_iff, Prod.mk.injEq]
  constructor
  · rintro ⟨mn, h1, mx, h2, ⟨zp, sc⟩, h3, q0, hq, rfl, rfl⟩
    obtain ⟨hne, z1, z2, z3, z4, hP⟩ := (row_params_iff o f bits sym d hd pr zp sc).1 ⟨mn, mx, h1, h2, h3⟩
    have hQ : ParamsOf { bits := bits, qdim := some 0, scale := sc, zp := zp, symmetric := sym } pr bits sym (some 0) [o, 1] :=
      ⟨rfl, rfl, rfl, z1, z2, z3, z4⟩
    exact ⟨hne, hQ, hP, (uniformQuantize_row_iff o f d pr _ bits sym _ hQ q0).1 hq⟩
  · rintro ⟨hne, hQ, hP, hC⟩
    obtain ⟨mn, mx, h1, h2, h3⟩ := (row_params_iff o f bits sym d hd pr qp.zp qp.scale).2
      ⟨hne, hQ.pr_eq, hQ.w_eq, hQ.sshape, hQ.zshape, hP⟩
    have e : ({ bits := bits, qdim := some 0, scale := qp.scale, zp := qp.zp, symmetric := sym } : QParams) = qp := by
      obtain ⟨b, qd, sc, zp, sy⟩ := qp
      cases hQ.bits_eq; cases hQ.sym_eq; cases hQ.qdim_eq
      rfl
    exact ⟨mn, h1, mx, h2, (qp.zp, qp.scale), h3, q, by rw [e]; exact (uniformQuantize_row_iff o f d pr qp bits sym _ hQ q).2 hC,
      e, rfl⟩

end BlockwiseL
