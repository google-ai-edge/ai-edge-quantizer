import QProps.C07
import QProps.C17
/-! # Real-valued specification of the LiteRT kernels the quantizer targets (lemmas for `QProps/C06b.lean`, `QProps/C07b.lean`)
The kernels are OUTSIDE the model: this is what the TFLite quantization specification says they compute, for an ARBITRARY rounding
`|r t − t| ≤ 1/2` (`std::round`: half away from zero; numpy: half to even); hybrid kernel: the symmetric variant, the library never
sets `asymmetric_quantize_inputs`.  Not modelled: fixed-point rescaling (D29/D33), float32 hybrid evaluation, accumulator overflow.
`dot`, `acc`, `deqDot` are those of `QProps/C07.lean`, the scalar laws those of `QProps/C17.lean`: hence the two imports of property files. -/
open Num

set_option autoImplicit false

namespace KernelSpec

/-- a rounding to the nearest integer, with any tie-breaking rule -/
def IsRounding (r : Rat → Int) : Prop := ∀ t : Rat, |((r t : Int) : Rat) - t| ≤ 1/2

/-- numpy's `rint` (half to even) -/
theorem rhe_isRounding : IsRounding rhe := Rounding.rhe_err

/-- `std::round` / `TfLiteRound`: half away from zero -/
def rha (t : Rat) : Int := if 0 ≤ t then (t + 1/2).floor else -((-t + 1/2).floor)

theorem rha_isRounding : IsRounding rha := by
  intro t
  unfold rha
  split_ifs
  · have h1 := Rounding.floor_le' (t + 1/2)
    have h2 := Rounding.lt_floor_add_one' (t + 1/2)
    rw [abs_le]; constructor <;> linarith
  · have h1 := Rounding.floor_le' (-t + 1/2)
    have h2 := Rounding.lt_floor_add_one' (-t + 1/2)
    rw [abs_le]; push_cast; constructor <;> linarith

/-- the two tie-breaking rules really differ -/
example : rhe (1/2) = 0 ∧ rha (1/2) = 1 ∧ rhe (5/2) = 2 ∧ rha (5/2) = 3 ∧ rha (-1/2) = -1 := by decide +kernel

theorem le_round {r : Rat → Int} (hr : IsRounding r) {n : Int} {t : Rat} (h : (n : Rat) + 1/2 ≤ t) : n ≤ r t := by
  have h1 := (abs_le.mp (hr t)).1
  exact_mod_cast (by linarith : (n : Rat) ≤ r t)

theorem round_le {r : Rat → Int} (hr : IsRounding r) {n : Int} {t : Rat} (h : t ≤ (n : Rat) - 1/2) : r t ≤ n := by
  have h1 := (abs_le.mp (hr t)).2
  exact_mod_cast (by linarith : ((r t : Int) : Rat) ≤ n)

theorem round_half (r : Rat → Int) (hr : IsRounding r) : r (1/2) = 0 ∨ r (1/2) = 1 := by
  have a := le_round (n := 0) hr (t := 1/2) (by norm_num)
  have b := round_le (n := 1) hr (t := 1/2) (by norm_num)
  omega

theorem clipI_of_le {n lo hi : Int} (hq : lo ≤ hi) (h : n ≤ lo) : clipI n lo hi = lo := by
  unfold clipI; split_ifs <;> omega

theorem clipR_eq (x lo hi : Rat) (h : lo ≤ hi) : clipR x lo hi = max (min x hi) lo := by
  unfold clipR
  split_ifs with a b
  · rw [max_eq_right ((min_le_left _ _).trans a.le)]
  · rw [min_eq_right b.le, max_eq_left h]
  · rw [min_eq_left (not_lt.1 b), max_eq_left (not_lt.1 a)]

theorem clipR_sub (lo hi a b : Rat) (h : lo ≤ hi) (hab : a ≤ b) :
    clipR a lo hi ≤ clipR b lo hi ∧ clipR b lo hi ≤ clipR a lo hi + (b - a) := by
  rw [clipR_eq _ _ _ h, clipR_eq _ _ _ h]
  have h1 := min_le_left b hi
  have h2 := min_le_right b hi
  have h3 : min b hi ≤ min a hi + (b - a) := by
    rw [← sub_le_iff_le_add]; exact le_min (by linarith) (by linarith)
  exact ⟨max_le_max (min_le_min_right hi hab) le_rfl,
    max_le (h3.trans (by linarith [le_max_left (min a hi) lo])) (by linarith [le_max_right (min a hi) lo])⟩

theorem clipR_lipschitz (lo hi a b : Rat) (h : lo ≤ hi) : |clipR a lo hi - clipR b lo hi| ≤ |a - b| := by
  wlog hab : a ≤ b generalizing a b
  · rw [abs_sub_comm, abs_sub_comm a]; exact this b a (le_of_not_ge hab)
  obtain ⟨h1, h2⟩ := clipR_sub lo hi a b h hab
  rw [abs_sub_comm, abs_sub_comm a, abs_of_nonneg (sub_nonneg.2 h1), abs_of_nonneg (sub_nonneg.2 hab)]
  linarith

theorem clipR_id (lo hi v : Rat) (h1 : lo ≤ v) (h2 : v ≤ hi) : clipR v lo hi = v := by
  unfold clipR
  rw [if_neg (by linarith), if_neg (by linarith)]

def deq (s : Rat) (z q : Int) : Rat := s * ((q - z : Int) : Rat)

theorem deq_zero (s : Rat) (q : Int) : deq s 0 q = s * (q : Rat) := by simp [deq]

theorem deq_clipI (s : Rat) (hs : 0 < s) (z n lo hi : Int) :
    deq s z (clipI n lo hi) = clipR (deq s z n) (deq s z lo) (deq s z hi) := by
  unfold clipI clipR deq
  by_cases a : n < lo
  · have : s * ((n - z : Int) : Rat) < s * ((lo - z : Int) : Rat) :=
      mul_lt_mul_of_pos_left (by exact_mod_cast (by omega : n - z < lo - z)) hs
    rw [if_pos a, if_pos this]
  · have a' : ¬ s * ((n - z : Int) : Rat) < s * ((lo - z : Int) : Rat) := by
      rw [not_lt]
      exact mul_le_mul_of_nonneg_left (by exact_mod_cast (by omega : lo - z ≤ n - z)) (le_of_lt hs)
    rw [if_neg a, if_neg a']
    by_cases b : n > hi
    · have : s * ((n - z : Int) : Rat) > s * ((hi - z : Int) : Rat) :=
        mul_lt_mul_of_pos_left (by exact_mod_cast (by omega : hi - z < n - z)) hs
      rw [if_pos b, if_pos this]
    · have b' : ¬ s * ((n - z : Int) : Rat) > s * ((hi - z : Int) : Rat) := by
        rw [not_lt]
        exact mul_le_mul_of_nonneg_left (by exact_mod_cast (by omega : n - z ≤ hi - z)) (le_of_lt hs)
      rw [if_neg b, if_neg b']

/-- `A`: the real value of the operator applied to the dequantized operands -/
def requant (r : Rat → Int) (sy : Rat) (zy qmin qmax : Int) (A : Rat) : Int :=
  clipI (r (A / sy) + zy) qmin qmax

/-- **requantization, saturating form**: if the float operator's result `F` is within `E` of the value `A`
    of the operator on the dequantized operands, the dequantized output code is within `sy/2 + E` of `F`
    clipped to the representable range `[sy(qmin − zy), sy(qmax − zy)]` -/
theorem requant_error_sat (r : Rat → Int) (hr : IsRounding r) (sy : Rat) (hsy : 0 < sy)
    (zy qmin qmax : Int) (hq : qmin ≤ qmax) (A F E : Rat) (hAF : |A - F| ≤ E) :
    |deq sy zy (requant r sy zy qmin qmax A) - clipR F (deq sy zy qmin) (deq sy zy qmax)| ≤ sy / 2 + E := by
  unfold requant
  rw [deq_clipI sy hsy]
  have hlohi : deq sy zy qmin ≤ deq sy zy qmax := by
    unfold deq
    exact mul_le_mul_of_nonneg_left (by exact_mod_cast (by omega : qmin - zy ≤ qmax - zy)) (le_of_lt hsy)
  refine le_trans (clipR_lipschitz _ _ _ _ hlohi) ?_
  have e : deq sy zy (r (A / sy) + zy) - F = sy * (((r (A / sy) : Int) : Rat) - A / sy) + (A - F) := by
    unfold deq; push_cast; field_simp; ring
  rw [e]
  have h1 : |sy * (((r (A / sy) : Int) : Rat) - A / sy)| ≤ sy / 2 := by
    rw [abs_mul, abs_of_pos hsy]
    calc sy * |((r (A / sy) : Int) : Rat) - A / sy| ≤ sy * (1/2) :=
          mul_le_mul_of_nonneg_left (hr _) (le_of_lt hsy)
      _ = sy / 2 := by ring
  have := abs_add_le (sy * (((r (A / sy) : Int) : Rat) - A / sy)) (A - F)
  linarith

theorem requant_error (r : Rat → Int) (hr : IsRounding r) (sy : Rat) (hsy : 0 < sy)
    (zy qmin qmax : Int) (hq : qmin ≤ qmax) (A F E : Rat) (hAF : |A - F| ≤ E)
    (hlo : deq sy zy qmin ≤ F) (hhi : F ≤ deq sy zy qmax) :
    |deq sy zy (requant r sy zy qmin qmax A) - F| ≤ sy / 2 + E := by
  have := requant_error_sat r hr sy hsy zy qmin qmax hq A F E hAF
  rwa [clipR_id _ _ _ hlo hhi] at this

theorem requant_saturates_hi (r : Rat → Int) (hr : IsRounding r) (sy : Rat) (hsy : 0 < sy)
    (zy qmin qmax : Int) (hq : qmin ≤ qmax) (A F E : Rat) (hAF : |A - F| ≤ E)
    (hF : deq sy zy qmax + sy / 2 + E ≤ F) : requant r sy zy qmin qmax A = qmax := by
  have hA : sy * ((qmax - zy : Int) : Rat) + sy / 2 ≤ A := by
    have := (abs_le.mp hAF).1; unfold deq at hF; linarith
  have := le_round hr (n := qmax - zy) (t := A / sy) (by rw [le_div_iff₀ hsy]; linarith)
  exact ArithL.clipI_of_ge hq (by omega)

theorem requant_saturates_lo (r : Rat → Int) (hr : IsRounding r) (sy : Rat) (hsy : 0 < sy)
    (zy qmin qmax : Int) (hq : qmin ≤ qmax) (A F E : Rat) (hAF : |A - F| ≤ E)
    (hF : F ≤ deq sy zy qmin - sy / 2 - E) : requant r sy zy qmin qmax A = qmin := by
  have hA : A ≤ sy * ((qmin - zy : Int) : Rat) - sy / 2 := by
    have := (abs_le.mp hAF).2; unfold deq at hF; linarith
  have := round_le hr (n := qmin - zy) (t := A / sy) (by rw [div_le_iff₀ hsy]; linarith)
  exact clipI_of_le hq (by omega)

theorem ne_of_far (s : Rat) (z q q' : Int) (F F' B B' : Rat)
    (h1 : |deq s z q - F| ≤ B) (h2 : |deq s z q' - F'| ≤ B') (hv : B + B' < |F - F'|) : q ≠ q' := by
  rintro rfl
  have e : F - F' = -(deq s z q - F) + (deq s z q - F') := by ring
  have := abs_add_le (-(deq s z q - F)) (deq s z q - F')
  rw [← e, abs_neg] at this
  linarith

theorem not_saturated (s : Rat) (z q qmin qmax : Int) (F B : Rat) (h : |deq s z q - F| ≤ B)
    (hlo : deq s z qmin + B < F) (hhi : F < deq s z qmax - B) : q ≠ qmin ∧ q ≠ qmax := by
  obtain ⟨h1, h2⟩ := abs_le.mp h
  constructor <;> rintro rfl <;> linarith

/-- the integer kernel of one output channel, per the TFLite quantization spec -/
def fcRowQ (r : Rat → Int) (sx sw sy : Rat) (zx zy qmin qmax : Int) (qx qw : List Int) (qb : Int) : Int :=
  clipI (r (((C07.acc zx qx qw qb : Int) : Rat) * (sx * sw / sy)) + zy) qmin qmax

/-- by `C07.accumulator_exact`, the kernel requantizes the float operator on the dequantized operands -/
theorem fcRowQ_eq (r : Rat → Int) (sx sw sy : Rat) (zx zy qmin qmax : Int) (qx qw : List Int) (qb : Int) :
    fcRowQ r sx sw sy zx zy qmin qmax qx qw qb
      = requant r sy zy qmin qmax (C07.deqDot sx sw zx qx qw qb) := by
  unfold fcRowQ requant
  rw [← C07.accumulator_exact]
  congr 3
  ring

def pertSum (dx dw : Rat) : List Rat → List Rat → Rat
  | x :: xs, w :: ws => (|x| * dw + |w| * dx + dx * dw) + pertSum dx dw xs ws
  | _, _ => 0

theorem prod_close (x w x' w' dx dw : Rat) (hx : |x - x'| ≤ dx) (hw : |w - w'| ≤ dw) :
    |x' * w' - x * w| ≤ |x| * dw + |w| * dx + dx * dw := by
  have e : x' * w' - x * w = x * (w' - w) + w * (x' - x) + (x' - x) * (w' - w) := by ring
  have hx' : |x' - x| ≤ dx := by rwa [abs_sub_comm]
  have hw' : |w' - w| ≤ dw := by rwa [abs_sub_comm]
  have hdx : 0 ≤ dx := le_trans (abs_nonneg _) hx
  have t1 : |x * (w' - w)| ≤ |x| * dw := by
    rw [abs_mul]; exact mul_le_mul_of_nonneg_left hw' (abs_nonneg _)
  have t2 : |w * (x' - x)| ≤ |w| * dx := by
    rw [abs_mul]; exact mul_le_mul_of_nonneg_left hx' (abs_nonneg _)
  have t3 : |(x' - x) * (w' - w)| ≤ dx * dw := by
    rw [abs_mul]; exact mul_le_mul hx' hw' (abs_nonneg _) hdx
  have a1 := abs_add_le (x * (w' - w) + w * (x' - x)) ((x' - x) * (w' - w))
  have a2 := abs_add_le (x * (w' - w)) (w * (x' - x))
  rw [e]; linarith

theorem deqDot_close (sx sw : Rat) (zx : Int) (dx dw db : Rat) (b : Rat) (qb : Int)
    (hb : |b - sx * sw * (qb : Rat)| ≤ db) :
    ∀ (x : List Rat) (qx : List Int), List.Forall₂ (fun t q => |t - deq sx zx q| ≤ dx) x qx →
    ∀ (w : List Rat) (qw : List Int), List.Forall₂ (fun t (q : Int) => |t - sw * (q : Rat)| ≤ dw) w qw →
      |C07.deqDot sx sw zx qx qw qb - (C07.dot x w + b)| ≤ pertSum dx dw x w + db := by
  intro x qx hx
  induction hx with
  | nil =>
    intro w qw _
    simp only [C07.deqDot, C07.dot, pertSum, zero_add]
    rwa [abs_sub_comm]
  | @cons t q ts qs h0 _ ih =>
    intro w qw hw
    cases hw with
    | nil =>
      simp only [C07.deqDot, C07.dot, pertSum, zero_add]
      rwa [abs_sub_comm]
    | @cons u p us ps g0 g =>
      have := ih us ps g
      have hp := prod_close t u (sx * ((q - zx : Int) : Rat)) (sw * (p : Rat)) dx dw h0 g0
      simp only [C07.deqDot, C07.dot, pertSum]
      have e : sx * ((q - zx : Int) : Rat) * (sw * (p : Rat)) + C07.deqDot sx sw zx qs ps qb
            - (t * u + C07.dot ts us + b)
          = (sx * ((q - zx : Int) : Rat) * (sw * (p : Rat)) - t * u)
            + (C07.deqDot sx sw zx qs ps qb - (C07.dot ts us + b)) := by ring
      rw [e]
      have := abs_add_le (sx * ((q - zx : Int) : Rat) * (sw * (p : Rat)) - t * u)
        (C07.deqDot sx sw zx qs ps qb - (C07.dot ts us + b))
      linarith

theorem pertSum_le (dx dw X W : Rat) (hdx : 0 ≤ dx) (hdw : 0 ≤ dw) (hX : 0 ≤ X) (hW : 0 ≤ W) :
    ∀ (x w : List Rat), (∀ t ∈ x, |t| ≤ X) → (∀ t ∈ w, |t| ≤ W) →
      pertSum dx dw x w ≤ (x.length : Rat) * (X * dw + W * dx + dx * dw) := by
  have hterm : 0 ≤ X * dw + W * dx + dx * dw := by positivity
  intro x
  induction x with
  | nil => intro w _ _; simp [pertSum]
  | cons t ts ih =>
    intro w hx hw
    cases w with
    | nil =>
      simp only [pertSum, List.length_cons]
      exact mul_nonneg (by positivity) hterm
    | cons u us =>
      have h1 := ih us (fun v hv => hx v (by simp [hv])) (fun v hv => hw v (by simp [hv]))
      have a := hx t (by simp)
      have c := hw u (by simp)
      have a1 : |t| * dw ≤ X * dw := mul_le_mul_of_nonneg_right a hdw
      have c1 : |u| * dx ≤ W * dx := mul_le_mul_of_nonneg_right c hdx
      simp only [pertSum, List.length_cons, Nat.cast_add, Nat.cast_one]
      linarith

theorem fc_row_sat_gen (r : Rat → Int) (hr : IsRounding r) (sx sw sy : Rat) (hsy : 0 < sy)
    (zx zy qmin qmax : Int) (hq : qmin ≤ qmax) (dx dw db : Rat)
    (x w : List Rat) (b : Rat) (qx qw : List Int) (qb : Int)
    (hx : List.Forall₂ (fun t q => |t - deq sx zx q| ≤ dx) x qx)
    (hw : List.Forall₂ (fun t (q : Int) => |t - sw * (q : Rat)| ≤ dw) w qw)
    (hb : |b - sx * sw * (qb : Rat)| ≤ db) :
    |deq sy zy (fcRowQ r sx sw sy zx zy qmin qmax qx qw qb)
        - clipR (C07.dot x w + b) (deq sy zy qmin) (deq sy zy qmax)|
      ≤ sy / 2 + (pertSum dx dw x w + db) := by
  rw [fcRowQ_eq]
  exact requant_error_sat r hr sy hsy zy qmin qmax hq _ _ _
    (deqDot_close sx sw zx dx dw db b qb hb x qx hx w qw hw)

/-- the error bound of the integer FC row for half-step operand errors:
    `sy/2 + Σ(|x_i|·sw/2 + |w_i|·sx/2 + sx·sw/4) + sx·sw/2` -/
def fcBound (sx sw sy : Rat) (x w : List Rat) : Rat :=
  sy / 2 + pertSum (sx / 2) (sw / 2) x w + sx * sw / 2

/-- `pertSum (sx/2) (sw/2)` is the sum written in the statement of the property -/
theorem pertSum_half (sx sw : Rat) : ∀ x w : List Rat,
    pertSum (sx / 2) (sw / 2) x w = match x, w with
      | t :: ts, u :: us => (|t| * sw / 2 + |u| * sx / 2 + sx * sw / 4) + pertSum (sx / 2) (sw / 2) ts us
      | _, _ => 0
  | [], _ => by simp [pertSum]
  | _ :: _, [] => by simp [pertSum]
  | t :: ts, u :: us => by simp only [pertSum]; ring

/-- the library's quantization of one value in ideal arithmetic (`uniform_quantize`, `Prec.exact`) -/
def quantIdeal (bits : Nat) (narrow : Bool) (zw : Nat) (s : Rat) (zp : Int) (t : Rat) : Int :=
  Arith.roundClip bits narrow (Arith.qSum .exact .exact zw t s zp)

/-- `C17.dq_q_ideal`, in the vocabulary of this file -/
theorem quantIdeal_close (bits : Nat) (hb2 : 2 ≤ bits) (hb : bits ≤ 32) (narrow : Bool) (zw : Nat)
    (s : Rat) (hs : 0 < s) (zp : Int) (t : Rat)
    (hlo : deq s zp (Arith.qmin bits + (if narrow then 1 else 0)) ≤ t)
    (hhi : t ≤ deq s zp (Arith.qmax bits)) :
    |t - deq s zp (quantIdeal bits narrow zw s zp t)| ≤ s / 2 := by
  unfold deq at *
  have := C17.dq_q_ideal bits hb2 hb narrow zw s hs zp t (by rw [mul_comm]; exact hlo) (by rw [mul_comm]; exact hhi)
  rw [abs_sub_comm, mul_comm]
  exact this

theorem quantIdeal_list_close (bits : Nat) (hb2 : 2 ≤ bits) (hb : bits ≤ 32) (narrow : Bool) (zw : Nat)
    (s : Rat) (hs : 0 < s) (zp : Int) :
    ∀ x : List Rat,
      (∀ t ∈ x, deq s zp (Arith.qmin bits + (if narrow then 1 else 0)) ≤ t ∧ t ≤ deq s zp (Arith.qmax bits)) →
      List.Forall₂ (fun t q => |t - deq s zp q| ≤ s / 2) x (x.map (quantIdeal bits narrow zw s zp))
  | [], _ => List.Forall₂.nil
  | t :: ts, h =>
    List.Forall₂.cons
      (quantIdeal_close bits hb2 hb narrow zw s hs zp t (h t (by simp)).1 (h t (by simp)).2)
      (quantIdeal_list_close bits hb2 hb narrow zw s hs zp ts (fun u hu => h u (by simp [hu])))

/-- the integer ADD kernel, per the TFLite quantization spec (real-valued rescaling) -/
def addQ (r : Rat → Int) (s1 s2 sy : Rat) (z1 z2 zy qmin qmax : Int) (q1 q2 : Int) : Int :=
  requant r sy zy qmin qmax (deq s1 z1 q1 + deq s2 z2 q2)

theorem add_close (a b a' b' d1 d2 : Rat) (h1 : |a - a'| ≤ d1) (h2 : |b - b'| ≤ d2) :
    |a' + b' - (a + b)| ≤ d1 + d2 := by
  have e : a' + b' - (a + b) = -(a - a') + -(b - b') := by ring
  have := abs_add_le (-(a - a')) (-(b - b'))
  rw [e]; rw [abs_neg, abs_neg] at this; linarith

def maxAbs : List Rat → Rat
  | [] => 0
  | x :: xs => max |x| (maxAbs xs)

theorem maxAbs_nonneg : ∀ xs : List Rat, 0 ≤ maxAbs xs
  | [] => le_refl _
  | x :: _ => le_trans (abs_nonneg x) (le_max_left _ _)

theorem le_maxAbs : ∀ (xs : List Rat) (t : Rat), t ∈ xs → |t| ≤ maxAbs xs
  | [], _, h => by cases h
  | x :: xs, t, h => by
    rcases List.mem_cons.mp h with rfl | h
    · exact le_max_left _ _
    · exact le_trans (le_maxAbs xs t h) (le_max_right _ _)

def absSum : List Rat → Rat
  | [] => 0
  | w :: ws => |w| + absSum ws

theorem absSum_nonneg : ∀ ws : List Rat, 0 ≤ absSum ws
  | [] => le_refl _
  | w :: ws => add_nonneg (abs_nonneg w) (absSum_nonneg ws)

def l1 : List Int → Rat
  | [] => 0
  | q :: qs => |(q : Rat)| + l1 qs

theorem l1_nonneg : ∀ qs : List Int, 0 ≤ l1 qs
  | [] => le_refl _
  | _ :: qs => add_nonneg (abs_nonneg _) (l1_nonneg qs)

def deqW (sw : Rat) (qw : List Int) : List Rat := qw.map fun (q : Int) => sw * (q : Rat)

theorem absSum_deqW (sw : Rat) : ∀ qw : List Int, absSum (deqW sw qw) = |sw| * l1 qw
  | [] => by simp [deqW, absSum, l1]
  | q :: qs => by
    have ih := absSum_deqW sw qs
    simp only [deqW, List.map_cons, absSum, l1] at ih ⊢
    rw [ih, abs_mul]; ring

def idot : List Int → List Int → Int
  | a :: as, b :: bs => a * b + idot as bs
  | _, _ => 0

/-- the runtime's activation scale of one batch row -/
def drqScale (x : List Rat) : Rat := maxAbs x / 127

/-- the runtime's activation code -/
def drqCode (r : Rat → Int) (sx t : Rat) : Int := clipI (r (t / sx)) (-127) 127

/-- hybrid kernel, one output row -/
def hybridRow (r : Rat → Int) (x : List Rat) (qw : List Int) (sw b : Rat) : Rat :=
  if maxAbs x = 0 then b
  else drqScale x * sw * ((idot (x.map (drqCode r (drqScale x))) qw : Int) : Rat) + b

/-- the reference of property C06: the float operator on the DEQUANTIZED weights -/
def refRow (x : List Rat) (qw : List Int) (sw b : Rat) : Rat := C07.dot x (deqW sw qw) + b

/-- the magnitude of one row in the tolerance of the C06 check (`harness/fam_numeric.py`, `compare_float_modes`):
    the reference run on `|inputs|` with `|constants|` -/
def absRow (x : List Rat) (qw : List Int) (sw b : Rat) : Rat :=
  C07.dot (x.map fun t => |t|) ((deqW sw qw).map fun t => |t|) + |b|

theorem idot_eq_acc : ∀ a b : List Int, idot a b = C07.acc 0 a b 0
  | [], _ => by simp [idot, C07.acc]
  | _ :: _, [] => by simp [idot, C07.acc]
  | a :: as, b :: bs => by simp only [idot, C07.acc, sub_zero, idot_eq_acc as bs]

theorem pertSum_exact_w (dx : Rat) (hdx : 0 ≤ dx) : ∀ x w : List Rat, pertSum dx 0 x w ≤ dx * absSum w
  | [], w => by simpa [pertSum] using mul_nonneg hdx (absSum_nonneg w)
  | _ :: _, [] => by simp [pertSum, absSum]
  | t :: ts, u :: us => by
    have := pertSum_exact_w dx hdx ts us
    simp only [pertSum, absSum]
    linarith

theorem drqCode_eq_requant (r : Rat → Int) (sx t : Rat) : drqCode r sx t = requant r sx 0 (-127) 127 t := by
  unfold drqCode requant; rw [Int.add_zero]

theorem drqCode_err (r : Rat → Int) (hr : IsRounding r) (sx : Rat) (hs : 0 < sx) (t : Rat)
    (ht : |t| ≤ 127 * sx) : |sx * ((drqCode r sx t : Int) : Rat) - t| ≤ sx / 2 := by
  obtain ⟨t1, t2⟩ := abs_le.mp ht
  have h := requant_error r hr sx hs 0 (-127) 127 (by decide) t t 0 (by simp)
    (by rw [deq_zero]; push_cast; linarith only [t1]) (by rw [deq_zero]; push_cast; linarith only [t2])
  rwa [← drqCode_eq_requant, deq_zero, add_zero] at h

/-- the bound for ANY activation scale that covers the activations: the hybrid row is the integer row
    (`deqDot_close`) with exact weights, no zero point and no bias code -/
theorem drq_core (r : Rat → Int) (hr : IsRounding r) (sx : Rat) (hs : 0 < sx) (sw : Rat)
    (x : List Rat) (qw : List Int) (hx : ∀ t ∈ x, |t| ≤ 127 * sx) :
    |sx * sw * ((idot (x.map (drqCode r sx)) qw : Int) : Rat) - C07.dot x (deqW sw qw)|
      ≤ sx / 2 * absSum (deqW sw qw) := by
  have fx : List.Forall₂ (fun t q => |t - deq sx 0 q| ≤ sx / 2) x (x.map (drqCode r sx)) :=
    List.forall₂_map_right_iff.2 (List.forall₂_same.2 fun t ht => by
      rw [deq_zero, abs_sub_comm]; exact drqCode_err r hr sx hs t (hx t ht))
  have fw : List.Forall₂ (fun t (q : Int) => |t - sw * (q : Rat)| ≤ 0) (deqW sw qw) qw :=
    List.forall₂_map_left_iff.2 (List.forall₂_same.2 fun q _ => by rw [sub_self, abs_zero])
  have h := deqDot_close sx sw 0 (sx / 2) 0 0 0 0 (by simp) x _ fx _ qw fw
  rw [← C07.accumulator_exact, ← idot_eq_acc, add_zero, add_zero] at h
  exact h.trans (pertSum_exact_w _ (by linarith only [hs]) _ _)

theorem dot_zero_of_maxAbs : ∀ (x ws : List Rat), maxAbs x = 0 → C07.dot x ws = 0
  | [], _, _ => by simp [C07.dot]
  | _ :: _, [], _ => by simp [C07.dot]
  | t :: ts, w :: ws, h => by
    have h1 : |t| ≤ 0 := h ▸ le_maxAbs (t :: ts) t (by simp)
    have h2 : maxAbs ts ≤ 0 := h ▸ (le_max_right |t| (maxAbs ts))
    have ht : t = 0 := abs_eq_zero.mp (le_antisymm h1 (abs_nonneg t))
    have := dot_zero_of_maxAbs ts ws (le_antisymm h2 (maxAbs_nonneg ts))
    simp [C07.dot, ht, this]

/-- the row bound for a weight scale of either sign -/
theorem drq_row_bound_abs (r : Rat → Int) (hr : IsRounding r) (x : List Rat) (qw : List Int) (sw b : Rat) :
    |hybridRow r x qw sw b - refRow x qw sw b| ≤ drqScale x / 2 * absSum (deqW sw qw) := by
  unfold hybridRow refRow
  by_cases h0 : maxAbs x = 0
  · rw [if_pos h0, dot_zero_of_maxAbs x _ h0]
    simp only [zero_add, sub_self, abs_zero]
    exact mul_nonneg (by unfold drqScale; rw [h0]; norm_num) (absSum_nonneg _)
  · rw [if_neg h0]
    have hpos : 0 < maxAbs x := lt_of_le_of_ne (maxAbs_nonneg x) (Ne.symm h0)
    have hs : 0 < drqScale x := by unfold drqScale; positivity
    have hcov : ∀ t ∈ x, |t| ≤ 127 * drqScale x := by
      intro t ht
      have := le_maxAbs x t ht
      unfold drqScale; linarith
    have := drq_core r hr (drqScale x) hs sw x qw hcov
    have e : drqScale x * sw * ((idot (x.map (drqCode r (drqScale x))) qw : Int) : Rat) + b
        - (C07.dot x (deqW sw qw) + b)
        = drqScale x * sw * ((idot (x.map (drqCode r (drqScale x))) qw : Int) : Rat)
          - C07.dot x (deqW sw qw) := by ring
    rw [e]; exact this

theorem drq_row_bound (r : Rat → Int) (hr : IsRounding r) (x : List Rat) (qw : List Int) (sw b : Rat)
    (hsw : 0 ≤ sw) :
    |hybridRow r x qw sw b - refRow x qw sw b| ≤ drqScale x / 2 * sw * l1 qw := by
  have := drq_row_bound_abs r hr x qw sw b
  rw [absSum_deqW, abs_of_nonneg hsw] at this
  linarith

theorem drq_row_bound_rel (r : Rat → Int) (hr : IsRounding r) (x : List Rat) (qw : List Int) (sw b : Rat) :
    |hybridRow r x qw sw b - refRow x qw sw b| ≤ maxAbs x / 254 * absSum (deqW sw qw) := by
  have := drq_row_bound_abs r hr x qw sw b
  have e : drqScale x / 2 = maxAbs x / 254 := by unfold drqScale; ring
  rwa [e] at this

theorem maxAbs_witness : maxAbs [127, 1/2] = 127 := by
  simp only [maxAbs]
  rw [abs_of_nonneg (by norm_num), abs_of_nonneg (by norm_num), max_eq_left (by norm_num)]

theorem drq_row_bound_attained (r : Rat → Int) (hr : IsRounding r) (sw b : Rat) (hsw : 0 ≤ sw) :
    |hybridRow r [127, 1/2] [0, 1] sw b - refRow [127, 1/2] [0, 1] sw b|
      = drqScale [127, 1/2] / 2 * sw * l1 [0, 1] := by
  have hs : drqScale [127, 1/2] = 1 := by unfold drqScale; rw [maxAbs_witness]; norm_num
  -- only the second activation (the tie) meets a non-zero weight code
  have hy : hybridRow r [127, 1/2] [0, 1] sw b = sw * ((clipI (r (1/2)) (-127) 127 : Int) : Rat) + b := by
    unfold hybridRow
    rw [if_neg (by rw [maxAbs_witness]; norm_num), hs]
    simp only [List.map_cons, List.map_nil, idot, drqCode, div_one]
    push_cast; ring
  have hf : refRow [127, 1/2] [0, 1] sw b = sw / 2 + b := by
    simp only [refRow, C07.dot, deqW, List.map_cons, List.map_nil]; push_cast; ring
  have hl : l1 [0, 1] = 1 := by norm_num [l1]
  rw [hy, hf, hs, hl]
  rcases round_half r hr with h | h <;> rw [h]
  · rw [show clipI 0 (-127) 127 = 0 by decide,
      show sw * ((0 : Int) : Rat) + b - (sw / 2 + b) = -(sw / 2) by push_cast; ring, abs_neg,
      abs_of_nonneg (by linarith)]
    ring
  · rw [show clipI 1 (-127) 127 = 1 by decide,
      show sw * ((1 : Int) : Rat) + b - (sw / 2 + b) = sw / 2 by push_cast; ring, abs_of_nonneg (by linarith)]
    ring

/-- one output channel of a hybrid fully-connected: the weight scale is per channel, the bias a float -/
structure Row where
  qw : List Int
  sw : Rat
  b : Rat

/-- the hybrid kernel on one batch row: ONE activation scale `drqScale x`, shared by all output channels -/
def hybridFC (r : Rat → Int) (x : List Rat) (rows : List Row) : List Rat :=
  rows.map fun ρ => hybridRow r x ρ.qw ρ.sw ρ.b

def refFC (x : List Rat) (rows : List Row) : List Rat := rows.map fun ρ => refRow x ρ.qw ρ.sw ρ.b

theorem hybridFC_length (r : Rat → Int) (x : List Rat) (rows : List Row) :
    (hybridFC r x rows).length = rows.length := by simp [hybridFC]

theorem refFC_length (x : List Rat) (rows : List Row) : (refFC x rows).length = rows.length := by simp [refFC]

theorem drq_fc_bound (r : Rat → Int) (hr : IsRounding r) (x : List Rat) (rows : List Row)
    (hsw : ∀ ρ ∈ rows, 0 ≤ ρ.sw) (j : Nat) (hj : j < rows.length) :
    |(hybridFC r x rows)[j]'(by rw [hybridFC_length]; exact hj)
        - (refFC x rows)[j]'(by rw [refFC_length]; exact hj)|
      ≤ drqScale x / 2 * rows[j].sw * l1 rows[j].qw := by
  simp only [hybridFC, refFC, List.getElem_map]
  exact drq_row_bound r hr x _ _ _ (hsw _ (List.getElem_mem hj))

/-- a batch of activation rows: each batch row gets its own activation scale -/
def hybridFCBatch (r : Rat → Int) (xs : List (List Rat)) (rows : List Row) : List (List Rat) :=
  xs.map fun x => hybridFC r x rows

def refFCBatch (xs : List (List Rat)) (rows : List Row) : List (List Rat) := xs.map fun x => refFC x rows

end KernelSpec
