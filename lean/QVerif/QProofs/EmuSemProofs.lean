import QModel.EmuSem
import Mathlib.Tactic.Ring
import Mathlib.Tactic.Linarith
/-!
# What the EMULATED_SUBCHANNEL operator pattern computes (lemmas of C06c)
Every operator of `QModel/EmuSem.lean` is `if <shapes fit> then some X else none` with `X` tabulated row-major, so each gets one
`_spec` lemma over the index bookkeeping of `flat4` / `tab4`; the pattern is then a computation with finite sums. -/

namespace EmuSemProofs
open EmuSem

theorem sumN_congr {n : Nat} {f g : Nat → Rat} (h : ∀ i, i < n → f i = g i) : sumN n f = sumN n g := by
  induction n with
  | zero => rfl
  | succ n ih =>
    simp only [sumN]
    rw [ih (fun i hi => h i (Nat.lt_succ_of_lt hi)), h n (Nat.lt_succ_self n)]

theorem sumN_mul_right (n : Nat) (f : Nat → Rat) (s : Rat) : sumN n f * s = sumN n (fun i => f i * s) := by
  induction n with
  | zero => simp [sumN]
  | succ n ih => simp only [sumN]; rw [← ih]; ring

theorem sumN_add_index (m n : Nat) (f : Nat → Rat) :
    sumN (m + n) f = sumN m f + sumN n (fun i => f (m + i)) := by
  induction n with
  | zero => simp [sumN]
  | succ n ih => rw [← Nat.add_assoc]; simp only [sumN]; rw [ih]; ring

theorem sumN_prod (b s : Nat) (f : Nat → Rat) :
    sumN (b * s) f = sumN b fun j => sumN s fun k => f (j * s + k) := by
  induction b with
  | zero => simp [sumN]
  | succ b ih => rw [Nat.succ_mul, sumN_add_index, ih]; simp only [sumN]

theorem sumN_sub (n : Nat) (f g : Nat → Rat) : sumN n f - sumN n g = sumN n (fun i => f i - g i) := by
  induction n with
  | zero => simp [sumN]
  | succ n ih => simp only [sumN]; rw [← ih]; ring

theorem abs_sumN_le (n : Nat) (f : Nat → Rat) : |sumN n f| ≤ sumN n (fun i => |f i|) := by
  induction n with
  | zero => simp [sumN]
  | succ n ih => simp only [sumN]; exact le_trans (abs_add_le _ _) (by linarith)

theorem sumN_le_sumN {n : Nat} {f g : Nat → Rat} (h : ∀ i, i < n → f i ≤ g i) : sumN n f ≤ sumN n g := by
  induction n with
  | zero => simp [sumN]
  | succ n ih =>
    simp only [sumN]
    have h1 := ih (fun i hi => h i (Nat.lt_succ_of_lt hi))
    have h2 := h n (Nat.lt_succ_self n)
    linarith

theorem mul_add_lt {a m r d : Nat} (ha : a < m) (hr : r < d) : a * d + r < m * d := by
  have h1 : (a + 1) * d ≤ m * d := Nat.mul_le_mul_right d ha
  have h2 : (a + 1) * d = a * d + d := by ring
  omega

theorem mul_add_div {a r d : Nat} (hr : r < d) : (a * d + r) / d = a := by
  rw [Nat.add_comm, Nat.add_mul_div_right _ _ (by omega), Nat.div_eq_of_lt hr, Nat.zero_add]

theorem mul_add_mod {a r d : Nat} (hr : r < d) : (a * d + r) % d = r := by
  rw [Nat.add_comm, Nat.add_mul_mod_self_right, Nat.mod_eq_of_lt hr]

theorem flat4_lt {d0 d1 d2 d3 i0 i1 i2 i3 : Nat} (h0 : i0 < d0) (h1 : i1 < d1) (h2 : i2 < d2) (h3 : i3 < d3) :
    flat4 d1 d2 d3 i0 i1 i2 i3 < d0 * d1 * d2 * d3 :=
  mul_add_lt (mul_add_lt (mul_add_lt h0 h1) h2) h3

theorem flat4_c3 {d1 d2 d3 i0 i1 i2 i3 : Nat} (h3 : i3 < d3) : flat4 d1 d2 d3 i0 i1 i2 i3 % d3 = i3 :=
  mul_add_mod h3

theorem flat4_c2 {d1 d2 d3 i0 i1 i2 i3 : Nat} (h2 : i2 < d2) (h3 : i3 < d3) :
    flat4 d1 d2 d3 i0 i1 i2 i3 / d3 % d2 = i2 := by
  unfold flat4; rw [mul_add_div h3, mul_add_mod h2]

theorem flat4_c1 {d1 d2 d3 i0 i1 i2 i3 : Nat} (h1 : i1 < d1) (h2 : i2 < d2) (h3 : i3 < d3) :
    flat4 d1 d2 d3 i0 i1 i2 i3 / (d2 * d3) % d1 = i1 := by
  unfold flat4
  rw [Nat.mul_comm d2 d3, ← Nat.div_div_eq_div_mul, mul_add_div h3, mul_add_div h2, mul_add_mod h1]

theorem flat4_c0 {d1 d2 d3 i0 i1 i2 i3 : Nat} (h1 : i1 < d1) (h2 : i2 < d2) (h3 : i3 < d3) :
    flat4 d1 d2 d3 i0 i1 i2 i3 / (d1 * d2 * d3) = i0 := by
  unfold flat4
  have e : d1 * d2 * d3 = d3 * d2 * d1 := by ring
  rw [e, ← Nat.div_div_eq_div_mul, ← Nat.div_div_eq_div_mul, mul_add_div h3, mul_add_div h2, mul_add_div h1]

theorem bi_of_lt {e i : Nat} (h : i < e) : bi e i = i := by
  unfold bi; split
  · omega
  · rfl

theorem bi_one (i : Nat) : bi 1 i = 0 := by simp [bi]

theorem get_mk (s : List Nat) (d : List Rat) (i : Nat) : get ⟨s, d⟩ i = d.getD i 0 := rfl

theorem tab_length (n : Nat) (f : Nat → Rat) : (tab n f).length = n := by simp [tab]

theorem tab_getD {n : Nat} (f : Nat → Rat) {i : Nat} (h : i < n) : (tab n f).getD i 0 = f i := by
  simp [tab, List.getD_eq_getElem?_getD, h]

theorem tab4_length (d0 d1 d2 d3 : Nat) (f : Nat → Nat → Nat → Nat → Rat) :
    (tab4 d0 d1 d2 d3 f).length = d0 * d1 * d2 * d3 := tab_length _ _

theorem tab2_length (d0 d1 : Nat) (f : Nat → Nat → Rat) : (tab2 d0 d1 f).length = d0 * d1 := tab_length _ _

theorem tab4_getD {d0 d1 d2 d3 : Nat} (f : Nat → Nat → Nat → Nat → Rat) {i0 i1 i2 i3 : Nat}
    (h0 : i0 < d0) (h1 : i1 < d1) (h2 : i2 < d2) (h3 : i3 < d3) :
    (tab4 d0 d1 d2 d3 f).getD (flat4 d1 d2 d3 i0 i1 i2 i3) 0 = f i0 i1 i2 i3 := by
  unfold tab4
  rw [tab_getD _ (flat4_lt h0 h1 h2 h3), flat4_c0 h1 h2 h3, flat4_c1 h1 h2 h3, flat4_c2 h2 h3, flat4_c3 h3]

theorem tab2_getD {d0 d1 : Nat} (f : Nat → Nat → Rat) {i j : Nat} (hi : i < d0) (hj : j < d1) :
    (tab2 d0 d1 f).getD (i * d1 + j) 0 = f i j := by
  unfold tab2
  rw [tab_getD _ (mul_add_lt hi hj), mul_add_div hj, mul_add_mod hj]

theorem ext2 {a b : T} {n c : Nat} (hs : a.shape = b.shape) (ha : a.data.length = n * c)
    (hb : b.data.length = n * c) (h : ∀ i j, i < n → j < c → get a (i * c + j) = get b (i * c + j)) : a = b := by
  cases a with | mk sa da => cases b with | mk sb db =>
  subst hs
  congr 1
  apply List.ext_getElem (by rw [ha, hb])
  intro t h1 h2
  have ht : t < n * c := ha ▸ h1
  have hc : 0 < c := by
    rcases Nat.eq_zero_or_pos c with h0 | h0
    · subst h0; simp at ht
    · exact h0
  have hq : t / c < n := Nat.div_lt_of_lt_mul (by rwa [Nat.mul_comm] at ht)
  have := h (t / c) (t % c) hq (Nat.mod_lt _ hc)
  rw [Nat.div_add_mod' t c] at this
  rw [get_mk, get_mk, List.getD_eq_getElem?_getD, List.getD_eq_getElem?_getD, List.getElem?_eq_getElem h1,
    List.getElem?_eq_getElem h2] at this
  simpa using this

theorem numel2 (a b : Nat) : Nd.numel [a, b] = a * b := by simp [Nd.numel]
theorem numel3 (a b c : Nat) : Nd.numel [a, b, c] = a * b * c := by simp [Nd.numel]
theorem numel4 (a b c d : Nat) : Nd.numel [a, b, c, d] = a * b * c * d := by simp [Nd.numel]

/-- shape of the proofs below: the operator is `if <shapes fit> then some X else none` -/
theorem ite_some_spec {c : Prop} [Decidable c] {X : T} {P : T → Prop} (hc : c) (hP : P X) :
    ∃ t, (if c then some X else none) = some t ∧ P t := ⟨X, by simp [hc], hP⟩

theorem reshape_spec {a : T} {s : List Nat} (h : Nd.numel a.shape = Nd.numel s) :
    reshape a s = some ⟨s, a.data⟩ := by
  simp [reshape, h]

theorem batchMatMul_spec {a b : T} {n p m k c : Nat} (ha : a.shape = [n, p, m, k]) (hb : b.shape = [1, p, k, c]) :
    ∃ t, batchMatMul a b = some t ∧ t.shape = [n, p, m, c] ∧ t.data.length = n * p * m * c ∧
      ∀ i0 i1 i2 i3, i0 < n → i1 < p → i2 < m → i3 < c →
        get t (flat4 p m c i0 i1 i2 i3) =
          sumN k fun j => get a (flat4 p m k i0 i1 i2 j) * get b (flat4 p k c 0 i1 j i3) := by
  simp only [batchMatMul, ha, hb]
  refine ite_some_spec (by simp) ⟨rfl, by simp [tab4_length], ?_⟩
  intro i0 i1 i2 i3 h0 h1 h2 h3
  rw [get_mk, tab4_getD _ h0 h1 h2 h3]
  simp only [bi_one]

theorem mulBroadcast_spec {a b : T} {d0 d1 d2 d3 e0 e1 e2 e3 : Nat} (ha : a.shape = [d0, d1, d2, d3])
    (hb : b.shape = [e0, e1, e2, e3]) (h0 : e0 = 1 ∨ e0 = d0) (h1 : e1 = 1 ∨ e1 = d1) (h2 : e2 = 1 ∨ e2 = d2)
    (h3 : e3 = 1 ∨ e3 = d3) :
    ∃ t, mulBroadcast a b = some t ∧ t.shape = [d0, d1, d2, d3] ∧ t.data.length = d0 * d1 * d2 * d3 ∧
      ∀ i0 i1 i2 i3, i0 < d0 → i1 < d1 → i2 < d2 → i3 < d3 →
        get t (flat4 d1 d2 d3 i0 i1 i2 i3) =
          get a (flat4 d1 d2 d3 i0 i1 i2 i3) *
            get b (flat4 e1 e2 e3 (bi e0 i0) (bi e1 i1) (bi e2 i2) (bi e3 i3)) := by
  simp only [mulBroadcast, ha, hb]
  refine ite_some_spec ⟨h0, h1, h2, h3⟩ ⟨rfl, by simp [tab4_length], ?_⟩
  intro i0 i1 i2 i3 g0 g1 g2 g3
  rw [get_mk, tab4_getD _ g0 g1 g2 g3]

theorem sumAxis1_spec {a : T} {d0 d1 d2 d3 : Nat} (ha : a.shape = [d0, d1, d2, d3]) :
    ∃ t, sumAxis1KeepDims a = some t ∧ t.shape = [d0, 1, d2, d3] ∧ t.data.length = d0 * 1 * d2 * d3 ∧
      ∀ i0 i2 i3, i0 < d0 → i2 < d2 → i3 < d3 →
        get t (flat4 1 d2 d3 i0 0 i2 i3) = sumN d1 fun j => get a (flat4 d1 d2 d3 i0 j i2 i3) := by
  simp only [sumAxis1KeepDims, sumAxisKeepDims, ha]
  refine ite_some_spec (by decide) ⟨rfl, by simp [tab4_length, keep1], ?_⟩
  intro i0 i2 i3 g0 g2 g3
  show (tab4 d0 1 d2 d3 (fun i0 _ i2 i3 => sumN d1 fun j => get a (flat4 d1 d2 d3 i0 j i2 i3))).getD _ 0 = _
  rw [tab4_getD _ g0 Nat.one_pos g2 g3]

theorem addBias_spec {y b : T} {c : Nat} (hb : b.shape = [c]) (hy : y.shape.getLast? = some c) :
    ∃ t, addBias y b = some t ∧ t.shape = y.shape ∧ t.data.length = Nd.numel y.shape ∧
      ∀ i, i < Nd.numel y.shape → get t i = get y i + get b (i % c) := by
  simp only [addBias, hb]
  refine ite_some_spec hy ⟨rfl, tab_length _ _, ?_⟩
  intro i hi
  rw [get_mk, tab_getD _ hi]

theorem relu_shape (a : T) : (relu a).shape = a.shape := rfl
theorem relu_length (a : T) : (relu a).data.length = a.data.length := by simp [relu, Nd.Arr.map]

theorem relu_get (a : T) (i : Nat) : get (relu a) i = if get a i < 0 then 0 else get a i := by
  simp only [EmuSem.get, relu, Nd.Arr.map, List.getD_eq_getElem?_getD, List.getElem?_map]
  cases a.data[i]? <;> simp

theorem fullyConnected_spec {x w : T} {bias : Option T} {d0 d1 f c : Nat} (keep : Bool)
    (hx : x.shape = [d0, d1, f]) (hw : w.shape = [c, f]) (hb : biasOK bias c = true) :
    ∃ t, fullyConnected keep x w bias = some t ∧ t.shape = fcOutShape keep d0 d1 c ∧
      t.data.length = d0 * d1 * c ∧
      ∀ n j, n < d0 * d1 → j < c →
        get t (n * c + j) = sumN f (fun k => get x (n * f + k) * get w (j * f + k)) + biasAt bias j := by
  simp only [fullyConnected, hx, hw]
  refine ite_some_spec (by simp [hb]) ⟨rfl, by simp [tab2_length], ?_⟩
  intro n j hn hj
  rw [get_mk, tab2_getD _ hn hj]

theorem dequantBlock_spec {q scale : T} {b s c e : Nat} (hq : q.shape = [1, b, s, c])
    (hs : scale.shape = [1, e, 1, c]) (he : e = 1 ∨ e = b) :
    ∃ t, dequantBlock q scale = some t ∧ t.shape = [c, b * s] ∧ t.data.length = c * (b * s) ∧
      ∀ j i k, j < c → i < b → k < s →
        get t (j * (b * s) + (i * s + k)) =
          get q (flat4 b s c 0 i k j) * get scale (flat4 e 1 c 0 (bi e i) 0 j) := by
  simp only [dequantBlock, hq, hs]
  refine ite_some_spec (by simp [he]) ⟨rfl, by simp [tab2_length], ?_⟩
  intro j i k hj hi hk
  rw [get_mk, tab2_getD _ hj (mul_add_lt hi hk), mul_add_div hk, mul_add_mod hk]

theorem block_algebra (B S : Nat) (xv qv : Nat → Nat → Rat) (sv : Nat → Rat) (X W : Nat → Rat)
    (hX : ∀ b k, b < B → k < S → X (b * S + k) = xv b k)
    (hW : ∀ b k, b < B → k < S → W (b * S + k) = qv b k * sv b) :
    sumN B (fun b => sumN S (fun k => xv b k * qv b k) * sv b) = sumN (B * S) fun f => X f * W f := by
  rw [sumN_prod]
  apply sumN_congr; intro b hb
  rw [sumN_mul_right]
  apply sumN_congr; intro k hk
  rw [hX b k hb hk, hW b k hb hk]; ring

theorem get_data (s : List Nat) (a : T) (i : Nat) : get ⟨s, a.data⟩ i = get a i := rfl

theorem flat4_rows (B S n b k : Nat) : flat4 B 1 S n b 0 k = n * (B * S) + (b * S + k) := by
  simp only [flat4]; ring

theorem flat4_row (C n c : Nat) : flat4 1 1 C n 0 0 c = n * C + c := by
  simp only [flat4]; ring

/-- the pattern up to the SUM: every operator accepts its operands, the intermediate tensors have the shapes the
    transformation records for them, and element `[n][0][0][c]` of the sum is the block-wise scaled dot product -/
theorem pattern_core {x q scale : T} {d0 d1 B S C e : Nat} (hx : x.shape = [d0, d1, B * S])
    (hq : q.shape = [1, B, S, C]) (hs : scale.shape = [1, e, 1, C]) (he : e = 1 ∨ e = B) :
    ∃ t1 t2 t3 t4 : T,
      (reshape x [d0 * d1, B, 1, S] = some t1 ∧ t1.shape = [d0 * d1, B, 1, S] ∧
        batchMatMul t1 q = some t2 ∧ t2.shape = [d0 * d1, B, 1, C] ∧
        mulBroadcast t2 scale = some t3 ∧ t3.shape = [d0 * d1, B, 1, C] ∧
        sumAxis1KeepDims t3 = some t4 ∧ t4.shape = [d0 * d1, 1, 1, C]) ∧
      t4.data.length = d0 * d1 * C ∧
      ∀ n c, n < d0 * d1 → c < C →
        get t4 (n * C + c) =
          sumN B fun b => (sumN S fun k => get x (n * (B * S) + (b * S + k)) * get q (flat4 B S C 0 b k c)) *
            get scale (flat4 e 1 C 0 (bi e b) 0 c) := by
  have h1 := reshape_spec (a := x) (s := [d0 * d1, B, 1, S]) (by rw [hx, numel3, numel4]; ring)
  obtain ⟨t2, e2, sh2, _, g2⟩ := batchMatMul_spec (a := ⟨[d0 * d1, B, 1, S], x.data⟩) (b := q) rfl hq
  obtain ⟨t3, e3, sh3, _, g3⟩ := mulBroadcast_spec (a := t2) (b := scale) sh2 hs (Or.inl rfl) he (Or.inl rfl)
    (Or.inr rfl)
  obtain ⟨t4, e4, sh4, l4, g4⟩ := sumAxis1_spec (a := t3) sh3
  refine ⟨_, t2, t3, t4, ⟨h1, rfl, e2, sh2, e3, sh3, e4, sh4⟩, by rw [l4]; ring, fun n c hn hc => ?_⟩
  have h := g4 n 0 c hn Nat.one_pos hc
  rw [flat4_row] at h
  rw [h]
  apply sumN_congr; intro b hb
  rw [g3 n b 0 c hn hb Nat.one_pos hc, g2 n b 0 c hn hb Nat.one_pos hc]
  simp only [bi_one, bi_of_lt hc, get_data, flat4_rows]

end EmuSemProofs
