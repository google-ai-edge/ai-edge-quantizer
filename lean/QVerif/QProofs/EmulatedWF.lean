import QProofs.EmulatedInv
/-!
# `Emulated.apply` on a well-formed model: explicit shape of the result (`Applied`) and well-formedness
-/
open Graph Perform Emulated GraphStep EmuSpec EmuInv

namespace EmuWF

structure EmuOK (m : Model) (sg : Subgraph) (inp : TIn) : Prop where
  /-- the weight tensor exists (`0 ≤ tensor_id < len(tensors)`) -/
  tvalid : WF.validT sg inp.tensor = true
  /-- … and holds constant data -/
  wconst : isConst m sg inp.tensor = true
  /-- the operator to be replaced has exactly one result, and it is a real tensor -/
  single : ∀ (k : Nat) (fc : Op), inp.consumers = [(k : Int)] → sg.ops[k]? = some fc →
    ∃ y, fc.outputs = [y] ∧ y ≠ -1

theorem codes4 (codes : List Nat) (a b c d : Nat) :
    (∃ ext, (addOpCode (addOpCode (addOpCode (addOpCode codes a).1 b).1 c).1 d).1 = codes ++ ext) ∧
    (addOpCode codes a).2 < (addOpCode (addOpCode (addOpCode (addOpCode codes a).1 b).1 c).1 d).1.length ∧
    (addOpCode (addOpCode codes a).1 b).2 < (addOpCode (addOpCode (addOpCode (addOpCode codes a).1 b).1 c).1 d).1.length ∧
    (addOpCode (addOpCode (addOpCode codes a).1 b).1 c).2 <
      (addOpCode (addOpCode (addOpCode (addOpCode codes a).1 b).1 c).1 d).1.length ∧
    (addOpCode (addOpCode (addOpCode (addOpCode codes a).1 b).1 c).1 d).2 <
      (addOpCode (addOpCode (addOpCode (addOpCode codes a).1 b).1 c).1 d).1.length := by
  have a1 := GraphBasics.addOpCode_lt codes a
  have b1 := GraphBasics.addOpCode_lt (addOpCode codes a).1 b
  have b2 := GraphBasics.addOpCode_le (addOpCode codes a).1 b
  have c1 := GraphBasics.addOpCode_lt (addOpCode (addOpCode codes a).1 b).1 c
  have c2 := GraphBasics.addOpCode_le (addOpCode (addOpCode codes a).1 b).1 c
  have d1 := GraphBasics.addOpCode_lt (addOpCode (addOpCode (addOpCode codes a).1 b).1 c).1 d
  have d2 := GraphBasics.addOpCode_le (addOpCode (addOpCode (addOpCode codes a).1 b).1 c).1 d
  obtain ⟨e1, he1⟩ := (GraphBasics.addOpCode_spec codes a).2
  obtain ⟨e2, he2⟩ := (GraphBasics.addOpCode_spec (addOpCode codes a).1 b).2
  obtain ⟨e3, he3⟩ := (GraphBasics.addOpCode_spec (addOpCode (addOpCode codes a).1 b).1 c).2
  obtain ⟨e4, he4⟩ := (GraphBasics.addOpCode_spec (addOpCode (addOpCode (addOpCode codes a).1 b).1 c).1 d).2
  refine ⟨⟨e1 ++ e2 ++ e3 ++ e4, ?_⟩, by omega, by omega, by omega, d1⟩
  rw [he4, he3, he2, he1]; simp

theorem plan_ok (pt : PTable) (env : EmuEnv) (m : Model) (sg : Subgraph) (inp : TIn) (pl : Plan)
    (hok : SgOK m sg) (hinp : EmuOK m sg inp) (h : plan pt env m sg inp = .ok pl) :
    ∃ (pre post : List Op) (fc : Op) (y : Int) (wT : Tensor) (p : PId),
      sg.ops = pre ++ fc :: post ∧ inp.consumers = [(pre.length : Int)] ∧ fc.outputs = [y] ∧ y ≠ -1 ∧
      sg.tensors[inp.tensor.toNat]? = some wT ∧
      pl.bufs = m.buffers.set wT.buffer (some (.inr p)) ++ [some (.inr p), some (.inl env.axesTok)] ∧
      (∃ ext, pl.codes = m.opcodes ++ ext) ∧
      PlanOK pl sg m.buffers.length pre post fc y ∧ ValidT sg y ∧
      ∃ ty, sg.tensors.set inp.tensor.toNat { wT with dtype := ty, shape := env.qshape, quant := some env.unitQ } <+: pl.sg.tensors ∧
        pl.io.outPos = y.toNat ∧ pl.sg.tensors[y.toNat]? = some pl.io.outT := by
  obtain ⟨hd, wr, hhd, hwr, hio, hsg2, hbufs, hk, hsc, hax, hcodes, c1, c2, c3, c4⟩ :=
    plan_spec pt env m sg inp pl h
  obtain ⟨hcons, hfc⟩ := head_spec pt m sg inp hd hhd
  have hv := (validT_iff _ _).1 hinp.tvalid
  obtain ⟨ty, hw, hwbufs, hwsg⟩ := weight_spec env m sg inp hd.par wr hv.1 hwr
  obtain ⟨⟨rest, hfin⟩, ⟨rest', hfout⟩, ⟨inT, hinT, hrank⟩, houtT, hpos⟩ := io_spec env hd.fc (sg2 env wr) pl.io hio
  obtain ⟨y, hy1, hy2⟩ := hinp.single hd.k hd.fc hcons hfc
  obtain ⟨pre, post, hsplit, hlen⟩ := split_at sg.ops hd.k hd.fc hfc
  have houtId : pl.io.outId = y := by
    rw [hy1] at hfout
    cases hfout
    rfl
  have hcs := codes4 m.opcodes opReshape opBatchMatmul opMul opSum
  rw [← hcodes, ← c1, ← c2, ← c3, ← c4] at hcs
  obtain ⟨hcext, hc1, hc2, hc3, hc4⟩ := hcs
  have hnames : wr.sg.tensors.map (·.name) = sg.tensors.map (·.name) := by
    rw [hwsg]; exact map_set_same _ _ _ _ _ hw rfl
  have hbuffers : wr.sg.tensors.map (·.buffer) = sg.tensors.map (·.buffer) := by
    rw [hwsg]; exact map_set_same _ _ _ _ _ hw rfl
  have hwlen : wr.sg.tensors.length = sg.tensors.length := by rw [hwsg]; simp
  have hblen : wr.bufs.length = m.buffers.length := by rw [hwbufs]; simp
  have hyv : ValidT sg y := (((hok.ops hd.k hd.fc hfc).outs y (by rw [hy1]; simp)).resolve_left hy2).1
  refine ⟨pre, post, hd.fc, y, wr.w, wr.p, hsplit, by rw [hlen]; exact hcons, hy1, hy2, hw,
    by rw [hbufs, hwbufs], hcext, ?_, hyv, ty, ?_, ?_, ?_⟩
  refine ⟨?_, hk.trans hlen.symm, ?_, ?_, ?_, ?_, ?_, ?_, ?_, houtId, ⟨?_, ?_⟩, hc1, hc2, hc3, hc4⟩
  · rw [hsg2]; simp only [sg2, addConst_ops]; rw [hwsg]; exact hsplit
  · rw [hsg2]; simp only [sg2, addConst_inputs]; rw [hwsg]
  · rw [hsg2]; simp only [sg2, addConst_outputs]; rw [hwsg]
  · rw [hsg2]; simp only [sg2, addConst_buffers, addConst_bufs, hbuffers]
    simp [hblen]
  · rw [hsg2]; simp only [sg2]
    exact addConst_nodup _ _ _ _ _ _ (addConst_nodup _ _ _ _ _ _ (by rw [hnames]; exact hok.names))
  · rw [hbufs]; simp [hblen]
  · rw [hsc, hwlen]
  · rw [hax, hwlen]; simp
  · rw [hfin]; simp
  · -- a data operand `-1` would make Python read the tensor added last (`_reduce_axes`, rank 1)
    intro hneg
    rw [hneg] at hinT
    have hT : (sg2 env wr).tensors =
        (addConst wr.bufs wr.sg (wr.w.name ++ "_scale") env.scaleShape Tables.ttFloat32 (.inr wr.p)).2.1.tensors ++
          [{ name := uniqueName ((addConst wr.bufs wr.sg (wr.w.name ++ "_scale") env.scaleShape Tables.ttFloat32
                (.inr wr.p)).2.1.tensors.map (·.name)) (wr.w.name ++ "_reduce_axes"),
             dtype := Tables.ttInt32, shape := [1],
             buffer := (addConst wr.bufs wr.sg (wr.w.name ++ "_scale") env.scaleShape Tables.ttFloat32
                (.inr wr.p)).1.length }] := rfl
    unfold getTensor at hinT
    rw [hT, index_last] at hinT
    cases hinT
    simp at hrank
  · rw [hsg2, sg2, show sg.tensors.set _ _ = wr.sg.tensors by rw [hwsg]]
    exact (addConst_prefix ..).trans (addConst_prefix ..)
  · rw [hpos, houtId]
    simp [pos, show ¬ y < 0 from Int.not_lt.2 hyv.1]
  · rw [hsg2, ← houtId]
    exact (GraphBasics.getTensor_ok_iff (houtId ▸ hyv.1)).1 houtT

theorem bufs_facts (bufs : List BufContent) (wb : Nat) (v : Nat ⊕ PId) (a b c d : Nat ⊕ PId)
    (hw : constAt bufs wb = true) (hb0 : bufs[0]? = some none) :
    (∀ i, i < bufs.length → constAt (bufs.set wb (some v) ++ [some a, some b, some c, some d]) i = constAt bufs i) ∧
    (∀ i, i < 4 → constAt (bufs.set wb (some v) ++ [some a, some b, some c, some d]) (bufs.length + i) = true) ∧
    constAt (bufs.set wb (some v) ++ [some a, some b, some c, some d]) 0 = false ∧
    (bufs.set wb (some v) ++ [some a, some b, some c, some d])[0]? = some none ∧
    (bufs.set wb (some v) ++ [some a, some b, some c, some d]).length = bufs.length + 4 := by
  have hpos : 0 < bufs.length := (List.getElem?_eq_some_iff.1 hb0).1
  have h1 : ∀ i, i < bufs.length →
      constAt (bufs.set wb (some v) ++ [some a, some b, some c, some d]) i = constAt bufs i := by
    intro i hi
    have := constAt_set bufs wb i v hw
    unfold constAt at this ⊢
    rw [List.getElem?_append_left (by simpa using hi)]
    exact this
  have hc0 : constAt bufs 0 = false := by unfold constAt; rw [hb0]
  have hwb0 : wb ≠ 0 := by
    intro h0; rw [h0] at hw; rw [hw] at hc0; cases hc0
  refine ⟨h1, ?_, by rw [h1 0 hpos]; exact hc0, ?_, by simp⟩
  · intro i hi
    unfold constAt
    rw [List.getElem?_append_right (by simp)]
    simp only [List.length_set, Nat.add_sub_cancel_left]
    match i, hi with
    | 0, _ => rfl
    | 1, _ => rfl
    | 2, _ => rfl
    | 3, _ => rfl
  · rw [List.getElem?_append_left (by simpa using hpos), List.getElem?_set_ne hwb0]
    exact hb0

/-- the subgraph at the end of the tail is well-formed: `SgOK.replace` of `[fc]` by the chain, the constness of every tensor
    read off the appended buffer indices (`appended_tensors`) and the data/no-data pattern of the new buffer list -/
theorem _root_.EmuInv.Inv.sgOK {m m' : Model} {sg sg' : Subgraph} {pl : Plan} {pre post N : List Op} {fc : Op}
    {inp : TIn} {y : Int} {st : St} (h : Inv pl sg m.buffers.length pre post fc inp y st N)
    (hok : SgOK m sg) (hops : sg.ops = pre ++ fc :: post) (hy1 : fc.outputs = [y]) (hyv : ValidT sg y)
    (hv : ValidT sg inp.tensor) (hwc : isConst m sg inp.tensor = true)
    (hT : sg'.tensors = st.sg.tensors) (hops' : sg'.ops = pre ++ N ++ post)
    (hin : sg'.inputs = sg.inputs) (hout : sg'.outputs = sg.outputs)
    (hcodes : m'.opcodes = st.codes) (hmc : m.opcodes.length ≤ st.codes.length)
    (F1 : ∀ i, i < m.buffers.length → constAt m'.buffers i = constAt m.buffers i)
    (F2 : ∀ i, i < 4 → constAt m'.buffers (m.buffers.length + i) = true)
    (F3 : constAt m'.buffers 0 = false) (F4 : m'.buffers.length = m.buffers.length + 4) : SgOK m' sg' := by
  obtain ⟨j, hj, hb⟩ := h.tbuf
  rw [← hT, List.append_assoc] at hb
  obtain ⟨hlen, hbufr, hcold, hnew⟩ := appended_tensors hb hok.bufr (by omega) F1 (by
    intro b hb
    simp only [List.mem_append, List.mem_cons, List.not_mem_nil, or_false, List.mem_replicate] at hb
    omega)
  simp only [List.length_append, List.length_cons, List.length_nil, List.length_replicate] at hlen
  have hfc : sg.ops[pre.length]? = some fc := by rw [hops]; simp
  have hch : Chain (Avl fc inp sg.tensors.length) (sg.tensors.length + 4) sg'.tensors.length y N := hT ▸ h.chain
  refine hok.replace (old := [fc]) (by rw [hops]; simp) hops'
    (hch.segOK hy1 hyv (by omega) (by omega) (hcodes ▸ h.codes) ?_ ?_) rfl
    (fun _ _ _ h h' => Option.some.inj (h.symm.trans h') ▸ Rw.refl _ _) hin (fun t ht => .inl (hout ▸ ht))
    (by omega) (hT ▸ h.nodup) hbufr hcold (hcodes ▸ hmc)
  · rintro t (⟨h1, h2⟩ | rfl | ⟨i, hi, rfl⟩)
    · exact .inl (((hok.ops pre.length fc hfc).ins t h1).resolve_left h2)
    · exact .inl ⟨hv, .inr (.inl hwc)⟩
    · refine .inr ⟨⟨by omega, by omega⟩, ?_⟩
      rw [hnew i (m.buffers.length + i) (by match i, hi with | 0, _ | 1, _ | 2, _ | 3, _ => rfl)]
      exact F2 i hi
  · intro f hf1 hf2
    obtain ⟨e, rfl⟩ : ∃ e, f = sg.tensors.length + (4 + e) := ⟨f - sg.tensors.length - 4, by omega⟩
    rw [hnew (4 + e) 0 (by
      rw [List.getElem?_append_right (by simp), List.getElem?_replicate]
      simp; omega)]
    exact F3

/-- the explicit form of the result of `Emulated.apply`: in `sg.ops = pre ++ fc :: post` the operator `fc` is
    replaced by a non-empty list `N` whose last member produces `fc`'s result `y`; `sg'` is the new subgraph -/
structure Applied (env : EmuEnv) (m m' : Model) (sgi : Nat) (sg sg' : Subgraph) (inp : TIn) (info : TInfoOut)
    (pl : Plan) (pre post N : List Op) (fc : Op) (y : Int) (wT : Tensor) : Prop where
  ops : sg.ops = pre ++ fc :: post
  cons : inp.consumers = [(pre.length : Int)]
  out : fc.outputs = [y]
  yne : y ≠ -1
  weight : sg.tensors[inp.tensor.toNat]? = some wT
  sub : m'.subgraphs = m.subgraphs.set sgi sg'
  sigs : m'.sigs = m.sigs
  bufs : ∃ v bext, m'.buffers = m.buffers.set wT.buffer (some v) ++ bext
  codes : ∃ cext, m'.opcodes = m.opcodes ++ cext
  tensors : sg'.tensors = (reluStep pl (biasStep pl (core env inp pl).1)).sg.tensors
  nodupB : ((biasStep pl (core env inp pl).1).sg.tensors.map (·.name)).Nodup
  ops' : sg'.ops = pre ++ N ++ post
  inputs : sg'.inputs = sg.inputs
  outputs : sg'.outputs = sg.outputs
  opId : info.opId = (pre.length : Int)
  added : info.added + 1 = N.length
  outTensor : info.outTensor = y
  last : ∀ o : Op, N[N.length - 1]? = some o → o.outputs = [y]
  orig : ∀ o ∈ N, o.orig = none
  grow : sg.tensors.length + 8 ≤ sg'.tensors.length
  outId : pl.io.outId = y

theorem Applied.get {env : EmuEnv} {m m' : Model} {sgi : Nat} {sg sg' : Subgraph} {inp : TIn} {info : TInfoOut}
    {pl : Plan} {pre post N : List Op} {fc : Op} {y : Int} {wT : Tensor}
    (hr : Applied env m m' sgi sg sg' inp info pl pre post N fc y wT) (hsg : m.subgraphs[sgi]? = some sg) :
    m'.subgraphs[sgi]? = some sg' := by
  rw [hr.sub, List.getElem?_set_self (List.getElem?_eq_some_iff.1 hsg).1]

theorem apply_spec (pt : PTable) (env : EmuEnv) (m m' : Model) (sgi : Nat) (sg : Subgraph) (inp : TIn)
    (info : TInfoOut) (hsg : m.subgraphs[sgi]? = some sg) (hwf : WF.modelOK m = true) (hinp : EmuOK m sg inp)
    (h : Emulated.apply pt env m sgi inp = .ok (m', info)) :
    ∃ (pl : Plan) (pre post N : List Op) (fc : Op) (y : Int) (wT : Tensor) (sg' : Subgraph),
      plan pt env m sg inp = .ok pl ∧ Applied env m m' sgi sg sg' inp info pl pre post N fc y wT ∧
      WF.modelOK m' = true := by
  unfold Emulated.apply at h
  rw [hsg] at h
  simp only at h
  split at h
  · cases h
  rename_i pl hpl
  simp only [finish, Except.ok.injEq, Prod.mk.injEq] at h
  obtain ⟨hm', hinfo⟩ := h
  obtain ⟨hb0, hsgs, hsigs⟩ := (modelOK_iff m).1 hwf
  have hok : SgOK m sg := hsgs sg (List.mem_of_getElem? hsg)
  obtain ⟨pre, post, fc, y, wT, p, hsplit, hcons, hy1, hy2, hw, hbufs, ⟨cext0, hcext0⟩, hp, hyv, -⟩ :=
    plan_ok pt env m sg inp pl hok hinp hpl
  obtain ⟨N1, hinv1⟩ := bias_inv pl sg m.buffers.length pre post fc inp y _ _ hp.k hp.outId
    (core_inv env inp pl sg m.buffers.length pre post fc y hp)
  obtain ⟨N, hinv⟩ := relu_inv pl sg m.buffers.length pre post fc inp y _ _ hp.k hp.outId hinv1
  obtain ⟨st2, hst2⟩ : ∃ st2, st2 = reluStep pl (biasStep pl (core env inp pl).1) := ⟨_, rfl⟩
  rw [← hst2] at hinv hm' hinfo
  obtain ⟨cext1, hcext1⟩ := hinv.codesExt
  have hlen8 := hinv.tlen
  have hNpos : 0 < N.length := List.length_pos_iff.2 hinv.chain.ne
  rw [hinv.ops, hinv.added, hp.k, eraseIdx_mid, core_bufs, hbufs, List.append_assoc (m.buffers.set wT.buffer _)] at hm'
  subst hm' hinfo
  refine ⟨pl, pre, post, N, fc, y, wT, _, hpl,
    ⟨hsplit, hcons, hy1, hy2, hw, rfl, rfl, ⟨_, _, rfl⟩, ⟨cext0 ++ cext1, by show st2.codes = _; rw [hcext1, hcext0, List.append_assoc]⟩,
      by rw [hst2], hinv1.nodup, rfl, hinv.inputs, hinv.outputs, by rw [hp.k], by show st2.added - 1 + 1 = _; rw [hinv.added]; omega,
      hp.outId, hinv.chain.last, hinv.orig, hlen8, hp.outId⟩, ?_⟩
  have hv : ValidT sg inp.tensor := (validT_iff _ _).1 hinp.tvalid
  have hwc : constAt m.buffers wT.buffer = true := by
    rw [← isConst_of_get m sg inp.tensor wT hv.1 hw]; exact hinp.wconst
  obtain ⟨F1, F2, F3, F0, F4⟩ := bufs_facts m.buffers wT.buffer (.inr p) (.inr p) (.inl env.axesTok)
    (.inl env.shape1Tok) (.inl env.shape2Tok) hwc hb0
  rw [modelOK_iff]
  refine ⟨F0, fun x hx => ?_, fun s hs => sigOK_set m _ sgi sg _ s hsg rfl (by show _ ≤ st2.sg.tensors.length; omega)
    (hsigs s hs)⟩
  rcases List.mem_or_eq_of_mem_set hx with hx | rfl
  · exact (hsgs x hx).grow (Nat.le.intro F4.symm) F1
      (by show _ ≤ st2.codes.length; rw [hcext1, hcext0]; simp)
  exact hinv.sgOK hok hsplit hy1 hyv hv hinp.wconst rfl rfl hinv.inputs hinv.outputs rfl
    (by rw [hcext1, hcext0]; simp) F1 F2 F3 F4

end EmuWF
