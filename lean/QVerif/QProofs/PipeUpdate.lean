import QProofs.PipeDefs
/-!
# `updateResults` preserves the dictionary invariant `EntryOK`

One lemma per case of `mergeReq`: a new entry (`entry_new`), a producer side set (`entry_setProd`), a consumer entry
appended (`entry_addCons`); `stepF_inv` is the step.  The one idea is in `WkIn`: a consumer entry already in the
dictionary with the id of the operator being merged is either older, which `hfresh` excludes, or comes from this
operator's own list, and then `OpReqs.coherent` says the two agree (`EntryOK.coh`).
-/
open Graph Mat GenInstsOK

namespace Pipe

def WkIn (Wk : String → CO2T → Prop) (rs : List CReq) (n : String) (c : CO2T) : Prop :=
  Wk n c ∨ ∃ r0 ∈ rs, r0.name = n ∧ r0.consumers = some [c]

theorem entry_new (m : Model) (hnu : namesUnique m) (s : Nat) (sg : Subgraph)
    (hsg : m.subgraphs[s]? = some sg) (op : Op) (opId : Int) (rs : List CReq)
    (hrs : OpReqs m sg op opId rs)
    (hcons : ∀ i : Nat, (i : Int) ∈ op.inputs → ConsumedAt sg i opId)
    (hprod : ∀ i : Nat, (i : Int) ∈ op.outputs → ProducedAt sg i opId)
    (Wk : String → CO2T → Prop) (r : CReq) (hr : r ∈ rs) :
    EntryOK m (WkIn Wk rs) r.name r := by
  obtain ⟨i, t, ht, hname, hform⟩ := hrs.each r hr
  have hloc : Loc m r.name s sg i := ⟨hsg, t, ht, hname.symm⟩
  rcases hform with ⟨hp, c, hc, hcid, hin, hshape⟩ | ⟨hc, p, hp, hpid, hout, hshape⟩
  · refine ⟨rfl, ⟨s, sg, i, hloc⟩, ?_, ?_, ?_, ?_, ?_⟩
    · intro p hp'; rw [hp] at hp'; cases hp'
    · intro cs c' hcs hc' s' sg' i' hloc'
      obtain ⟨h1, h2, h3⟩ := loc_unique m hnu _ _ _ _ _ _ _ hloc hloc'
      subst h1; subst h2; subst h3
      rw [hc] at hcs; cases hcs
      rw [List.mem_singleton] at hc'; subst hc'
      exact ⟨hshape, by rw [hcid]; exact hcons i hin⟩
    · intro cs c' hcs hc'
      rw [hc] at hcs; cases hcs
      rw [List.mem_singleton] at hc'; subst hc'
      exact Or.inr ⟨r, hr, rfl, hc⟩
    · intro cs c1 c2 hcs h1 h2 _
      rw [hc] at hcs; cases hcs
      rw [List.mem_singleton] at h1 h2; subst h1; subst h2
      exact ⟨rfl, rfl⟩
    · exact Or.inr ⟨[c], c, hc, List.mem_singleton.2 rfl⟩
  · refine ⟨rfl, ⟨s, sg, i, hloc⟩, ?_, ?_, ?_, ?_, ?_⟩
    · intro p' hp' s' sg' i' hloc'
      obtain ⟨h1, h2, h3⟩ := loc_unique m hnu _ _ _ _ _ _ _ hloc hloc'
      subst h1; subst h2; subst h3
      rw [hp] at hp'; cases hp'
      exact ⟨hshape, by rw [hpid]; exact hprod i hout⟩
    · intro cs c' hcs; rw [hc] at hcs; cases hcs
    · intro cs c' hcs; rw [hc] at hcs; cases hcs
    · intro cs c1 c2 hcs; rw [hc] at hcs; cases hcs
    · left; rw [hp]; exact fun h => by cases h

theorem entry_setProd (m : Model) (W : String → CO2T → Prop) (n : String) (cur : CReq) (p : CO2T)
    (hcur : EntryOK m W n cur)
    (hp : ∀ s sg i, Loc m n s sg i → ProdShape m sg i p ∧ ProducedAt sg i p.opId) :
    EntryOK m W n { cur with producer := some p, consumers := cur.consumers } := by
  refine ⟨hcur.name, hcur.loc, ?_, hcur.cons, hcur.walked, hcur.coh, ?_⟩
  · intro p' hp' s sg i hloc
    simp only [Option.some.injEq] at hp'
    subst hp'
    exact hp s sg i hloc
  · left; simp

theorem entry_addCons (m : Model) (W : String → CO2T → Prop) (n : String) (cur : CReq) (c : CO2T)
    (hcur : EntryOK m W n cur)
    (hc : ∀ s sg i, Loc m n s sg i → ConsShape m sg i c ∧ ConsumedAt sg i c.opId)
    (hw : W n c)
    (hcoh : ∀ cs c1, cur.consumers = some cs → c1 ∈ cs → c1.opId = c.opId →
      c1.xfs = c.xfs ∧ c1.param = c.param) :
    EntryOK m W n { cur with consumers := some (cur.consumers.getD [] ++ [c]) } := by
  have old : ∀ c1 ∈ cur.consumers.getD [], ∃ cs, cur.consumers = some cs ∧ c1 ∈ cs := by
    intro c1 h1
    cases hcc : cur.consumers with
    | none => rw [hcc] at h1; cases h1
    | some cs => rw [hcc] at h1; exact ⟨cs, rfl, h1⟩
  have split : ∀ {cs : List CO2T} {c' : CO2T}, some (cur.consumers.getD [] ++ [c]) = some cs → c' ∈ cs →
      (∃ cs0, cur.consumers = some cs0 ∧ c' ∈ cs0) ∨ c' = c := by
    intro cs c' hcs hc'
    cases hcs
    exact (List.mem_append.1 hc').imp (old c') List.mem_singleton.1
  refine ⟨hcur.name, hcur.loc, hcur.prod, ?_, ?_, ?_, .inr ⟨_, c, rfl, List.mem_append_right _ List.mem_cons_self⟩⟩
  · intro cs c' hcs hc' s sg i hloc
    rcases split hcs hc' with ⟨cs0, h0, h1⟩ | rfl
    · exact hcur.cons cs0 c' h0 h1 s sg i hloc
    · exact hc s sg i hloc
  · intro cs c' hcs hc'
    rcases split hcs hc' with ⟨cs0, h0, h1⟩ | rfl
    · exact hcur.walked cs0 c' h0 h1
    · exact hw
  · intro cs c1 c2 hcs h1 h2 hid
    rcases split hcs h1 with ⟨cs1, e1, a1⟩ | rfl <;> rcases split hcs h2 with ⟨cs2, e2, a2⟩ | rfl
    · rw [e1] at e2; cases e2
      exact hcur.coh cs1 c1 c2 e1 a1 a2 hid
    · exact hcoh cs1 c1 e1 a1 hid
    · exact (hcoh cs2 c2 e2 a2 hid.symm).imp Eq.symm Eq.symm
    · exact ⟨rfl, rfl⟩

theorem stepF_inv (m : Model) (hnu : namesUnique m) (s : Nat) (sg : Subgraph)
    (hsg : m.subgraphs[s]? = some sg) (op : Op) (opId : Int) (rs : List CReq)
    (hrs : OpReqs m sg op opId rs)
    (hcons : ∀ i : Nat, (i : Int) ∈ op.inputs → ConsumedAt sg i opId)
    (hprod : ∀ i : Nat, (i : Int) ∈ op.outputs → ProducedAt sg i opId)
    (Wk : String → CO2T → Prop)
    (hfresh : ∀ r ∈ rs, ∀ c, Wk r.name c → c.opId ≠ opId)
    (r : CReq) (hr : r ∈ rs)
    (res res' : List (String × CReq)) (hres : ∀ e ∈ res, EntryOK m (WkIn Wk rs) e.1 e.2)
    (h : stepF res r = .ok res') :
    ∀ e ∈ res', EntryOK m (WkIn Wk rs) e.1 e.2 := by
  have hnew := entry_new m hnu s sg hsg op opId rs hrs hcons hprod Wk r hr
  rcases stepF_ok h with ⟨-, rfl⟩ | ⟨cur, hg, -, rfl⟩
  · intro e he
    rcases List.mem_append.1 he with he | he
    · exact hres e he
    · rw [List.mem_singleton.1 he]; exact hnew
  have hcur : EntryOK m (WkIn Wk rs) r.name cur := hres _ (Py.dictGet?_mem res r.name cur hg)
  suffices hs : EntryOK m (WkIn Wk rs) r.name (mergeReq cur r) by
    intro e he
    rcases Py.mem_dictSet res r.name _ e he with he | rfl
    · exact hres e he
    · exact hs
  obtain ⟨i, t, ht, hname, hform⟩ := hrs.each r hr
  rcases hform with ⟨hp, c, hc, hcid, hin, hshape⟩ | ⟨hc, p, hp, hpid, hout, hshape⟩
  · -- consumer form: the entry is appended; an old entry with the same id comes from this operator's list
    have hr' : r = sideReq r.name true c := by
      obtain ⟨n, p', cs⟩ := r
      cases hp; cases hc; rfl
    rw [hr', mergeReq_consumer, ← hr']
    exact entry_addCons m (WkIn Wk rs) r.name cur c hcur
      (fun s' sg' i' hloc' => hnew.cons [c] c hc List.mem_cons_self s' sg' i' hloc')
      (Or.inr ⟨r, hr, rfl, hc⟩)
      (fun cs c1 hcs h1 hid => by
        rcases hcur.walked cs c1 hcs h1 with hw | ⟨r0, hr0, hn0, hc0⟩
        · exact absurd (hid.trans hcid) (hfresh r hr c1 hw)
        · exact hrs.coherent r0 hr0 r hr hn0 c1 c hc0 hc)
  · -- producer form: `stepF` succeeded, so the entry had no producer yet
    have hr' : r = sideReq r.name false p := by
      obtain ⟨n, p', cs⟩ := r
      cases hp; cases hc; rfl
    rw [hr', mergeReq_producer, ← hr']
    exact entry_setProd m (WkIn Wk rs) r.name cur p hcur
      (fun s' sg' i' hloc' => hnew.prod p hp s' sg' i' hloc')

theorem updateResults_inv' (m : Model) (hnu : namesUnique m) (s : Nat) (sg : Subgraph)
    (hsg : m.subgraphs[s]? = some sg) (op : Op) (opId : Int) (rs : List CReq)
    (hrs : OpReqs m sg op opId rs)
    (hcons : ∀ i : Nat, (i : Int) ∈ op.inputs → ConsumedAt sg i opId)
    (hprod : ∀ i : Nat, (i : Int) ∈ op.outputs → ProducedAt sg i opId)
    (Wk : String → CO2T → Prop)
    (hfresh : ∀ r ∈ rs, ∀ c, Wk r.name c → c.opId ≠ opId)
    (res res' : List (String × CReq)) (hres : ∀ e ∈ res, EntryOK m Wk e.1 e.2)
    (h : updateResults res rs = .ok res') :
    ∀ e ∈ res', EntryOK m (WkIn Wk rs) e.1 e.2 := by
  rw [updateResults_eq] at h
  refine PyM.foldlM_inv stepF (fun d => ∀ e ∈ d, EntryOK m (WkIn Wk rs) e.1 e.2)
    rs res res' ?_ ?_ h
  · intro e he
    exact (hres e he).mono (fun c hc => Or.inl hc)
  · intro r hr d d' hd hstep
    exact stepF_inv m hnu s sg hsg op opId rs hrs hcons hprod Wk hfresh r hr d d' hd hstep

theorem updateResults_inv (m : Model) (hnu : namesUnique m) (s : Nat) (sg : Subgraph)
    (hsg : m.subgraphs[s]? = some sg) (op : Op) (opId : Int) (rs : List CReq)
    (hrs : OpReqs m sg op opId rs)
    (hcons : ∀ i : Nat, (i : Int) ∈ op.inputs → ConsumedAt sg i opId)
    (hprod : ∀ i : Nat, (i : Int) ∈ op.outputs → ProducedAt sg i opId)
    (Wk : String → CO2T → Prop)
    (hfresh : ∀ r ∈ rs, ∀ c, Wk r.name c → c.opId ≠ opId)
    (res res' : List (String × CReq)) (hres : ∀ e ∈ res, EntryOK m Wk e.1 e.2)
    (h : updateResults res rs = .ok res') :
    ∀ e ∈ res', EntryOK m (fun n c => Wk n c ∨ (c.opId = opId ∧ ∃ i, Loc m n s sg i)) e.1 e.2 := by
  have hfin := updateResults_inv' m hnu s sg hsg op opId rs hrs hcons hprod Wk hfresh res res' hres h
  intro e he
  refine (hfin e he).mono ?_
  rintro c (hw | ⟨r0, hr0, hn0, hc0⟩)
  · exact Or.inl hw
  · right
    obtain ⟨i, t, ht, hname, hform⟩ := hrs.each r0 hr0
    rcases hform with ⟨_, c', hc', hcid, _, _⟩ | ⟨hcn, _⟩
    · rw [hc0] at hc'
      simp only [Option.some.injEq, List.cons.injEq, and_true] at hc'
      subst hc'
      exact ⟨hcid, i, hsg, t, ht, hname.symm.trans hn0⟩
    · rw [hc0] at hcn; cases hcn

end Pipe
