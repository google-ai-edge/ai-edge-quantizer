import QProofs.LocalityGen
/-!
# C19 — what the materialisation of one operator reads and writes

It reads the environment only through the constant data and the `adj_y` flag of that operator (`EnvEq`, `materializeOp_env`), and it
reads and writes the statistics only at the names of the tensors of its own subgraph (`Replay`).
-/
open Graph Mat Cfg Pipe

namespace Locality

structure EnvEq (env env1 : Env) (oi oi1 : OpInfo) : Prop where
  bufs : env1.model.buffers = env.model.buffers
  consts : env1.consts = env.consts
  adj : opAdjY env1 oi1 = opAdjY env oi
  op : oi1.op = oi.op
  opName : oi1.opName = oi.opName
  opId : oi1.opId = oi.opId
  cfg : oi1.cfg = oi.cfg

variable {env env1 : Env} {oi oi1 : OpInfo}

theorem constData_env (h : EnvEq env env1 oi oi1) (t : Tensor) : constData env1 t = constData env t := by
  unfold constData
  rw [h.bufs, h.consts]

theorem initMinMax_env (h : EnvEq env env1 oi oi1) (t : Tensor) (d : Nd.Arr Rat) :
    initMinMax env1 oi1 t d = initMinMax env oi t d := by
  unfold initMinMax
  simp only [h.adj, h.opName, h.cfg]

theorem tensorQuantParams_env (h : EnvEq env env1 oi oi1) (mm : Qsv) (tc : TCfg) (c : Option (Nd.Arr Rat)) :
    tensorQuantParams env1 oi1 mm tc c = tensorQuantParams env oi mm tc c := by
  unfold tensorQuantParams
  simp only [h.adj, h.opName]

theorem mkReq_env (h : EnvEq env env1 oi oi1) (n : String) (b : Bool) (p : Option Param) (c : Bool) :
    mkReq n oi1 b p c = mkReq n oi b p c := by
  unfold mkReq
  simp only [h.cfg, h.opId]

theorem wrapper_env (h : EnvEq env env1 oi oi1) (qs : Qsvs) (t : Tensor) (b : Bool) (g : Option Param) :
    wrapper env1 qs oi1 t b g = wrapper env qs oi t b g := by
  unfold wrapper
  simp only [constData_env h, initMinMax_env h, tensorQuantParams_env h, mkReq_env h, h.opName, h.cfg]

theorem standardOp_env (h : EnvEq env env1 oi oi1) (sg : Subgraph) (qs : Qsvs) (con : Constraint)
    (gi go : List Nat) : standardOp env1 sg qs oi1 con gi go = standardOp env sg qs oi con gi go := by
  unfold standardOp
  simp only [wrapper_env h, h.op, h.opId]

theorem biasFor_env (h : EnvEq env env1 oi oi1) (sg : Subgraph) (reqs : List CReq) (a b c : Nat) :
    biasFor env1 sg oi1 reqs a b c = biasFor env sg oi reqs a b c := by
  unfold biasFor
  simp only [constData_env h, mkReq_env h, h.op, h.cfg]

theorem fixedRangeOp_env (h : EnvEq env env1 oi oi1) (sg : Subgraph) (qs : Qsvs) (b : Bool) :
    fixedRangeOp env1 sg qs oi1 b = fixedRangeOp env sg qs oi b := by
  unfold fixedRangeOp
  simp only [standardOp_env h, h.op, h.cfg]

theorem floatCastOp_env (h : EnvEq env env1 oi oi1) (sg : Subgraph) (a b c : Nat) :
    floatCastOp env1 sg oi1 a b c = floatCastOp env sg oi a b c := by
  unfold floatCastOp
  simp only [constData_env h, h.op, h.opId]

theorem materializeOp_env (h : EnvEq env env1 oi oi1) (sg : Subgraph) (qs : Qsvs) (alg fn : String) :
    materializeOp env1 sg qs oi1 alg fn = materializeOp env sg qs oi alg fn := by
  rw [MatTotal.materializeOp_kind, MatTotal.materializeOp_kind]
  cases MatTotal.kindOf alg fn <;>
    simp only [MatTotal.runKind, standardOp_env h, biasFor_env h, fixedRangeOp_env h, floatCastOp_env h]

/-!
`Replay N qs qs1 x y`: whenever `x` (on statistics `qs`) succeeds, `y` (on `qs1`) succeeds with the same
requests, and both statistics are updated by the same list of writes, all at names in `N`.
-/

def Agree (N : String → Bool) (qs qs1 : Qsvs) : Prop :=
  ∀ n, N n = true → Py.dictGet? qs n = Py.dictGet? qs1 n

def Replay (N : String → Bool) (qs qs1 : Qsvs) (x y : PyM (List CReq × Qsvs)) : Prop :=
  ∀ rs q, x = .ok (rs, q) →
    ∃ w, (∀ e ∈ w, N e.1 = true) ∧ q = applyW w qs ∧ y = .ok (rs, applyW w qs1)

theorem Agree.refl (N : String → Bool) (qs : Qsvs) : Agree N qs qs := fun _ _ => rfl

theorem applyW_nil (qs : Qsvs) : applyW [] qs = qs := rfl

theorem applyW_append (w w' : List (String × Qsv)) (qs : Qsvs) :
    applyW (w ++ w') qs = applyW w' (applyW w qs) := by
  unfold applyW
  rw [List.foldl_append]

theorem Agree.applyW {N : String → Bool} (w : List (String × Qsv)) : ∀ {qs qs1 : Qsvs}, Agree N qs qs1 →
    Agree N (applyW w qs) (applyW w qs1) := by
  induction w with
  | nil => intro qs qs1 h; exact h
  | cons e w ih =>
    intro qs qs1 h
    refine ih (qs := Py.dictSet qs e.1 e.2) (qs1 := Py.dictSet qs1 e.1 e.2) ?_
    intro n hn
    rw [Py.dictGet?_dictSet, Py.dictGet?_dictSet, h n hn]

theorem Replay.refl_pure {N : String → Bool} {qs qs1 : Qsvs} (x : PyM (List CReq)) :
    Replay N qs qs1 (x >>= fun r => pure (r, qs)) (x >>= fun r => pure (r, qs1)) := by
  intro rs q h
  obtain ⟨r, hr, h⟩ := PyM.bind_ok _ _ _ h
  simp only [pure, Except.pure, Except.ok.injEq, Prod.mk.injEq] at h
  obtain ⟨rfl, rfl⟩ := h
  exact ⟨[], by simp, rfl, by rw [hr]; rfl⟩

theorem split_oth_mem (sg : Subgraph) (slots : List Int) (ign : List Nat) (sel oth : List Tensor) (upd : List Nat)
    (h : splitTensors sg slots ign = .ok (sel, oth, upd)) : ∀ t ∈ oth, t ∈ sg.tensors := by
  intro t ht
  obtain ⟨p, _, _, hp⟩ := (splitTensors_spec sg slots ign sel oth upd h).oth_mem t ht
  exact Py.index_mem _ p.1 t hp

theorem wrapper_agree {N : String → Bool} {qs qs1 : Qsvs} (hag : Agree N qs qs1) (env : Env) (oi : OpInfo)
    (t : Tensor) (hn : N t.name = true) (b : Bool) (g : Option Param) :
    wrapper env qs1 oi t b g = wrapper env qs oi t b g := by
  unfold wrapper
  rw [hag t.name hn]

/-- `StdCore` reads the statistics at the names of its tensors only, and writes there only -/
theorem _root_.Pipe.StdCore.replay {N : String → Bool} {qs qs1 : Qsvs} (hag : Agree N qs qs1) {env : Env} {oi : OpInfo}
    {inT outT : List Tensor} {con : Constraint} {A B : List CReq} {g gO : Option Param} {qs' : Qsvs}
    (hin : ∀ t ∈ inT, N t.name = true) (hout : ∀ t ∈ outT, N t.name = true)
    (h : StdCore env qs oi inT outT con A B g gO qs') :
    ∃ w, (∀ e ∈ w, N e.1 = true) ∧ qs' = applyW w qs ∧
      StdCore env qs1 oi inT outT con A B g gO (applyW w qs1) := by
  have tr : ∀ {l : List Tensor} {b : Bool} {g : Option Param} {R : List CReq}, (∀ t ∈ l, N t.name = true) →
      List.Forall₂ (fun t r => wrapper env qs oi t b g = .ok r) l R →
      List.Forall₂ (fun t r => wrapper env qs1 oi t b g = .ok r) l R := by
    intro l b g R hl hF
    induction hF with
    | nil => exact .nil
    | cons h1 _ ih =>
      exact .cons ((wrapper_agree hag env oi _ (hl _ List.mem_cons_self) b g).trans h1)
        (ih fun t ht => hl t (List.mem_cons_of_mem _ ht))
  cases h with
  | empty con hi ho => exact ⟨[], nofun, rfl, .empty con hi ho⟩
  | none A B hA hB => exact ⟨[], nofun, rfl, .none A B (tr hin hA) (tr hout hB)⟩
  | sameAsInput t ir p0 iq B hT hir hp hB hiq =>
    have htN : N t.name = true := hin t (hT ▸ List.mem_cons_self)
    refine ⟨outT.map fun o => (o.name, iq), fun e he => ?_, (applyW_map iq outT qs).symm, ?_⟩
    · obtain ⟨o, ho, rfl⟩ := List.mem_map.1 he
      exact hout o ho
    · rw [applyW_map]
      refine .sameAsInput t ir p0 iq B hT ((wrapper_agree hag env oi t htN true none).trans hir) hp (tr hout hB) ?_
      rw [wrapper_name _ _ _ _ _ _ _ hir] at hiq ⊢
      exact (hag t.name htN).symm.trans hiq
  | sameAsOutput t orq A hT horq hA =>
    exact ⟨[], nofun, rfl, .sameAsOutput t orq A hT
      ((wrapper_agree hag env oi t (hout t (hT ▸ List.mem_cons_self)) false none).trans horq) (tr hin hA)⟩

theorem standardOp_replay {N : String → Bool} {qs qs1 : Qsvs} (hag : Agree N qs qs1) (env : Env) (sg : Subgraph)
    (hN : ∀ t ∈ sg.tensors, N t.name = true) (oi : OpInfo) (con : Constraint) (gIn gOut : List Nat) :
    Replay N qs qs1 (standardOp env sg qs oi con gIn gOut) (standardOp env sg qs1 oi con gIn gOut) := by
  intro rs q h
  obtain ⟨V, hV⟩ := standardOp_ok_iff.1 h
  obtain ⟨w, hw, hq, hc1⟩ := hV.core.replay hag (fun t ht => hN t (split_oth_mem _ _ _ _ _ _ hV.splitIn t ht))
    (fun t ht => hN t (split_oth_mem _ _ _ _ _ _ hV.splitOut t ht))
  exact ⟨w, hw, hq, standardOp_ok_iff.2 ⟨V, { hV with core := hc1 }⟩⟩

theorem nameIn_of_mem (sg : Subgraph) (t : Tensor) (h : t ∈ sg.tensors) : nameIn sg t.name = true := by
  unfold nameIn
  rw [List.any_eq_true]
  exact ⟨t, h, by simp⟩

theorem stdReqs_nameIn {env : Env} {sg : Subgraph} {qs : Qsvs} {oi : OpInfo} {con : Constraint} {rs : List CReq}
    (h : StdReqs env sg qs oi con rs) {r : CReq} (hr : r ∈ rs) : nameIn sg r.name = true := by
  obtain ⟨b, i, t, c, he, rfl⟩ := h.mem hr
  rw [sideReq_name]
  exact nameIn_of_mem sg t he.atIdx.atSlot.mem

theorem fixLast_replay {N : String → Bool} (oi : OpInfo) (b : Bool) (reqs : List CReq)
    (hreqs : ∀ r ∈ reqs, N r.name = true) (q q1 : Qsvs) (hag : Agree N q q1) (rs : List CReq) (q' : Qsvs)
    (h : fixLast oi b (reqs, q) = .ok (rs, q')) :
    ∃ w, (∀ e ∈ w, N e.1 = true) ∧ q' = applyW w q ∧ fixLast oi b (reqs, q1) = .ok (rs, applyW w q1) := by
  rcases fixLast_ok_iff.1 h with ⟨hc, rfl, rfl⟩ | ⟨last, pr, a, fp, mm, hlast, hpr, hact, hfp, hmm, hsome, rfl, rfl⟩
  · exact ⟨[], nofun, rfl, fixLast_ok_iff.2 (.inl ⟨hc, rfl, rfl⟩)⟩
  · have hN : N last.name = true := hreqs last (List.mem_of_getLast? hlast)
    exact ⟨[(last.name, some mm)], fun e he => List.mem_singleton.1 he ▸ hN, rfl,
      fixLast_ok_iff.2 (.inr ⟨last, pr, a, fp, mm, hlast, hpr, hact, hfp, hmm, hag last.name hN ▸ hsome, rfl, rfl⟩)⟩

theorem fixedRangeOp_replay {N : String → Bool} {qs qs1 : Qsvs} (hag : Agree N qs qs1) (env : Env) (sg : Subgraph)
    (hN' : ∀ n, nameIn sg n = true → N n = true) (oi : OpInfo) (b : Bool) :
    Replay N qs qs1 (fixedRangeOp env sg qs oi b) (fixedRangeOp env sg qs1 oi b) := by
  intro rs q h
  rw [fixedRangeOp_eq_fixLast] at h ⊢
  by_cases hc : oi.op.outputs.length ≠ 1
  · rw [if_pos hc] at h; cases h
  · rw [if_neg hc] at h ⊢
    obtain ⟨⟨reqs, q0⟩, hstd, h⟩ := PyM.bind_ok _ _ _ h
    obtain ⟨w, hw, rfl, hstd1⟩ := standardOp_replay hag env sg (fun t ht => hN' _ (nameIn_of_mem sg t ht)) oi .none [] [] reqs q0 hstd
    obtain ⟨w', hw', rfl, h1⟩ := fixLast_replay oi b reqs
      (fun r hr => hN' _ (stdReqs_nameIn (standardOp_stdReqs hstd) hr)) _ _
      (hag.applyW w) rs q h
    refine ⟨w ++ w', ?_, (applyW_append _ _ _).symm, ?_⟩
    · intro e he
      rcases List.mem_append.1 he with he | he
      · exact hw e he
      · exact hw' e he
    · rw [hstd1, applyW_append]
      exact h1

theorem Replay.error {N : String → Bool} {qs qs1 : Qsvs} (e : PyErr) (y : PyM (List CReq × Qsvs)) :
    Replay N qs qs1 (.error e) y := by
  intro rs q h; cases h

theorem Replay.bindF {N : String → Bool} {qs qs1 : Qsvs} {x y : PyM (List CReq × Qsvs)} (h : Replay N qs qs1 x y)
    (F : List CReq × Qsvs → PyM (List CReq × Qsvs)) (f : List CReq → PyM (List CReq))
    (hF : ∀ r q, F (r, q) = (f r >>= fun r' => pure (r', q))) :
    Replay N qs qs1 (x >>= F) (y >>= F) := by
  intro rs q hx
  obtain ⟨⟨r0, q0⟩, hx0, hx⟩ := PyM.bind_ok _ _ _ hx
  rw [hF] at hx
  obtain ⟨r, hr, hx⟩ := PyM.bind_ok _ _ _ hx
  simp only [pure, Except.pure, Except.ok.injEq, Prod.mk.injEq] at hx
  obtain ⟨rfl, rfl⟩ := hx
  obtain ⟨w, hw, hq, hy⟩ := h r0 q0 hx0
  refine ⟨w, hw, hq, ?_⟩
  rw [hy]
  show F (r0, applyW w qs1) = _
  rw [hF, hr]
  rfl

theorem Replay.bind {N : String → Bool} {qs qs1 : Qsvs} {x y : PyM (List CReq × Qsvs)} (h : Replay N qs qs1 x y)
    (f : List CReq → PyM (List CReq)) :
    Replay N qs qs1 (x >>= fun p => f p.1 >>= fun r => pure (r, p.2))
      (y >>= fun p => f p.1 >>= fun r => pure (r, p.2)) :=
  h.bindF _ f fun _ _ => rfl

theorem materializeOp_replay {qs qs1 : Qsvs} (env : Env) (sg : Subgraph) (hag : Agree (nameIn sg) qs qs1)
    (oi : OpInfo) (alg fn : String) :
    Replay (nameIn sg) qs qs1 (materializeOp env sg qs oi alg fn) (materializeOp env sg qs1 oi alg fn) := by
  have hN : ∀ t ∈ sg.tensors, nameIn sg t.name = true := nameIn_of_mem sg
  have std : ∀ con gi go, Replay (nameIn sg) qs qs1 (standardOp env sg qs oi con gi go)
      (standardOp env sg qs1 oi con gi go) := fun con gi go => standardOp_replay hag env sg hN oi con gi go
  rw [MatTotal.materializeOp_kind, MatTotal.materializeOp_kind]
  cases MatTotal.kindOf alg fn with
  | std con gi => exact std con gi []
  | conv => exact (std _ _ _).bindF _ (fun r => biasFor env sg oi r 0 1 2) (fun r q => rfl)
  | convT =>
    refine (std _ _ _).bindF _ (fun r => if r.length < 2 then throw .valueError else biasFor env sg oi r 2 1 3) ?_
    intro r q
    by_cases hl : r.length < 2
    · simp only [hl, if_true]; rfl
    · simp only [hl, if_false]
  | fixed sl => exact fixedRangeOp_replay hag env sg (fun _ h => h) oi sl
  | cast a b c => exact Replay.refl_pure _
  | unknown => exact Replay.error _ _

end Locality
