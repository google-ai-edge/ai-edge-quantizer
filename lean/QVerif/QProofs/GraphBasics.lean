import QModel.WF
import QProofs.PyLemmas
/-!
# The small helpers of the graph transformations: fresh names, opcode table, tensor access,
# insertion position
-/
open Graph Perform

namespace GraphBasics

theorem foldl_len_ge (names : List String) (a : Nat) :
    a ≤ names.foldl (fun a n => a + n.length) a ∧
    ∀ n ∈ names, a + n.length ≤ names.foldl (fun a n => a + n.length) a := by
  induction names generalizing a with
  | nil => simp
  | cons x xs ih =>
    simp only [List.foldl_cons, List.mem_cons, forall_eq_or_imp]
    obtain ⟨h1, h2⟩ := ih (a + x.length)
    exact ⟨by omega, h1, fun n hn => by have := h2 n hn; omega⟩

/-- the fall-back name is longer than every existing name -/
theorem longName_fresh (names : List String) (base : String) : longName names base ∉ names := by
  intro hmem
  have h := (foldl_len_ge names 0).2 _ hmem
  simp only [longName, String.length_append, String.length_ofList, List.length_replicate] at h
  omega

theorem uniqueNameAux_fresh (names : List String) (base : String) (fuel k : Nat) :
    uniqueNameAux names base fuel k ∉ names := by
  induction fuel generalizing k with
  | zero => exact longName_fresh names base
  | succ f ih =>
    unfold uniqueNameAux
    simp only
    split
    · exact ih _
    · rename_i h; simpa using h

theorem uniqueName_fresh (names : List String) (base : String) : uniqueName names base ∉ names := by
  unfold uniqueName
  split
  · exact uniqueNameAux_fresh _ _ _ _
  · rename_i h; simpa using h

theorem addOpCode_spec (codes : List Nat) (code : Nat) :
    (addOpCode codes code).1[(addOpCode codes code).2]? = some code ∧
    ∃ ext, (addOpCode codes code).1 = codes ++ ext := by
  unfold addOpCode
  cases h : codes.findIdx? (· == code) with
  | some i =>
    obtain ⟨hi, hp, _⟩ := List.findIdx?_eq_some_iff_getElem.mp h
    exact ⟨by rw [List.getElem?_eq_getElem hi, eq_of_beq hp], [], by simp⟩
  | none => exact ⟨by simp, [code], rfl⟩

theorem addOpCode_lt (codes : List Nat) (code : Nat) :
    (addOpCode codes code).2 < (addOpCode codes code).1.length :=
  (List.getElem?_eq_some_iff.1 (addOpCode_spec codes code).1).1

theorem addOpCode_le (codes : List Nat) (code : Nat) :
    codes.length ≤ (addOpCode codes code).1.length := by
  obtain ⟨ext, h⟩ := (addOpCode_spec codes code).2
  rw [h, List.length_append]; omega

theorem getTensor_ok_iff {sg : Subgraph} {t : Int} {tn : Tensor} (h0 : 0 ≤ t) :
    getTensor sg t = .ok tn ↔ sg.tensors[t.toNat]? = some tn :=
  Py.index_nonneg h0

theorem setTensor_nonneg (sg : Subgraph) {t : Int} (tn : Tensor) (h0 : 0 ≤ t) :
    setTensor sg t tn = { sg with tensors := sg.tensors.set t.toNat tn } := by
  simp only [setTensor, show ¬ t < 0 by omega, if_false]

theorem foldl_min_spec (xs : List Int) (x : Int) :
    (xs.foldl min x ≤ x ∧ ∀ y ∈ xs, xs.foldl min x ≤ y) ∧ (xs.foldl min x = x ∨ xs.foldl min x ∈ xs) := by
  induction xs generalizing x with
  | nil => simp
  | cons a as ih =>
    simp only [List.foldl_cons, List.mem_cons, forall_eq_or_imp]
    obtain ⟨⟨h1, h2⟩, h3⟩ := ih (min x a)
    refine ⟨⟨by omega, by omega, h2⟩, ?_⟩
    rcases h3 with h3 | h3
    · rw [h3]; omega
    · exact .inr (.inr h3)

theorem minCons_spec (l : List Int) (first : Int) (h : minCons l = .ok first) :
    first ∈ l ∧ ∀ y ∈ l, first ≤ y := by
  unfold minCons Py.minInt at h
  cases l with
  | nil => cases h
  | cons x xs =>
    cases h
    obtain ⟨⟨h1, h2⟩, h3⟩ := foldl_min_spec xs x
    exact ⟨List.mem_cons.2 (h3.imp_left id), List.forall_mem_cons.2 ⟨h1, h2⟩⟩

theorem pyInsert_eq {α} (l : List α) (i : Int) (x : α) (h0 : 0 ≤ i) (h1 : i.toNat ≤ l.length) :
    pyInsert l i x = l.insertIdx i.toNat x := by
  unfold pyInsert
  simp only [show ¬ i < 0 by omega, if_false]
  rw [Nat.min_eq_left h1]

end GraphBasics
