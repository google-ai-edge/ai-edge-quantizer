import QProps.C13
import QProps.C11
import QProofs.MatTotal
import QProofs.PipeMat
/-!
# What recipe resolution can select (C08): registered functions and legal configs

For a recipe state without `skip_checks` rules (every state built through the API by default, in particular
every shipped recipe) `Recipe.resolve` returns `no_quantize` or a rule that `Policy.accepts`; an accepted
(algorithm, operator) pair has a registered materialize function that the dispatch knows (`kindOf … ≠ unknown`),
and an accepted config is one of the runtime modes of `C13.modeOK` / `C13.accepted_float_casting`.
-/
open Cfg

set_option autoImplicit false

namespace MatTotal

/-- no rule of the recipe state opts out of the policy check -/
def NoSkip (st : Recipe.State) : Prop := ∀ e ∈ st, ∀ r ∈ e.2, r.cfg.skipChecks = false

instance (st : Recipe.State) : Decidable (NoSkip st) := by unfold NoSkip; infer_instance

theorem resolve_cases (rx : String → String → Bool) (st : Recipe.State) (k scope : String) :
    Recipe.resolve rx st k scope = (Tables.algNoQuantize, {}) ∨
    ∃ e ∈ st, ∃ r ∈ e.2, Recipe.resolve rx st k scope = (r.alg, r.cfg) ∧
      (r.operation = Tables.allOpsKey ∨ r.operation = k) ∧
      (r.alg = Tables.algNoQuantize ∨ Policy.accepts r.alg k r.cfg = true) :=
  (C11.resolve_cases rx st k scope).imp (·.2) fun ⟨r, hr, ha, h⟩ =>
    let ⟨e, he, _, hre⟩ := C11.mem_flat.1 hr
    ⟨e, he, r, hre, h, C11.applicable_iff.1 ha⟩

/-- the operators whose constant operand is quantized with the WEIGHT config -/
def weightOp (k : String) : Bool := Tables.woOps.contains k || Tables.drqOps.contains k

theorem registered_known {alg k fn : String} {ops : List (String × String)}
    (hr : Py.dictGet? Tables.registry alg = some ops) (hf : Py.dictGet? ops k = some fn) :
    (kindOf alg fn).isUnknown = false := by
  have hA := (Pipe.kindAlg_of_registry hr hf).2
  generalize kindOf alg fn = kd at hA
  cases kd with
  | unknown => exact hA.elim
  | _ => rfl

theorem pseudo_isStdNone {alg k fn : String} {ops : List (String × String)}
    (hr : Py.dictGet? Tables.registry alg = some ops) (hf : Py.dictGet? ops k = some fn)
    (hk : k = "INPUT" ∨ k = "OUTPUT") : (kindOf alg fn).isStdNone = true := by
  have hA := (Pipe.kindAlg_of_registry hr hf).2
  generalize kindOf alg fn = kd at hA
  cases kd with
  | std con g => obtain ⟨rfl, rfl⟩ := hA.2.1 hk; rfl
  | conv => obtain ⟨-, -, hin, hout⟩ := hA; exact (hk.elim hin hout).elim
  | convT => obtain ⟨-, -, hin, hout⟩ := hA; exact (hk.elim hin hout).elim
  | fixed sl => obtain ⟨-, -, -, hin, hout, -⟩ := hA; exact (hk.elim hin hout).elim
  | cast a b c => obtain ⟨-, hin, hout⟩ := hA; exact (hk.elim hin hout).elim
  | unknown => exact hA.elim

theorem registered_fn (alg k : String) (h : Policy.registered alg k = true) :
    ∃ ops fn, Py.dictGet? Tables.registry alg = some ops ∧ Py.dictGet? ops k = some fn ∧
      (kindOf alg fn).isUnknown = false := by
  unfold Policy.registered at h
  cases hr : Py.dictGet? Tables.registry alg with
  | none => rw [hr] at h; cases h
  | some ops =>
    rw [hr] at h
    obtain ⟨p, hp, hpk⟩ := List.any_eq_true.1 h
    have hk : p.1 = k := eq_of_beq hpk
    obtain ⟨fn, hf⟩ := Py.dictGet?_of_key ops k (hk ▸ List.mem_map_of_mem (f := (·.1)) hp)
    exact ⟨ops, fn, rfl, hf, registered_known hr hf⟩

structure CfgGood (alg k : String) (c : OpCfg) : Prop where
  minmax : alg = Tables.algMinMax → C13.modeOK k c = true
  cast : alg = Tables.algFloatCasting → Tables.fcSupportedOps.contains k = true ∧ c.cp = .float ∧ c.act = none ∧
      ∃ w, c.weight = some w ∧ w.bits = 16 ∧ w.dtype = .float
  alg : alg = Tables.algMinMax ∨ alg = Tables.algFloatCasting

theorem accepts_alg (alg k : String) (c : OpCfg) (hs : c.skipChecks = false) (h : Policy.accepts alg k c = true) :
    alg = Tables.algMinMax ∨ alg = Tables.algFloatCasting := by
  obtain ⟨_, fn, hfn, _⟩ := C13.accepts_unfold _ _ _ hs h
  have := Py.dictGet?_mem _ _ _ hfn
  simp only [Tables.checkRegistry, List.mem_cons, Prod.mk.injEq, List.mem_nil_iff, or_false] at this
  exact this.imp (·.1) (·.1)

theorem accepts_good (alg k : String) (c : OpCfg) (hs : c.skipChecks = false) (h : Policy.accepts alg k c = true) :
    CfgGood alg k c ∧ Policy.registered alg k = true :=
  ⟨⟨fun ha => C13.accepted_minmax_legal k c hs (ha ▸ h), fun ha => C13.accepted_float_casting k c hs (ha ▸ h),
    accepts_alg alg k c hs h⟩, (C13.accepts_unfold _ _ _ hs h).1⟩

theorem resolve_selected (rx : String → String → Bool) (st : Recipe.State) (hns : NoSkip st) (k scope : String)
    (hne : (Recipe.resolve rx st k scope).1 ≠ Tables.algNoQuantize) :
    CfgGood (Recipe.resolve rx st k scope).1 k (Recipe.resolve rx st k scope).2 ∧
    ∃ ops fn, Py.dictGet? Tables.registry (Recipe.resolve rx st k scope).1 = some ops ∧ Py.dictGet? ops k = some fn ∧
      (kindOf (Recipe.resolve rx st k scope).1 fn).isUnknown = false := by
  rcases resolve_cases rx st k scope with h | ⟨e, he, r, hr, h, _, hacc⟩
  · rw [h] at hne; exact absurd rfl hne
  · rw [h] at hne ⊢
    rcases hacc with hacc | hacc
    · exact absurd hacc hne
    · obtain ⟨hg, hreg⟩ := accepts_good r.alg k r.cfg (hns e he r hr) hacc
      exact ⟨hg, registered_fn r.alg k hreg⟩

end MatTotal
