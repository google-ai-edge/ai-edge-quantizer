import QProofs.SharingData
/-!
# C03 end to end, request stage: the requests of one operator reach the result dictionary
`Has res r`: the dictionary `res` of `Mat.generate` contains the request `r` (its producer side is the entry's, its consumer sides are
among the entry's). `generate_has_at`: every request emitted for an entry of the operator list of a subgraph, under the statistics in
force there (`ParamsSrc.StatsAt`), is contained in the final dictionary.
-/
open Graph Mat Pipe

namespace TypingReq

def Has (res : List (String × CReq)) (r : CReq) : Prop :=
  ∃ e, Py.dictGet? res r.name = some e ∧ (∀ p, r.producer = some p → e.producer = some p) ∧
    ∀ cs, r.consumers = some cs → ∃ ecs, e.consumers = some ecs ∧ ∀ c ∈ cs, c ∈ ecs

def Grows (res res' : List (String × CReq)) : Prop := ∀ r, Has res r → Has res' r

theorem Grows.refl (res : List (String × CReq)) : Grows res res := fun _ h => h

theorem Grows.trans {a b c : List (String × CReq)} (h1 : Grows a b) (h2 : Grows b c) : Grows a c :=
  fun r h => h2 r (h1 r h)

theorem stepF_has (res res' : List (String × CReq)) (r : CReq) (h : stepF res r = .ok res') :
    Has res' r ∧ Grows res res' := by
  rcases stepF_ok h with ⟨hg, rfl⟩ | ⟨cur, hg, hnot, rfl⟩
  · refine ⟨⟨r, by rw [Py.dictGet?_append, hg, Py.dictGet?_cons_self]; rfl, fun p hp => hp,
      fun cs hcs => ⟨cs, hcs, fun c hc => hc⟩⟩, ?_⟩
    rintro r0 ⟨e, h1, h2, h3⟩
    exact ⟨e, by rw [Py.dictGet?_append, h1]; rfl, h2, h3⟩
  · refine ⟨⟨_, by rw [Py.dictGet?_dictSet, if_pos rfl], ?_, ?_⟩, ?_⟩
    · intro p hp
      simp only [mergeReq, hp]
    · intro cs hcs
      simp only [mergeReq, hcs]
      cases hcc : cur.consumers with
      | none => exact ⟨cs, rfl, fun c hc => hc⟩
      | some c0 => exact ⟨c0 ++ cs, rfl, fun c hc => List.mem_append_right _ hc⟩
    · rintro r0 ⟨e, h1, h2, h3⟩
      by_cases hn : r.name = r0.name
      · rw [← hn, hg] at h1
        cases h1
        refine ⟨_, by rw [Py.dictGet?_dictSet, if_pos hn], ?_, ?_⟩
        · intro p hp
          have hcp := h2 p hp
          simp only [mergeReq]
          cases hrp : r.producer with
          | none => exact hcp
          | some q =>
            rcases hnot with h | h
            · rw [h] at hrp; cases hrp
            · rw [h] at hcp; cases hcp
        · intro cs hcs
          obtain ⟨ecs, he, hsub⟩ := h3 cs hcs
          simp only [mergeReq, he]
          cases hrc : r.consumers with
          | none => exact ⟨ecs, rfl, hsub⟩
          | some c => exact ⟨ecs ++ c, rfl, fun x hx => List.mem_append_left _ (hsub x hx)⟩
      · exact ⟨e, by rw [Py.dictGet?_dictSet, if_neg hn]; exact h1, h2, h3⟩

theorem updateResults_has (rs : List CReq) (res res' : List (String × CReq))
    (h : updateResults res rs = .ok res') : (∀ r ∈ rs, Has res' r) ∧ Grows res res' := by
  obtain ⟨hg, hb⟩ := PyM.foldlM_bracket stepF Grows Grows.refl (fun _ _ _ => Grows.trans)
    (fun s x s' hs => (stepF_has s s' x hs).2) rs res res' h
  refine ⟨fun r hr => ?_, hg⟩
  obtain ⟨s, s', hs, -, hs'⟩ := hb r hr
  exact hs' r (stepF_has s s' r hs).1

theorem opStep_grows (rx : String → String → Bool) (env : Env) (st : Recipe.State) (sIdx : Nat) (sg : Subgraph)
    (s s' : GState) (q : Op × Option String × Int) (h : opStep rx env st sIdx sg s q = .ok s') :
    Grows s.2 s'.2 := by
  obtain ⟨rs, -, hu⟩ := opStep_ok rx env st sIdx sg s s' q h
  exact (updateResults_has rs _ _ hu).2

theorem foldlM_grows {α} {f : GState → α → PyM GState} (hf : ∀ a b x, f a x = .ok b → Grows a.2 b.2)
    {l : List α} {s s' : GState} (h : l.foldlM f s = .ok s') : Grows s.2 s'.2 :=
  (PyM.foldlM_bracket f (fun a b : GState => Grows a.2 b.2) (fun _ => Grows.refl _) (fun _ _ _ => Grows.trans)
    (fun a x b => hf a b x) _ _ _ h).1

theorem sgStep_grows (rx : String → String → Bool) (env : Env) (st : Recipe.State) (s s' : GState)
    (p : Subgraph × Nat) (h : sgStep rx env st s p = .ok s') : Grows s.2 s'.2 :=
  foldlM_grows (opStep_grows rx env st p.2 p.1) h

theorem generate_has_at (rx : String → String → Bool) (env : Env) (st : Recipe.State) (qsvs : Option Qsvs)
    (qs : Qsvs) (res : List (String × CReq))
    (hfold : env.model.subgraphs.zipIdx.foldlM (sgStep rx env st) (qsvs.getD [], []) = .ok (qs, res))
    (s : Nat) (sg : Subgraph) (hsg : env.model.subgraphs[s]? = some sg)
    (j : Nat) (q : Op × Option String × Int) (hq : (allOps sg)[j]? = some q) :
    ∃ qs0 rs qs1, ParamsSrc.StatsAt rx env st qsvs s sg j qs0 ∧ opReqs rx env st s sg qs0 q = .ok (rs, qs1) ∧
      ∀ r ∈ rs, Has res r := by
  have hz : env.model.subgraphs.zipIdx[s]? = some (sg, s) := by
    rw [List.getElem?_zipIdx, hsg]; simp
  obtain ⟨g1, g2, o1, o2, o3⟩ := PyM.foldlM_append_cons_ok_iff.1 (List.eq_take_cons_drop hz ▸ hfold)
  have hG2 : Grows g2.2 res := foldlM_grows (sgStep_grows rx env st) o3
  unfold sgStep at o2
  obtain ⟨t1, t2, i1, i2, i3⟩ := PyM.foldlM_append_cons_ok_iff.1 (List.eq_take_cons_drop hq ▸ o2)
  have hT2 : Grows t2.2 g2.2 := foldlM_grows (opStep_grows rx env st s sg) i3
  obtain ⟨rs, hr, hu⟩ := opStep_ok rx env st s sg t1 t2 q i2
  exact ⟨t1.1, rs, t2.1, ⟨g1, t1.2, o1, i1⟩, hr,
    fun r hr' => hG2 r (hT2 r ((updateResults_has rs _ _ hu).1 r hr'))⟩

theorem generate_has (rx : String → String → Bool) (env : Env) (st : Recipe.State) (qsvs : Option Qsvs) (qs : Qsvs)
    (res : List (String × CReq))
    (hfold : env.model.subgraphs.zipIdx.foldlM (sgStep rx env st) (qsvs.getD [], []) = .ok (qs, res))
    (s : Nat) (sg : Subgraph) (hsg : env.model.subgraphs[s]? = some sg)
    (q : Op × Option String × Int) (hq : q ∈ allOps sg) :
    ∃ qs0 rs qs1, opReqs rx env st s sg qs0 q = .ok (rs, qs1) ∧ ∀ r ∈ rs, Has res r := by
  obtain ⟨j, hj⟩ := List.getElem?_of_mem hq
  obtain ⟨qs0, rs, qs1, -, hr, hh⟩ := generate_has_at rx env st qsvs qs res hfold s sg hsg j q hj
  exact ⟨qs0, rs, qs1, hr, hh⟩

theorem noQuantOp_mem (sg : Subgraph) (op : Op) (opId : Int) (rs : List CReq)
    (h : noQuantOp sg op opId = .ok rs) :
    (∀ t ∈ op.inputs, t ≠ -1 → ∃ tn, tensorAt sg t = .ok tn ∧ noQuantReq tn.name opId true ∈ rs) ∧
    (∀ t ∈ op.outputs, t ≠ -1 → ∃ tn, tensorAt sg t = .ok tn ∧ noQuantReq tn.name opId false ∈ rs) := by
  obtain ⟨tin, tout, hin, hout, rfl⟩ := noQuantOp_ok_iff.1 h
  refine ⟨fun t ht hne => ?_, fun t ht hne => ?_⟩
  · obtain ⟨tn, hm, htn⟩ := PyM.mapM_ok' _ _ _ ((PyM.mapM_ok_iff _ _ _).2 hin) t
      (List.mem_filter.2 ⟨ht, by simpa using hne⟩)
    exact ⟨tn, htn, List.mem_append_left _ (List.mem_map_of_mem hm)⟩
  · obtain ⟨tn, hm, htn⟩ := PyM.mapM_ok' _ _ _ ((PyM.mapM_ok_iff _ _ _).2 hout) t
      (List.mem_filter.2 ⟨ht, by simpa using hne⟩)
    exact ⟨tn, htn, List.mem_append_right _ (List.mem_map_of_mem hm)⟩

end TypingReq
