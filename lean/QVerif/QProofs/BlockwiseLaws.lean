import QProofs.BlockwiseSpec
/-!
# The laws of the three quantizers: BLOCKWISE as implemented, the per-block reference, CHANNELWISE
The cells of BLOCKWISE as implemented are whole rows, so it is CHANNELWISE up to the data layout; the per-block reference is what
honouring the block size would compute. -/

open Num Nd Arith MatParams Blockwise
open EmuSemProofs (mul_add_lt mul_add_div mul_add_mod numel4)
open PyM (bind_ok)

set_option autoImplicit false

namespace BlockwiseL

/-!
## BLOCKWISE as implemented is CHANNELWISE up to the data layout
Both are the per-cell quantization whose cells are the whole rows (`quantize_iff`, `channelwise_iff`); the elements are enumerated in
transposed orders (`CellCode.transpose`), and parameters and codes are functions of the data (`CellPar.unique`, `CellCode.unique`). -/
theorem el_divmod (d : List Rat) (f i : Nat) : el d f (i / f) (i % f) = d.getD i 0 := by
  unfold el; rw [Nat.mul_comm, Nat.div_add_mod]

section
variable {xpr spr : Prec} {zw bits : Nat} {sym : Bool} {o f : Nat} {d : List Rat} {zp : List Int} {sc : List Rat} {q : List Int}

/-- position `i = j * o + c` of the reshaped weight is position `c * f + j` of the weight -/
theorem CellCode.transpose (ho : 0 < o)
    (h : CellCode xpr spr zw bits sym (o * f) (· / f) (fun i => d.getD i 0) zp sc q) :
    CellCode xpr spr zw bits sym (f * o) (· % o) (fun i => el d f (i % o) (i / o)) zp sc
      ((List.range (f * o)).map fun i => q.getD (i % o * f + i / o) 0) :=
  h.reindex (fun i => i % o * f + i / o)
    (fun i hi => mul_add_lt (Nat.mod_lt _ ho) (Nat.div_lt_of_lt_mul (by rwa [Nat.mul_comm] at hi)))
    (fun i hi => (mul_add_div (Nat.div_lt_of_lt_mul (by rwa [Nat.mul_comm] at hi))).symm) (fun _ _ => rfl)

theorem CellCode.untranspose (hf : 0 < f)
    (h : CellCode xpr spr zw bits sym (f * o) (· % o) (fun i => el d f (i % o) (i / o)) zp sc q) :
    CellCode xpr spr zw bits sym (o * f) (· / f) (fun i => d.getD i 0) zp sc
      ((List.range (o * f)).map fun i => q.getD (i % f * o + i / f) 0) :=
  h.reindex (fun i => i % f * o + i / f)
    (fun i hi => mul_add_lt (Nat.mod_lt _ hf) (Nat.div_lt_of_lt_mul (by rwa [Nat.mul_comm] at hi)))
    (fun i hi => (mul_add_mod (Nat.div_lt_of_lt_mul (by rwa [Nat.mul_comm] at hi))).symm)
    (fun i hi => by
      have hc : i / f < o := Nat.div_lt_of_lt_mul (by rwa [Nat.mul_comm] at hi)
      show d.getD i 0 = el d f ((i % f * o + i / f) % o) ((i % f * o + i / f) / o)
      rw [mul_add_mod hc, mul_add_div hc, el_divmod])

end

/-- **the codes of BLOCKWISE are the codes of CHANNELWISE, transposed** (both computations given) -/
theorem codes_eq (o f bs bits : Nat) (sym : Bool) (d : List Rat) (hd : d.length = o * f) (pr : Prec)
    (q : IArr) (qp' : QParams) (q' : IArr)
    (h : quantize ⟨⟨[o, f], d⟩, pr⟩ bs bits sym = .ok q)
    (h' : channelwise ⟨⟨[o, f], d⟩, pr⟩ bits sym = .ok (qp', q')) :
    ∃ qp, params ⟨⟨[o, f], d⟩, pr⟩ bs bits sym = .ok qp ∧
      qp.scale.arr.data = qp'.scale.arr.data ∧ qp.zp.arr.data = qp'.zp.arr.data ∧
      ∀ c < o, ∀ j < f, q.arr.data.getD (j * o + c) 0 = q'.arr.data.getD (c * f + j) 0 := by
  obtain ⟨qp, hp, _, _, hC⟩ := (quantize_iff o f bs bits sym d pr q).1 h
  obtain ⟨_, hne, _, hP⟩ := (params_iff o f bs bits sym d pr qp).1 hp
  obtain ⟨_, _, hP', _, _, hC'⟩ := (channelwise_iff o f bits sym d hd pr qp' q').1 h'
  obtain ⟨e1, e2⟩ := hP.unique hP'
  rw [← e1, ← e2] at hC'
  refine ⟨qp, hp, e2, e1, fun c hc j hj => ?_⟩
  rw [hC.unique (hC'.transpose (tdata_pos hne).2)]
  simp [List.getD_eq_getElem?_getD, mul_add_lt hj hc, mul_add_mod hc, mul_add_div hc]

theorem channelwise_of_blockwise (o f bs bits : Nat) (sym : Bool) (d : List Rat) (hd : d.length = o * f) (pr : Prec)
    (q : IArr) (h : quantize ⟨⟨[o, f], d⟩, pr⟩ bs bits sym = .ok q) :
    ∃ r, channelwise ⟨⟨[o, f], d⟩, pr⟩ bits sym = .ok r := by
  obtain ⟨qp, hp, _, _, hC⟩ := (quantize_iff o f bs bits sym d pr q).1 h
  obtain ⟨_, hne, _, hP⟩ := (params_iff o f bs bits sym d pr qp).1 hp
  obtain ⟨hf, ho⟩ := tdata_pos hne
  exact ⟨(⟨bits, some 0, ⟨⟨[o, 1], _⟩, pr⟩, ⟨⟨[o, 1], _⟩, storageBits bits⟩, sym⟩, ⟨⟨[o, f], _⟩, storageBits bits⟩),
    (channelwise_iff o f bits sym d hd pr _ _).2 ⟨List.ne_nil_of_length_pos (hd ▸ Nat.mul_pos ho hf),
      ⟨rfl, rfl, rfl, rfl, rfl, rfl, rfl⟩, hP, rfl, rfl, hC.untranspose hf⟩⟩

/-- **success condition of BLOCKWISE**: the block size is a positive divisor of the row length, and the ordinary
    per-channel quantization of the weight succeeds -/
theorem quantize_ok_iff (o f bs bits : Nat) (sym : Bool) (d : List Rat) (hd : d.length = o * f) (pr : Prec) :
    (∃ q, quantize ⟨⟨[o, f], d⟩, pr⟩ bs bits sym = .ok q) ↔
      (0 < bs ∧ bs ∣ f ∧ ∃ r, channelwise ⟨⟨[o, f], d⟩, pr⟩ bits sym = .ok r) := by
  constructor
  · rintro ⟨q, h⟩
    obtain ⟨qp, hp, _⟩ := (quantize_iff o f bs bits sym d pr q).1 h
    obtain ⟨⟨hb, hdvd⟩, _⟩ := (params_iff o f bs bits sym d pr qp).1 hp
    exact ⟨hb, hdvd, channelwise_of_blockwise o f bs bits sym d hd pr q h⟩
  · rintro ⟨hb, hdvd, r, h'⟩
    obtain ⟨hne, _, hP, _, _, hC⟩ := (channelwise_iff o f bits sym d hd pr r.1 r.2).1 h'
    obtain ⟨ho, hf⟩ := pos_of_mul_pos (hd ▸ List.length_pos_iff.2 hne)
    exact ⟨⟨⟨[1, f / bs, bs, o], _⟩, storageBits bits⟩, (quantize_iff o f bs bits sym d pr _).2
      ⟨⟨bits, none, ⟨⟨[1, 1, 1, o], _⟩, pr⟩, ⟨⟨[1, 1, 1, o], _⟩, storageBits bits⟩, sym⟩,
        (params_iff o f bs bits sym d pr _).2 ⟨⟨hb, hdvd⟩, tdata_ne_nil d hf ho, ⟨rfl, rfl, rfl, rfl, rfl, rfl, rfl⟩, hP⟩,
        rfl, rfl, hC.transpose ho⟩⟩

/-!
## The per-block reference (`Blockwise.refMinMax`, `refParams`, `refQuantize`): what honouring the granularity would mean
Statistics reduced over the block axis only (`axis=(0, 2)`): the cells are the (block, channel) pairs, cell `b * o + c` of the
`[1, f/bs, 1, o]` parameter arrays holding block `b` of row `c`; every element is quantized with the parameters of ITS block. -/

theorem cell_block (o bs j c : Nat) (hc : c < o) : (j * o + c) / (bs * o) * o + (j * o + c) % o = j / bs * o + c := by
  rw [mul_add_mod hc, Nat.mul_comm bs o, ← Nat.div_div_eq_div_mul, mul_add_div hc]

theorem blk_lt (f bs b k : Nat) (hdvd : bs ∣ f) (hb : b < f / bs) (hk : k < bs) : b * bs + k < f :=
  Nat.div_mul_cancel hdvd ▸ mul_add_lt hb hk

/-- **per-block statistics**: the cells of `axis=(0,2)` of the reshaped weight are the (block, channel) pairs; cell `j = b * o + c`
    has the members `(b * bs + k) * o + c`, `k < bs`: block `b` of row `c` -/
theorem block_params_iff (o f bs bits : Nat) (sym : Bool) (d : List Rat) (pr : Prec) (hdvd : bs ∣ f) (zp : IArr) (sc : FArr) :
    (∃ mn mx, reduceKeep minR ⟨[1, f / bs, bs, o], tdata o f d⟩ (some [0, 2]) = .ok mn ∧
        reduceKeep maxR ⟨[1, f / bs, bs, o], tdata o f d⟩ (some [0, 2]) = .ok mx ∧
        zpScale bits sym ⟨mn, pr⟩ ⟨mx, pr⟩ = .ok (zp, sc)) ↔
      tdata o f d ≠ [] ∧ sc.pr = pr ∧ zp.w = storageBits bits ∧ sc.arr.shape = [1, f / bs, 1, o] ∧
      zp.arr.shape = [1, f / bs, 1, o] ∧
      CellPar pr bits sym (f / bs * o) (fun j => blockMin d f bs (j % o) (j / o)) (fun j => blockMax d f bs (j % o) (j / o))
        zp.arr.data sc.arr.data := by
  have hfb : f / bs * bs = f := Nat.div_mul_cancel hdvd
  have hnum : numel [1, f / bs, 1, o] = f / bs * o := by rw [numel4]; simp
  have hsize : (⟨[1, f / bs, bs, o], tdata o f d⟩ : Arr Rat).size = f * o := tdata_length o f d
  have hbs : tdata o f d ≠ [] → 0 < bs := fun hne => (pos_of_mul_pos (hfb.symm ▸ (tdata_pos hne).1)).2
  exact cellParams_iff ⟨[1, f / bs, bs, o], tdata o f d⟩ pr (some [0, 2]) bits sym (fun i => i / (bs * o) * o + i % o)
    (fun i hi => bindex_block _ _ _ i (by rw [hfb]; exact hsize ▸ hi)) bs (fun j k => (j / o * bs + k) * o + j % o) hbs
    (fun j hj k hk => by
      have ho : 0 < o := (pos_of_mul_pos (Nat.zero_lt_of_lt (hnum ▸ hj))).2
      have hc : j % o < o := Nat.mod_lt _ ho
      have hb : j / o < f / bs := Nat.div_lt_of_lt_mul (Nat.mul_comm _ _ ▸ hnum ▸ hj)
      refine ⟨by rw [hsize]; exact mul_add_lt (blk_lt f bs _ k hdvd hb hk) hc, ?_⟩
      show _ / (bs * o) * o + _ % o = j
      rw [cell_block o bs _ _ hc, mul_add_div hk, Nat.div_add_mod' j o])
    (fun i hi => by
      have ho : 0 < o := (pos_of_mul_pos (Nat.zero_lt_of_lt (hsize ▸ hi))).2
      have hc : i % o < o := Nat.mod_lt _ ho
      refine ⟨i / o % bs, Nat.mod_lt _ (hbs (List.ne_nil_of_length_pos (Nat.zero_lt_of_lt hi))), ?_⟩
      show i = ((i / (bs * o) * o + i % o) / o * bs + i / o % bs) * o + (i / (bs * o) * o + i % o) % o
      rw [mul_add_div hc, mul_add_mod hc, Nat.mul_comm bs o, ← Nat.div_div_eq_div_mul, Nat.div_add_mod' (i / o) bs,
        Nat.div_add_mod' i o])
    [1, f / bs, 1, o] rfl (f / bs * o) hnum _ _
    (fun hb j hj => seg_congr hb fun k hk =>
      tdata_el o f d _ _ (Nat.mod_lt _ (pos_of_mul_pos (Nat.zero_lt_of_lt hj)).2)
        (blk_lt f bs _ k hdvd (Nat.div_lt_of_lt_mul (Nat.mul_comm _ _ ▸ hj)) hk)) zp sc

/-- `Blockwise.refParams`: one (zero point, scale) per (block, channel), from the extrema of THAT block -/
theorem refParams_iff (o f bs bits : Nat) (sym : Bool) (d : List Rat) (pr : Prec) (qp : QParams) :
    Blockwise.refParams ⟨⟨[o, f], d⟩, pr⟩ bs bits sym = .ok qp ↔ (0 < bs ∧ bs ∣ f) ∧ tdata o f d ≠ [] ∧
      ParamsOf qp pr bits sym none [1, f / bs, 1, o] ∧
      CellPar pr bits sym (f / bs * o) (fun j => blockMin d f bs (j % o) (j / o)) (fun j => blockMax d f bs (j % o) (j / o))
        qp.zp.arr.data qp.scale.arr.data := by
  refine (statParams_ok_iff (some [0, 2]) o f bs bits sym d pr qp).trans (and_congr_right fun hb => ?_)
  rw [block_params_iff o f bs bits sym d pr hb.2]
  exact ⟨fun ⟨q1, q2, q3, hne, z1, z2, z3, z4, hP⟩ => ⟨hne, ⟨q1, q2, q3, z1, z2, z3, z4⟩, hP⟩,
    fun ⟨hne, hq, hP⟩ => ⟨hq.bits_eq, hq.sym_eq, hq.qdim_eq, hne, hq.pr_eq, hq.w_eq, hq.sshape, hq.zshape, hP⟩⟩

/-- `Blockwise.refQuantize`: every element is quantized with the parameters of its block -/
theorem refQuantize_iff (o f bs bits : Nat) (sym : Bool) (d : List Rat) (pr : Prec) (q : IArr) :
    refQuantize ⟨⟨[o, f], d⟩, pr⟩ bs bits sym = .ok q ↔ ∃ qp, Blockwise.refParams ⟨⟨[o, f], d⟩, pr⟩ bs bits sym = .ok qp ∧
      q.w = storageBits bits ∧ q.arr.shape = [1, f / bs, bs, o] ∧
      CellCode pr pr (storageBits bits) bits sym (f * o) (fun i => i / (bs * o) * o + i % o)
        (fun i => el d f (i % o) (i / o)) qp.zp.arr.data qp.scale.arr.data q.arr.data := by
  refine PyM.bind_eq_ok_iff.trans (exists_congr fun qp => and_congr_right fun hp => ?_)
  obtain ⟨hb, _, hq, _⟩ := (refParams_iff o f bs bits sym d pr qp).1 hp
  rw [quantizeWith_iff o f bs d pr qp bits sym none _ hq (compat_block _ _ _) _
    (fun i hi => bindex_block _ _ _ i (by rw [Nat.div_mul_cancel hb.2]; exact hi))]
  exact and_iff_right hb

theorem refQuantize_code {o f bs bits : Nat} {sym : Bool} {d : List Rat} {pr : Prec} {qp : QParams} {q : IArr}
    (hp : Blockwise.refParams ⟨⟨[o, f], d⟩, pr⟩ bs bits sym = .ok qp) (hq : refQuantize ⟨⟨[o, f], d⟩, pr⟩ bs bits sym = .ok q) :
    q.w = storageBits bits ∧ q.arr.shape = [1, f / bs, bs, o] ∧
    CellCode pr pr (storageBits bits) bits sym (f * o) (fun i => i / (bs * o) * o + i % o)
      (fun i => el d f (i % o) (i / o)) qp.zp.arr.data qp.scale.arr.data q.arr.data := by
  obtain ⟨qp', hp', h⟩ := (refQuantize_iff o f bs bits sym d pr q).1 hq
  cases hp.symm.trans hp'
  exact h

section
variable {pr xpr spr : Prec} {zw bits : Nat} {sym : Bool} {o f bs B c b k : Nat} {d : List Rat} {zp : List Int} {sc : List Rat}
  {q : List Int}

theorem CellPar.block (h : CellPar pr bits sym (B * o) (fun j => blockMin d f bs (j % o) (j / o))
    (fun j => blockMax d f bs (j % o) (j / o)) zp sc) (hc : c < o) (hb : b < B) :
    zpScale1 pr bits sym (blockMin d f bs c b) (blockMax d f bs c b) = .ok (zp.getD (b * o + c) 0, sc.getD (b * o + c) 0) := by
  have := h.par (b * o + c) (mul_add_lt hb hc)
  rwa [mul_add_mod hc, mul_add_div hc] at this

theorem CellCode.block (h : CellCode xpr spr zw bits sym (f * o) (fun i => i / (bs * o) * o + i % o)
    (fun i => el d f (i % o) (i / o)) zp sc q) (hdvd : bs ∣ f) (hc : c < o) (hb : b < f / bs) (hk : k < bs) :
    quantize1 xpr spr zw bits sym (el d f c (b * bs + k)) (sc.getD (b * o + c) 0) (zp.getD (b * o + c) 0)
      = .ok (q.getD ((b * bs + k) * o + c) 0) := by
  have := h.code ((b * bs + k) * o + c) (mul_add_lt (blk_lt f bs b k hdvd hb hk) hc)
  rwa [cell_block o bs _ c hc, mul_add_div hk, mul_add_mod hc, mul_add_div hc] at this

end

/-!
## When the BLOCKWISE functions succeed
`Blockwise.run` is `minMax`, `params`, `quantize` together; a block size that is 0 or does not divide the row length is
`ValueError`; on finite non-empty data (float32 / float64 / ideal arithmetic, magnitudes ≤ 2^63, 2..16 bits) nothing else can fail. -/

theorem minMax_shapes (o f bs : Nat) (d : List Rat) (pr : Prec) (mn mx : FArr)
    (h : minMax ⟨⟨[o, f], d⟩, pr⟩ bs = .ok (mn, mx)) :
    (0 < bs ∧ bs ∣ f) ∧ mn.arr.shape = [1, 1, 1, o] ∧ mx.arr.shape = [1, 1, 1, o] ∧ mn.arr.data.length = o ∧
    mx.arr.data.length = o := by
  unfold minMax at h
  obtain ⟨r, hr, h⟩ := bind_ok _ _ _ h
  obtain ⟨a, ha, h⟩ := bind_ok _ _ _ h
  obtain ⟨b, hb, h⟩ := bind_ok _ _ _ h
  cases PyM.pure_eq_ok_iff.1 h
  have hr' : reshaped ⟨[o, f], d⟩ bs = .ok r := hr
  rw [reshaped_eq] at hr'
  split at hr'
  · cases hr'
    obtain ⟨_, s1, l1, _⟩ := reduceKeep_spec _ _ sel_min _ _ a ha
    obtain ⟨_, s2, l2, _⟩ := reduceKeep_spec _ _ sel_max _ _ b hb
    have hn : numel [1, 1, 1, o] = o := by rw [numel4]; simp
    exact ⟨‹_›, s1, s2, l1.trans hn, l2.trans hn⟩
  · cases hr'

theorem run_ok (w : FArr) (bs bits : Nat) (sym : Bool) (mn mx : FArr) (qp : QParams) (q : IArr)
    (h : run w bs bits sym = .ok (mn, mx, qp, q)) :
    minMax w bs = .ok (mn, mx) ∧ params w bs bits sym = .ok qp ∧ quantize w bs bits sym = .ok q := by
  unfold run at h
  obtain ⟨mm, hmm, h⟩ := bind_ok _ _ _ h
  obtain ⟨qp0, hqp, h⟩ := bind_ok _ _ _ h
  obtain ⟨q0, hq, h⟩ := bind_ok _ _ _ h
  simp only [pure, Except.pure, Except.ok.injEq, Prod.mk.injEq] at h
  obtain ⟨h1, h2, rfl, rfl⟩ := h
  have hmm' : minMax w bs = .ok (mn, mx) := by rw [hmm, ← h1, ← h2]
  have hp : params w bs bits sym = .ok qp0 := by
    unfold params
    simp only [hmm, hqp, bind, Except.bind]
  refine ⟨hmm', hp, ?_⟩
  unfold quantize
  simp only [hp, hq, bind, Except.bind]

theorem run_of_quantize (w : FArr) (bs bits : Nat) (sym : Bool) (q : IArr) (h : quantize w bs bits sym = .ok q) :
    ∃ mn mx qp, run w bs bits sym = .ok (mn, mx, qp, q) := by
  unfold quantize at h
  obtain ⟨qp, hp, hq⟩ := bind_ok _ _ _ h
  unfold params at hp
  obtain ⟨mm, hmm, hqp⟩ := bind_ok _ _ _ hp
  refine ⟨mm.1, mm.2, qp, ?_⟩
  unfold run
  simp only [hmm, hqp, hq, bind, Except.bind, pure, Except.pure]

theorem run_err (o f bs bits : Nat) (sym : Bool) (d : List Rat) (pr : Prec) (hb : ¬ (0 < bs ∧ bs ∣ f)) :
    minMax ⟨⟨[o, f], d⟩, pr⟩ bs = .error .valueError ∧ params ⟨⟨[o, f], d⟩, pr⟩ bs bits sym = .error .valueError ∧
    quantize ⟨⟨[o, f], d⟩, pr⟩ bs bits sym = .error .valueError ∧ run ⟨⟨[o, f], d⟩, pr⟩ bs bits sym = .error .valueError := by
  have hr : reshaped ⟨[o, f], d⟩ bs = .error .valueError := by rw [reshaped_eq, if_neg hb]
  have h1 : minMax ⟨⟨[o, f], d⟩, pr⟩ bs = .error .valueError := by
    unfold minMax
    simp only [hr, bind, Except.bind]
  have h2 : params ⟨⟨[o, f], d⟩, pr⟩ bs bits sym = .error .valueError := by
    unfold params
    simp only [h1, bind, Except.bind]
  refine ⟨h1, h2, ?_, ?_⟩
  · unfold quantize
    simp only [h2, bind, Except.bind]
  · unfold run
    simp only [h1, bind, Except.bind]

/-- a tensor that is not 2-D: `ValueError` (`np.transpose(w, (1, 0))`) -/
theorem run_err_rank (w : FArr) (bs bits : Nat) (sym : Bool) (h : w.arr.shape.length ≠ 2) :
    run w bs bits sym = .error .valueError := by
  have hr : reshaped w.arr bs = .error .valueError := by
    unfold reshaped
    split
    · rename_i o f he
      rw [he] at h
      exact absurd rfl h
    · rfl
  unfold run minMax
  simp only [hr, bind, Except.bind]

theorem channelwise_total (o f bits : Nat) (sym : Bool) (d : List Rat) (hd : d.length = o * f) (pr : Prec)
    (ho : 0 < o) (hf : 0 < f) (hpr : NumT.F3264 pr) (hbd : ∀ v ∈ d, |v| ≤ NumT.B) (hb2 : 2 ≤ bits) (hb16 : bits ≤ 16) :
    ∃ r, channelwise ⟨⟨[o, f], d⟩, pr⟩ bits sym = .ok r := by
  have hne : (⟨[o, f], d⟩ : Arr Rat).data ≠ [] := List.ne_nil_of_length_pos (hd ▸ Nat.mul_pos ho hf)
  obtain ⟨mn, hmn⟩ := reduceKeep_of minR ⟨[o, f], d⟩ (some [1]) hne
  obtain ⟨mx, hmx⟩ := reduceKeep_of maxR ⟨[o, f], d⟩ (some [1]) hne
  have s1 : mn.shape = [o, 1] := (reduceKeep_spec _ _ sel_min _ _ mn hmn).2.1
  have s2 : mx.shape = [o, 1] := (reduceKeep_spec _ _ sel_max _ _ mx hmx).2.1
  have S : NumT.StatFin ⟨mn, pr⟩ ⟨mx, pr⟩ := ⟨hpr, hpr, s1.trans s2.symm,
    MatTotal.reduceKeep_bounded _ _ sel_min _ _ mn hmn hbd, MatTotal.reduceKeep_bounded _ _ sel_max _ _ mx hmx hbd⟩
  obtain ⟨zs, hzs⟩ := NumT.zpScale_total bits hb2 hb16 sym _ _ S
  obtain ⟨zp, scale⟩ := zs
  obtain ⟨G, hsh, _⟩ := NumT.zpScale_good bits hb2 hb16 sym _ _ S (some 0) zp scale hzs
  have hsh' : scale.arr.shape = [o, 1] := hsh.trans s1
  have G' : NumT.QPGood ((2:Rat)^(-60:Int))
      { bits := bits, qdim := some 0, scale := scale, zp := zp, symmetric := sym } :=
    ⟨G.pr, G.shape, G.slen, G.zlen, fun s hs => le_trans NumT.sLo_ge60 (G.lo s hs), G.zp⟩
  obtain ⟨q, hq⟩ := NumT.uniformQuantize_total ⟨⟨[o, f], d⟩, pr⟩ _ hpr hbd G'
    (by show NumT.Compat scale.arr.shape [o, f]; rw [hsh']; exact compat_row o f)
  rw [channelwise_eq]
  simp only [hmn, hmx, hzs, hq, bind, Except.bind, pure, Except.pure]
  exact ⟨_, rfl⟩

/-- **BLOCKWISE is total on finite non-empty data** whenever the block size is a positive divisor of the row length -/
theorem quantize_total (o f bs bits : Nat) (sym : Bool) (d : List Rat) (hd : d.length = o * f) (pr : Prec)
    (ho : 0 < o) (hf : 0 < f) (hpr : NumT.F3264 pr) (hbd : ∀ v ∈ d, |v| ≤ NumT.B) (hb2 : 2 ≤ bits) (hb16 : bits ≤ 16)
    (hb : 0 < bs) (hdvd : bs ∣ f) : ∃ q, quantize ⟨⟨[o, f], d⟩, pr⟩ bs bits sym = .ok q :=
  (quantize_ok_iff o f bs bits sym d hd pr).2
    ⟨hb, hdvd, channelwise_total o f bits sym d hd pr ho hf hpr hbd hb2 hb16⟩

/-!
## `Blockwise.channelwise` IS the ordinary per-channel path of the materialisation model
`Mat.initMinMax` followed by `Mat.tensorQuantParams` (what `Mat.wrapper` does for a constant operand) on a FULLY_CONNECTED weight
under a CHANNELWISE weight configuration is `Blockwise.channelwise`: what `C17.blockwise_is_channelwise` compares BLOCKWISE with. -/
section
open Graph Mat Cfg

theorem channelwise_is_mat (env : Env) (oi : OpInfo) (t : Tensor) (tc : TCfg) (o f : Nat) (d : List Rat)
    (hname : oi.opName = "FULLY_CONNECTED") (hw : oi.cfg.weight = some tc) (hg : tc.gran = .channelwise)
    (hrank : t.shape.length = 2) :
    (initMinMax env oi t ⟨[o, f], d⟩ >>= fun mm => tensorQuantParams env oi (some mm) tc (some ⟨[o, f], d⟩))
      = (channelwise ⟨⟨[o, f], d⟩, .f32⟩ tc.bits.toNat tc.symmetric).map (fun r => Param.uniform r.1 (some r.2)) := by
  have hwb : weightBlockwise oi = false := by
    unfold weightBlockwise; rw [hw]; simp only [hg]; rfl
  have hbm : (oi.opName == "BATCH_MATMUL") = false := by rw [hname]; decide
  have hfind : Tables.weightQDim.find? (·.1 == oi.opName) = some ("FULLY_CONNECTED", 0) := by rw [hname]; rfl
  have hq : statQDim env oi 2 = some 0 := by
    unfold statQDim; rw [hw]; simp only [hg, hbm, hfind]; rfl
  have hdims : reduceDims (some 0) 2 = some [1] := by decide
  have hcw : (tc.gran == Gran.channelwise) = true := by rw [hg]; rfl
  have hbw : (tc.gran == Gran.blockwise) = false := by rw [hg]; rfl
  rw [initMinMax_eq, hwb, channelwise_eq]
  simp only [Bool.false_eq_true, if_false]
  have hlen : (⟨[o, f], d⟩ : Arr Rat).shape.length = 2 := rfl
  rw [hlen, hrank, hq, hdims]
  cases h1 : reduceKeep minR ⟨[o, f], d⟩ (some [1]) with
  | error e => rfl
  | ok mn =>
    cases h2 : reduceKeep maxR ⟨[o, f], d⟩ (some [1]) with
    | error e => rfl
    | ok mx =>
      simp only [bind, Except.bind, Except.map, tensorQuantParams_eq, refTensorParams, refQDim, refData, hcw, hbw, hbm, hfind,
        if_true, Bool.false_eq_true, if_false, pure, Except.pure]
      cases h3 : zpScale tc.bits.toNat tc.symmetric ⟨mn, .f32⟩ ⟨mx, .f32⟩ with
      | error e => rfl
      | ok zs =>
        simp only []
        cases h4 : uniformQuantize ⟨⟨[o, f], d⟩, .f32⟩
            { bits := tc.bits.toNat, qdim := some 0, scale := zs.2, zp := zs.1, symmetric := tc.symmetric } <;> rfl

end

end BlockwiseL
