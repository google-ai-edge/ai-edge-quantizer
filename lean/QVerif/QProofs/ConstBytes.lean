import QModel.Materialize
import QProofs.StepTypes
import QProofs.PyForall
import QProps.C05
import QProps.C05b
/-! # The bytes stored for a parameter object, and their decoder (C05, storage half)
`quantize_tensor` writes `_pack_data(P.num_bits, np.frombuffer(P.quantized_data.tobytes(), uint8))`; the graph model keeps this
abstract (`.inr p`).  `paramBytes` is that composition on `Param`, built from `Bytes.storeInts` / `Bytes.castF16` (driver ops
`"store"` / `"f16"`), which `harness/fam_arith.py: cmp_store` and `harness/fam_mat.py: model_param_expect` compare with the real code. -/
open Bytes Num Mat Arith Graph

set_option autoImplicit false

namespace ConstBytes

/-- the two bytes (little endian) of the binary16 pattern of an exactly representable value -/
def f16Bytes (r : Rat) : List Nat := [f16Bits r % 256, f16Bits r / 256]

/-- the bytes `quantize_tensor` writes for parameter object `P` (none when `P` has no data) -/
def paramBytes : Param → Option (List Nat)
  | .uniform qp (some q) => some (storeInts qp.bits q.w q.arr.data)
  | .nonlinear b (some d) =>
    some (if b ≤ 4 then pack4 (d.data.flatMap f16Bytes) else d.data.flatMap f16Bytes)
  | _ => none

/-- the bytes the serializer writes for a buffer whose abstract content is `.inr p` -/
def storedBytes (tbl : List Param) (p : PId) : Option (List Nat) := (tbl[p]?).bind paramBytes

theorem castF16_eq (x : Rat) :
    castF16 x = match Prec.f16.chk x with | .ok r => .ok (f16Bytes r) | .error e => .error e := by
  unfold castF16 f16Bytes
  cases Prec.f16.chk x <;> rfl

theorem mapM_castF16 (d h : List Rat) (hh : d.mapM Prec.f16.chk = .ok h) :
    d.mapM castF16 = .ok (h.map f16Bytes) := by
  rw [PyM.mapM_ok_iff] at hh ⊢
  rw [List.forall₂_map_right_iff]
  exact hh.imp fun x r hx => by rw [castF16_eq, hx]

/-- bits per element of the tensor types the quantizer produces -/
def dtypeBits (dt : Nat) : Option Nat :=
  if dt = Tables.ttInt4 then some 4 else if dt = Tables.ttInt8 then some 8
  else if dt = Tables.ttInt16 then some 16 else if dt = Tables.ttInt32 then some 32
  else if dt = Tables.ttInt64 then some 64 else if dt = Tables.ttFloat16 then some 16 else none

/-- `⌈n · bits / 8⌉` bytes for `n` elements of tensor type `dt` (two values per byte for INT4) -/
def byteLen (dt n : Nat) : Option Nat := (dtypeBits dt).map fun b => (n * b + 7) / 8

/-- the `n` integer values of a tensor of type `dt` stored in `bs`: INT4 = two per byte, low nibble
    first, sign-extended; INT8/16/32/64 = little-endian two's complement -/
def decodeInts (dt n : Nat) (bs : List Nat) : List Int :=
  if dt = Tables.ttInt4 then unpack4 n bs
  else
    let k := (dtypeBits dt).getD 8 / 8
    (List.range n).map fun i => decodeLE (8 * k) ((bs.drop (i * k)).take k)

/-- the `n` binary16 values stored in `bs` (little endian), by the independent decoder `f16Val` -/
def decodeF16 (n : Nat) (bs : List Nat) : List Rat :=
  (List.range n).map fun i => BytesProofs.f16Val (bs.getD (2 * i) 0 + 256 * bs.getD (2 * i + 1) 0)

/-- **the decoder of a stored constant**: the `n` values of a tensor of type `dt` stored in `bs`,
    integers for the integer types, rationals for FLOAT16 -/
def decodeStored (dt n : Nat) (bs : List Nat) : List Int ⊕ List Rat :=
  if dt = Tables.ttFloat16 then .inr (decodeF16 n bs) else .inl (decodeInts dt n bs)

theorem storageBits_cases (bits : Nat) :
    (bits ≤ 8 ∧ storageBits bits = 8) ∨ (8 < bits ∧ bits ≤ 16 ∧ storageBits bits = 16) ∨
    (16 < bits ∧ bits ≤ 32 ∧ storageBits bits = 32) ∨ (32 < bits ∧ storageBits bits = 64) := by
  unfold storageBits
  by_cases h8 : bits ≤ 8
  · exact .inl ⟨h8, if_pos h8⟩
  rw [if_neg h8]
  by_cases h16 : bits ≤ 16
  · exact .inr (.inl ⟨by omega, h16, if_pos h16⟩)
  rw [if_neg h16]
  by_cases h32 : bits ≤ 32
  · exact .inr (.inr (.inl ⟨by omega, h32, if_pos h32⟩))
  · exact .inr (.inr (.inr ⟨by omega, by rw [if_neg h32]⟩))

theorem storageBits_eq (bits : Nat) : ∃ k, 1 ≤ k ∧ storageBits bits = 8 * k := by
  rcases storageBits_cases bits with ⟨_, e⟩ | ⟨_, _, e⟩ | ⟨_, _, e⟩ | ⟨_, e⟩
  · exact ⟨1, by decide, e⟩
  · exact ⟨2, by decide, e⟩
  · exact ⟨4, by decide, e⟩
  · exact ⟨8, by decide, e⟩

/-- tensor type of an integer parameter with `bits` logical bits (`quant_params_to_tflite_type`)
    against the dtype width of its quantized data (`assign_quantized_type`): INT4 over int8 data up
    to 4 bits, otherwise the integer type of the data's own width -/
theorem dtypeOf_int (bits : Nat) (d : Bool) (dt : Nat) (h : Perform.dtypeOf ⟨true, bits, d⟩ = .ok dt) :
    dt ≠ Tables.ttFloat16 ∧
    if bits ≤ 4 then dt = Tables.ttInt4 ∧ storageBits bits = 8
    else dt ≠ Tables.ttInt4 ∧ dtypeBits dt = some (storageBits bits) := by
  obtain rfl := TypingE2E.dtypeOf_intOfBits bits d dt h
  unfold TypingE2E.intOfBits
  by_cases h4 : bits ≤ 4
  · rw [if_pos h4, if_pos h4]
    exact ⟨by decide, rfl, if_pos (by omega)⟩
  rw [if_neg h4, if_neg h4]
  rcases storageBits_cases bits with ⟨h8, e⟩ | ⟨l8, h16, e⟩ | ⟨l16, h32, e⟩ | ⟨l32, e⟩
  · rw [if_pos h8, e]
    exact ⟨by decide, by decide, rfl⟩
  · rw [if_neg (by omega), if_pos h16, e]
    exact ⟨by decide, by decide, rfl⟩
  · rw [if_neg (by omega), if_neg (by omega), if_pos h32, e]
    exact ⟨by decide, by decide, rfl⟩
  · rw [if_neg (by omega), if_neg (by omega), if_neg (by omega), e]
    exact ⟨by decide, by decide, rfl⟩

theorem storeInts_byteLen (bits : Nat) (d : Bool) (dt : Nat) (zs : List Int)
    (h : Perform.dtypeOf ⟨true, bits, d⟩ = .ok dt) :
    byteLen dt zs.length = some (storeInts bits (storageBits bits) zs).length := by
  obtain ⟨_, hc⟩ := dtypeOf_int bits d dt h
  unfold storeInts byteLen
  by_cases h4 : bits ≤ 4
  · rw [if_pos h4] at hc ⊢
    obtain ⟨rfl, e⟩ := hc
    rw [e, C05.pack4_length, C05.encodeAllLE_length]
    show some ((zs.length * 4 + 7) / 8) = some ((zs.length * (8 / 8) + 1) / 2)
    congr 1; omega
  · rw [if_neg h4] at hc ⊢
    obtain ⟨k, _, e⟩ := storageBits_eq bits
    rw [hc.2, e, C05.encodeAllLE_length, Nat.mul_div_cancel_left k (by decide : 0 < 8), Option.map_some,
      Nat.mul_left_comm]
    congr 1; omega

/-- **round trip of the stored integer bytes**: decoding per the tensor type gives back the codes,
    provided every code is a value of its storage type (`wrapInt`-reduced), and a 4-bit value when
    the parameter is packed (`bits ≤ 4`) -/
theorem decodeInts_storeInts (bits : Nat) (d : Bool) (dt : Nat) (zs : List Int)
    (h : Perform.dtypeOf ⟨true, bits, d⟩ = .ok dt)
    (hw : ∀ z ∈ zs, -(2:Int)^(storageBits bits - 1) ≤ z ∧ z < (2:Int)^(storageBits bits - 1))
    (h4 : bits ≤ 4 → ∀ z ∈ zs, -8 ≤ z ∧ z < 8) :
    decodeInts dt zs.length (storeInts bits (storageBits bits) zs) = zs := by
  obtain ⟨_, hc⟩ := dtypeOf_int bits d dt h
  unfold storeInts decodeInts
  by_cases hb : bits ≤ 4
  · rw [if_pos hb] at hc ⊢
    obtain ⟨rfl, e⟩ := hc
    rw [if_pos rfl, e]
    exact C05.unpack_pack zs (h4 hb)
  · rw [if_neg hb] at hc ⊢
    obtain ⟨k, hk, e⟩ := storageBits_eq bits
    rw [e] at hw
    rw [if_neg hc.1, hc.2, e, Option.getD_some, Nat.mul_div_cancel_left k (by decide : 0 < 8)]
    exact C05.decodeAll_encodeAll k hk zs hw

theorem decodeStored_int (bits : Nat) (b : Bool) (dt n : Nat) (bs : List Nat)
    (h : Perform.dtypeOf ⟨true, bits, b⟩ = .ok dt) :
    decodeStored dt n bs = .inl (decodeInts dt n bs) :=
  if_neg (dtypeOf_int bits b dt h).1

theorem flatMap_f16Bytes_length (h : List Rat) : (h.flatMap f16Bytes).length = 2 * h.length := by
  induction h with
  | nil => rfl
  | cons x xs ih => rw [List.flatMap_cons, List.length_append, ih]; simp [f16Bytes]; omega

theorem flatMap_f16Bytes_get (h : List Rat) (i : Nat) (hi : i < h.length) :
    (h.flatMap f16Bytes).getD (2 * i) 0 = f16Bits h[i] % 256 ∧
    (h.flatMap f16Bytes).getD (2 * i + 1) 0 = f16Bits h[i] / 256 := by
  induction h generalizing i with
  | nil => simp at hi
  | cons x xs ih =>
    rw [List.flatMap_cons]
    cases i with
    | zero => simp [f16Bytes]
    | succ j =>
      have hj : j < xs.length := by simpa using hi
      obtain ⟨a, b⟩ := ih j hj
      have e1 : 2 * (j + 1) = 2 * j + 2 := by omega
      have e2 : 2 * (j + 1) + 1 = 2 * j + 1 + 2 := by omega
      simp only [f16Bytes, List.getD_eq_getElem?_getD, List.cons_append, List.nil_append, e1,
        List.getElem?_cons_succ, List.getElem_cons_succ] at a b ⊢
      exact ⟨a, b⟩

/-- **round trip of the stored float16 bytes** for values whose bit pattern is below `2^16` and is
    decoded to the value by `f16Val` (every finite binary16 number: `C05.f16Val_f16Bits`) -/
theorem decodeF16_bytes (h : List Rat)
    (hv : ∀ x ∈ h, BytesProofs.f16Val (f16Bits x) = x) :
    decodeF16 h.length (h.flatMap f16Bytes) = h := by
  unfold decodeF16
  apply List.ext_getElem
  · simp
  · intro i h1 h2
    simp only [List.getElem_map, List.getElem_range]
    have hi : i < h.length := h2
    obtain ⟨a, b⟩ := flatMap_f16Bytes_get h i hi
    rw [a, b]
    have : f16Bits h[i] % 256 + 256 * (f16Bits h[i] / 256) = f16Bits h[i] := Nat.mod_add_div _ _
    rw [this]
    exact hv _ (List.getElem_mem _)

end ConstBytes
