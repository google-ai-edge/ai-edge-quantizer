import QModel.Calib
import QProofs.PyForall
import QProofs.ListLemmas
/-!
# Arrays of `QModel/NdArray` element by element
The namespaces are those of the files that use the lemmas: `MatParams` (`numel`, `bshape`, `unravel` / `ravel`), `NumT` (`Compat`, `padLeft`), `ConstQuant`
(`bindex_self`, `Into`), `PyM` (`mapM_range_ok_iff`), `Nd` (`zipB_ok_iff`: the data of `zipB` is a `mapM` over the positions of the result; the rules that carry
a class of elements across it; `zipPair_fit`), `Arith` (`uniformQuantize_fit`), `Num.Prec` and `MatTotal` (every element of the moving average, `emaArr_elem`).
-/
open Arith Num Nd Calib

set_option autoImplicit false

namespace MatParams

theorem foldl_mul (s : List Nat) : ∀ a, s.foldl (· * ·) a = a * s.foldl (· * ·) 1 := by
  induction s with
  | nil => intro a; simp
  | cons b s ih =>
    intro a
    simp only [List.foldl_cons]
    rw [ih (a * b), ih (1 * b), Nat.one_mul, Nat.mul_assoc]

theorem numel_cons (a : Nat) (s : List Nat) : numel (a :: s) = a * numel s := by
  unfold numel
  rw [List.foldl_cons, foldl_mul, Nat.one_mul]

theorem numel_nil : numel [] = 1 := rfl

theorem bshape_self : ∀ (s : List Nat), bshape s s = some s
  | [] => rfl
  | a :: as => by simp [bshape, bshape_self as]

theorem bshapeAny_self (s : List Nat) : bshapeAny s s = some s := by
  unfold bshapeAny padLeft
  simp [bshape_self]

theorem unravel_lt : ∀ (rs : List Nat) (i : Nat), i < numel rs → List.Forall₂ (· < ·) (unravel rs i) rs := by
  intro rs
  induction rs with
  | nil => intro i _; exact List.Forall₂.nil
  | cons a rest ih =>
    intro i hi
    rw [numel_cons] at hi
    have hpos : 0 < numel rest := by
      rcases Nat.eq_zero_or_pos (numel rest) with h | h
      · rw [h, Nat.mul_zero] at hi; omega
      · exact h
    unfold unravel
    refine List.Forall₂.cons ?_ (ih _ (Nat.mod_lt _ hpos))
    exact (Nat.div_lt_iff_lt_mul hpos).2 hi

theorem ravel_bproj_lt : ∀ (ks idx rs : List Nat), List.Forall₂ (· < ·) idx rs →
    List.Forall₂ (fun k r => k = 1 ∨ k = r) ks rs → ravel ks (bproj ks idx) < numel ks := by
  intro ks
  induction ks with
  | nil => intro idx rs _ _; simp [ravel, numel_nil]
  | cons k ks' ih =>
    intro idx rs h1 h2
    cases h2 with
    | @cons _ r _ rs' hk h2' =>
      cases h1 with
      | @cons i _ idx' _ hi h1' =>
        have ihh := ih idx' rs' h1' h2'
        simp only [bproj, ravel, numel_cons]
        have hj : (if k = 1 then 0 else i) < k := by
          split
          · omega
          · rcases hk with h | h
            · contradiction
            · omega
        calc (if k = 1 then 0 else i) * numel ks' + ravel ks' (bproj ks' idx')
            < (if k = 1 then 0 else i) * numel ks' + numel ks' := by omega
          _ = ((if k = 1 then 0 else i) + 1) * numel ks' := by rw [Nat.add_mul, Nat.one_mul]
          _ ≤ k * numel ks' := Nat.mul_le_mul_right _ hj

end MatParams

namespace NumT

open MatParams

/-- operand shape `s` broadcasts to `r` without enlarging it: same rank, every dimension is 1 or that of `r` -/
abbrev Compat (s r : List Nat) : Prop := List.Forall₂ (fun k r => k = 1 ∨ k = r) s r

theorem Compat.length {s r : List Nat} (h : Compat s r) : s.length = r.length := by
  induction h with
  | nil => rfl
  | cons _ _ ih => rw [List.length_cons, List.length_cons, ih]

theorem bshape_compat : ∀ {s r : List Nat}, Compat s r → bshape r s = some r := by
  intro s r h
  induction h with
  | nil => rfl
  | @cons k d s r hk _ ih =>
    unfold bshape
    rw [ih]
    rcases hk with rfl | rfl
    · by_cases h : d = 1
      · subst h; simp
      · simp [h]
    · simp

theorem bshape_compat' : ∀ {s r : List Nat}, Compat s r → bshape s r = some r := by
  intro s r h
  induction h with
  | nil => rfl
  | @cons k d s r hk _ ih =>
    unfold bshape
    rw [ih]
    rcases hk with rfl | rfl
    · by_cases h : 1 = d
      · subst h; simp
      · simp [h]
    · simp

theorem padLeft_same (n : Nat) (s : List Nat) (h : n ≤ s.length) : padLeft n s = s := by
  unfold padLeft
  rw [Nat.sub_eq_zero_of_le h]
  rfl

theorem bindex_compat_lt {s r : List Nat} (h : Compat s r) (i : Nat) (hi : i < numel r) : bindex r s i < numel s := by
  unfold bindex
  rw [padLeft_same _ _ (Nat.le_of_eq h.length.symm)]
  exact ravel_bproj_lt _ _ _ (unravel_lt r i hi) h

theorem numel_append (a b : List Nat) : numel (a ++ b) = numel a * numel b := by
  induction a with
  | nil => simp [numel_nil]
  | cons x a ih => rw [List.cons_append, numel_cons, numel_cons, ih, Nat.mul_assoc]

theorem numel_replicate_one (n : Nat) : numel (List.replicate n 1) = 1 := by
  induction n with
  | zero => rfl
  | succ n ih => rw [List.replicate_succ, numel_cons, ih]

theorem numel_padLeft (n : Nat) (s : List Nat) : numel (padLeft n s) = numel s := by
  unfold padLeft
  rw [numel_append, numel_replicate_one, Nat.one_mul]

theorem padLeft_length (n : Nat) (s : List Nat) : (padLeft n s).length = max n s.length := by
  unfold padLeft
  simp only [List.length_append, List.length_replicate]
  omega

end NumT

namespace ConstQuant

open MatParams

theorem ravel_unravel : ∀ (s : List Nat) (i : Nat), i < numel s → ravel s (bproj s (unravel s i)) = i := by
  intro s
  induction s with
  | nil =>
    intro i hi
    rw [numel_nil] at hi
    simp only [ravel]
    omega
  | cons a rest ih =>
    intro i hi
    rw [numel_cons] at hi
    have hpos : 0 < numel rest := by
      rcases Nat.eq_zero_or_pos (numel rest) with h | h
      · rw [h, Nat.mul_zero] at hi; omega
      · exact h
    simp only [unravel, bproj, ravel]
    rw [ih _ (Nat.mod_lt _ hpos)]
    by_cases ha : a = 1
    · subst ha
      rw [if_pos rfl]
      have : i < numel rest := by omega
      rw [Nat.mod_eq_of_lt this]; omega
    · rw [if_neg ha]
      exact Nat.div_add_mod' i (numel rest)

theorem bindex_self (s : List Nat) (i : Nat) (hi : i < numel s) : bindex s s i = i := by
  unfold bindex
  rw [NumT.padLeft_same _ _ (Nat.le_refl _)]
  exact ravel_unravel s i hi

/-- the relation `NumT.Compat` -/
def Into (ks rs : List Nat) : Prop := List.Forall₂ (fun k r => k = 1 ∨ k = r) ks rs

theorem Into.length {ks rs : List Nat} (h : Into ks rs) : ks.length = rs.length := NumT.Compat.length h

theorem Into.refl : ∀ (s : List Nat), Into s s
  | [] => List.Forall₂.nil
  | _ :: s => List.Forall₂.cons (.inr rfl) (Into.refl s)

theorem bshape_into : ∀ (a b rs : List Nat), bshape a b = some rs → Into a rs ∧ Into b rs := by
  intro a
  induction a with
  | nil =>
    intro b rs h
    cases b with
    | nil => simp only [bshape, Option.some.injEq] at h; subst h; exact ⟨.nil, .nil⟩
    | cons _ _ => simp [bshape] at h
  | cons x xs ih =>
    intro b rs h
    cases b with
    | nil => simp [bshape] at h
    | cons y ys =>
      simp only [bshape] at h
      cases hr : bshape xs ys with
      | none => rw [hr] at h; cases h
      | some r =>
        rw [hr] at h
        obtain ⟨i1, i2⟩ := ih ys r hr
        simp only [] at h
        by_cases hxy : x = y
        · rw [if_pos hxy] at h; cases h
          exact ⟨.cons (.inr rfl) i1, .cons (.inr hxy.symm) i2⟩
        rw [if_neg hxy] at h
        by_cases hx : x = 1
        · rw [if_pos hx] at h; cases h
          exact ⟨.cons (.inl hx) i1, .cons (.inr rfl) i2⟩
        rw [if_neg hx] at h
        by_cases hy : y = 1
        · rw [if_pos hy] at h; cases h
          exact ⟨.cons (.inr rfl) i1, .cons (.inl hy) i2⟩
        · rw [if_neg hy] at h; cases h

theorem bshapeAny_same_len (a b : List Nat) (h : a.length = b.length) : bshapeAny a b = bshape a b := by
  show bshape (padLeft (max a.length b.length) a) (padLeft (max a.length b.length) b) = bshape a b
  rw [← h, Nat.max_self, NumT.padLeft_same _ _ (Nat.le_refl _), NumT.padLeft_same _ _ (Nat.le_of_eq h)]

end ConstQuant

namespace PyM

theorem mapM_congr {α β} {f g : α → PyM β} : ∀ {l : List α}, (∀ a ∈ l, f a = g a) → l.mapM f = l.mapM g
  | [], _ => rfl
  | a :: l, h => by
    rw [List.mapM_cons, List.mapM_cons, h a List.mem_cons_self, mapM_congr fun b hb => h b (List.mem_cons_of_mem _ hb)]

theorem _root_.List.eq_of_getD {α} (l l' : List α) (x : α) (hl : l.length = l'.length)
    (h : ∀ i < l.length, l.getD i x = l'.getD i x) : l = l' := by
  apply List.ext_getElem hl
  intro i h1 h2
  have := h i h1
  rw [List.getD_eq_getElem?_getD, List.getD_eq_getElem?_getD, List.getElem?_eq_getElem h1,
    List.getElem?_eq_getElem h2, Option.getD_some, Option.getD_some] at this
  exact this

theorem mapM_range_ok_iff {β} (g : Nat → PyM β) (x : β) (n : Nat) (d : List β) :
    (List.range n).mapM g = .ok d ↔ d.length = n ∧ ∀ i < n, g i = .ok (d.getD i x) := by
  constructor
  · intro h
    have hl := (PyM.mapM_ok_length h).trans List.length_range
    exact ⟨hl, fun i hi => PyM.mapM_ok_getElem? h i i _ (List.getElem?_range hi) (List.getElem?_eq_some_getD x (hl ▸ hi))⟩
  · rintro ⟨hl, h⟩
    obtain ⟨r, hr⟩ := PyM.mapM_total g (List.range n) fun i hi => ⟨_, h i (List.mem_range.1 hi)⟩
    have hrl := (PyM.mapM_ok_length hr).trans List.length_range
    rw [hr, List.eq_of_getD r d x (hrl.trans hl.symm) fun i hi => Except.ok.inj
      ((PyM.mapM_ok_getElem? hr i i _ (List.getElem?_range (hrl ▸ hi)) (List.getElem?_eq_some_getD x hi)).symm.trans
        (h i (hrl ▸ hi)))]

end PyM

namespace Nd

open MatParams NumT

theorem zipB_eq {α β γ} [Inhabited α] [Inhabited β] (f : α → β → PyM γ) (a : Arr α) (b : Arr β) (rs : List Nat)
    (h : bshapeAny a.shape b.shape = some rs) :
    zipB f a b = ((List.range (numel rs)).mapM fun i =>
      f (a.data.getD (bindex rs a.shape i) default) (b.data.getD (bindex rs b.shape i) default)) >>= fun d =>
        pure ⟨rs, d⟩ := by
  unfold zipB
  rw [h]

theorem zipB_ok_iff {α β γ} [Inhabited α] [Inhabited β] {f : α → β → PyM γ} {a : Arr α} {b : Arr β} {c : Arr γ} :
    zipB f a b = .ok c ↔ bshapeAny a.shape b.shape = some c.shape ∧
      (List.range (numel c.shape)).mapM (fun i => f (a.data.getD (bindex c.shape a.shape i) default)
        (b.data.getD (bindex c.shape b.shape i) default)) = .ok c.data := by
  cases hrs : bshapeAny a.shape b.shape with
  | none =>
    unfold zipB
    rw [hrs]
    exact ⟨fun h => (nomatch h), fun h => (nomatch h.1)⟩
  | some rs =>
    rw [zipB_eq f a b rs hrs]
    constructor
    · intro h
      obtain ⟨d, hd, h⟩ := PyM.bind_eq_ok_iff.1 h
      cases PyM.pure_eq_ok_iff.1 h
      exact ⟨rfl, hd⟩
    · rintro ⟨h1, hd⟩
      cases h1
      exact PyM.bind_eq_ok_iff.2 ⟨_, hd, rfl⟩

theorem zipB_shape {α β γ} [Inhabited α] [Inhabited β] {f : α → β → PyM γ} {a : Arr α} {b : Arr β} {c : Arr γ}
    (h : zipB f a b = .ok c) : bshapeAny a.shape b.shape = some c.shape ∧ c.data.length = numel c.shape :=
  ⟨(zipB_ok_iff.1 h).1, (PyM.mapM_ok_length (zipB_ok_iff.1 h).2).trans List.length_range⟩

theorem getD_all {α} {P : α → Prop} {l : List α} (h : ∀ x ∈ l, P x) {d : α} (hd : P d) (i : Nat) : P (l.getD i d) := by
  rcases List.getD_mem_or l i d with h1 | h1
  · exact h _ h1
  · rw [h1]; exact hd

/-- `default` is what an array shorter than its shape yields: hence `hP`, `hQ` -/
theorem zipB_total_all {α β γ} [Inhabited α] [Inhabited β] {f : α → β → PyM γ} {a : Arr α} {b : Arr β} {rs : List Nat}
    (hrs : bshapeAny a.shape b.shape = some rs) {P : α → Prop} {Q : β → Prop}
    (ha : ∀ x ∈ a.data, P x) (hb : ∀ y ∈ b.data, Q y) (hP : P default) (hQ : Q default)
    (hf : ∀ x y, P x → Q y → ∃ z, f x y = .ok z) : ∃ c, zipB f a b = .ok c := by
  obtain ⟨d, hd⟩ := PyM.mapM_total (fun i => f (a.data.getD (bindex rs a.shape i) default)
    (b.data.getD (bindex rs b.shape i) default)) (List.range (numel rs)) (fun i _ => hf _ _ (getD_all ha hP _) (getD_all hb hQ _))
  exact ⟨⟨rs, d⟩, zipB_ok_iff.2 ⟨hrs, hd⟩⟩

theorem bindex_lt {a b rs : List Nat} (h : bshapeAny a b = some rs) {i : Nat} (hi : i < numel rs) :
    bindex rs a i < numel a ∧ bindex rs b i < numel b := by
  obtain ⟨ia, ib⟩ := ConstQuant.bshape_into _ _ _ h
  have hl : rs.length = max a.length b.length := by
    rw [← ia.length, padLeft_length]; omega
  unfold bindex
  rw [hl]
  have ha := ravel_bproj_lt _ _ _ (unravel_lt rs i hi) ia
  have hb := ravel_bproj_lt _ _ _ (unravel_lt rs i hi) ib
  rw [numel_padLeft] at ha hb
  exact ⟨ha, hb⟩

/-- for arrays that have as many elements as their shape says nothing is asked of `default` -/
theorem zipB_total_wf {α β γ} [Inhabited α] [Inhabited β] {f : α → β → PyM γ} {a : Arr α} {b : Arr β} {rs : List Nat}
    (hrs : bshapeAny a.shape b.shape = some rs) (la : a.data.length = numel a.shape) (lb : b.data.length = numel b.shape)
    {P : α → Prop} {Q : β → Prop} (ha : ∀ x ∈ a.data, P x) (hb : ∀ y ∈ b.data, Q y)
    (hf : ∀ x y, P x → Q y → ∃ z, f x y = .ok z) : ∃ c, zipB f a b = .ok c := by
  obtain ⟨d, hd⟩ := PyM.mapM_total (fun i => f (a.data.getD (bindex rs a.shape i) default)
    (b.data.getD (bindex rs b.shape i) default)) (List.range (numel rs)) (fun i hi => by
      obtain ⟨h1, h2⟩ := bindex_lt hrs (List.mem_range.1 hi)
      exact hf _ _ (ha _ (List.getD_mem _ _ _ (la ▸ h1))) (hb _ (List.getD_mem _ _ _ (lb ▸ h2))))
  exact ⟨⟨rs, d⟩, zipB_ok_iff.2 ⟨hrs, hd⟩⟩

theorem zipB_all_wf {α β γ} [Inhabited α] [Inhabited β] {f : α → β → PyM γ} {a : Arr α} {b : Arr β} {c : Arr γ}
    (h : zipB f a b = .ok c) (la : a.data.length = numel a.shape) (lb : b.data.length = numel b.shape)
    {P : α → Prop} {Q : β → Prop} {R : γ → Prop} (ha : ∀ x ∈ a.data, P x) (hb : ∀ y ∈ b.data, Q y)
    (hf : ∀ x y z, P x → Q y → f x y = .ok z → R z) : ∀ z ∈ c.data, R z := by
  intro z hz
  obtain ⟨hrs, hd⟩ := zipB_ok_iff.1 h
  obtain ⟨i, hi, hi'⟩ := PyM.mapM_ok _ _ _ hd z hz
  obtain ⟨h1, h2⟩ := bindex_lt hrs (List.mem_range.1 hi)
  exact hf _ _ z (ha _ (List.getD_mem _ _ _ (la ▸ h1))) (hb _ (List.getD_mem _ _ _ (lb ▸ h2))) hi'

/-- "pair scale and zero point, zip the pairs against the tensor", the computation shared by `uniformQuantize` and `Blockwise.quantizeWith`,
    is ONE `mapM` over the positions of the broadcast shape `rs` -/
theorem zipPair_eq {δ} (g : Rat → Rat → Int → PyM δ) (x sc : Arr Rat) (zp : Arr Int) (hsh : sc.shape = zp.shape)
    (hr : x.shape.length = sc.shape.length) (rs : List Nat) (hrs : bshape x.shape sc.shape = some rs) :
    (zipB (fun (s : Rat) (z : Int) => (pure (s, z) : PyM (Rat × Int))) sc zp >>= fun sz =>
      zipB (fun v (p : Rat × Int) => g v p.1 p.2) x sz) =
    ((List.range (numel rs)).mapM fun i =>
      g (x.data.getD (bindex rs x.shape i) 0) (sc.data.getD (bindex rs sc.shape i) 0)
        (zp.data.getD (bindex rs sc.shape i) 0)) >>= fun d => pure ⟨rs, d⟩ := by
  rw [zipB_eq _ sc zp sc.shape (by rw [← hsh]; exact bshapeAny_self _), List.mapM_pure]
  simp only [bind, Except.bind, pure, Except.pure]
  rw [zipB_eq _ x (⟨sc.shape, _⟩ : Arr (Rat × Int)) rs (by rw [ConstQuant.bshapeAny_same_len _ _ hr]; exact hrs)]
  simp only [bind, Except.bind, pure, Except.pure]
  rw [PyM.mapM_congr]
  intro i hi
  -- position `i` reads the pair at its channel, which was read at the same channel of scale and zero point
  have hj := bindex_compat_lt (ConstQuant.bshape_into _ _ _ hrs).2 i (List.mem_range.1 hi)
  simp only [List.getD_eq_getElem?_getD, List.getElem?_map, List.getElem?_range hj, Option.map_some,
    Option.getD_some, ← hsh, ConstQuant.bindex_self _ _ hj]
  rfl

theorem zipPair_fit {δ} (g : Rat → Rat → Int → PyM δ) (x sc : Arr Rat) (zp : Arr Int) (hsh : sc.shape = zp.shape)
    (hc : Compat sc.shape x.shape) :
    (zipB (fun (s : Rat) (z : Int) => (pure (s, z) : PyM (Rat × Int))) sc zp >>= fun sz =>
      zipB (fun v (p : Rat × Int) => g v p.1 p.2) x sz) =
    ((List.range (numel x.shape)).mapM fun i =>
      g (x.data.getD i 0) (sc.data.getD (bindex x.shape sc.shape i) 0) (zp.data.getD (bindex x.shape sc.shape i) 0)) >>=
        fun d => pure ⟨x.shape, d⟩ := by
  rw [zipPair_eq g x sc zp hsh hc.length.symm x.shape (bshape_compat hc), PyM.mapM_congr]
  intro i hi
  rw [ConstQuant.bindex_self _ _ (List.mem_range.1 hi)]

end Nd

namespace Arith

open NumT

/-- parameters of the tensor's rank are returned unchanged by `fix_quantization_params_rank` … -/
theorem fixRank_same {sh : List Nat} {qp : QParams} (h : sh.length = qp.scale.arr.rank) : fixRank sh qp = .ok qp := by
  unfold fixRank
  simp only [h, if_true]

/-- … and pass `_is_valid_quantization_params` when scale and zero point have one shape -/
theorem validParams_same {sh : List Nat} {qp : QParams} (hsh : qp.scale.arr.shape = qp.zp.arr.shape)
    (h : sh.length = qp.scale.arr.rank) : validParams sh qp = .ok () := by
  unfold validParams
  rw [if_neg (by rw [hsh]; exact fun h => h rfl), if_neg (by rw [h]; exact fun h => h rfl)]

/-- **`uniform_quantize` on parameters that fit the tensor is one `mapM` over the elements** -/
theorem uniformQuantize_fit (x : FArr) (qp : QParams) (hsh : qp.scale.arr.shape = qp.zp.arr.shape)
    (hc : Compat qp.scale.arr.shape x.arr.shape) :
    uniformQuantize x qp = ((List.range (numel x.arr.shape)).mapM fun i =>
      quantize1 x.pr qp.scale.pr qp.zp.w qp.bits qp.symmetric (x.arr.data.getD i 0)
        (qp.scale.arr.data.getD (bindex x.arr.shape qp.scale.arr.shape i) 0)
        (qp.zp.arr.data.getD (bindex x.arr.shape qp.scale.arr.shape i) 0)) >>= fun d =>
      pure ⟨⟨x.arr.shape, d⟩, storageBits qp.bits⟩ := by
  have h1 := fixRank_same (sh := x.arr.shape) (qp := qp) hc.length.symm
  have h2 := validParams_same hsh (sh := x.arr.shape) hc.length.symm
  have key : uniformQuantize x qp =
      (zipB (fun (s : Rat) (z : Int) => (pure (s, z) : PyM (Rat × Int))) qp.scale.arr qp.zp.arr >>= fun sz =>
        zipB (fun v (p : Rat × Int) => quantize1 x.pr qp.scale.pr qp.zp.w qp.bits qp.symmetric v p.1 p.2) x.arr sz) >>=
          fun out => pure ⟨out, storageBits qp.bits⟩ := by
    unfold uniformQuantize
    simp only [h1, h2, bind, Except.bind]
    cases zipB (fun (s : Rat) (z : Int) => (pure (s, z) : PyM (Rat × Int))) qp.scale.arr qp.zp.arr <;> rfl
  rw [key, Nd.zipPair_fit _ x.arr qp.scale.arr qp.zp.arr hsh hc]
  generalize List.mapM (m := PyM) (β := Int) _ (List.range (numel x.arr.shape)) = r
  cases r <;> rfl

end Arith

namespace Num.Prec

theorem mapM_chk {α} (pr : Prec) (g : α → Rat) : ∀ (l : List α) (r : List Rat),
    l.mapM (fun x => pr.chk (g x)) = .ok r → r = l.map (fun x => pr.rn (g x)) := by
  intro l
  induction l with
  | nil => intro r h; exact PyM.mapM_nil_ok_iff.1 h
  | cons a l ih =>
    intro r h
    obtain ⟨y, ys, h1, h2, rfl⟩ := PyM.mapM_cons_ok_iff.1 h
    rw [List.map_cons, ← ih ys h2, (PyM.guard_ok_iff.1 h1).2]

end Num.Prec

namespace MatTotal

/-- dtype of `_update_moving_average` -/
def emaPr (a b : Prec) : Prec :=
  match a.join b with
  | .f32 => if a == .f32 && b == .f32 then .f32 else .f64
  | .f16 => .f16
  | _ => .f64

/-- the weight of the old value, as an array of format `p` sees the Python float `0.95` -/
def emaC1 (p : Prec) : Rat := p.rn (Prec.f64.rn (19/20))

/-- the weight of the new value: the Python float `1 - 0.95` -/
def emaC2 (p : Prec) : Rat := p.rn (Prec.f64.rn (1 - Prec.f64.rn (19/20)))

/-- one element of `_update_moving_average` in format `p` -/
def emaEl (p : Prec) (w u : Rat) : Rat := p.rn (p.rn (emaC1 p * w) + p.rn (emaC2 p * u))

theorem emaArr_unfold (w u : FArr) :
    emaArr w u = (do
      let a ← w.arr.mapM fun x => (emaPr w.pr u.pr).chk (emaC1 (emaPr w.pr u.pr) * x)
      let b ← u.arr.mapM fun x => (emaPr w.pr u.pr).chk (emaC2 (emaPr w.pr u.pr) * x)
      let s ← zipB (fun x y => (emaPr w.pr u.pr).chk (x + y)) a b
      pure ⟨s, emaPr w.pr u.pr⟩) := rfl

theorem rn_mul_zero (p : Prec) (c : Rat) : p.rn (c * 0) = 0 := by
  rw [Rat.mul_zero]
  cases p <;> simp [Prec.rn, Num.rn]

/-- **every element of the moving average**, in whatever format (`w` old, `u` new; numpy broadcasting of the two shapes) -/
theorem emaArr_elem (w u r : FArr) (h : emaArr w u = .ok r) :
    r.pr = emaPr w.pr u.pr ∧ ∃ rs, bshapeAny w.arr.shape u.arr.shape = some rs ∧ r.arr.shape = rs ∧
      r.arr.data = (List.range (numel rs)).map fun i =>
        emaEl (emaPr w.pr u.pr) (w.arr.data.getD (bindex rs w.arr.shape i) 0) (u.arr.data.getD (bindex rs u.arr.shape i) 0) := by
  rw [emaArr_unfold w u] at h
  generalize emaPr w.pr u.pr = p at h ⊢
  obtain ⟨a, ha, h⟩ := PyM.bind_eq_ok_iff.1 h
  obtain ⟨b, hb, h⟩ := PyM.bind_eq_ok_iff.1 h
  obtain ⟨s, hs, h⟩ := PyM.bind_eq_ok_iff.1 h
  cases PyM.pure_eq_ok_iff.1 h
  obtain ⟨da, hda, ha⟩ := PyM.bind_eq_ok_iff.1 ha
  cases PyM.pure_eq_ok_iff.1 ha
  obtain ⟨db, hdb, hb⟩ := PyM.bind_eq_ok_iff.1 hb
  cases PyM.pure_eq_ok_iff.1 hb
  obtain ⟨hrs, hd⟩ := Nd.zipB_ok_iff.1 hs
  refine ⟨rfl, s.shape, hrs, rfl, ?_⟩
  show s.data = _
  rw [Prec.mapM_chk p _ _ _ hd, Prec.mapM_chk p _ _ _ hda, Prec.mapM_chk p _ _ _ hdb]
  refine List.map_congr_left (fun i _ => ?_)
  -- reading the scaled arrays out of range gives the default `0 = rn (c · 0)`
  have e : ∀ (c : Rat) (l : List Rat) j, (l.map fun x => p.rn (c * x)).getD j default = p.rn (c * l.getD j 0) := by
    intro c l j
    rw [List.getD_eq_getElem?_getD, show (default : Rat) = p.rn (c * 0) from (rn_mul_zero p c).symm,
      List.getElem?_map, Option.getD_map, List.getD_eq_getElem?_getD]
  unfold emaEl
  rw [e, e]

end MatTotal
