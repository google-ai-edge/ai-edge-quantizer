import QProofs.RunDesc
/-!
Shared constant buffers through the whole performer (C15, graph stage).  `BInv` says what the original
tensors, the inserted tensors and the data buffers look like; `Done` is what a retyping instruction
(QUANTIZE_TENSOR / ADD_DEQUANTIZE) leaves behind.  Both are read off `RunDesc.Ran` (`Ran.binv`,
`Ran.orig_cases`); `buffer_weak` and `buffer_agrees` read them.
-/
open Graph Perform GraphStep GraphInv Skeleton StepTypes Wiring RunRule RunDesc

namespace SharingE2E

/-- tensor `i` of subgraph `s` of `m` references buffer `b` -/
def Referent (m : Model) (b s i : Nat) : Prop :=
  ∃ sg tn, m.subgraphs[s]? = some sg ∧ sg.tensors[i]? = some tn ∧ tn.buffer = b

/-- `tis` contains a retyping instruction (QUANTIZE_TENSOR / ADD_DEQUANTIZE) with parameter `p` on
    tensor `i` of subgraph `s` -/
def Retyped (tis : List TInsts) (s i : Nat) (p : PId) : Prop :=
  ∃ ti ∈ tis, ∃ ins ∈ ti.insts, ti.sg = s ∧ ins.tensor = (i : Int) ∧ retypes ins.xf = true ∧
    ins.param = some p

def TypedBy (pt : PTable) (p : PId) (tn : Tensor) : Prop :=
  ∃ pi ty, pinfo pt p = some pi ∧ dtypeOf pi = .ok ty ∧ tn.dtype = ty ∧
    (pi.uniform = true → tn.quant = some p)

/-- all retyping instructions on tensors that reference buffer `b` carry the same parameter -/
def SameOn (m : Model) (tis : List TInsts) (b : Nat) : Prop :=
  ∀ s i p s' i' p', Referent m b s i → Referent m b s' i' → Retyped tis s i p →
    Retyped tis s' i' p' → p = p'

/-- a retyping instruction on a CONSTANT tensor carries a parameter with packed data -/
def ConstData (pt : PTable) (m : Model) (tis : List TInsts) : Prop :=
  ∀ ti ∈ tis, ∀ ins ∈ ti.insts, retypes ins.xf = true → ∀ sg tn c p pi,
    m.subgraphs[ti.sg]? = some sg → sg.tensors[ins.tensor.toNat]? = some tn →
    m.buffers[tn.buffer]? = some (some c) → ins.param = some p → pinfo pt p = some pi →
    pi.hasData = true

theorem StepB.digest {pt : PTable} {m0 : Model} {s : Nat} {ins : Inst} {st st' : PState}
    (S : StepB pt m0 s ins st st') (sg0 : Subgraph) (h0 : m0.subgraphs[s]? = some sg0) :
    ∃ (sg sg' : Subgraph) (tn0 tn : Tensor) (p : PId) (pi : PInfo) (ty : Nat),
      st.model.subgraphs[s]? = some sg ∧ st'.model.subgraphs[s]? = some sg' ∧
      0 ≤ ins.tensor ∧ sg0.tensors[ins.tensor.toNat]? = some tn0 ∧
      sg.tensors[ins.tensor.toNat]? = some tn ∧ tn.buffer = tn0.buffer ∧
      ins.param = some p ∧ pinfo pt p = some pi ∧ dtypeOf pi = .ok ty ∧
      sg0.tensors.length ≤ sg.tensors.length ∧
      (∀ i tnx, sg.tensors[i]? = some tnx → sg'.tensors[i]? =
        some (if retypes ins.xf = true ∧ i = ins.tensor.toNat then retype pi p ty tn else tnx)) ∧
      (∀ i tnx, sg'.tensors[i]? = some tnx → sg.tensors.length ≤ i → tnx.buffer = 0) ∧
      st'.model.buffers =
        (if retypes ins.xf = true then newBufs st.model.buffers tn pi p else st.model.buffers) := by
  obtain ⟨sg0', sg, sg', om, om', cons, p, pi, ty, tn, nm, g0, h1, h1', h2, h2', hlen, hiok,
    e1, e2, e3, e4, hT, -, -, -⟩ := S.step.eff
  rw [h0] at g0; cases g0
  obtain ⟨sgb, tnb, pb, pib, b1, b2, b3, b4, b5⟩ := S.bufs
  rw [h1] at b1; cases b1
  rw [e4] at b2; cases b2
  rw [e1] at b3; cases b3
  rw [e2] at b4; cases b4
  have hv := (validT_iff _ _).1 hiok.tvalid
  unfold ValidT at hv
  have hlt0 : ins.tensor.toNat < sg0.tensors.length := by omega
  have ht0 : sg0.tensors[ins.tensor.toNat]? = some sg0.tensors[ins.tensor.toNat] :=
    List.getElem?_eq_getElem hlt0
  obtain ⟨tnc, c1, c2⟩ := (S.step.base.w s sg0 sg om h0 h1 h2).buf _ _ ht0
  rw [e4] at c1; cases c1
  have htl := (S.step.base.inv.sg s sg0 sg om h0 h1 h2).tlen
  refine ⟨sg, sg', _, tn, p, pi, ty, h1, h1', hv.1, ht0, e4, c2, e1, e2, e3, htl, ?_, ?_, b5⟩
  · intro i tnx hi
    have hil : i < sg.tensors.length := (List.getElem?_eq_some_iff.1 hi).1
    rw [hT]
    cases hr : retypes ins.xf
    · simp only [Bool.false_eq_true, if_false, false_and]
      rw [List.getElem?_append_left hil]; exact hi
    · simp only [if_true, true_and]
      rw [List.getElem?_append_left (by simpa using hil), List.getElem?_set]
      by_cases hit : i = ins.tensor.toNat
      · subst hit
        rw [if_pos rfl, if_pos hil, if_pos rfl]
      · rw [if_neg (fun e => hit e.symm), if_neg hit]; exact hi
  · intro i tnx hi hge
    rw [hT] at hi
    have hl : (if retypes ins.xf = true then sg.tensors.set ins.tensor.toNat (retype pi p ty tn)
        else sg.tensors).length = sg.tensors.length := by
      split <;> simp
    rw [List.getElem?_append_right (by rw [hl]; exact hge), hl] at hi
    split at hi
    · have hz : i - sg.tensors.length = 0 := by
        have := (List.getElem?_eq_some_iff.1 hi).1
        simp at this; omega
      rw [hz] at hi
      simp only [List.getElem?_cons_zero, Option.some.injEq] at hi
      subst hi
      split
      · rw [retype_buffer]; rfl
      · rfl
    · simp at hi

/-- the buffer `b` holds packed quantized data, of parameter `p` if all retyping instructions on
    the tensors of `b` agree -/
def Packed (m : Model) (tis : List TInsts) (st : PState) (b : Nat) (p : PId) : Prop :=
  ∀ c, m.buffers[b]? = some (some c) →
    ∃ q, st.model.buffers[b]? = some (some (.inr q)) ∧ (SameOn m tis b → q = p)

/-- the record of tensor `i` of subgraph `s` (which references buffer `b` in the input model) was
    written by a retyping instruction of `tis`, and `b` holds the corresponding packed data -/
def Written (pt : PTable) (m : Model) (tis : List TInsts) (st : PState) (s i b : Nat) : Prop :=
  ∃ sg tn p, st.model.subgraphs[s]? = some sg ∧ sg.tensors[i]? = some tn ∧ Retyped tis s i p ∧
    TypedBy pt p tn ∧ Packed m tis st b p

structure BInv (pt : PTable) (m : Model) (tis : List TInsts) (st : PState) : Prop where
  orig : ∀ (s : Nat) (sg0 : Subgraph) (i : Nat) (tn0 : Tensor), m.subgraphs[s]? = some sg0 → sg0.tensors[i]? = some tn0 →
    ∃ sg tn, st.model.subgraphs[s]? = some sg ∧ sg.tensors[i]? = some tn ∧
      tn.buffer = tn0.buffer ∧ (tn = tn0 ∨ Written pt m tis st s i tn0.buffer)
  fresh : ∀ (s : Nat) (sg0 sg : Subgraph) (i : Nat) (tn : Tensor), m.subgraphs[s]? = some sg0 → st.model.subgraphs[s]? = some sg →
    sg.tensors[i]? = some tn → sg0.tensors.length ≤ i → tn.buffer = 0
  bufs : ∀ b c, m.buffers[b]? = some (some c) →
    st.model.buffers[b]? = some (some c) ∨
    ∃ s i p pi, Referent m b s i ∧ Retyped tis s i p ∧ pinfo pt p = some pi ∧ pi.hasData = true ∧
      st.model.buffers[b]? = some (some (.inr p))

def Done (pt : PTable) (m : Model) (tis : List TInsts) (ti : TInsts) (ins : Inst) (st : PState) : Prop :=
  retypes ins.xf = true → ∀ sg0 tn0, m.subgraphs[ti.sg]? = some sg0 →
    sg0.tensors[ins.tensor.toNat]? = some tn0 →
    Written pt m tis st ti.sg ins.tensor.toNat tn0.buffer

variable {pt : PTable} {m : Model} {tis : List TInsts} {st : PState}

theorem retyped_of_performed (hok : ∀ ti ∈ tis, TInstsOK pt m ti) {e : TInsts × Inst}
    (he : e ∈ performed tis) (hr : retypes e.2.xf = true) {p : PId} (hp : e.2.param = some p) :
    Retyped tis e.1.sg e.2.tensor.toNat p := by
  obtain ⟨hti, hins, -⟩ := mem_performed.1 he
  obtain ⟨sgx, -, hall⟩ := (hok e.1 hti).insts
  have hv := (validT_iff _ _).1 (hall e.2 hins).tvalid
  unfold ValidT at hv
  exact ⟨e.1, hti, e.2, hins, rfl, by omega, hr, hp⟩

/-- a retyping instruction on a tensor over the data buffer `b` writes `b`; whoever writes it last is a
    retyping instruction on a tensor over `b` -/
theorem _root_.RunDesc.Ran.packed (hwf : WF.modelOK m = true) (hcd : ConstData pt m tis)
    (hok : ∀ ti ∈ tis, TInstsOK pt m ti) (R : Ran pt m (performed tis) st) {b s i : Nat} {p : PId}
    (hR : Referent m b s i) (hp : Retyped tis s i p) : Packed m tis st b p := by
  intro c hc
  obtain ⟨sg0, tn0, r1, r2, r3⟩ := hR
  obtain ⟨ti, hti, ins, hins, e1, e2, hr, e4⟩ := hp
  have hmem : (ti, ins) ∈ performed tis := mem_performed.2 ⟨hti, hins, retypes_insertion _ hr⟩
  obtain ⟨p', pi, -, hp', hpi, -⟩ := R.params _ hmem
  cases e4.symm.trans hp'
  have hi : i = ins.tensor.toNat := by omega
  have hne : b ≠ 0 := fun e0 => by rw [e0, ((modelOK_iff m).1 hwf).1] at hc; cases hc
  have hw : Writes pt m (ti, ins) b p := ⟨sg0, tn0, pi, e1 ▸ r1, hi ▸ r2, e4, hpi, hr, r3, hne,
    (List.getElem?_eq_some_iff.1 hc).1, hcd ti hti ins hins hr sg0 tn0 c p pi (e1 ▸ r1) (hi ▸ r2) (r3 ▸ hc) e4 hpi⟩
  rw [R.bufs]
  rcases bufsAfter_cases pt m (performed tis) b with
    ⟨-, hno⟩ | ⟨e', he', q, ⟨sg0', tn0', pi', g0, g1, g2, g3, hr', gb, -, -, -⟩, hq⟩
  · exact absurd hw (hno _ hmem p)
  · exact ⟨q, hq, fun hS => hS _ _ q s i p ⟨sg0', tn0', g0, g1, gb⟩ ⟨sg0, tn0, r1, r2, r3⟩
      (retyped_of_performed hok he' hr' g2) ⟨ti, hti, ins, hins, e1, e2, hr, e4⟩⟩

/-- **an ORIGINAL tensor at the end of the run**: its original record and no retyping instruction, or
    `Written` by its last retyping instruction -/
theorem _root_.RunDesc.Ran.orig_cases (hwf : WF.modelOK m = true) (hcd : ConstData pt m tis)
    (hok : ∀ ti ∈ tis, TInstsOK pt m ti) (B : Base m st) (R : Ran pt m (performed tis) st)
    {s : Nat} {sg0 : Subgraph} {i : Nat} {tn0 : Tensor} (h0 : m.subgraphs[s]? = some sg0)
    (hi : sg0.tensors[i]? = some tn0) :
    ∃ sg tn, st.model.subgraphs[s]? = some sg ∧ sg.tensors[i]? = some tn ∧ tn.buffer = tn0.buffer ∧
      ((tn = tn0 ∧ ∀ p, ¬ Retyped tis s i p) ∨ Written pt m tis st s i tn0.buffer) := by
  obtain ⟨sg, om, h1, h2, -⟩ := B.cur s sg0 h0
  have hrec := (R.sg s sg0 sg om h0 h1 h2).orig i tn0 hi
  refine ⟨sg, _, h1, hrec, (retyped_nsb ..).2.2, ?_⟩
  rcases retyped_cases pt (on s (performed tis)) i tn0 with ⟨h, hno⟩ | ⟨e, he, hc, tn, h, -⟩
  · refine .inl ⟨h, fun p ⟨ti, hti, ins, hins, e1, e2, hr, e4⟩ => ?_⟩
    exact hno ins (mem_on.2 ⟨ti, mem_performed.2 ⟨hti, hins, retypes_insertion _ hr⟩, e1⟩) ⟨hr, by omega⟩
  · obtain ⟨ti, hmem, rfl⟩ := mem_on.1 he
    obtain ⟨p, pi, ty, hp, hpi, hty⟩ := R.params _ hmem
    have hret : Retyped tis ti.sg i p := hc.2 ▸ retyped_of_performed hok hmem hc.1 hp
    rw [retypeBy_eq hp hpi hty] at h
    exact .inr ⟨sg, _, p, h1, hrec, hret,
      ⟨pi, ty, hpi, hty, by rw [h, retype_dtype], fun hu => by rw [h, retype_quant, if_pos hu]⟩,
      R.packed hwf hcd hok ⟨sg0, tn0, h0, hi, rfl⟩ hret⟩

theorem _root_.RunDesc.Ran.binv (hwf : WF.modelOK m = true) (hcd : ConstData pt m tis)
    (hok : ∀ ti ∈ tis, TInstsOK pt m ti) (B : Base m st) (R : Ran pt m (performed tis) st) :
    BInv pt m tis st := by
  refine ⟨fun s sg0 i tn0 h0 hi => ?_, fun s sg0 sg i tn h0 h1 hi hge => ?_, fun b c hb => ?_⟩
  · obtain ⟨sg, tn, h1, h2, h3, h4⟩ := R.orig_cases hwf hcd hok B h0 hi
    exact ⟨sg, tn, h1, h2, h3, h4.imp_left (·.1)⟩
  · obtain ⟨_, om, h1', h2, -⟩ := B.cur s sg0 h0
    cases h1.symm.trans h1'
    have S := R.sg s sg0 sg om h0 h1 h2
    have hlt := (List.getElem?_eq_some_iff.1 hi).1
    obtain ⟨e, he⟩ : ∃ e, (adds (on s (performed tis)))[i - sg0.tensors.length]? = some e :=
      ⟨_, List.getElem?_eq_getElem (by have := S.len; omega)⟩
    obtain ⟨tn0, p, pi, ty, -, -, -, -, c6⟩ := (S.new _ e he).record
    rw [show sg0.tensors.length + (i - sg0.tensors.length) = i by omega, hi] at c6
    rw [Option.some.inj c6, IOStep.newRecord_buffer]
  · rw [R.bufs]
    rcases bufsAfter_cases pt m (performed tis) b with
      ⟨h, -⟩ | ⟨e, he, p, ⟨sg0, tn0, pi, g0, g1, g2, g3, hr, gb, -, -, hd⟩, hq⟩
    · exact .inl (h.trans hb)
    · exact .inr ⟨_, _, p, pi, ⟨sg0, tn0, g0, g1, gb⟩, retyped_of_performed hok he hr g2, g3, hd, hq⟩

theorem _root_.RunDesc.Ran.done (hwf : WF.modelOK m = true) (hcd : ConstData pt m tis)
    (hok : ∀ ti ∈ tis, TInstsOK pt m ti) (B : Base m st) (R : Ran pt m (performed tis) st)
    {ti : TInsts} {ins : Inst} (hti : ti ∈ tis) (hins : ins ∈ ti.insts) : Done pt m tis ti ins st := by
  intro hr sg0 tn0 h0 hi
  have hmem : (ti, ins) ∈ performed tis := mem_performed.2 ⟨hti, hins, retypes_insertion _ hr⟩
  obtain ⟨-, -, -, -, -, ⟨-, hno⟩ | hW⟩ := R.orig_cases hwf hcd hok B h0 hi
  · obtain ⟨p, -, -, hp, -⟩ := R.params _ hmem
    exact absurd (retyped_of_performed hok hmem hr hp) (hno p)
  · exact hW

theorem run_final (pt : PTable) (m m' : Model) (tis : List TInsts)
    (hwf : WF.modelOK m = true) (htag : origTagged m = true)
    (hok : ∀ ti ∈ tis, TInstsOK pt m ti) (hcd : ConstData pt m tis)
    (h : transformGraph pt m tis = .ok m') :
    ∃ st, st.model = m' ∧ Base m st ∧ BInv pt m tis st ∧
      ∀ ti ∈ tis, ∀ ins ∈ ti.insts, Done pt m tis ti ins st := by
  obtain ⟨st, hfold, rfl⟩ := (transformGraph_ok_iff pt m m' tis).1 h
  obtain ⟨B, R⟩ := run_ran pt m tis hwf htag hok hfold
  exact ⟨st, rfl, B, R.binv hwf hcd hok B, fun ti hti ins hins => R.done hwf hcd hok B hti hins⟩

theorem referent_back (pt : PTable) (m : Model) (tis : List TInsts) (st : PState)
    (hwf : WF.modelOK m = true) (B : Base m st) (j : BInv pt m tis st)
    (b : Nat) (c : Nat ⊕ PId) (hb : m.buffers[b]? = some (some c))
    (s : Nat) (sg' : Subgraph) (i : Nat) (tn' : Tensor) (h1 : st.model.subgraphs[s]? = some sg')
    (h2 : sg'.tensors[i]? = some tn') (h3 : tn'.buffer = b) :
    ∃ sg0 tn0, m.subgraphs[s]? = some sg0 ∧ sg0.tensors[i]? = some tn0 ∧ tn0.buffer = b ∧
      (tn' = tn0 ∨ Written pt m tis st s i b) := by
  have hs : s < m.subgraphs.length := by
    rw [← B.inv.nsg]; exact (List.getElem?_eq_some_iff.1 h1).1
  have hsg0 : m.subgraphs[s]? = some m.subgraphs[s] := List.getElem?_eq_getElem hs
  have h00 := ((modelOK_iff m).1 hwf).1
  have hne : b ≠ 0 := by
    intro e; rw [e, h00] at hb; cases hb
  by_cases hi : i < m.subgraphs[s].tensors.length
  · have ht0 : m.subgraphs[s].tensors[i]? = some m.subgraphs[s].tensors[i] := List.getElem?_eq_getElem hi
    obtain ⟨sg, tn, o1, o2, o3, o4⟩ := j.orig s _ i _ hsg0 ht0
    rw [h1] at o1; cases o1
    rw [h2] at o2; cases o2
    refine ⟨_, _, hsg0, ht0, by rw [← o3]; exact h3, ?_⟩
    rw [← o3, h3] at o4
    exact o4
  · have := j.fresh s _ sg' i tn' hsg0 h1 h2 (by omega)
    omega

/-- **weak form**: no hypothesis on the sharers -/
theorem buffer_weak (pt : PTable) (m m' : Model) (tis : List TInsts)
    (hwf : WF.modelOK m = true) (htag : origTagged m = true)
    (hok : ∀ ti ∈ tis, TInstsOK pt m ti) (hcd : ConstData pt m tis)
    (h : transformGraph pt m tis = .ok m')
    (b k : Nat) (hb : m.buffers[b]? = some (some (.inl k))) :
    (m'.buffers[b]? = some (some (.inl k)) ∧
      (∀ s i p, Referent m b s i → ¬ Retyped tis s i p) ∧
      ∀ (s : Nat) (sg' : Subgraph) (i : Nat) (tn' : Tensor), m'.subgraphs[s]? = some sg' →
        sg'.tensors[i]? = some tn' → tn'.buffer = b →
        ∃ sg, m.subgraphs[s]? = some sg ∧ sg.tensors[i]? = some tn') ∨
    (∃ s i p pi, Referent m b s i ∧ Retyped tis s i p ∧ pinfo pt p = some pi ∧ pi.hasData = true ∧
      m'.buffers[b]? = some (some (.inr p))) := by
  obtain ⟨st, rfl, B, j, d⟩ := run_final pt m _ tis hwf htag hok hcd h
  rcases j.bufs b _ hb with hun | hq
  · refine .inl ⟨hun, ?_, ?_⟩
    · rintro s i p ⟨sg0, tn0, r1, r2, r3⟩ ⟨ti, hti, ins, hins, rfl, e2, hr, e4⟩
      have e5 : ins.tensor.toNat = i := by omega
      obtain ⟨_, _, _, _, _, _, _, w⟩ := d ti hti ins hins hr sg0 tn0 r1 (by rw [e5]; exact r2)
      rw [r3] at w
      obtain ⟨q, hq, -⟩ := w _ hb
      rw [hun] at hq; cases hq
    · intro s sg' i tn' h1 h2 h3
      obtain ⟨sg0, tn0, g1, g2, g3, g4⟩ := referent_back pt m tis st hwf B j b _ hb s sg' i tn' h1 h2 h3
      rcases g4 with rfl | ⟨_, _, _, _, _, _, _, w⟩
      · exact ⟨sg0, g1, g2⟩
      · obtain ⟨q, hq, -⟩ := w _ hb
        rw [hun] at hq; cases hq
  · exact .inr hq

/-- what the sharing check must deliver: on every data buffer, all retyping instructions on its
    tensors carry ONE parameter, and either all of its tensors are retyped or none is -/
structure SharersAgree (m : Model) (tis : List TInsts) : Prop where
  same : ∀ b c, m.buffers[b]? = some (some c) → SameOn m tis b
  all : ∀ b c, m.buffers[b]? = some (some c) → ∀ s i p s' i', Referent m b s i → Referent m b s' i' →
    Retyped tis s i p → ∃ p', Retyped tis s' i' p'

/-- **strong form**: with `SharersAgree`, EVERY tensor of the output model over a rewritten buffer is typed by its ONE parameter -/
theorem buffer_agrees (pt : PTable) (m m' : Model) (tis : List TInsts)
    (hwf : WF.modelOK m = true) (htag : origTagged m = true)
    (hok : ∀ ti ∈ tis, TInstsOK pt m ti) (hcd : ConstData pt m tis) (hsa : SharersAgree m tis)
    (h : transformGraph pt m tis = .ok m')
    (b k : Nat) (hb : m.buffers[b]? = some (some (.inl k))) :
    (m'.buffers[b]? = some (some (.inl k)) ∧
      (∀ s i p, Referent m b s i → ¬ Retyped tis s i p) ∧
      ∀ (s : Nat) (sg' : Subgraph) (i : Nat) (tn' : Tensor), m'.subgraphs[s]? = some sg' →
        sg'.tensors[i]? = some tn' → tn'.buffer = b →
        ∃ sg, m.subgraphs[s]? = some sg ∧ sg.tensors[i]? = some tn') ∨
    (∃ p pi, pinfo pt p = some pi ∧ pi.hasData = true ∧ m'.buffers[b]? = some (some (.inr p)) ∧
      (∃ s i, Referent m b s i ∧ Retyped tis s i p) ∧
      ∀ (s : Nat) (sg' : Subgraph) (i : Nat) (tn' : Tensor), m'.subgraphs[s]? = some sg' →
        sg'.tensors[i]? = some tn' → tn'.buffer = b →
        Referent m b s i ∧ Retyped tis s i p ∧ TypedBy pt p tn') := by
  rcases buffer_weak pt m m' tis hwf htag hok hcd h b k hb with hw | ⟨s, i, p, pi, r1, r2, r3, r4, r5⟩
  · exact .inl hw
  · refine .inr ⟨p, pi, r3, r4, r5, ⟨s, i, r1, r2⟩, ?_⟩
    obtain ⟨st, rfl, B, j, d⟩ := run_final pt m _ tis hwf htag hok hcd h
    intro s' sg' i' tn' h1 h2 h3
    obtain ⟨sg0, tn0, g1, g2, g3, -⟩ := referent_back pt m tis st hwf B j b _ hb s' sg' i' tn' h1 h2 h3
    have hR : Referent m b s' i' := ⟨sg0, tn0, g1, g2, g3⟩
    obtain ⟨p', ti, hti, ins, hins, rfl, e2, hr, e4⟩ := hsa.all b _ hb s i p s' i' r1 hR r2
    have e5 : ins.tensor.toNat = i' := by omega
    obtain ⟨sgw, tnw, p'', w1, w2, w3, w4, w5⟩ := d ti hti ins hins hr sg0 tn0 g1 (by rw [e5]; exact g2)
    rw [e5] at w2 w3
    rw [h1] at w1; cases w1
    rw [h2] at w2; cases w2
    rw [g3] at w5
    obtain ⟨q, hq, hqp⟩ := w5 _ hb
    rw [r5] at hq; cases hq
    have := hqp (hsa.same b _ hb)
    subst this
    exact ⟨hR, w3, w4⟩

def bufOf (m : Model) (s : Nat) (t : Int) : Option Nat :=
  match m.subgraphs[s]? with
  | some sg => if 0 ≤ t then (sg.tensors[t.toNat]?).map (·.buffer) else none
  | none => none

def isData (m : Model) (b : Nat) : Bool :=
  match m.buffers[b]? with
  | some (some _) => true
  | _ => false

theorem isData_iff (m : Model) (b : Nat) : isData m b = true ↔ ∃ c, m.buffers[b]? = some (some c) := by
  unfold isData
  split
  · rename_i c h; exact ⟨fun _ => ⟨c, h⟩, fun _ => rfl⟩
  · rename_i h
    constructor
    · intro h'; cases h'
    · rintro ⟨c, hc⟩; exact absurd hc (h c)

theorem bufOf_referent (m : Model) (b s i : Nat) (h : Referent m b s i) : bufOf m s (i : Int) = some b := by
  obtain ⟨sg, tn, h1, h2, h3⟩ := h
  simp [bufOf, h1, h2, h3]

def constDataB (pt : PTable) (m : Model) (tis : List TInsts) : Bool :=
  tis.all fun ti => ti.insts.all fun ins =>
    !retypes ins.xf ||
    match bufOf m ti.sg ins.tensor with
    | some b => !isData m b ||
      (match ins.param with
       | some p => (match pinfo pt p with | some pi => pi.hasData | none => true)
       | none => true)
    | none => true

theorem constData_of_b (pt : PTable) (m : Model) (tis : List TInsts)
    (hok : ∀ ti ∈ tis, TInstsOK pt m ti) (h : constDataB pt m tis = true) :
    ConstData pt m tis := by
  intro ti hti ins hins hr sg tn c p pi h1 h2 h3 h4 h5
  have hv : 0 ≤ ins.tensor := by
    obtain ⟨sg', -, hall⟩ := (hok ti hti).insts
    exact ((GraphStep.validT_iff _ _).1 (hall ins hins).tvalid).1
  unfold constDataB at h
  rw [List.all_eq_true] at h
  have := h ti hti
  rw [List.all_eq_true] at this
  have := this ins hins
  have hb : bufOf m ti.sg ins.tensor = some tn.buffer := by
    simp [bufOf, h1, hv, h2]
  have hd : isData m tn.buffer = true := (isData_iff _ _).2 ⟨c, h3⟩
  simpa [hr, hb, hd, h4, h5] using this

def sameB (m : Model) (tis : List TInsts) : Bool :=
  tis.all fun ti => ti.insts.all fun ins => tis.all fun ti' => ti'.insts.all fun ins' =>
    !retypes ins.xf || !retypes ins'.xf ||
    match bufOf m ti.sg ins.tensor, bufOf m ti'.sg ins'.tensor with
    | some b, some b' => b != b' || !isData m b || ins.param == ins'.param
    | _, _ => true

def allB (m : Model) (tis : List TInsts) : Bool :=
  tis.all fun ti => ti.insts.all fun ins =>
    !retypes ins.xf ||
    match bufOf m ti.sg ins.tensor with
    | some b => !isData m b ||
      m.subgraphs.zipIdx.all fun ps => ps.1.tensors.zipIdx.all fun pt =>
        pt.1.buffer != b ||
          tis.any fun ti' => ti'.sg == ps.2 && ti'.insts.any fun ins' =>
            retypes ins'.xf && ins'.tensor == (pt.2 : Int) && ins'.param.isSome
    | none => true

theorem sharersAgree_of_b (m : Model) (tis : List TInsts) (h1 : sameB m tis = true)
    (h2 : allB m tis = true) : SharersAgree m tis := by
  constructor
  · intro b c hb s i p s' i' p' hR hR' ⟨ti, hti, ins, hins, e1, e2, e3, e4⟩
      ⟨ti', hti', ins', hins', e1', e2', e3', e4'⟩
    unfold sameB at h1
    rw [List.all_eq_true] at h1
    have := h1 ti hti
    rw [List.all_eq_true] at this
    have := this ins hins
    rw [List.all_eq_true] at this
    have := this ti' hti'
    rw [List.all_eq_true] at this
    have := this ins' hins'
    have g1 : bufOf m ti.sg ins.tensor = some b := by rw [e1, e2]; exact bufOf_referent m b s i hR
    have g2 : bufOf m ti'.sg ins'.tensor = some b := by rw [e1', e2']; exact bufOf_referent m b s' i' hR'
    have hd : isData m b = true := (isData_iff _ _).2 ⟨c, hb⟩
    simp [e3, e3', g1, g2, hd, e4, e4'] at this
    exact this
  · intro b c hb s i p s' i' hR ⟨sg', tn', r1, r2, r3⟩ ⟨ti, hti, ins, hins, e1, e2, e3, e4⟩
    unfold allB at h2
    rw [List.all_eq_true] at h2
    have := h2 ti hti
    rw [List.all_eq_true] at this
    have := this ins hins
    have g1 : bufOf m ti.sg ins.tensor = some b := by rw [e1, e2]; exact bufOf_referent m b s i hR
    have hd : isData m b = true := (isData_iff _ _).2 ⟨c, hb⟩
    simp only [e3, Bool.not_true, Bool.false_or, g1, hd, List.all_eq_true] at this
    have := this (sg', s') (List.mem_zipIdx_iff_getElem?.2 r1) (tn', i') (List.mem_zipIdx_iff_getElem?.2 r2)
    simp only [r3, bne_self_eq_false, Bool.false_or, List.any_eq_true, Bool.and_eq_true, beq_iff_eq,
      Option.isSome_iff_exists] at this
    obtain ⟨ti', hti', e1', ins', hins', ⟨e3', e2'⟩, p', e4'⟩ := this
    exact ⟨p', ti', hti', ins', hins', e1', e2', e3', e4'⟩

end SharingE2E
