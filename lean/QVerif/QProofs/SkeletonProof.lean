import QProofs.RunRule
import QModel.Skeleton
/-!
# What `Skeleton.root` is on the graphs the performer reaches, and C02
The inserted operators have a fixed shape (`InsOK`: one original operand, one new result, no two for one result), under which `root`
is computed explicitly.  One transformation (`StepDesc`, read off `StepTypes.Exact`) keeps the per-subgraph invariant `SkInv` (`step_sk`),
and `SkAll` is kept by every `Applied` step next to `GraphInv.Inv`; `transformGraph_skeleton` is C02.
-/
open Graph Perform GraphStep GraphInv Skeleton

namespace SkeletonProof

theorem filter_insertIdx {α} (p : α → Bool) (x : α) (hx : p x = false) :
    ∀ (l : List α) (k : Nat), (l.insertIdx k x).filter p = l.filter p := by
  intro l
  induction l with
  | nil =>
    intro k
    cases k with
    | zero => simp [hx]
    | succ k => simp
  | cons a as ih =>
    intro k
    cases k with
    | zero => simp [hx]
    | succ k =>
      rw [List.insertIdx_succ_cons, List.filter_cons, List.filter_cons, ih k]

theorem filter_map_congr_idx {α β} (p : α → Bool) (f g : α → β) :
    ∀ (l2 l1 : List α), l2.length = l1.length →
      (∀ (j : Nat) a b, l2[j]? = some a → l1[j]? = some b → p a = p b ∧ (p b = true → f a = g b)) →
      (l2.filter p).map f = (l1.filter p).map g := by
  intro l2
  induction l2 with
  | nil =>
    intro l1 hl _
    cases l1 with
    | nil => rfl
    | cons b bs => simp at hl
  | cons a as ih =>
    intro l1 hl h
    cases l1 with
    | nil => simp at hl
    | cons b bs =>
      obtain ⟨h1, h2⟩ := h 0 a b rfl rfl
      have ht := ih bs (by simpa using hl) (fun j a' b' ha hb => h (j + 1) a' b' (by simpa using ha) (by simpa using hb))
      rw [List.filter_cons, List.filter_cons, h1]
      cases hb : p b with
      | false => simpa using ht
      | true =>
        simp only [if_true, List.map_cons]
        rw [h2 hb, ht]

/-- shape of the inserted operators of the current subgraph `sg`; `n0` = number of ORIGINAL tensors -/
structure InsOK (n0 : Nat) (sg : Subgraph) : Prop where
  shape : ∀ o ∈ sg.ops, o.orig = none → ∃ t n : Int, o.inputs = [t] ∧ o.outputs = [n] ∧
    t < n0 ∧ (n0 : Int) ≤ n ∧ n < sg.tensors.length
  uniq : ∀ o o', o ∈ sg.ops → o' ∈ sg.ops → o.orig = none → o'.orig = none →
    o.outputs = o'.outputs → o.inputs = o'.inputs

theorem insertedProducer_none (sg : Subgraph) (x : Int)
    (h : ∀ o ∈ sg.ops, o.orig = none → o.outputs ≠ [x]) : insertedProducer sg x = none := by
  unfold insertedProducer
  rw [List.find?_eq_none]
  intro o ho hp
  simp only [Bool.and_eq_true, Option.isNone_iff_eq_none, beq_iff_eq] at hp
  exact h o ho hp.1 hp.2

theorem rootOf_fix (sg : Subgraph) (x : Int) (h : insertedProducer sg x = none) :
    ∀ fuel, rootOf sg fuel x = x := by
  intro fuel
  cases fuel with
  | zero => rfl
  | succ f => simp only [rootOf, h]

theorem root_fix (sg : Subgraph) (x : Int)
    (h : ∀ o ∈ sg.ops, o.orig = none → o.outputs ≠ [x]) : root sg x = x :=
  rootOf_fix sg x (insertedProducer_none sg x h) _

theorem root_fix_lt (n0 : Nat) (sg : Subgraph) (I : InsOK n0 sg) (x : Int) (hx : x < n0) :
    root sg x = x := by
  apply root_fix
  intro o ho hn he
  obtain ⟨t, n, _, h2, _, h4, _⟩ := I.shape o ho hn
  rw [h2] at he
  cases he
  omega

theorem root_derived (n0 : Nat) (sg : Subgraph) (I : InsOK n0 sg) (o : Op) (t x : Int)
    (ho : o ∈ sg.ops) (hn : o.orig = none) (hi : o.inputs = [t]) (hx : o.outputs = [x]) :
    root sg x = t := by
  obtain ⟨t1, n1, e1, e2, ht, _, _⟩ := I.shape o ho hn
  rw [hi] at e1
  cases e1
  obtain ⟨f, hf⟩ : ∃ f, sg.ops.length = f + 1 := by
    have := List.length_pos_of_mem ho
    exact ⟨sg.ops.length - 1, by omega⟩
  unfold root
  rw [hf]
  cases hfind : insertedProducer sg x with
  | none =>
    exfalso
    unfold insertedProducer at hfind
    rw [List.find?_eq_none] at hfind
    exact hfind o ho (by simp [hn, hx])
  | some o' =>
    have hmem : o' ∈ sg.ops := List.mem_of_find?_eq_some hfind
    have hp := List.find?_some hfind
    simp only [Bool.and_eq_true, Option.isNone_iff_eq_none, beq_iff_eq] at hp
    have hin : o'.inputs = [t] := by
      rw [I.uniq o' o hmem ho hp.1 hn (by rw [hp.2, hx]), hi]
    simp only [rootOf, hfind, hin]
    exact rootOf_fix sg t (insertedProducer_none sg t (by
      intro o2 ho2 hn2 he
      obtain ⟨_, n2, _, h2, _, h4, _⟩ := I.shape o2 ho2 hn2
      rw [h2] at he
      cases he
      omega)) f

end SkeletonProof

namespace KernelSig

/-- `o'` is the image in `sg'` of the ORIGINAL operator `k` (= `op`) -/
structure Same (sg' : Subgraph) (k : Nat) (op o' : Op) : Prop where
  mem : o' ∈ sg'.ops
  orig : o'.orig = some k
  uniq : ∀ o'' ∈ sg'.ops, o''.orig = some k → o'' = o'
  code : o'.code = op.code
  outs : o'.outputs = op.outputs
  len : o'.inputs.length = op.inputs.length
  root : o'.inputs.map (Skeleton.root sg') = op.inputs

end KernelSig

namespace SkeletonProof

theorem rootOf_congr (sg sg' : Subgraph) (h : sg'.ops = sg.ops) :
    ∀ fuel x, rootOf sg' fuel x = rootOf sg fuel x := by
  intro fuel
  induction fuel with
  | zero => intro x; rfl
  | succ f ih =>
    intro x
    have hp : insertedProducer sg' x = insertedProducer sg x := by
      unfold insertedProducer; rw [h]
    simp only [rootOf, hp]
    cases insertedProducer sg x with
    | none => rfl
    | some o =>
      simp only
      split
      · exact ih _
      · rfl

theorem root_congr (sg sg' : Subgraph) (h : sg'.ops = sg.ops) (x : Int) : root sg' x = root sg x := by
  unfold root
  rw [h]
  exact rootOf_congr sg sg' h _ x

def ns (t : Tensor) : String × List Int := (t.name, t.shape)

def newOp (c : Nat) (t n : Int) : Op := { code := c, inputs := [t], outputs := [n], orig := none }

/-- retargeting of the graph outputs -/
def retOut (cons : List Int) (t n : Int) (o : Int) : Int :=
  if memI (-1) cons then (if o == t then n else o) else o

/-- effect of one registered transformation with input `inp` on the subgraph it is applied to -/
structure StepDesc (sg sg' : Subgraph) (inp : TIn) : Prop where
  inputs : sg'.inputs = sg.inputs
  tens : ∃ ext, sg'.tensors.map ns = sg.tensors.map ns ++ ext
  ops : (sg'.ops = sg.ops ∧ sg'.outputs = sg.outputs) ∨
    (∃ ops2 k c, sg'.tensors.length = sg.tensors.length + 1 ∧
      rewire sg.ops inp.consumers inp.tensor (sg.tensors.length : Int) = .ok ops2 ∧
      k ≤ ops2.length ∧
      sg'.ops = ops2.insertIdx k (newOp c inp.tensor (sg.tensors.length : Int)) ∧
      sg'.outputs = sg.outputs.map (retOut inp.consumers inp.tensor (sg.tensors.length : Int)))

theorem StepDesc.tlen {sg sg' : Subgraph} {inp : TIn} (D : StepDesc sg sg' inp) :
    sg.tensors.length ≤ sg'.tensors.length := by
  obtain ⟨ext, h⟩ := D.tens
  have := congrArg List.length h
  simp only [List.length_map, List.length_append] at this
  omega

open StepTypes Wiring in
theorem StepDesc.of_exact {pt : PTable} {m m' : Model} {sgi : Nat} {sg sg' : Subgraph} {x : Xf} {inp : TIn}
    {info : TInfoOut} {p : PId} {pi : PInfo} {ty : Nat} {tn : Tensor}
    (E : Exact pt m sgi sg x inp m' info p pi ty tn sg') (hinp : InpOK pt m sg inp) :
    StepDesc sg sg' inp := by
  have hns : ∀ t, ns (retype pi p ty t) = ns t := fun t => by
    unfold ns; rw [retype_name, retype_shape]
  refine ⟨E.inputs, ⟨_, E.map_tensors ns hns⟩, ?_⟩
  by_cases ha : addsOp x = true
  · refine .inr ⟨_, info.opId.toNat, _, by rw [E.tlen, if_pos ha], rewire_ok_iff.2 ⟨hinp.consRange, rfl⟩,
      ?_, by rw [E.ops, if_pos ha]; rfl, ?_⟩
    · rw [rewired_length]; exact Int.toNat_le.2 E.opId.2.1
    · rw [E.outputs, if_pos ha]
      unfold newOutputs retOut
      split
      · rfl
      · simp
  · exact .inl ⟨by rw [E.ops, if_neg ha], by rw [E.outputs, if_neg ha]⟩

/-- relation between an ORIGINAL subgraph `sg0` and its current version `sg` -/
structure SkInv (sg0 sg : Subgraph) : Prop where
  ins : InsOK sg0.tensors.length sg
  ops : eraseOps sg = sg0.ops
  outs : eraseOutputs sg = sg0.outputs
  inputs : sg.inputs = sg0.inputs
  tframe : tensorFrame sg sg0.tensors.length = tensorFrame sg0 sg0.tensors.length
  tlen : sg0.tensors.length ≤ sg.tensors.length

theorem tensorFrame_eq (sg : Subgraph) (n : Nat) : tensorFrame sg n = (sg.tensors.map ns).take n := by
  unfold tensorFrame
  rw [List.map_take]
  rfl

theorem InsOK.not_new {n0 : Nat} {sg : Subgraph} (I : InsOK n0 sg) {o : Op} (ho : o ∈ sg.ops)
    (hn : o.orig = none) : o.outputs ≠ [(sg.tensors.length : Int)] := by
  obtain ⟨t, n, -, h2, -, -, h5⟩ := I.shape o ho hn
  rw [h2]
  intro he
  cases he
  omega

theorem InsOK.splice {n0 : Nat} {sg sg' : Subgraph} {c : Nat} {t : Int} (I : InsOK n0 sg)
    (hmem : ∀ o : Op, o.orig = none →
      (o ∈ sg'.ops ↔ o = newOp c t (sg.tensors.length : Int) ∨ o ∈ sg.ops))
    (ht : t < n0) (hn0 : n0 ≤ sg.tensors.length) (hlen : sg'.tensors.length = sg.tensors.length + 1) :
    InsOK n0 sg' := by
  constructor
  · intro o ho hn
    rcases (hmem o hn).1 ho with rfl | ho
    · exact ⟨t, sg.tensors.length, rfl, rfl, ht, by omega, by omega⟩
    · obtain ⟨t', n, h1, h2, h3, h4, h5⟩ := I.shape o ho hn
      exact ⟨t', n, h1, h2, h3, h4, by omega⟩
  · intro o o' ho ho' hn hn' he
    rcases (hmem o hn).1 ho with rfl | ho
    · rcases (hmem o' hn').1 ho' with rfl | ho'
      · rfl
      · exact absurd he.symm (I.not_new ho' hn')
    · rcases (hmem o' hn').1 ho' with rfl | ho'
      · exact absurd he (I.not_new ho hn)
      · exact I.uniq o o' ho ho' hn hn' he

theorem root_splice {n0 : Nat} {sg sg' : Subgraph} {c : Nat} {t : Int} (I : InsOK n0 sg) (I' : InsOK n0 sg')
    (hmem : ∀ o : Op, o.orig = none →
      (o ∈ sg'.ops ↔ o = newOp c t (sg.tensors.length : Int) ∨ o ∈ sg.ops)) (x : Int) :
    root sg' x = if x = (sg.tensors.length : Int) then t else root sg x := by
  split
  · rename_i hx
    exact root_derived _ sg' I' _ t x ((hmem _ rfl).2 (.inl rfl)) rfl rfl (hx ▸ rfl)
  · rename_i hx
    by_cases hex : ∃ o ∈ sg.ops, o.orig = none ∧ o.outputs = [x]
    · obtain ⟨o, ho, hn, hxo⟩ := hex
      obtain ⟨t1, n1, h1, -⟩ := I.shape o ho hn
      rw [root_derived _ sg' I' o t1 x ((hmem o hn).2 (.inr ho)) hn h1 hxo,
        root_derived _ sg I o t1 x ho hn h1 hxo]
    · rw [root_fix sg x fun o ho hn he => hex ⟨o, ho, hn, he⟩]
      refine root_fix sg' x fun o ho hn he => ?_
      rcases (hmem o hn).1 ho with rfl | ho
      · exact hx (List.singleton_inj.1 he).symm
      · exact hex ⟨o, ho, hn, he⟩

theorem step_sk (m : Model) (sg0 sg sg' : Subgraph) (inp : TIn) (K : SkInv sg0 sg) (hok : SgOK m sg)
    (D : StepDesc sg sg' inp) (ht : inp.tensor < sg0.tensors.length)
    (hcons : ∀ (j : Nat) b, (j : Int) ∈ inp.consumers → sg.ops[j]? = some b → b.orig ≠ none) :
    SkInv sg0 sg' := by
  have htl := D.tlen
  have hfr : tensorFrame sg' sg0.tensors.length = tensorFrame sg0 sg0.tensors.length := by
    rw [← K.tframe, tensorFrame_eq, tensorFrame_eq]
    obtain ⟨ext, he⟩ := D.tens
    rw [he, List.take_append_of_le_length (by simpa using K.tlen)]
  rcases D.ops with ⟨hops, houts⟩ | ⟨ops2, k, c, hlen, hrw, hk, hops, houts⟩
  · have hr : root sg' = root sg := funext (root_congr sg sg' hops)
    refine ⟨⟨?_, ?_⟩, ?_, ?_, D.inputs.trans K.inputs, hfr, Nat.le_trans K.tlen htl⟩
    · intro o ho hn
      rw [hops] at ho
      obtain ⟨t, n, h1, h2, h3, h4, h5⟩ := K.ins.shape o ho hn
      exact ⟨t, n, h1, h2, h3, h4, by omega⟩
    · rw [hops]; exact K.ins.uniq
    · rw [← K.ops]; simp only [eraseOps, hops, hr]
    · rw [← K.outs]; simp only [eraseOutputs, houts, hr]
  · obtain ⟨-, rfl⟩ := rewire_ok_iff.1 hrw
    rw [rewired_length] at hk
    -- the inserted operators are the old ones and the new one; `root` passes through the new one
    have hmem : ∀ o : Op, o.orig = none →
        (o ∈ sg'.ops ↔ o = newOp c inp.tensor (sg.tensors.length : Int) ∨ o ∈ sg.ops) :=
      fun o hn => hops ▸ mem_spliced_untagged _ hk hcons hn
    have ins' := K.ins.splice hmem ht K.tlen hlen
    have hroot := root_splice K.ins ins' hmem
    have rootOld : ∀ x : Int, x = -1 ∨ ValidT sg x → root sg' x = root sg x := by
      intro x hx
      rw [hroot, if_neg]
      unfold ValidT at hx
      omega
    have rootRet : ∀ x : Int, x = -1 ∨ ValidT sg x →
        root sg' (if x == inp.tensor then (sg.tensors.length : Int) else x) = root sg x := by
      intro x hx
      by_cases hxt : x = inp.tensor
      · rw [hxt, beq_self_eq_true, if_pos rfl, hroot, if_pos rfl, root_fix_lt _ sg K.ins _ ht]
      · rw [if_neg (by simpa using hxt)]
        exact rootOld x hx
    refine ⟨ins', ?_, ?_, D.inputs.trans K.inputs, hfr, Nat.le_trans K.tlen htl⟩
    · rw [← K.ops]
      unfold eraseOps
      rw [hops, filter_insertIdx _ _ rfl]
      apply filter_map_congr_idx _ _ _ _ sg.ops (rewired_length ..)
      intro j a b ha hb
      have hbok := hok.ops j b hb
      have hbi : ∀ x ∈ b.inputs, x = -1 ∨ ValidT sg x := fun x hx => (hbok.ins x hx).imp id (·.1)
      have hout : b.outputs.map (root sg') = b.outputs.map (root sg) :=
        List.map_congr_left fun x hx => rootOld x ((hbok.outs x hx).imp id (·.1))
      rw [rewired_get, hb, Option.map_some] at ha
      cases ha
      by_cases hc : (j : Int) ∈ inp.consumers
      · rw [if_pos hc]
        refine ⟨rfl, fun _ => ?_⟩
        -- the two `show`s only put the goal in a form in which `rw [hin]`, `rw [hout]` find their left sides
        show ({ rew inp.tensor _ b with inputs := (rew inp.tensor _ b).inputs.map (root sg'),
                                        outputs := (rew inp.tensor _ b).outputs.map (root sg') } : Op) =
          { b with inputs := b.inputs.map (root sg), outputs := b.outputs.map (root sg) }
        have hin : (rew inp.tensor (sg.tensors.length : Int) b).inputs.map (root sg') =
            b.inputs.map (root sg) := by
          simp only [rew, List.map_map]
          exact List.map_congr_left fun x hx => rootRet x (hbi x hx)
        rw [hin]
        show ({ b with inputs := b.inputs.map (root sg), outputs := b.outputs.map (root sg') } : Op) = _
        rw [hout]
      · rw [if_neg hc]
        exact ⟨rfl, fun _ => by
          rw [List.map_congr_left fun x hx => rootOld x (hbi x hx), hout]⟩
    · rw [← K.outs]
      unfold eraseOutputs
      rw [houts, List.map_map]
      apply List.map_congr_left
      intro q hq
      simp only [Function.comp, retOut]
      split
      · exact rootRet q (.inr (hok.outs q hq))
      · exact rootOld q (.inr (hok.outs q hq))

theorem mem_zip_map (before : List Int) (f : Int → Int) (p : Int × Int)
    (h : p ∈ before.zip (before.map f)) : p.1 ∈ before ∧ p.2 = f p.1 := by
  obtain ⟨i, hi⟩ := List.mem_iff_getElem?.1 h
  obtain ⟨h1, h2⟩ := List.getElem?_zip_eq_some.1 hi
  rw [List.getElem?_map, h1] at h2
  simp only [Option.map_some, Option.some.injEq] at h2
  exact ⟨List.mem_of_getElem? h1, h2.symm⟩

theorem zip_map_mem (before : List Int) (f : Int → Int) (q : Int) (h : q ∈ before) :
    (q, f q) ∈ before.zip (before.map f) := by
  obtain ⟨i, hi⟩ := List.mem_iff_getElem?.1 h
  apply List.mem_iff_getElem?.2
  exact ⟨i, List.getElem?_zip_eq_some.2 ⟨hi, by rw [List.getElem?_map, hi]; rfl⟩⟩

theorem upd_map (before : List Int) (f : Int → Int) {t : Int} (h : t ∈ before) :
    upd before (before.map f) t = f t := by
  unfold upd
  split
  · rename_i p hp
    have hmem := List.mem_reverse.1 (List.mem_of_find?_eq_some hp)
    have hk : p.1 = t := by simpa using List.find?_some hp
    rw [(mem_zip_map before f p (List.mem_filter.1 hmem).1).2, hk]
  · rename_i hnone
    by_cases hne : f t = t
    · exact hne.symm
    · have := List.find?_eq_none.1 hnone (t, f t) (List.mem_reverse.2 (List.mem_filter.2
        ⟨zip_map_mem before f t h, by simpa using fun h' : t = f t => hne h'.symm⟩))
      simp at this

/-- relation between an ORIGINAL signature `s0` (on `sg0`) and its current version `s` (on `sg`) -/
structure SigRel (sg0 sg : Subgraph) (s0 s : Sig) : Prop where
  key : s.key = s0.key
  sgi : s.sg = s0.sg
  inputs : s.inputs = s0.inputs
  names : s.outputs.map (·.1) = s0.outputs.map (·.1)
  outs : ∀ (i j : Nat) (e0 e : String × Int) (q0 q : Int), s0.outputs[i]? = some e0 →
    s.outputs[i]? = some e → sg0.outputs[j]? = some q0 → sg.outputs[j]? = some q → q0 = e0.2 → q = e.2

theorem SigRel.step {sg0 sg sg' : Subgraph} {s0 s : Sig} {sgi : Nat} {f : Int → Int}
    (R : SigRel sg0 sg s0 s) (hs : s.sg = sgi) (hf : sg'.outputs = sg.outputs.map f) :
    SigRel sg0 sg' s0 (updSig sgi sg.outputs sg'.outputs s) := by
  obtain ⟨b1, b2, b3, b4⟩ := updSig_basic sgi sg.outputs sg'.outputs s
  refine ⟨b1.trans R.key, b2.trans R.sgi, b3.trans R.inputs, b4.trans R.names, ?_⟩
  intro i j e0 e' q0 q' h1 h2 h3 h4 h5
  unfold updSig at h2
  rw [if_neg (by simpa using hs), hf] at h2
  rw [hf] at h4
  obtain ⟨e, he, rfl⟩ := Option.map_eq_some_iff.1 ((List.getElem?_map ..).symm.trans h2)
  obtain ⟨q, hq, rfl⟩ := Option.map_eq_some_iff.1 ((List.getElem?_map ..).symm.trans h4)
  rw [← R.outs i j e0 e q0 q h1 he h3 hq h5]
  exact (upd_map _ f (List.mem_of_getElem? hq)).symm

theorem sameSig_of_rel (sg0 sg : Subgraph) (s0 s : Sig) (R : SigRel sg0 sg s0 s) :
    sameSig sg0 sg s0 s = true := by
  unfold sameSig
  simp only [Bool.and_eq_true, beq_iff_eq, List.all_eq_true, Bool.or_eq_true, bne_iff_ne, ne_eq,
    decide_eq_true_eq]
  refine ⟨⟨⟨⟨R.key, R.sgi⟩, R.inputs⟩, R.names⟩, ?_⟩
  intro p hp q hq
  obtain ⟨i, hi⟩ := List.mem_iff_getElem?.1 hp
  obtain ⟨j, hj⟩ := List.mem_iff_getElem?.1 hq
  obtain ⟨h1, h2⟩ := List.getElem?_zip_eq_some.1 hi
  obtain ⟨h3, h4⟩ := List.getElem?_zip_eq_some.1 hj
  by_cases hqe : q.1 = p.1.2
  · exact .inl (.inr (R.outs i j p.1 p.2 q.1 q.2 h1 h2 h3 h4 hqe))
  · exact .inl (.inl hqe)

structure SkAll (m0 cur : Model) : Prop where
  sgs : ∀ (s : Nat) (sg0 sg : Subgraph), m0.subgraphs[s]? = some sg0 → cur.subgraphs[s]? = some sg →
    SkInv sg0 sg
  nsig : cur.sigs.length = m0.sigs.length
  sigs : ∀ (i : Nat) (s0 s : Sig) (sg0 sg : Subgraph), m0.sigs[i]? = some s0 → cur.sigs[i]? = some s →
    m0.subgraphs[s0.sg]? = some sg0 → cur.subgraphs[s0.sg]? = some sg → SigRel sg0 sg s0 s

theorem origTagged_get (m : Model) (h : origTagged m = true) (s : Nat) (sg : Subgraph)
    (hsg : m.subgraphs[s]? = some sg) (k : Nat) (o : Op) (ho : sg.ops[k]? = some o) :
    o.orig = some k := by
  unfold origTagged at h
  rw [List.all_eq_true] at h
  have h1 := h sg (List.mem_of_getElem? hsg)
  rw [List.all_eq_true] at h1
  have h2 := h1 (o, k) (List.mem_zipIdx_iff_getElem?.2 ho)
  simpa using h2

theorem origTagged_spec (m : Model) (h : origTagged m = true) (sg : Subgraph) (hsg : sg ∈ m.subgraphs)
    (o : Op) (ho : o ∈ sg.ops) : o.orig ≠ none := by
  obtain ⟨s, hs⟩ := List.mem_iff_getElem?.1 hsg
  obtain ⟨k, hk⟩ := List.mem_iff_getElem?.1 ho
  rw [origTagged_get m h s sg hs k o hk]
  exact nofun

theorem skInv_init (sg : Subgraph) (h : ∀ o ∈ sg.ops, o.orig ≠ none) : SkInv sg sg := by
  have hr : ∀ x, root sg x = x := fun x => root_fix sg x (fun o ho hn => absurd hn (h o ho))
  have hr' : root sg = id := funext hr
  refine ⟨⟨fun o ho hn => absurd hn (h o ho), fun o _ ho _ hn => absurd hn (h o ho)⟩, ?_, ?_, rfl, rfl,
    Nat.le_refl _⟩
  · unfold eraseOps
    rw [List.filter_eq_self.2 (fun o ho => by
      cases hh : o.orig with
      | none => exact absurd hh (h o ho)
      | some _ => rfl)]
    simp only [hr', List.map_id_fun, id_eq]
    exact List.map_id' _
  · unfold eraseOutputs
    rw [hr']
    exact List.map_id _

theorem skAll_init (m : Model) (htag : origTagged m = true) : SkAll m m := by
  refine ⟨?_, rfl, ?_⟩
  · intro s sg0 sg h0 h1
    rw [h0] at h1
    cases h1
    exact skInv_init sg0 (origTagged_spec m htag sg0 (List.mem_of_getElem? h0))
  · intro i s0 s sg0 sg h0 h1 h2 h3
    rw [h0] at h1
    cases h1
    rw [h2] at h3
    cases h3
    exact ⟨rfl, rfl, rfl, rfl, fun i j e0 e q0 q a1 a2 a3 a4 a5 => by
      rw [a1] at a2; cases a2
      rw [a3] at a4; cases a4
      exact a5⟩

theorem consumers_orig (m0 : Model) (sg0 : Subgraph) (m : Model) (sg : Subgraph) (om : List Int)
    (ins : Inst) (consumers : List Int) (I : SgInv m0 sg0 m sg om) (K : SkInv sg0 sg)
    (hok0 : SgOK m0 sg0)
    (hcons : xlatConsumers ins om = .ok consumers)
    (j : Nat) (b : Op) (hj : (j : Int) ∈ consumers) (hb : sg.ops[j]? = some b) : b.orig ≠ none := by
  intro hn
  rcases xlatConsumers_mem hcons hj with h | ⟨c, hc, hc0, hget⟩
  · omega
  · have hlt : c.toNat < sg0.ops.length := by
      rw [← I.len]; exact (List.getElem?_eq_some_iff.1 hget).1
    have ho0 : sg0.ops[c.toNat]? = some sg0.ops[c.toNat] := List.getElem?_eq_getElem hlt
    obtain ⟨-, o, ho, hout⟩ := I.outs c.toNat (j : Int) _ hget ho0
    simp only [Int.toNat_natCast] at ho
    rw [hb] at ho
    cases ho
    obtain ⟨t, n, -, h2, -, h4, -⟩ := K.ins.shape b (List.mem_of_getElem? hb) hn
    have hmem : n ∈ sg0.ops[c.toNat].outputs := by rw [← hout, h2]; simp
    have := (hok0.ops _ _ ho0).outs n hmem
    unfold ValidT at this
    omega

theorem _root_.GraphInv.Applied.sk {pt : PTable} {m0 : Model} {s : Nat} {ins : Inst} {st st' : PState}
    (A : Applied pt m0 s ins st st') (hwf0 : WF.modelOK m0 = true) (hinv : Inv m0 st)
    (hsk : SkAll m0 st.model) : SkAll m0 st'.model := by
  have K := hsk.sgs _ _ _ A.orig A.cur
  have D := StepDesc.of_exact A.exact A.inpOK
  have hsgok : SgOK st.model A.sg := SgOK.of_wf hinv.wf (List.mem_of_getElem? A.cur)
  have hok0 : SgOK m0 A.sg0 := SgOK.of_wf hwf0 (List.mem_of_getElem? A.orig)
  have K' : SkInv A.sg0 A.sg' :=
    step_sk st.model A.sg0 A.sg A.sg' _ K hsgok D ((validT_iff _ _).1 A.ok.tvalid).2
      (fun j b hj hb => consumers_orig m0 A.sg0 st.model A.sg A.om ins A.consumers A.rel K hok0 A.cons j b hj hb)
  obtain ⟨f, hf⟩ : ∃ f, A.sg'.outputs = A.sg.outputs.map f := by
    rcases D.ops with ⟨-, ho⟩ | ⟨_, _, _, _, _, _, _, ho⟩
    · exact ⟨id, by rw [ho, List.map_id]⟩
    · exact ⟨_, ho⟩
  refine ⟨?_, ?_, ?_⟩
  · intro s' sg0s sgs h0 h1
    by_cases hs : s' = s
    · subst hs
      rw [A.orig] at h0; cases h0
      rw [A.cur'] at h1; cases h1
      exact K'
    · rw [(A.others hs).1] at h1
      exact hsk.sgs s' sg0s sgs h0 h1
  · rw [A.sigs, updateSigs_eq, List.length_map]
    exact hsk.nsig
  · intro i s0 s1 sg0s sgs h0 h1 h2 h3
    rw [A.sigs, updateSigs_eq, List.getElem?_map] at h1
    cases hsi : st.model.sigs[i]? with
    | none => simp [hsi] at h1
    | some sig =>
      simp only [hsi, Option.map_some, Option.some.injEq] at h1
      subst h1
      by_cases hs : s0.sg = s
      · rw [hs] at h2 h3
        rw [A.orig] at h2; cases h2
        rw [A.cur'] at h3; cases h3
        have R := hsk.sigs i s0 sig A.sg0 A.sg h0 hsi (hs ▸ A.orig) (hs ▸ A.cur)
        exact R.step (R.sgi.trans hs) hf
      · rw [(A.others hs).1] at h3
        have R := hsk.sigs i s0 sig sg0s sgs h0 hsi h2 h3
        rw [updSig_other _ _ _ _ (by rw [R.sgi]; exact hs)]
        exact R

theorem sameSkeleton_of_inv (sg0 sg : Subgraph) (K : SkInv sg0 sg) : sameSkeleton sg0 sg = true := by
  unfold sameSkeleton
  simp only [Bool.and_eq_true, beq_iff_eq, decide_eq_true_eq]
  exact ⟨⟨⟨⟨K.ops, K.outs⟩, K.inputs⟩, K.tframe⟩, K.tlen⟩

theorem sameModelSkeleton_of_inv (m m' : Model) (hwf : WF.modelOK m = true)
    (hn : m'.subgraphs.length = m.subgraphs.length) (hsk : SkAll m m') :
    sameModelSkeleton m m' = true := by
  unfold sameModelSkeleton
  simp only [Bool.and_eq_true, beq_iff_eq, List.all_eq_true]
  refine ⟨⟨⟨hn.symm, ?_⟩, hsk.nsig.symm⟩, ?_⟩
  · intro p hp
    obtain ⟨i, hi⟩ := List.mem_iff_getElem?.1 hp
    obtain ⟨h1, h2⟩ := List.getElem?_zip_eq_some.1 hi
    exact sameSkeleton_of_inv _ _ (hsk.sgs i p.1 p.2 h1 h2)
  · intro p hp
    obtain ⟨i, hi⟩ := List.mem_iff_getElem?.1 hp
    obtain ⟨h1, h2⟩ := List.getElem?_zip_eq_some.1 hi
    have hsig := ((modelOK_iff m).1 hwf).2.2 p.1 (List.mem_of_getElem? h1)
    unfold WF.sigOK at hsig
    cases hsg : m.subgraphs[p.1.sg]? with
    | none => simp [hsg] at hsig
    | some sg =>
      have hlt : p.1.sg < m'.subgraphs.length := by
        rw [hn]; exact (List.getElem?_eq_some_iff.1 hsg).1
      have hsg' : m'.subgraphs[p.1.sg]? = some m'.subgraphs[p.1.sg] := List.getElem?_eq_getElem hlt
      rw [hsg']
      exact sameSig_of_rel _ _ _ _ (hsk.sigs i p.1 p.2 sg _ h1 h2 hsg hsg')

theorem transformGraph_skeleton (pt : PTable) (m m' : Model) (tis : List TInsts)
    (hwf : WF.modelOK m = true) (htag : origTagged m = true)
    (hok : ∀ ti ∈ tis, TInstsOK pt m ti)
    (h : transformGraph pt m tis = .ok m') : sameModelSkeleton m m' = true := by
  obtain ⟨st, hfold, rfl⟩ := (transformGraph_ok_iff pt m m' tis).1 h
  have hI : Inv m st ∧ SkAll m st.model :=
    (RunRule.run_trace (RunRule.sound_of_applied (B := fun s => Inv m s ∧ SkAll m s.model) (fun _ hb => hb.1)
      fun _ _ _ _ hb A => ⟨A.inv hb.1, A.sk hwf hb.1 hb.2⟩) hok ⟨inv_init m hwf, skAll_init m htag⟩ hfold).1
  exact sameModelSkeleton_of_inv m st.model hwf hI.1.nsg hI.2

end SkeletonProof
