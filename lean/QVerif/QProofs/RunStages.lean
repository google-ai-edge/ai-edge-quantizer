import QProofs.TypingGraph
import QProofs.TypingShape
import QProofs.SharingData
/-!
# What a successful `quantizePure` run consists of
`stages`: the materialisation loop with its result dictionary, the parameter table, the instruction lists and their application, with
the facts about them that every end-to-end family starts from; `run` adds the final performer state.
-/
open Graph Mat Pipeline InstGen Pipe SharingGen SharingData Perform

namespace TypingE2E

/-- Of the invariants of the dictionary `Stages` keeps those that the graph stage needs to be read at all (`cd`, `sa`: what the
    buffer-sharing check established) and the types of the request sides (`typ`); every other family takes its invariant from
    `fold` by its own `generate_*` (one call of `Pipe.generate_sides`) -/
structure Stages (rx : String → String → Bool) (env : Env) (st : Recipe.State) (qsvs : Option Qsvs)
    (m' : Model) (tbl : List Param) (res : List (String × CReq)) (tis : List TInsts) : Prop where
  fold : ∃ qs, env.model.subgraphs.zipIdx.foldlM (sgStep rx env st) (qsvs.getD [], []) = .ok (qs, res)
  ctx : Ctx env.model res
  tbl_eq : tbl = tblOf res
  gen : genInsts env.model (areqsOf res) = .ok tis
  run : transformGraph (ptableOf tbl) env.model tis = .ok m'
  ok : ∀ ti ∈ tis, GraphInv.TInstsOK (ptableOf tbl) env.model ti
  cd : SharingE2E.ConstData (ptableOf tbl) env.model tis
  sa : SharingE2E.SharersAgree env.model tis
  typ : TypingShape.DSides (TypingShape.PTyp env) (TypingShape.CTyp env) res
  noq : ∀ sg ∈ env.model.subgraphs, ∀ t ∈ sg.tensors, t.quant = none

theorem stages (rx : String → String → Bool) (env : Env) (st : Recipe.State) (qsvs : Option Qsvs)
    (m' : Model) (tbl : List Param) (hnf : PipelineWF.NF env st)
    (h : quantizePure rx env st qsvs = .ok (m', tbl)) :
    ∃ res tis, Stages rx env st qsvs m' tbl res tis := by
  obtain ⟨reqs, tis, hgen, rfl, -, -, htis, hok, htg⟩ := PipelineWF.quantizePure_stages rx env st qsvs m' tbl hnf h
  obtain ⟨qs, res, hloop, rfl, hchk, hown, C, hcd⟩ := generate_res rx env st qsvs reqs hnf.genHyp hgen
  exact ⟨res, tis, ⟨qs, hloop⟩, C, rfl, htis, htg, hok, constData_of_cd C hcd tis htis,
    sharersAgree_of_check C hchk hown tis htis, TypingShape.generate_typ hloop,
    Pipe.generate_noQuant rx env st qsvs _ hgen⟩

theorem _root_.TypingGraph.Final.source {pt : PTable} {m : Model} {tis : List TInsts} {stF : PState}
    (F : TypingGraph.Final pt m tis stF) {s : Nat} {sg' : Subgraph} (hsg' : stF.model.subgraphs[s]? = some sg') :
    ∃ sg, m.subgraphs[s]? = some sg :=
  ⟨_, List.getElem?_eq_getElem (F.base.inv.nsg ▸ (List.getElem?_eq_some_iff.1 hsg').1)⟩

/-- stated with `stF.model` and `tblOf res` in place of `m'` and `tbl`, for callers to substitute -/
theorem run (rx : String → String → Bool) (env : Env) (st : Recipe.State) (qsvs : Option Qsvs)
    (m' : Model) (tbl : List Param) (hnf : PipelineWF.NF env st)
    (h : quantizePure rx env st qsvs = .ok (m', tbl)) :
    ∃ res tis stF, stF.model = m' ∧ tbl = tblOf res ∧ Stages rx env st qsvs stF.model (tblOf res) res tis ∧
      TypingGraph.Final (ptableOf (tblOf res)) env.model tis stF ∧
      RunDesc.Ran (ptableOf (tblOf res)) env.model (RunRule.performed tis) stF := by
  obtain ⟨res, tis, S⟩ := stages rx env st qsvs m' tbl hnf h
  obtain ⟨stF, rfl, F, R⟩ := TypingGraph.run_fin _ env.model m' tis hnf.wf hnf.tagged S.ok S.cd S.run
  have htbl := S.tbl_eq
  subst htbl
  exact ⟨res, tis, stF, rfl, rfl, S, F, R⟩

end TypingE2E
