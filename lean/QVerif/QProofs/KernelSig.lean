import QModel.Materialize
/-!
# The operand-type signatures the LiteRT kernels accept -- an ASSUMED table (C01, runtime clause; C13)

"The LiteRT interpreter can allocate and invoke that model without an error."  The interpreter is outside
the Lean model.  What the `Prepare` / `Eval` functions of the builtin kernels check first are the OPERAND
TYPE SIGNATURES of an operator: which tensor types it reads in which operand position and which types it
writes.  `KernelSig.accepts name operandTypes resultTypes` is an explicit table of the signatures the
kernels of the 21 operators the quantizer supports, plus QUANTIZE and DEQUANTIZE, accept.

**This table is an ASSUMPTION about the runtime.**  It is written from the TFLite quantization
specification and the kernel sources; it is validated by EXECUTION (the C13 check of the harness runs every
accepted (operator, config) pair through the real interpreter); it is never proved, and nothing in
`QModel/**` depends on it.  The theorems of `QProps/C01b.lean` say: the output of `quantizePure` only
contains operators whose signature is in this table.

## The table

An absent optional operand (`-1`) has type `none`.  Operand positions have a KIND (`layout`):
`data` (activation), `weight` (operand 1 of the operators with weights), `bias`, `index` (shape / axis /
index / output-shape operand).  An operator is accepted if its signature is in one of the ROWS:

* **float kernel** (`floatRow`): data and weight float32, bias float32 -- or absent, for FULLY_CONNECTED and
  CONV_2D_TRANSPOSE (`biasOptional`) --, index operands int32, results float32;
* **hybrid / dynamic-range kernel** (`hybridRow`; FULLY_CONNECTED, CONV_2D, DEPTHWISE_CONV_2D,
  CONV_2D_TRANSPOSE, BATCH_MATMUL, EMBEDDING_LOOKUP): data float32, weight int8 -- or int4 for
  FULLY_CONNECTED and EMBEDDING_LOOKUP (`dynamic_wi4_afp32` of the default policy) --, bias absent or
  float32, index operands int32, results float32;
* **full-integer kernels** (`intRow`; all operators but EMBEDDING_LOOKUP), int8: data int8, weight int8 --
  or int4 for FULLY_CONNECTED and CONV_2D (`static_wi4_ai8`) --, bias absent or int32, index operands
  int32, results int8; int16: data int16, weight int8 (or int4 for FULLY_CONNECTED and CONV_2D,
  `static_wi4_ai16`), bias absent or int64, index operands int32, results int16; the second operand of
  BATCH_MATMUL and FULLY_CONNECTED may also have the activation type (a runtime tensor; `weightActOps`);
* **QUANTIZE**: float32 | int8 | int16 → int8 | int16;  **DEQUANTIZE**: int4 | int8 | int16 | float16 → float32.

CONV_2D_TRANSPOSE is listed among the hybrid kernels because the default policy accepts
`dynamic_wi8_afp32` for it and the C13 sweep runs that pair on the interpreter.  Entries probed on the
interpreter (LiteRT) while writing the table: hybrid CONV_2D_TRANSPOSE runs; BATCH_MATMUL accepts exactly
`(lhs float32 ∧ rhs int8) ∨ lhs.type = rhs.type ∨ (lhs int16 ∧ rhs int8)` (`batch_matmul.cc`);
FULLY_CONNECTED int16 × int16 runs and is accurate; CONV_2D_TRANSPOSE int16 × int16 is refused
(`weights->type != kTfLiteInt8`); CONV_2D with three operands refuses an absent bias.  Constraints on the
PARAMETERS (zero points, power-of-two scales, …) are outside this table (C04 / C13).
-/
open Graph

namespace KernelSig

/-- the type of an operand / result slot: `none` = absent optional operand -/
abbrev DT := Option Nat

inductive Kind where
  | data | weight | bias | index
  deriving DecidableEq, Repr, Inhabited

/-- operand layout of a builtin operator -/
structure Layout where
  /-- kinds of the leading operand positions -/
  fixed : List Kind
  /-- at least this many operands -/
  minIn : Nat
  /-- any number of further `data` operands (CONCATENATION) -/
  variadic : Bool := false
  /-- any number (≥ 1) of results (SPLIT) -/
  multiOut : Bool := false
  deriving Repr, Inhabited, DecidableEq

/-- the operand layouts of the 21 supported operators (TFLite schema / kernel sources) -/
def layout (nm : String) : Option Layout :=
  if nm = "FULLY_CONNECTED" ∨ nm = "CONV_2D" ∨ nm = "DEPTHWISE_CONV_2D" then
    some { fixed := [.data, .weight, .bias], minIn := 2 }
  else if nm = "CONV_2D_TRANSPOSE" then some { fixed := [.index, .weight, .data, .bias], minIn := 3 }
  else if nm = "BATCH_MATMUL" then some { fixed := [.data, .weight], minIn := 2 }
  else if nm = "EMBEDDING_LOOKUP" then some { fixed := [.index, .weight], minIn := 2 }
  else if nm = "ADD" ∨ nm = "SUB" ∨ nm = "MUL" then some { fixed := [.data, .data], minIn := 2 }
  else if nm = "SOFTMAX" ∨ nm = "LOGISTIC" ∨ nm = "TANH" ∨ nm = "GELU" ∨ nm = "RSQRT" ∨ nm = "AVERAGE_POOL_2D" then
    some { fixed := [.data], minIn := 1 }
  else if nm = "RESHAPE" then some { fixed := [.data, .index], minIn := 1 }
  else if nm = "TRANSPOSE" ∨ nm = "MEAN" then some { fixed := [.data, .index], minIn := 2 }
  else if nm = "STRIDED_SLICE" then some { fixed := [.data, .index, .index, .index], minIn := 4 }
  else if nm = "SPLIT" then some { fixed := [.index, .data], minIn := 2, multiOut := true }
  else if nm = "CONCATENATION" then some { fixed := [], minIn := 1, variadic := true }
  else none

/-- the kind of operand position `j` -/
def kind (nm : String) (j : Nat) : Kind :=
  match layout nm with
  | some L => L.fixed.getD j .data
  | none => .data

/-- numbers of operands and results -/
def arityOK (nm : String) (nIn nOut : Nat) : Bool :=
  match layout nm with
  | some L => decide (L.minIn ≤ nIn) && (L.variadic || decide (nIn ≤ L.fixed.length)) &&
      decide (1 ≤ nOut) && (L.multiOut || decide (nOut = 1))
  | none => false

/-- a row of the table: which type each kind of operand may have, and the type of every result -/
def sig (row : Kind → DT → Bool) (res : Nat) (nm : String) (ins outs : List DT) : Bool :=
  arityOK nm ins.length outs.length && ins.zipIdx.all (fun p => row (kind nm p.2) p.1) &&
    outs.all (· == some res)

/-- the operators whose bias operand may be ABSENT (`-1`): FULLY_CONNECTED and CONV_2D_TRANSPOSE.  (CONV_2D
    and DEPTHWISE_CONV_2D have two operands, or three with a bias tensor: "Tensor at index 2 was optional but
    was expected".) -/
def biasOptional (nm : String) : Bool := nm == "FULLY_CONNECTED" || nm == "CONV_2D_TRANSPOSE"

def floatRow (nm : String) : Kind → DT → Bool
  | .data, d | .weight, d => d == some Tables.ttFloat32
  | .bias, d => (d == none && biasOptional nm) || d == some Tables.ttFloat32
  | .index, d => d == some Tables.ttInt32

/-- the signature of a float model's operator -/
def floatSig (nm : String) (ins outs : List DT) : Bool := sig (floatRow nm) Tables.ttFloat32 nm ins outs

def hybridOps : List String :=
  ["FULLY_CONNECTED", "CONV_2D", "DEPTHWISE_CONV_2D", "CONV_2D_TRANSPOSE", "BATCH_MATMUL", "EMBEDDING_LOOKUP"]
def hybridInt4Ops : List String := ["FULLY_CONNECTED", "EMBEDDING_LOOKUP"]

def hybridRow (nm : String) : Kind → DT → Bool
  | .data, d => d == some Tables.ttFloat32
  | .weight, d => d == some Tables.ttInt8 || (d == some Tables.ttInt4 && hybridInt4Ops.contains nm)
  | .bias, d => (d == none && biasOptional nm) || d == some Tables.ttFloat32
  | .index, d => d == some Tables.ttInt32

def intOps : List String :=
  ["FULLY_CONNECTED", "CONV_2D", "DEPTHWISE_CONV_2D", "CONV_2D_TRANSPOSE", "BATCH_MATMUL", "ADD", "SUB", "MUL",
   "SOFTMAX", "LOGISTIC", "TANH", "GELU", "RSQRT", "AVERAGE_POOL_2D", "RESHAPE", "TRANSPOSE", "MEAN",
   "STRIDED_SLICE", "SPLIT", "CONCATENATION"]
def staticInt4Ops : List String := ["FULLY_CONNECTED", "CONV_2D"]
/-- the operators whose second operand may have the ACTIVATION type (a runtime tensor): BATCH_MATMUL
    (`lhs.type == rhs.type`) and FULLY_CONNECTED (the int16 × int16 kernel; checked on the interpreter) -/
def weightActOps : List String := ["BATCH_MATMUL", "FULLY_CONNECTED"]

/-- activation type `A`, bias type `B` -/
def intRow (A B : Nat) (nm : String) : Kind → DT → Bool
  | .data, d => d == some A
  | .weight, d => d == some Tables.ttInt8 || (d == some Tables.ttInt4 && staticInt4Ops.contains nm) ||
      (weightActOps.contains nm && d == some A)
  | .bias, d => (d == none && biasOptional nm) || d == some B
  | .index, d => d == some Tables.ttInt32

def quantizeSig (ins outs : List DT) : Bool :=
  match ins, outs with
  | [some a], [some b] =>
    (a == Tables.ttFloat32 || a == Tables.ttInt8 || a == Tables.ttInt16) && (b == Tables.ttInt8 || b == Tables.ttInt16)
  | _, _ => false

def dequantizeSig (ins outs : List DT) : Bool :=
  match ins, outs with
  | [some a], [some b] =>
    (a == Tables.ttInt4 || a == Tables.ttInt8 || a == Tables.ttInt16 || a == Tables.ttFloat16) && b == Tables.ttFloat32
  | _, _ => false

/-- **THE ASSUMED TABLE**: operator name, operand types, result types ↦ accepted by the kernel -/
def accepts (nm : String) (ins outs : List DT) : Bool :=
  if nm = "QUANTIZE" then quantizeSig ins outs
  else if nm = "DEQUANTIZE" then dequantizeSig ins outs
  else
    floatSig nm ins outs ||
    (hybridOps.contains nm && sig (hybridRow nm) Tables.ttFloat32 nm ins outs) ||
    (intOps.contains nm &&
      (sig (intRow Tables.ttInt8 Tables.ttInt32 nm) Tables.ttInt8 nm ins outs ||
       sig (intRow Tables.ttInt16 Tables.ttInt64 nm) Tables.ttInt16 nm ins outs))

/-! ## reading the signature of an operator off a model -/

/-- the operator names of the table: the quantizer's 21 names, QUANTIZE, DEQUANTIZE -/
def nameOfCode (code : Nat) : Option String :=
  if code = Tables.opQuantize then some "QUANTIZE"
  else if code = Tables.opDequantize then some "DEQUANTIZE"
  else Mat.opNameOfCode code

/-- the type of the tensor in a slot (`none` for an absent operand) -/
def dtypeAt (sg : Subgraph) (t : Int) : DT :=
  if t < 0 then none else (sg.tensors[t.toNat]?).map (·.dtype)

/-- builtin code, operand types, result types -/
def opSig (m : Model) (sg : Subgraph) (o : Op) : Option (Nat × List DT × List DT) :=
  (m.opcodes[o.code]?).map fun c => (c, o.inputs.map (dtypeAt sg), o.outputs.map (dtypeAt sg))

/-- the signature is in the table (an operator that is not in the table at all is not judged) -/
def sigOK : Option (Nat × List DT × List DT) → Bool
  | none => false
  | some (c, ins, outs) =>
    match nameOfCode c with
    | none => true
    | some nm => accepts nm ins outs

/-- operator `o` of subgraph `sg` of model `m` has a signature the runtime accepts -/
def opOK (m : Model) (sg : Subgraph) (o : Op) : Bool := sigOK (opSig m sg o)

/-- the signatures of all operators of the model, in order -/
def modelSigs (m : Model) : List (Option (Nat × List DT × List DT)) :=
  m.subgraphs.flatMap fun sg => sg.ops.map fun o => opSig m sg o

/-- every operator of the model has an accepted signature -/
def modelOK (m : Model) : Bool := m.subgraphs.all fun sg => sg.ops.all fun o => opOK m sg o

/-! ## the table, row by row, on examples (documentation; every line is checked by `decide`) -/

section Examples
open Tables

-- float
example : accepts "FULLY_CONNECTED" [some ttFloat32, some ttFloat32, none] [some ttFloat32] = true := by decide +kernel
example : accepts "CONV_2D_TRANSPOSE" [some ttInt32, some ttFloat32, some ttFloat32, some ttFloat32] [some ttFloat32] = true := by decide +kernel
example : accepts "RESHAPE" [some ttFloat32, some ttInt32] [some ttFloat32] = true := by decide +kernel
example : accepts "SPLIT" [some ttInt32, some ttFloat32] [some ttFloat32, some ttFloat32] = true := by decide +kernel
example : accepts "CONCATENATION" [some ttFloat32, some ttFloat32, some ttFloat32] [some ttFloat32] = true := by decide +kernel
-- hybrid
example : accepts "FULLY_CONNECTED" [some ttFloat32, some ttInt8, some ttFloat32] [some ttFloat32] = true := by decide +kernel
example : accepts "FULLY_CONNECTED" [some ttFloat32, some ttInt4, none] [some ttFloat32] = true := by decide +kernel
example : accepts "CONV_2D" [some ttFloat32, some ttInt4, some ttFloat32] [some ttFloat32] = false := by decide +kernel
example : accepts "EMBEDDING_LOOKUP" [some ttInt32, some ttInt4] [some ttFloat32] = true := by decide +kernel
example : accepts "BATCH_MATMUL" [some ttFloat32, some ttInt8] [some ttFloat32] = true := by decide +kernel
example : accepts "BATCH_MATMUL" [some ttInt8, some ttFloat32] [some ttFloat32] = false := by decide +kernel
-- full integer
example : accepts "FULLY_CONNECTED" [some ttInt8, some ttInt8, some ttInt32] [some ttInt8] = true := by decide +kernel
example : accepts "FULLY_CONNECTED" [some ttInt16, some ttInt8, some ttInt64] [some ttInt16] = true := by decide +kernel
example : accepts "FULLY_CONNECTED" [some ttInt16, some ttInt4, none] [some ttInt16] = true := by decide +kernel
example : accepts "FULLY_CONNECTED" [some ttInt16, some ttInt16, none] [some ttInt16] = true := by decide +kernel
example : accepts "CONV_2D" [some ttInt16, some ttInt16, some ttInt64] [some ttInt16] = false := by decide +kernel
example : accepts "CONV_2D" [some ttFloat32, some ttFloat32, none] [some ttFloat32] = false := by decide +kernel
example : accepts "CONV_2D" [some ttFloat32, some ttFloat32] [some ttFloat32] = true := by decide +kernel
example : accepts "FULLY_CONNECTED" [some ttInt16, some ttInt8, some ttInt32] [some ttInt16] = false := by decide +kernel
example : accepts "FULLY_CONNECTED" [some ttInt8, some ttInt8, none] [some ttFloat32] = false := by decide +kernel
example : accepts "DEPTHWISE_CONV_2D" [some ttInt8, some ttInt4, some ttInt32] [some ttInt8] = false := by decide +kernel
example : accepts "BATCH_MATMUL" [some ttInt16, some ttInt16] [some ttInt16] = true := by decide +kernel
example : accepts "ADD" [some ttInt8, some ttInt8] [some ttInt8] = true := by decide +kernel
example : accepts "ADD" [some ttInt8, some ttInt16] [some ttInt8] = false := by decide +kernel
example : accepts "ADD" [some ttInt8, some ttFloat32] [some ttInt8] = false := by decide +kernel
example : accepts "STRIDED_SLICE" [some ttInt16, some ttInt32, some ttInt32, some ttInt32] [some ttInt16] = true := by decide +kernel
example : accepts "MEAN" [some ttInt8, some ttFloat32] [some ttInt8] = false := by decide +kernel
example : accepts "EMBEDDING_LOOKUP" [some ttInt32, some ttInt8] [some ttInt8] = false := by decide +kernel
-- QUANTIZE / DEQUANTIZE
example : accepts "QUANTIZE" [some ttFloat32] [some ttInt8] = true := by decide +kernel
example : accepts "QUANTIZE" [some ttInt16] [some ttInt8] = true := by decide +kernel
example : accepts "QUANTIZE" [some ttFloat32] [some ttInt4] = false := by decide +kernel
example : accepts "DEQUANTIZE" [some ttInt4] [some ttFloat32] = true := by decide +kernel
example : accepts "DEQUANTIZE" [some ttFloat16] [some ttFloat32] = true := by decide +kernel
example : accepts "DEQUANTIZE" [some ttInt32] [some ttFloat32] = false := by decide +kernel
-- not in the table
example : accepts "ABS" [some ttFloat32] [some ttFloat32] = false := by decide +kernel

end Examples

end KernelSig
