import QProofs.ParamsGraph
import QProofs.ParamsStats
/-!
# C04 end to end: the parameters of every quantized tensor of `quantizePure`'s output

Backwards (`quant_source`): a tensor of the output with `quant = some p` stands for an ORIGINAL tensor, and `p` is the index of
the `==`-class of the parameter object of one side of that tensor's request -- the producer side (runtime tensor), a
consumer side (constant; or a NEW tensor, the result of an inserted QUANTIZE) -- which has a source `ParamsSrc.PSrc` at a
definite entry of the operator list.  Forwards (namespace `ParamsFwd`): the requests of ONE original operator in the output.
-/
open Graph Mat Pipeline GenInstsOK Pipe SharingGen Perform
open SkeletonProof StepTypes Wiring
open ParamsSrc ParamsGraph

set_option autoImplicit false

namespace ParamsE2E

/-- `P` was attached to a request for the tensor `tn` of subgraph `s` (= `sg`) by the materialisation of an
    entry with operator id `o` of the operator list of `sg`, and has a source there -/
def ParamAt (rx : String → String → Bool) (env : Env) (st : Recipe.State) (qsvs : Option Qsvs)
    (s : Nat) (sg : Subgraph) (tn : Tensor) (o : Int) (P : Param) : Prop :=
  ∃ (j : Nat) (q : Op × Option String × Int) (k scope : String) (qs : Qsvs),
    (allOps sg)[j]? = some q ∧ q.2.2 = o ∧ Resolves rx env st sg q k scope ∧
    StatsAt rx env st qsvs s sg j qs ∧ PSrc env sg qs (oiOf rx st s q k scope) tn P

theorem origin_paramAt {rx : String → String → Bool} {env : Env} {st : Recipe.State} {qsvs : Option Qsvs}
    (hg : GenHyp env st) (hnu : namesUnique env.model) {s : Nat} {sg : Subgraph} {i : Nat} {tn : Tensor} {b : Bool}
    {c : CO2T} (hsg : env.model.subgraphs[s]? = some sg) (htn : sg.tensors[i]? = some tn)
    (hO : Spine.Origin rx env st qsvs s sg tn b c) {P : Param} (hP : c.param = some P) :
    ParamAt rx env st qsvs s sg tn c.opId P := by
  obtain ⟨j, q, qs, rs, qs', hq, hstat, hreq, hmem⟩ := hO
  have hm : sg ∈ env.model.subgraphs := List.mem_of_getElem? hsg
  have hqm : q ∈ allOps sg := List.mem_of_getElem? hq
  obtain ⟨t, b', c', htm, hr, hc⟩ := opReqs_src rx env st s sg qs q rs qs' (mand_allOps env st hg sg hm q hqm)
    (ConstProv.outNC_allOps env st hg sg hm q hqm) hreq _ hmem
  -- `opReqs_src` speaks of SOME tensor of the subgraph with the request's name: it is `tn`
  obtain ⟨hn, rfl, rfl⟩ := Spine.sideReq_inj hr
  obtain ⟨-, -, rfl⟩ := ReqTrace.named_at hnu hsg htn hsg htm hn.symm
  rcases hc with hnone | ⟨k, scope, hres, hS⟩
  · rw [hnone] at hP
    cases hP
  · exact ⟨j, q, k, scope, qs, hq, hS.1.symm, hres, hstat, hS.2 P hP⟩

theorem Carries.cls {rx : String → String → Bool} {env : Env} {st : Recipe.State} {qsvs : Option Qsvs}
    {m' : Model} {res : List (String × CReq)} {tis : List TInsts}
    (S : TypingE2E.Stages rx env st qsvs m' (tblOf res) res tis) {s : Nat} {sg : Subgraph} {i : Nat}
    {tn : Tensor} {e : CReq} {c : CO2T} {ins : Inst} (hsg : env.model.subgraphs[s]? = some sg)
    (htn : sg.tensors[i]? = some tn) (he : (tn.name, e) ∈ res) (h : ReqTrace.Carries e c ins) :
    (retypes ins.xf = true ∧
      ((isConst env.model sg (i : Int) = false ∧ ProducedAt sg i c.opId) ∨
       (isConst env.model sg (i : Int) = true ∧ ConsumedAt sg i c.opId))) ∨
    (ins.xf = .addQuant ∧ isConst env.model sg (i : Int) = false ∧ ConsumedAt sg i c.opId) := by
  have C := S.ctx
  have hloc : Loc env.model tn.name s sg i := ⟨hsg, tn, htn, rfl⟩
  have E := C.entries _ he
  cases h with
  | result hc _ hr =>
    have hsgm : sg ∈ env.model.subgraphs := List.mem_of_getElem? hsg
    have hpa := (E.prod c hc s sg i hloc).2
    exact .inl ⟨hr, .inl ⟨produced_notConst env.model sg i c.opId
      (((GraphStep.modelOK_iff env.model).1 C.wf).2.1 sg hsgm) (C.inp sg hsgm) hpa, hpa⟩⟩
  | operand cs hcs hc hcx hx _ =>
    obtain ⟨⟨⟨x', hx', -, hconst⟩, -⟩, hca⟩ := E.cons cs c hcs hc s sg i hloc
    rw [hcx] at hx'
    cases hx'
    rcases insertion_cases _ hx with hr | hq
    · exact .inl ⟨hr, .inr ⟨hconst (retypes_cases _ hr), hca⟩⟩
    · -- an `[ADD_QUANTIZE]` side is only requested for a tensor without constant data (`TypingShape.CTypS`)
      obtain ⟨sgq, hsgq, hf, -⟩ := (S.typ _ he).2 cs c hcs hc
      obtain ⟨t', ht', hn', -, hnc'⟩ := hf (hq ▸ hcx)
      obtain ⟨rfl, rfl⟩ := ReqTrace.named_at_mem C.nu hsg htn hsgq ht' hn'
      exact .inr ⟨hq, by rw [← constData_isSome env sg i tn htn]; exact hnc', hca⟩

/-- a performed instruction with parameter id `p`: `p` is the index of the `==`-class of an object that a definite entry of
    the operator list attached to the request for its (original) tensor, and that entry produces resp. reads the tensor -/
theorem inst_source {rx : String → String → Bool} {env : Env} {st : Recipe.State} {qsvs : Option Qsvs}
    {m' : Model} {res : List (String × CReq)} {tis : List TInsts}
    (S : TypingE2E.Stages rx env st qsvs m' (tblOf res) res tis) (hnf : PipelineWF.NF env st)
    (ti : TInsts) (hti : ti ∈ tis) (ins : Inst) (hins : ins ∈ ti.insts) (hx : isInsertion ins.xf = true)
    (p : PId) (hp : ins.param = some p) (sg : Subgraph) (hsg : env.model.subgraphs[ti.sg]? = some sg) :
    ∃ (i : Nat) (tn : Tensor) (o : Int) (P : Param), ins.tensor = (i : Int) ∧ sg.tensors[i]? = some tn ∧
      (tblOf res).findIdx? (fun q => q.eqv P) = some p ∧ ParamAt rx env st qsvs ti.sg sg tn o P ∧
      ((retypes ins.xf = true ∧
        ((isConst env.model sg (i : Int) = false ∧ ProducedAt sg i o) ∨
         (isConst env.model sg (i : Int) = true ∧ ConsumedAt sg i o))) ∨
       (ins.xf = .addQuant ∧ isConst env.model sg (i : Int) = false ∧ ConsumedAt sg i o)) := by
  obtain ⟨i, tn, e, c, P, I⟩ := ReqTrace.inst_side S.ctx S.gen ti hti ins hins hx p hp sg hsg
  obtain ⟨qs, hfold⟩ := S.fold
  obtain ⟨b, hb⟩ := I.carries.sideOf
  exact ⟨i, tn, c.opId, P, I.tensor, I.record, I.pid,
    origin_paramAt hnf.genHyp S.ctx.nu hsg I.record (Spine.origin_at S.ctx.nu hfold hsg I.record I.entry hb) I.param,
    Carries.cls S hsg I.record I.entry I.carries⟩

theorem quant_source (rx : String → String → Bool) (env : Env) (st : Recipe.State) (qsvs : Option Qsvs)
    (m' : Model) (tbl : List Param) (hnf : PipelineWF.NF env st)
    (h : quantizePure rx env st qsvs = .ok (m', tbl))
    (s : Nat) (sg' : Subgraph) (hsg' : m'.subgraphs[s]? = some sg') (n : Nat) (tn' : Tensor)
    (htn' : sg'.tensors[n]? = some tn') (p : PId) (hq : tn'.quant = some p) :
    ∃ (sg : Subgraph) (i : Nat) (tn : Tensor) (o : Int) (P : Param),
      env.model.subgraphs[s]? = some sg ∧ sg.tensors[i]? = some tn ∧ Skeleton.root sg' (n : Int) = (i : Int) ∧
      tbl.findIdx? (fun q => q.eqv P) = some p ∧ (pinfoOf P).uniform = true ∧ ParamAt rx env st qsvs s sg tn o P ∧
      ((n = i ∧ isConst env.model sg (i : Int) = false ∧ ProducedAt sg i o) ∨
       (n = i ∧ isConst env.model sg (i : Int) = true ∧ ConsumedAt sg i o) ∨
       (sg.tensors.length ≤ n ∧ isConst env.model sg (i : Int) = false ∧ ConsumedAt sg i o ∧
         ∃ ci, newOp ci (i : Int) (n : Int) ∈ sg'.ops ∧ m'.opcodes[ci]? = some Tables.opQuantize)) := by
  obtain ⟨res, tis, stF, rfl, rfl, S, F, R⟩ := TypingE2E.run rx env st qsvs m' tbl hnf h
  have hs : s < env.model.subgraphs.length := by
    rw [← F.base.inv.nsg]; exact (List.getElem?_eq_some_iff.1 hsg').1
  have hsg : env.model.subgraphs[s]? = some env.model.subgraphs[s] := List.getElem?_eq_getElem hs
  generalize env.model.subgraphs[s] = sg at hsg
  have K := F.base.sk.sgs s sg sg' hsg hsg'
  by_cases hn : n < sg.tensors.length
  · -- an original tensor: `quant` was written by a retyping instruction
    have ht0 : sg.tensors[n]? = some sg.tensors[n] := List.getElem?_eq_getElem hn
    rcases quant_final F.base R S.ok s sg sg' n _ tn' hsg hsg' ht0 htn'
      with h0 | ⟨p', pi, hp', ⟨ti, hti, ins, hins, rfl, hten, hr, hpar⟩, hpi, hun⟩
    · rw [S.noq sg (List.mem_of_getElem? hsg) _ (List.getElem_mem hn), hq] at h0
      cases h0
    · rw [hq] at hp'
      cases hp'
      obtain ⟨i, tn, o, P, g1, g2, g3, g6, hcls⟩ :=
        inst_source S hnf ti hti ins hins (retypes_insertion _ hr) p hpar sg hsg
      obtain rfl : i = n := by omega
      rw [Pipe.pinfo_of_findIdx _ _ _ g3] at hpi
      cases hpi
      refine ⟨sg, i, tn, o, P, hsg, g2, root_fix_lt sg.tensors.length sg' K.ins _ (by omega), g3, hun, g6, ?_⟩
      rcases hcls with ⟨-, hc | hc⟩ | ⟨hxq, -⟩
      · exact .inl ⟨rfl, hc⟩
      · exact .inr (.inl ⟨rfl, hc⟩)
      · rw [hxq] at hr
        cases hr
  · -- a new tensor: created, with its `quant`, by an ADD_QUANTIZE instruction
    obtain ⟨sgx, om, c1, c2, -⟩ := F.base.cur s sg hsg
    rw [hsg'] at c1; cases c1
    have hnl : n < sg'.tensors.length := (List.getElem?_eq_some_iff.1 htn').1
    obtain ⟨ti, hti, ins, hins, rfl, e2, ⟨tnx, e3, pp, pi, ty, nm, tn0, r1, r2, r3, r4⟩, ⟨ci, e5, e6, e7⟩, -⟩ :=
      F.news _ sg sg' om hsg hsg' c2 n (by omega) hnl
    rw [htn'] at e3
    cases e3
    have hxq : ins.xf = .addQuant := by
      by_contra hne
      rw [if_neg hne] at r4
      rw [r4] at hq
      cases hq
    rw [if_pos hxq] at r4
    rw [r4, retype_quant] at hq
    have hun : pi.uniform = true := by
      cases hu : pi.uniform
      · rw [hu] at hq; cases hq
      · rfl
    rw [hun, if_pos rfl] at hq
    cases hq
    obtain ⟨i, tn, o, P, g1, g2, g3, g6, hcls⟩ :=
      inst_source S hnf ti hti ins hins (addsOp_insertion _ e2) p r1 sg hsg
    rw [Pipe.pinfo_of_findIdx _ _ _ g3] at r2
    cases r2
    rw [g1] at e5
    refine ⟨sg, i, tn, o, P, hsg, g2,
      root_derived sg.tensors.length sg' K.ins _ (i : Int) (n : Int) e5 rfl rfl rfl, g3, hun, g6, ?_⟩
    rcases hcls with ⟨hr, -⟩ | ⟨-, hnc, hca⟩
    · rw [hxq] at hr
      cases hr
    · exact .inr (.inr ⟨by omega, hnc, hca, ci, e5, by rw [e6, TypingGraph.insCode, if_pos hxq]⟩)

end ParamsE2E

open TypingE2E

namespace ParamsFwd

/-- the original operator `k` and the output: its requests `rs` under the statistics `qs0` in force, THE operator `o'` that
    stands for it, and where the objects it requested under a static-range config (`MatParams.srqReq`) are held: by the
    result tensor, resp. by the tensor `o'` reads in the operand's slot (the constant itself, the runtime operand, or the
    result of an inserted QUANTIZE).  Two tensors holding (`TypingE2E.HoldsParam`) the same object carry the same id. -/
structure OpInOutput (rx : String → String → Bool) (env : Env) (st : Recipe.State) (qsvs : Option Qsvs)
    (m' : Model) (tbl : List Param) (s : Nat) (sg sg' : Subgraph) (k : Nat) (op o' : Op)
    (qs0 : Qsvs) (rs : List CReq) (qs1 : Qsvs) : Prop where
  stats : StatsAt rx env st qsvs s sg k qs0
  reqs : opReqs rx env st s sg qs0 (op, none, (k : Int)) = .ok (rs, qs1)
  mem : o' ∈ sg'.ops
  orig : o'.orig = some k
  ins : ∀ a ∈ op.inputs, a ≠ -1 → 0 ≤ a
  outs : ∀ b ∈ op.outputs, b ≠ -1 → 0 ≤ b ∧ isConst env.model sg b = false
  result : ∀ (b : Int) (tn : Tensor) (P : Param), b ∈ op.outputs → b ≠ -1 → tensorAt sg b = .ok tn →
    MatParams.srqReq tn.name k false false (some P) ∈ rs →
    ∃ tr, sg'.tensors[b.toNat]? = some tr ∧ HoldsParam tbl P tr
  operand : ∀ (j : Nat) (t : Int) (tn : Tensor) (P : Param), op.inputs[j]? = some t → t ≠ -1 →
    tensorAt sg t = .ok tn → MatParams.srqReq tn.name k true (constData env tn).isSome (some P) ∈ rs →
    ∃ z tz, o'.inputs[j]? = some z ∧ Skeleton.root sg' z = t ∧ sg'.tensors[z.toNat]? = some tz ∧
      HoldsParam tbl P tz ∧ ((constData env tn).isSome = true → z = t)

theorem op_in_output (rx : String → String → Bool) (env : Env) (st : Recipe.State)
    (qsvs : Option Qsvs) (m' : Model) (tbl : List Param) (hnf : PipelineWF.NF env st)
    (h : quantizePure rx env st qsvs = .ok (m', tbl))
    (s : Nat) (sg sg' : Subgraph) (hsg : env.model.subgraphs[s]? = some sg) (hsg' : m'.subgraphs[s]? = some sg')
    (k : Nat) (op : Op) (hop : sg.ops[k]? = some op) :
    ∃ o' qs0 rs qs1, OpInOutput rx env st qsvs m' tbl s sg sg' k op o' qs0 rs qs1 := by
  obtain ⟨o', rs, qs0, qs1, M⟩ := op_sides_typed rx env st qsvs m' tbl hnf h s sg sg' hsg hsg' k op hop
  have hOK : GraphStep.OpOK env.model sg k op :=
    (((GraphStep.modelOK_iff env.model).1 hnf.wf).2.1 sg (List.mem_of_getElem? hsg)).ops k op hop
  refine ⟨o', qs0, rs, qs1, M.stats, M.reqs, M.same.mem, M.same.orig, fun a ha hne => ((hOK.ins a ha).resolve_left hne).1.1,
    fun b hb hne => ⟨((hOK.outs b hb).resolve_left hne).1.1, ((hOK.outs b hb).resolve_left hne).2.2.1⟩, ?_, ?_⟩
  -- the rows `[ADD_DEQUANTIZE]` of a result, `[ADD_QUANTIZE]` / `[QUANTIZE_TENSOR]` of an operand
  · intro b tn P hb hbne hta hmem
    obtain ⟨j, hj⟩ := List.getElem?_of_mem hb
    obtain ⟨tn', hta', -, -, hrow⟩ := M.result j b hj hbne
    rw [hta] at hta'
    cases hta'
    exact hrow ⟨k, [.addDequant], some P⟩ .addDequant hmem rfl P rfl
  · intro j t tn P hj hne hta hmem
    obtain ⟨tn', -, hta', -, -, hrow⟩ := M.operand j t hj hne
    rw [hta] at hta'
    cases hta'
    have hroot : ∀ z, o'.inputs[j]? = some z → Skeleton.root sg' z = t := by
      intro z hz
      have := congrArg (·[j]?) M.same.root
      simpa only [List.getElem?_map, hz, hj, Option.map_some, Option.some.injEq] using this
    cases hcd : (constData env tn).isSome with
    | false =>
      rw [hcd] at hmem
      obtain ⟨z, tz, z1, z2, z3, z4, -⟩ := hrow ⟨k, [.addQuant], some P⟩ .addQuant hmem rfl rfl P rfl
      exact ⟨z, tz, z1, z2, z3, z4, fun hf => by cases hf⟩
    | true =>
      rw [hcd] at hmem
      obtain ⟨tz, pid, ⟨c1, c2, -⟩, z1⟩ := hrow ⟨k, [.quantTensor], some P⟩ .quantTensor hmem rfl rfl P rfl
      exact ⟨t, tz, z1, hroot t z1, c1, c2, fun _ => rfl⟩

end ParamsFwd
