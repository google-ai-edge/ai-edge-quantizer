import QProofs.MatAPI
import QProofs.DictLemmas
import Mathlib.Data.List.Nodup
/-!
# `Mat.standardOp`: equation, walk, and the request list slot by slot; then the dispatch `runKind`

`standardOp_eq` splits it into slot prefix, the plain function `stdCore`, `mergeReqs`; `standardOp_run` is the walk (closed
form `StdOut`); `Mat.standardOp_slots`, the result position by position (`SlotOut`, `Hands`), is the form the per-operator
lemmas use.  Last `fixedRangeOp_run` and the dispatch `runKind_run`.
-/
open Graph Mat PyM

namespace Locality

def applyW (w : List (String × Qsv)) (qs : Qsvs) : Qsvs := w.foldl (fun q e => Py.dictSet q e.1 e.2) qs

theorem applyW_frame {N : String → Bool} (w : List (String × Qsv)) (hw : ∀ e ∈ w, N e.1 = true) (n : String)
    (hn : N n = false) : ∀ (qs : Qsvs), Py.dictGet? (applyW w qs) n = Py.dictGet? qs n := by
  induction w with
  | nil => intro qs; rfl
  | cons e w ih =>
    intro qs
    have h1 := ih (fun e' he' => hw e' (List.mem_cons_of_mem _ he')) (Py.dictSet qs e.1 e.2)
    have h2 : applyW (e :: w) qs = applyW w (Py.dictSet qs e.1 e.2) := rfl
    rw [h2, h1, Py.dictGet?_dictSet]
    have : e.1 ≠ n := by
      intro h
      have := hw e List.mem_cons_self
      rw [h, hn] at this
      cases this
    simp only [this, if_false]

theorem applyW_get (w : List (String × Qsv)) : ∀ (qs : Qsvs) (n : String) (v : Qsv),
    Py.dictGet? (applyW w qs) n = some v → (∃ e ∈ w, e.1 = n ∧ e.2 = v) ∨ Py.dictGet? qs n = some v := by
  induction w with
  | nil => exact fun qs n v h => .inr h
  | cons e w ih =>
    intro qs n v h
    rcases ih (Py.dictSet qs e.1 e.2) n v h with ⟨e', he', h'⟩ | h'
    · exact .inl ⟨e', List.mem_cons_of_mem _ he', h'⟩
    · rw [Py.dictGet?_dictSet] at h'
      split at h'
      · exact .inl ⟨e, List.mem_cons_self, ‹_›, Option.some.inj h'⟩
      · exact .inr h'

theorem applyW_map (iq : Qsv) (l : List Tensor) (qs : Qsvs) :
    applyW (l.map fun o => (o.name, iq)) qs = l.foldl (fun q o => Py.dictSet q o.name iq) qs := by
  unfold applyW
  rw [List.foldl_map]

end Locality

namespace Pipe

def Pointwise {α β} (R : α → β → Prop) (l1 : List α) (l2 : List β) : Prop :=
  l1.length = l2.length ∧ ∀ (j : Nat) a b, l1[j]? = some a → l2[j]? = some b → R a b

namespace Pointwise
variable {α β : Type _} {R : α → β → Prop} {l1 : List α} {l2 : List β}

/-- `Pointwise` is `List.Forall₂`: inductions produce the latter, the model reads its lists by position -/
theorem iff_forall₂ : Pointwise R l1 l2 ↔ List.Forall₂ R l1 l2 := by
  rw [List.forall₂_iff_get]
  refine and_congr_right fun _ => ⟨fun h i h1 h2 => h i _ _ (List.getElem?_eq_getElem h1) (List.getElem?_eq_getElem h2),
    fun h j a b ha hb => ?_⟩
  obtain ⟨h1, rfl⟩ := List.getElem?_eq_some_iff.1 ha
  obtain ⟨h2, rfl⟩ := List.getElem?_eq_some_iff.1 hb
  exact h j h1 h2

theorem mem_left (h : Pointwise R l1 l2) {a : α} (ha : a ∈ l1) : ∃ b ∈ l2, R a b := by
  obtain ⟨j, hj⟩ := List.mem_iff_getElem?.1 ha
  have hlt : j < l2.length := h.1 ▸ (List.getElem?_eq_some_iff.1 hj).1
  exact ⟨l2[j], List.getElem_mem hlt, h.2 j _ _ hj (List.getElem?_eq_getElem hlt)⟩

theorem mem_right (h : Pointwise R l1 l2) {b : β} (hb : b ∈ l2) : ∃ a ∈ l1, R a b := by
  obtain ⟨j, hj⟩ := List.mem_iff_getElem?.1 hb
  have hlt : j < l1.length := h.1 ▸ (List.getElem?_eq_some_iff.1 hj).1
  exact ⟨l1[j], List.getElem_mem hlt, h.2 j _ _ (List.getElem?_eq_getElem hlt) hj⟩

theorem imp {S : α → β → Prop} (h : Pointwise R l1 l2) (hRS : ∀ a ∈ l1, ∀ b, R a b → S a b) : Pointwise S l1 l2 :=
  ⟨h.1, fun j a b ha hb => hRS a (List.mem_of_getElem? ha) b (h.2 j a b ha hb)⟩

theorem filterMap_eq {γ} {f : α → Option γ} {g : β → γ} (h : Pointwise R l1 l2)
    (hf : ∀ a b, R a b → f a = some (g b)) : l1.filterMap f = l2.map g := by
  have hF := iff_forall₂.1 h
  clear h
  induction hF with
  | nil => rfl
  | cons hab _ ih => rw [List.filterMap_cons, hf _ _ hab, List.map_cons, ih]

end Pointwise

/-- `-1` = absent optional slot; the position kept is the one in `slots`, which `given` / `ign` index -/
def cslots (slots : List Int) : List (Int × Nat) := slots.zipIdx.filter (fun p => p.1 != -1)

theorem mem_cslots (l : List Int) (p : Int × Nat) : p ∈ cslots l ↔ l[p.2]? = some p.1 ∧ p.1 ≠ -1 := by
  unfold cslots
  rw [List.mem_filter, List.mem_zipIdx_iff_getElem?]
  simp

theorem cslots_nodup (l : List Int) : (cslots l).Nodup := by
  unfold cslots
  refine List.Nodup.filter _ ?_
  refine List.Nodup.of_map (·.2) ?_
  rw [List.zipIdx_map_snd]
  exact List.nodup_range'

theorem cslots_get (l : List Int) (n : Nat) (a : Int) (hpre : ∀ i < n, l[i]? ≠ some (-1))
    (hn : l[n]? = some a) (ha : a ≠ -1) : (cslots l)[n]? = some (a, n) := by
  have hlen : n < l.length := (List.getElem?_eq_some_iff.1 hn).1
  have hsplit : l = l.take n ++ a :: l.drop (n + 1) := by
    have h1 : l.drop n = a :: l.drop (n + 1) := by
      rw [List.drop_eq_getElem_cons hlen]
      congr 1
      exact (List.getElem?_eq_some_iff.1 hn).2
    conv_lhs => rw [← List.take_append_drop n l, h1]
  have htake : ((l.take n).zipIdx).filter (fun p => p.1 != -1) = (l.take n).zipIdx := by
    rw [List.filter_eq_self]
    intro p hp
    have hp' := List.mem_zipIdx_iff_getElem?.1 hp
    have hlt : p.2 < n := by
      have := (List.getElem?_eq_some_iff.1 hp').1
      simp only [List.length_take] at this
      omega
    have hget : l[p.2]? = some p.1 := by
      rw [List.getElem?_take_of_lt hlt] at hp'
      exact hp'
    have := hpre p.2 hlt
    rw [hget] at this
    simpa using this
  unfold cslots
  rw [hsplit, List.zipIdx_append, List.filter_append, htake]
  have hl : (l.take n).zipIdx.length = n := by simp; omega
  rw [List.getElem?_append_right (by omega), hl, Nat.sub_self]
  simp only [List.length_take, Nat.zero_add, List.zipIdx_cons]
  have hmin : min n l.length = n := by omega
  rw [hmin, List.filter_cons_of_pos (by simpa using ha)]
  rfl

theorem mem_set_cases {α} (l : List α) (i : Nat) (x y : α) (h : y ∈ l.set i x) :
    y = x ∨ ∃ j, j ≠ i ∧ l[j]? = some y := by
  obtain ⟨j, hj⟩ := List.mem_iff_getElem?.1 h
  rw [List.getElem?_set] at hj
  split at hj
  · split at hj
    · simp only [Option.some.injEq] at hj; exact .inl hj.symm
    · cases hj
  · rename_i hne
    exact .inr ⟨j, fun h => hne h.symm, hj⟩

def IgnSpec (sg : Subgraph) (slots : List Int) (given ign : List Nat) : Prop :=
  ∀ (i : Nat) (a : Int) (t : Tensor), slots[i]? = some a → tensorAt sg a = .ok t →
    (ign.contains i = true ↔ (t.dtype ≠ Tables.ttFloat32 ∨ i ∈ given))

theorem filterMapM_ok {α β} (f : α → PyM (Option β)) : ∀ (l : List α) (r : List β),
    l.filterMapM f = .ok r → ∀ b, b ∈ r ↔ ∃ a ∈ l, f a = .ok (some b) := by
  intro l
  induction l with
  | nil =>
    intro r h b
    simp only [List.filterMapM_nil, pure, Except.pure, Except.ok.injEq] at h
    subst h; simp
  | cons a as ih =>
    intro r h b
    simp only [List.filterMapM_cons, bind, Except.bind, pure, Except.pure] at h
    cases ha : f a with
    | error e => simp [ha] at h
    | ok o =>
      simp only [ha] at h
      cases o with
      | none =>
        rw [ih r h b]
        simp [ha]
      | some b' =>
        cases has : as.filterMapM f with
        | error e => simp [has] at h
        | ok bs =>
          simp only [has, Except.ok.injEq] at h
          subst h
          simp only [List.mem_cons, ih bs has b, exists_eq_or_imp, ha, Except.ok.injEq, Option.some.injEq]
          exact or_congr_left eq_comm

theorem ignoredSlots_spec (sg : Subgraph) (slots : List Int) (given ign : List Nat)
    (h : ignoredSlots sg slots given = .ok ign) : IgnSpec sg slots given ign := by
  unfold ignoredSlots at h
  obtain ⟨keep, hk, h⟩ := bind_ok _ _ _ h
  simp only [pure, Except.pure, Except.ok.injEq] at h
  subst h
  have hkeep := filterMapM_ok _ _ _ hk
  intro i a t hia hat
  have hi : i < slots.length := (List.getElem?_eq_some_iff.1 hia).1
  -- `keep` holds exactly the float32 positions not in `given` (`hmem`); `ign` is its complement in `range slots.length`
  have hmem : keep.contains i = true ↔ (t.dtype == Tables.ttFloat32 && !given.contains i) = true := by
    rw [List.contains_iff_mem, hkeep i]
    constructor
    · rintro ⟨p, hp, hf⟩
      obtain ⟨a', j⟩ := p
      rw [List.mem_zipIdx_iff_getElem?] at hp
      simp only [bind, Except.bind, pure, Except.pure] at hf hp
      cases hat' : tensorAt sg a' with
      | error e => simp [hat'] at hf
      | ok t' =>
        simp only [hat', Except.ok.injEq] at hf
        by_cases hc : (t'.dtype == Tables.ttFloat32 && !given.contains j) = true
        · simp only [if_pos hc, Option.some.injEq] at hf
          subst hf
          rw [hia] at hp
          cases hp
          rw [hat] at hat'
          cases hat'
          exact hc
        · simp only [if_neg hc] at hf
          cases hf
    · intro hc
      refine ⟨(a, i), List.mem_zipIdx_iff_getElem?.2 hia, ?_⟩
      simp only [bind, Except.bind, pure, Except.pure, hat, if_pos hc]
  rw [List.contains_iff_mem, List.mem_filter, List.mem_range]
  simp only [hi, true_and]
  cases hc : keep.contains i with
  | true =>
    have := hmem.1 hc
    simp only [Bool.and_eq_true, beq_iff_eq, Bool.not_eq_true', List.contains_eq_mem, decide_eq_false_iff_not] at this
    simp [this.1, this.2]
  | false =>
    have : ¬ ((t.dtype == Tables.ttFloat32 && !given.contains i) = true) := by
      intro h'; rw [hmem.2 h'] at hc; cases hc
    simp only [Bool.and_eq_true, beq_iff_eq, Bool.not_eq_true', List.contains_eq_mem, decide_eq_false_iff_not, not_and, not_not] at this
    simp only [Bool.not_false, true_iff]
    by_cases hd : t.dtype = Tables.ttFloat32
    · exact Or.inr (this hd)
    · exact Or.inl hd

inductive Split (sg : Subgraph) (ign : List Nat) : Nat → List (Int × Nat) → List Tensor → List Tensor → List Nat → Prop
  | nil (k) : Split sg ign k [] [] [] []
  | yes (k p t cs sel oth upd) : tensorAt sg p.1 = .ok t → ign.contains p.2 = true →
      Split sg ign (k+1) cs sel oth upd → Split sg ign k (p :: cs) (t :: sel) oth (k :: upd)
  | no (k p t cs sel oth upd) : tensorAt sg p.1 = .ok t → ign.contains p.2 = false →
      Split sg ign (k+1) cs sel oth upd → Split sg ign k (p :: cs) sel (t :: oth) upd

abbrev SplitSt := List Tensor × List Tensor × List Nat × Nat

def splitBody (sg : Subgraph) (ign : List Nat) (x : Int × Nat) (s : SplitSt) : PyM (ForInStep SplitSt) :=
  if (x.fst == -1) = true then .ok (ForInStep.yield (s.1, s.2.1, s.2.2.1, s.2.2.2))
  else
    tensorAt sg x.fst >>= fun v =>
      if ign.contains x.snd = true then
        .ok (ForInStep.yield (s.1 ++ [v], s.2.1, s.2.2.1 ++ [s.2.2.2], s.2.2.2 + 1))
      else .ok (ForInStep.yield (s.1, s.2.1 ++ [v], s.2.2.1, s.2.2.2 + 1))

theorem splitTensors_eq (sg : Subgraph) (slots : List Int) (ign : List Nat) :
    splitTensors sg slots ign =
      (forIn slots.zipIdx (([], [], [], 0) : SplitSt) (splitBody sg ign) >>= fun v =>
        pure (v.1, v.2.1, v.2.2.1)) := by
  unfold splitTensors
  simp only [bind, Except.bind, pure, Except.pure]
  have : (fun (x : Int × Nat) (__s : SplitSt) => splitBody sg ign x __s) = splitBody sg ign := rfl
  rw [← this]
  simp only [splitBody, bind, Except.bind]

theorem split_loop (sg : Subgraph) (ign : List Nat) : ∀ (l : List (Int × Nat)) (sel0 oth0 : List Tensor)
    (upd0 : List Nat) (k0 : Nat) (r : SplitSt),
    forIn l ((sel0, oth0, upd0, k0) : SplitSt) (splitBody sg ign) = .ok r →
    ∃ sel oth upd, Split sg ign k0 (l.filter (fun p => p.1 != -1)) sel oth upd ∧
      r = (sel0 ++ sel, oth0 ++ oth, upd0 ++ upd, k0 + (l.filter (fun p => p.1 != -1)).length) := by
  intro l
  induction l with
  | nil =>
    intro sel0 oth0 upd0 k0 r h
    simp only [List.forIn_nil, pure, Except.pure, Except.ok.injEq] at h
    subst h
    exact ⟨[], [], [], Split.nil k0, by simp⟩
  | cons x xs ih =>
    intro sel0 oth0 upd0 k0 r h
    simp only [List.forIn_cons, bind, Except.bind] at h
    by_cases hx : (x.fst == -1) = true
    · simp only [splitBody, if_pos hx] at h
      obtain ⟨sel, oth, upd, hS, hr⟩ := ih _ _ _ _ _ h
      have hf : List.filter (fun p => p.1 != -1) (x :: xs) = List.filter (fun p => p.1 != -1) xs := by
        rw [List.filter_cons_of_neg]; simpa using hx
      rw [hf]
      exact ⟨sel, oth, upd, hS, hr⟩
    · have hf : List.filter (fun p => p.1 != -1) (x :: xs) = x :: List.filter (fun p => p.1 != -1) xs := by
        rw [List.filter_cons_of_pos]; simp [bne, hx]
      rw [hf]
      simp only [splitBody, if_neg hx, bind, Except.bind] at h
      cases ht : tensorAt sg x.fst with
      | error e => simp [ht] at h
      | ok t =>
        simp only [ht] at h
        by_cases hc : ign.contains x.snd = true
        · simp only [if_pos hc] at h
          obtain ⟨sel, oth, upd, hS, hr⟩ := ih _ _ _ _ _ h
          refine ⟨t :: sel, oth, k0 :: upd, Split.yes _ _ _ _ _ _ _ ht hc hS, ?_⟩
          rw [hr]; simp [Nat.add_assoc, Nat.add_comm 1]
        · simp only [if_neg hc] at h
          obtain ⟨sel, oth, upd, hS, hr⟩ := ih _ _ _ _ _ h
          refine ⟨sel, t :: oth, upd, Split.no _ _ _ _ _ _ _ ht (by simpa using hc) hS, ?_⟩
          rw [hr]; simp [Nat.add_assoc, Nat.add_comm 1]

theorem splitTensors_spec (sg : Subgraph) (slots : List Int) (ign : List Nat) (sel oth : List Tensor) (upd : List Nat)
    (h : splitTensors sg slots ign = .ok (sel, oth, upd)) : Split sg ign 0 (cslots slots) sel oth upd := by
  rw [splitTensors_eq] at h
  simp only [bind, Except.bind, pure, Except.pure] at h
  cases hl : forIn slots.zipIdx (([], [], [], 0) : SplitSt) (splitBody sg ign) with
  | error e => simp [hl] at h
  | ok v =>
    simp only [hl, Except.ok.injEq, Prod.mk.injEq] at h
    obtain ⟨sel', oth', upd', hS, hr⟩ := split_loop sg ign _ _ _ _ _ _ hl
    subst hr
    simp only [List.nil_append] at h
    obtain ⟨rfl, rfl, rfl⟩ := h
    exact hS

theorem Split.upd_ge {sg : Subgraph} {ign : List Nat} : ∀ {k cs sel oth upd}, Split sg ign k cs sel oth upd →
    ∀ u ∈ upd, k ≤ u := by
  intro k cs sel oth upd h
  induction h with
  | nil k => intro u hu; cases hu
  | yes k p t cs sel oth upd _ _ _ ih =>
    intro u hu
    rcases List.mem_cons.1 hu with rfl | hu
    · exact Nat.le_refl _
    · exact Nat.le_of_succ_le (ih u hu)
  | no k p t cs sel oth upd _ _ _ ih => exact fun u hu => Nat.le_of_succ_le (ih u hu)

theorem Split.lengths {sg : Subgraph} {ign : List Nat} : ∀ {k cs sel oth upd}, Split sg ign k cs sel oth upd →
    upd.length = sel.length ∧ sel.length + oth.length = cs.length := by
  intro k cs sel oth upd h
  induction h with
  | nil k => exact ⟨rfl, rfl⟩
  | yes k p t cs sel oth upd _ _ _ ih => exact ⟨by simp [ih.1], by simp only [List.length_cons]; omega⟩
  | no k p t cs sel oth upd _ _ _ ih => exact ⟨ih.1, by simp only [List.length_cons]; omega⟩

theorem Split.oth_mem {sg : Subgraph} {ign : List Nat} : ∀ {k cs sel oth upd}, Split sg ign k cs sel oth upd →
    ∀ t ∈ oth, ∃ p ∈ cs, ign.contains p.2 = false ∧ tensorAt sg p.1 = .ok t := by
  intro k cs sel oth upd h
  induction h with
  | nil k => simp
  | yes k p t cs sel oth upd ht hc hS ih =>
    intro t' ht'
    obtain ⟨q, hq, h1, h2⟩ := ih t' ht'
    exact ⟨q, List.mem_cons_of_mem _ hq, h1, h2⟩
  | no k p t cs sel oth upd ht hc hS ih =>
    intro t' ht'
    rcases List.mem_cons.1 ht' with rfl | ht'
    · exact ⟨p, List.mem_cons_self, hc, ht⟩
    · obtain ⟨q, hq, h1, h2⟩ := ih t' ht'
      exact ⟨q, List.mem_cons_of_mem _ hq, h1, h2⟩

def SlotRel (sg : Subgraph) (ign : List Nat) (W : Tensor → PyM CReq) (f : Tensor → CReq) (p : Int × Nat) (r : CReq) : Prop :=
  ∃ t, tensorAt sg p.1 = .ok t ∧ (if ign.contains p.2 = true then r = f t else W t = .ok r)

/-- the step of the two folds in `mergeReqs` -/
def mstep (U : List Nat) (reqs ignR : List CReq) : List CReq × Nat × Nat → Nat → List CReq × Nat × Nat :=
  fun st i =>
    let (acc, ii, gi) := st
    if U.contains i then (acc ++ [ignR.getD gi default], ii, gi + 1)
    else (acc ++ [reqs.getD ii default], ii + 1, gi)

theorem mergeReqs_eq (reqs ignIn ignOut : List CReq) (nIn nOut : Nat) (inIgn outIgn : List Nat) :
    mergeReqs reqs ignIn ignOut nIn nOut inIgn outIgn =
      if inIgn.isEmpty && outIgn.isEmpty then reqs else
        (if !inIgn.isEmpty then ((List.range nIn).foldl (mstep inIgn reqs ignIn) ([], 0, 0)).1 else reqs.take nIn) ++
        (if !outIgn.isEmpty then ((List.range nOut).foldl (mstep outIgn reqs ignOut) ([], nIn - inIgn.length, 0)).1
         else reqs.drop (nIn - inIgn.length)) := rfl

theorem getD_of_drop_eq_cons {α} {l t : List α} {i : Nat} {x : α} (d : α) (h : l.drop i = x :: t) :
    l.getD i d = x ∧ l.drop (i + 1) = t := by
  constructor
  · have : l[i]? = some x := by rw [← Nat.add_zero i, ← List.getElem?_drop, h]; rfl
    rw [List.getD_eq_getElem?_getD, this]; rfl
  · rw [← List.drop_drop, h]; rfl

/-- **the interleaving fold of `mergeReqs` on the slots `cs`** (from position `k`, with the requests of the others
    next in `reqs` and the ignored ones next in `ignR`) yields the requests of `cs` in slot order; without
    ignored slots these are the requests of the others -/
theorem Split.merge {sg : Subgraph} {ign : List Nat} (W : Tensor → PyM CReq) (f : Tensor → CReq)
    (reqs ignR : List CReq) : ∀ {k cs sel oth upd}, Split sg ign k cs sel oth upd →
    ∀ (pre : List Nat) (A postA postB acc : List CReq) (ii gi : Nat), (∀ u ∈ pre, u < k) →
      List.Forall₂ (fun t r => W t = .ok r) oth A → reqs.drop ii = A ++ postA → ignR.drop gi = sel.map f ++ postB →
      ∃ X, (List.range' k cs.length).foldl (mstep (pre ++ upd) reqs ignR) (acc, ii, gi) =
          (acc ++ X, ii + A.length, gi + sel.length) ∧
        List.Forall₂ (SlotRel sg ign W f) cs X ∧ (upd = [] → X = A) := by
  intro k cs sel oth upd h
  induction h with
  | nil k =>
    intro pre A postA postB acc ii gi _ hA _ _
    cases hA
    exact ⟨[], by simp, .nil, fun _ => rfl⟩
  | yes k p t cs sel oth upd ht hc hS ih =>
    intro pre A postA postB acc ii gi hpre hA hreqs hign
    obtain ⟨hget, hdrop⟩ := getD_of_drop_eq_cons default (show ignR.drop gi = f t :: (sel.map f ++ postB) from hign)
    obtain ⟨X, hX, hXr, -⟩ := ih (pre ++ [k]) A postA postB (acc ++ [f t]) ii (gi + 1)
      (fun u hu => (List.mem_append.1 hu).elim (fun h => Nat.lt_succ_of_lt (hpre u h))
        (fun h => List.mem_singleton.1 h ▸ Nat.lt_succ_self k)) hA hreqs hdrop
    refine ⟨f t :: X, ?_, .cons ⟨t, ht, by rw [if_pos hc]⟩ hXr, fun h => by cases h⟩
    have hk : (pre ++ k :: upd).contains k = true := by simp
    rw [List.append_assoc, List.singleton_append] at hX
    rw [List.length_cons, List.range'_succ, List.foldl_cons,
      show mstep (pre ++ k :: upd) reqs ignR (acc, ii, gi) k = (acc ++ [f t], ii, gi + 1) from (if_pos hk).trans (by rw [hget]),
      hX]
    simp [Nat.add_assoc, Nat.add_comm 1]
  | no k p t cs sel oth upd ht hc hS ih =>
    intro pre A postA postB acc ii gi hpre hA hreqs hign
    cases hA with
    | @cons _ r _ A' h1 h2 =>
    obtain ⟨hget, hdrop⟩ := getD_of_drop_eq_cons default (show reqs.drop ii = r :: (A' ++ postA) from hreqs)
    obtain ⟨X, hX, hXr, hXe⟩ := ih pre A' postA postB (acc ++ [r]) (ii + 1) gi
      (fun u hu => Nat.lt_succ_of_lt (hpre u hu)) h2 hdrop hign
    refine ⟨r :: X, ?_, .cons ⟨t, ht, by rw [hc]; simpa using h1⟩ hXr, fun h => by rw [hXe h]⟩
    -- `k` is not an updated index: those before are smaller, those of the rest larger
    have hk : ¬ (pre ++ upd).contains k = true := by
      intro hm
      rcases List.mem_append.1 (List.contains_iff_mem.1 hm) with hm | hm
      · exact Nat.lt_irrefl _ (hpre k hm)
      · exact Nat.not_succ_le_self _ (hS.upd_ge k hm)
    rw [List.length_cons, List.range'_succ, List.foldl_cons,
      show mstep (pre ++ upd) reqs ignR (acc, ii, gi) k = (acc ++ [r], ii + 1, gi) from (if_neg hk).trans (by rw [hget]),
      hX]
    simp [Nat.add_assoc, Nat.add_comm 1]

/-- `mergeReqs` puts the requests back in slot order -/
theorem mergeReqs_shape {sg : Subgraph} {ignI ignO : List Nat} (WI WO : Tensor → PyM CReq) (fI fO : Tensor → CReq)
    {csI selI othI updI} (hSI : Split sg ignI 0 csI selI othI updI)
    {csO selO othO updO} (hSO : Split sg ignO 0 csO selO othO updO)
    (A B : List CReq) (hA : List.Forall₂ (fun t r => WI t = .ok r) othI A)
    (hB : List.Forall₂ (fun t r => WO t = .ok r) othO B) :
    ∃ rin rout, mergeReqs (A ++ B) (selI.map fI) (selO.map fO) csI.length csO.length updI updO = rin ++ rout ∧
      List.Forall₂ (SlotRel sg ignI WI fI) csI rin ∧ List.Forall₂ (SlotRel sg ignO WO fO) csO rout := by
  have hstart : csI.length - updI.length = A.length := by
    have := hSI.lengths
    have := hA.length_eq
    omega
  obtain ⟨XI, hXI, hrI, heI⟩ := hSI.merge WI fI (A ++ B) (selI.map fI) [] A B [] [] 0 0
    (fun _ h => by cases h) hA rfl (by simp)
  obtain ⟨XO, hXO, hrO, heO⟩ := hSO.merge WO fO (A ++ B) (selO.map fO) [] B [] [] [] (csI.length - updI.length) 0
    (fun _ h => by cases h) hB (by rw [hstart]; simp) (by simp)
  simp only [List.nil_append, Nat.zero_add] at hXI hXO
  refine ⟨XI, XO, ?_, hrI, hrO⟩
  have pI : (if !updI.isEmpty then ((List.range csI.length).foldl (mstep updI (A ++ B) (selI.map fI)) ([], 0, 0)).1
      else (A ++ B).take csI.length) = XI := by
    by_cases hu : updI = []
    · have : csI.length = A.length := by rw [← hstart, hu]; rfl
      rw [heI hu, this, hu]; simp
    · rw [if_pos (by simpa [List.isEmpty_iff] using hu), List.range_eq_range', hXI]
  have pO : (if !updO.isEmpty then ((List.range csO.length).foldl (mstep updO (A ++ B) (selO.map fO))
        ([], csI.length - updI.length, 0)).1 else (A ++ B).drop (csI.length - updI.length)) = XO := by
    by_cases hu : updO = []
    · rw [heO hu, hstart, hu]; simp
    · rw [if_pos (by simpa [List.isEmpty_iff] using hu), List.range_eq_range', hXO]
  rw [mergeReqs_eq, pI, pO]
  split
  · rename_i he
    simp only [Bool.and_eq_true, List.isEmpty_iff] at he
    rw [heI he.1, heO he.2]
  · rfl

theorem _root_.MatTotal.cslots_map_fst (l : List Int) : (cslots l).map (·.1) = l.filter (· != -1) := by
  unfold cslots
  conv_rhs => rw [← List.zipIdx_map_fst 0 l, List.filter_map]
  rfl

theorem cslots_length (slots : List Int) : (slots.filter (· != -1)).length = (cslots slots).length := by
  rw [← MatTotal.cslots_map_fst, List.length_map]

theorem forIn_dictSet (iq : Qsv) : ∀ (l : List Tensor) (qs : Qsvs),
    (forIn l qs fun o s => (pure (ForInStep.yield (Py.dictSet s o.name iq)) : PyM (ForInStep Qsvs))) =
      .ok (l.foldl (fun q o => Py.dictSet q o.name iq) qs) := by
  intro l
  induction l with
  | nil => intro qs; rfl
  | cons a as ih => intro qs; rw [List.forIn_cons]; exact ih _

/-- **what `standardOp` does with the tensors `inT` / `outT` of the operand / result slots that are not
    ignored**: the requests `A` / `B` made for them, the parameters `g` / `gO` handed to their `wrapper`
    calls, and the statistics afterwards (a same-as-input operator copies the entry of its data operand to
    its results; nothing else touches them) -/
inductive StdCore (env : Env) (qs : Qsvs) (oi : OpInfo) (inT outT : List Tensor) :
    Constraint → List CReq → List CReq → Option Param → Option Param → Qsvs → Prop
  | empty (con : Constraint) : inT = [] → outT = [] → StdCore env qs oi inT outT con [] [] none none qs
  | none (A B : List CReq) : List.Forall₂ (fun t r => wrapper env qs oi t true none = .ok r) inT A →
      List.Forall₂ (fun t r => wrapper env qs oi t false none = .ok r) outT B →
      StdCore env qs oi inT outT .none A B none none qs
  | sameAsInput (t : Tensor) (ir : CReq) (p0 : Option Param) (iq : Qsv) (B : List CReq) : inT = [t] →
      wrapper env qs oi t true none = .ok ir → reqParam0 ir = .ok p0 →
      List.Forall₂ (fun o r => wrapper env qs oi o false (stripData p0) = .ok r) outT B →
      Py.dictGet? qs ir.name = some iq →
      StdCore env qs oi inT outT .sameAsInput [ir] B none (stripData p0) (outT.foldl (fun q o => Py.dictSet q o.name iq) qs)
  | sameAsOutput (t : Tensor) (orq : CReq) (A : List CReq) : outT = [t] →
      wrapper env qs oi t false none = .ok orq →
      List.Forall₂ (fun i r => wrapper env qs oi i true (match orq.producer with | some pr => pr.param | none => none) = .ok r) inT A →
      StdCore env qs oi inT outT .sameAsOutput A [orq] (match orq.producer with | some pr => pr.param | none => none) none qs

theorem StdCore.operands {env : Env} {qs : Qsvs} {oi : OpInfo} {inT outT : List Tensor} {con : Constraint}
    {A B : List CReq} {g gO : Option Param} {qs' : Qsvs} (h : StdCore env qs oi inT outT con A B g gO qs') :
    List.Forall₂ (fun t r => wrapper env qs oi t true g = .ok r) inT A := by
  cases h with
  | empty con h1 _ => rw [h1]; exact .nil
  | none A B hA _ => exact hA
  | sameAsInput t ir p0 iq B h1 hir _ _ _ => rw [h1]; exact .cons hir .nil
  | sameAsOutput t orq A _ _ hA => exact hA

theorem StdCore.results {env : Env} {qs : Qsvs} {oi : OpInfo} {inT outT : List Tensor} {con : Constraint}
    {A B : List CReq} {g gO : Option Param} {qs' : Qsvs} (h : StdCore env qs oi inT outT con A B g gO qs') :
    List.Forall₂ (fun t r => wrapper env qs oi t false gO = .ok r) outT B := by
  cases h with
  | empty con _ h2 => rw [h2]; exact .nil
  | none A B _ hB => exact hB
  | sameAsInput t ir p0 iq B _ _ _ hB _ => exact hB
  | sameAsOutput t orq A h2 horq _ => rw [h2]; exact .cons horq .nil

theorem StdCore.stats {env : Env} {qs : Qsvs} {oi : OpInfo} {inT outT : List Tensor} {con : Constraint}
    {A B : List CReq} {g gO : Option Param} {qs' : Qsvs} (h : StdCore env qs oi inT outT con A B g gO qs') :
    qs' = qs ∨ (con = .sameAsInput ∧ ∃ t iq, inT = [t] ∧ Py.dictGet? qs t.name = some iq ∧
      qs' = outT.foldl (fun q o => Py.dictSet q o.name iq) qs) := by
  cases h with
  | sameAsInput t ir p0 iq B hT hir _ _ hiq =>
    obtain ⟨p, xfs, -, -, rfl⟩ := wrapper_ok.1 hir
    exact .inr ⟨rfl, t, iq, hT, hiq, rfl⟩
  | _ => exact .inl rfl

def single (l : List Tensor) : PyM Tensor :=
  match l with | [t] => pure t | _ => throw PyErr.valueError

theorem single_ok_iff {l : List Tensor} {t : Tensor} : single l = .ok t ↔ l = [t] := by
  rcases l with _ | ⟨a, _ | ⟨b, l⟩⟩
  · exact ⟨fun h => (by cases h), fun h => (by cases h)⟩
  · exact ⟨fun h => (by rw [pure_eq_ok_iff.1 h]), fun h => (by cases h; rfl)⟩
  · exact ⟨fun h => (by cases h), fun h => (by cases h)⟩

/-- `StdCore` as a plain monadic function (no `let mut`, no `for`) -/
def stdCore (env : Env) (qs : Qsvs) (oi : OpInfo) (con : Constraint) (inT outT : List Tensor) :
    PyM (List CReq × List CReq × Qsvs) :=
  if inT.isEmpty && outT.isEmpty then pure ([], [], qs) else
  match con with
  | .none =>
    inT.mapM (fun i => wrapper env qs oi i true none) >>= fun A =>
    outT.mapM (fun o => wrapper env qs oi o false none) >>= fun B => pure (A, B, qs)
  | .sameAsInput =>
    single inT >>= fun t => wrapper env qs oi t true none >>= fun ir => reqParam0 ir >>= fun p0 =>
    outT.mapM (fun o => wrapper env qs oi o false (stripData p0)) >>= fun B =>
    (match Py.dictGet? qs ir.name with | some e => pure e | none => throw PyErr.keyError) >>= fun iq =>
    pure ([ir], B, outT.foldl (fun q o => Py.dictSet q o.name iq) qs)
  | .sameAsOutput =>
    single outT >>= fun t => wrapper env qs oi t false none >>= fun orq =>
    inT.mapM (fun i => wrapper env qs oi i true (match orq.producer with | some pr => pr.param | none => none)) >>= fun A =>
    pure (A, [orq], qs)

theorem standardOp_eq (env : Env) (sg : Subgraph) (qs : Qsvs) (oi : OpInfo) (con : Constraint) (gIn gOut : List Nat) :
    standardOp env sg qs oi con gIn gOut =
      ignoredSlots sg oi.op.inputs gIn >>= fun inIgn => ignoredSlots sg oi.op.outputs gOut >>= fun outIgn =>
      splitTensors sg oi.op.inputs inIgn >>= fun sI => splitTensors sg oi.op.outputs outIgn >>= fun sO =>
      stdCore env qs oi con sI.2.1 sO.2.1 >>= fun c =>
      pure (mergeReqs (c.1 ++ c.2.1) (sI.1.map fun t => noQuantReq t.name oi.opId true)
        (sO.1.map fun t => noQuantReq t.name oi.opId false)
        (oi.op.inputs.filter (· != -1)).length (oi.op.outputs.filter (· != -1)).length sI.2.2 sO.2.2, c.2.2) := by
  unfold standardOp
  refine bind_congr fun inIgn => bind_congr fun outIgn => bind_congr fun sI => bind_congr fun sO => ?_
  obtain ⟨ignInT, inT, inIgnU⟩ := sI
  obtain ⟨ignOutT, outT, outIgnU⟩ := sO
  unfold stdCore single
  by_cases he : (inT.isEmpty && outT.isEmpty) = true
  · simp only [he, if_true]; rfl
  · simp only [he, Bool.false_eq_true, if_false]
    cases con with
    | none =>
      simp only [bind_assoc, pure_bind]
    | sameAsInput =>
      simp only [bind_assoc, pure_bind, forIn_dictSet]
      rfl
    | sameAsOutput =>
      simp only [bind_assoc, pure_bind]
      rfl

theorem stdCore_ok_iff {env : Env} {qs : Qsvs} {oi : OpInfo} {con : Constraint} {inT outT : List Tensor}
    {A B : List CReq} {qs' : Qsvs} :
    stdCore env qs oi con inT outT = .ok (A, B, qs') ↔ ∃ g gO, StdCore env qs oi inT outT con A B g gO qs' := by
  unfold stdCore
  constructor
  · intro h
    split at h
    · rename_i he
      simp only [Bool.and_eq_true, List.isEmpty_iff] at he
      cases pure_eq_ok_iff.1 h
      exact ⟨_, _, .empty con he.1 he.2⟩
    · cases con with
      | none =>
        obtain ⟨A', hA, h⟩ := bind_ok _ _ _ h
        obtain ⟨B', hB, h⟩ := bind_ok _ _ _ h
        cases pure_eq_ok_iff.1 h
        exact ⟨_, _, .none A B ((mapM_ok_iff _ _ _).1 hA) ((mapM_ok_iff _ _ _).1 hB)⟩
      | sameAsInput =>
        obtain ⟨t, ht, h⟩ := bind_ok _ _ _ h
        obtain ⟨ir, hir, h⟩ := bind_ok _ _ _ h
        obtain ⟨p0, hp0, h⟩ := bind_ok _ _ _ h
        obtain ⟨B', hB, h⟩ := bind_ok _ _ _ h
        obtain ⟨iq, hiq, h⟩ := bind_ok _ _ _ h
        cases pure_eq_ok_iff.1 h
        have hiq' : Py.dictGet? qs ir.name = some iq := by
          split at hiq
          · exact (‹_ = some _›).trans (congrArg some (Except.ok.inj hiq))
          · cases hiq
        exact ⟨_, _, .sameAsInput t ir p0 iq B (single_ok_iff.1 ht) hir hp0 ((mapM_ok_iff _ _ _).1 hB) hiq'⟩
      | sameAsOutput =>
        obtain ⟨t, ht, h⟩ := bind_ok _ _ _ h
        obtain ⟨orq, horq, h⟩ := bind_ok _ _ _ h
        obtain ⟨A', hA, h⟩ := bind_ok _ _ _ h
        cases pure_eq_ok_iff.1 h
        exact ⟨_, _, .sameAsOutput t orq A (single_ok_iff.1 ht) horq ((mapM_ok_iff _ _ _).1 hA)⟩
  · rintro ⟨g, gO, h⟩
    cases h with
    | empty con h1 h2 => subst h1; subst h2; rfl
    | none A B hA hB =>
      split
      · rename_i he
        simp only [Bool.and_eq_true, List.isEmpty_iff] at he
        obtain ⟨rfl, rfl⟩ := he
        cases hA; cases hB; rfl
      · simp only [(mapM_ok_iff _ _ _).2 hA, (mapM_ok_iff _ _ _).2 hB, bind, Except.bind]; rfl
    | sameAsInput t ir p0 iq B h1 hir hp0 hB hiq =>
      subst h1
      simp only [List.isEmpty_cons, Bool.false_and, Bool.false_eq_true, if_false, single, hir, hp0,
        (mapM_ok_iff _ _ _).2 hB, hiq, bind, Except.bind, pure, Except.pure]
    | sameAsOutput t orq A h1 horq hA =>
      subst h1
      simp only [List.isEmpty_cons, Bool.and_false, Bool.false_eq_true, if_false, single, horq, bind, Except.bind,
        pure, Except.pure]
      exact congrArg (fun x : PyM (List CReq) => x >>= fun v => (pure (v, [orq], qs) : PyM _)) ((mapM_ok_iff _ _ _).2 hA)

open MatTotal

theorem _root_.MatTotal.ignoredSlots_sited (sg : Subgraph) (slots : List Int) (given : List Nat) :
    Sited (SlotSite sg slots) (ignoredSlots sg slots given) := by
  unfold ignoredSlots
  refine Sited.bind (Sited.filterMapM _ _ (fun p hp => ?_)) (fun _ _ => Sited.ok _)
  refine Sited.bind ?_ (fun _ _ => Sited.ok _)
  intro e he
  exact ⟨p.1, List.fst_mem_of_mem_zipIdx hp, he⟩

theorem _root_.MatTotal.splitTensors_sited (sg : Subgraph) (slots : List Int) (ign : List Nat) :
    Sited (SlotSite sg slots) (splitTensors sg slots ign) := by
  rw [splitTensors_eq]
  refine Sited.bind (Sited.forIn _ _ _ (fun p hp s => ?_)) (fun _ _ => Sited.ok _)
  unfold splitBody
  refine Sited.ite _ (fun _ => Sited.ok _) (fun _ => ?_)
  refine Sited.bind ?_ (fun v _ => Sited.ite _ (fun _ => Sited.ok _) (fun _ => Sited.ok _))
  intro e he
  exact ⟨p.1, List.fst_mem_of_mem_zipIdx hp, he⟩

theorem _root_.Mat.ignSpec_live_iff {sg : Subgraph} {slots : List Int} {given ign : List Nat} (h : IgnSpec sg slots given ign)
    {p : Int × Nat} {t : Tensor} (hp : p ∈ cslots slots) (ht : tensorAt sg p.1 = .ok t) :
    ign.contains p.2 = false ↔ t.dtype = Tables.ttFloat32 ∧ p.2 ∉ given := by
  rw [← Bool.not_eq_true, h p.2 p.1 t ((mem_cslots _ _).1 hp).1 ht, not_or, not_not]

theorem _root_.MatTotal.floatSlots_mem (sg : Subgraph) (op : Op) (inbound : Bool) (given : List Nat) (ts : List Tensor)
    (h : FloatSlots sg (if inbound then op.inputs else op.outputs) given ts) :
    ∀ t ∈ ts, SlotTensor sg op inbound given t := by
  obtain ⟨ign, sel, upd, hign, hsplit⟩ := h
  intro t ht
  obtain ⟨p, hp, hc, hat⟩ := (splitTensors_spec _ _ _ _ _ _ hsplit).oth_mem t ht
  obtain ⟨hget, hne⟩ := (mem_cslots _ _).1 hp
  exact ⟨p.2, p.1, hget, hne, hat, (Mat.ignSpec_live_iff (ignoredSlots_spec _ _ _ _ hign) hp hat).1 hc⟩

theorem _root_.MatTotal.SlotSite.left {sg : Subgraph} {a b : List Int} {e : PyErr} (h : SlotSite sg a e) : SlotSite sg (a ++ b) e := by
  obtain ⟨x, hx, h⟩ := h
  exact ⟨x, List.mem_append_left _ hx, h⟩

theorem _root_.MatTotal.SlotSite.right {sg : Subgraph} {a b : List Int} {e : PyErr} (h : SlotSite sg b e) : SlotSite sg (a ++ b) e := by
  obtain ⟨x, hx, h⟩ := h
  exact ⟨x, List.mem_append_right _ hx, h⟩

theorem _root_.MatTotal.floatSlots_unique {sg : Subgraph} {slots : List Int} {given : List Nat} {a b : List Tensor}
    (ha : FloatSlots sg slots given a) (hb : FloatSlots sg slots given b) : a = b := by
  obtain ⟨i1, s1, u1, h1, h2⟩ := ha
  obtain ⟨i2, s2, u2, h3, h4⟩ := hb
  rw [h1] at h3
  cases h3
  rw [h2] at h4
  cases h4
  rfl

/-- the parameters `GivenFrom` names are the ones `StdCore` hands over -/
theorem _root_.MatTotal.GivenFrom.eq_core {env : Env} {sg : Subgraph} {qs : Qsvs} {oi : OpInfo} {con : Constraint} {gi go : List Nat}
    {inT outT : List Tensor} {A B : List CReq} {g' gO' : Option Param} {qs' : Qsvs} {b : Bool} {g : Option Param}
    (hg : GivenFrom env sg qs oi con gi go b g) (hFI : FloatSlots sg oi.op.inputs gi inT)
    (hFO : FloatSlots sg oi.op.outputs go outT) (hc : StdCore env qs oi inT outT con A B g' gO' qs') :
    g = bif b then g' else gO' := by
  cases hc with
  | empty con h1 h2 =>
    cases hg with
    | none b _ => cases b <;> rfl
    | fromInput _ _ _ _ hF _ _ => cases (floatSlots_unique hF hFI).trans h1
    | fromOutput _ _ _ hF _ => cases (floatSlots_unique hF hFO).trans h2
  | none A B _ _ =>
    cases hg with
    | none b _ => cases b <;> rfl
    | fromInput _ _ _ hcon _ _ _ => cases hcon
    | fromOutput _ _ hcon _ _ => cases hcon
  | sameAsInput t ir p0 iq B h1 hir hp0 _ _ =>
    cases hg with
    | none b hh => rcases hh with hh | ⟨_, rfl⟩ | ⟨hh, _⟩ <;> first | cases hh | rfl
    | fromInput t' ir' p0' _ hF hw hp =>
      cases (floatSlots_unique hF hFI).trans h1
      rw [hir] at hw; cases hw
      rw [hp0] at hp; cases hp
      rfl
    | fromOutput _ _ hcon _ _ => cases hcon
  | sameAsOutput t orq A h1 horq _ =>
    cases hg with
    | none b hh => rcases hh with hh | ⟨hh, _⟩ | ⟨_, rfl⟩ <;> first | cases hh | rfl
    | fromInput _ _ _ hcon _ _ _ => cases hcon
    | fromOutput t' orq' _ hF hw =>
      cases (floatSlots_unique hF hFO).trans h1
      rw [horq] at hw; cases hw
      rfl

theorem _root_.MatTotal.stdCore_sited (env : Env) (sg : Subgraph) (qs : Qsvs) (oi : OpInfo) (con : Constraint) (gi go : List Nat)
    {inT outT : List Tensor} (hFI : FloatSlots sg oi.op.inputs gi inT) (hFO : FloatSlots sg oi.op.outputs go outT) :
    Sited (AnySite (StdSite env sg qs oi con gi go)) (stdCore env qs oi con inT outT) := by
  have w1 : ∀ (b : Bool) (ts : List Tensor) (g : Option Param),
      FloatSlots sg (if b then oi.op.inputs else oi.op.outputs) (if b then gi else go) ts →
      GivenFrom env sg qs oi con gi go b g → ∀ t ∈ ts,
      Sited (AnySite (StdSite env sg qs oi con gi go)) (wrapper env qs oi t b g) :=
    fun b ts g hF hg t ht => (wrapper_sited env qs oi t b g).mono
      (fun e h => h.elim fun num h => ⟨num, .tensor num t b g e ts (floatSlots_mem sg oi.op b _ ts hF t ht) hF ht hg h⟩)
  unfold stdCore
  refine Sited.ite _ (fun _ => Sited.ok _) (fun hnone => ?_)
  have hne : ¬ (inT = [] ∧ outT = []) := fun h => hnone (by simp [h.1, h.2])
  cases con with
  | none =>
    refine Sited.bind (Sited.mapM _ _ (w1 true inT none hFI (.none true (.inl rfl)))) (fun ins _ => ?_)
    exact Sited.bind (Sited.mapM _ _ (w1 false outT none hFO (.none false (.inl rfl)))) (fun outs _ => Sited.ok _)
  | sameAsInput =>
    refine Sited.bind ?_ (fun t ht => ?_)
    · rcases inT with _ | ⟨a, _ | ⟨b, l⟩⟩
      · exact Sited.error ⟨_, .arityIn [] outT rfl hFI hFO hne (by simp)⟩
      · exact Sited.ok _
      · exact Sited.error ⟨_, .arityIn _ outT rfl hFI hFO hne (by simp)⟩
    cases single_ok_iff.1 ht
    refine Sited.bind (w1 true [t] none hFI (.none true (.inr (.inl ⟨rfl, rfl⟩))) t List.mem_cons_self) (fun ir hir => ?_)
    refine Sited.bind (fun e he => ?_) (fun p0 hp0 => ?_)
    · obtain ⟨p, hp⟩ := reqParam0_of_wrapper env qs oi t none ir hir
      rw [hp] at he
      cases he
    refine Sited.bind (Sited.mapM _ _ (w1 false outT _ hFO (.fromInput t ir p0 rfl hFI hir hp0))) (fun outs _ => ?_)
    refine Sited.bind ?_ (fun iq _ => Sited.ok _)
    cases hq : Py.dictGet? qs ir.name with
    | some v => exact Sited.ok _
    | none =>
      refine Sited.error ⟨_, .copyStats t outT rfl hFI hFO ?_⟩
      obtain ⟨p, xfs, -, -, rfl⟩ := wrapper_ok.1 hir
      exact hq
  | sameAsOutput =>
    refine Sited.bind ?_ (fun t ht => ?_)
    · rcases outT with _ | ⟨a, _ | ⟨b, l⟩⟩
      · exact Sited.error ⟨_, .arityOut inT [] rfl hFI hFO hne (by simp)⟩
      · exact Sited.ok _
      · exact Sited.error ⟨_, .arityOut inT _ rfl hFI hFO hne (by simp)⟩
    cases single_ok_iff.1 ht
    refine Sited.bind (w1 false [t] none hFO (.none false (.inr (.inr ⟨rfl, rfl⟩))) t List.mem_cons_self) (fun orq horq => ?_)
    exact Sited.bind (Sited.mapM _ _ (w1 true inT _ hFI (.fromOutput t orq rfl hFO horq))) (fun ins _ => Sited.ok _)

/-- the intermediate values of a `standardOp` run: per side the ignored positions, the tensors of the ignored slots and of
    the others with the list positions of the former; the requests `A` / `B` for the others, what was handed to each side -/
structure StdVars where
  (inIgn outIgn : List Nat)
  (ignInT inT ignOutT outT : List Tensor)
  (inIgnU outIgnU : List Nat)
  (A B : List CReq)
  (g gO : Option Param)

/-- what a successful `standardOp` run satisfies, over its intermediate values `V` -/
structure StdOut (env : Env) (sg : Subgraph) (qsvs : Qsvs) (oi : OpInfo) (con : Constraint) (gIn gOut : List Nat)
    (rs : List CReq) (qs' : Qsvs) (V : StdVars) : Prop where
  ignIn : ignoredSlots sg oi.op.inputs gIn = .ok V.inIgn
  ignOut : ignoredSlots sg oi.op.outputs gOut = .ok V.outIgn
  splitIn : splitTensors sg oi.op.inputs V.inIgn = .ok (V.ignInT, V.inT, V.inIgnU)
  splitOut : splitTensors sg oi.op.outputs V.outIgn = .ok (V.ignOutT, V.outT, V.outIgnU)
  core : StdCore env qsvs oi V.inT V.outT con V.A V.B V.g V.gO qs'
  eq : rs = mergeReqs (V.A ++ V.B) (V.ignInT.map fun t => noQuantReq t.name oi.opId true)
    (V.ignOutT.map fun t => noQuantReq t.name oi.opId false)
    (oi.op.inputs.filter (· != -1)).length (oi.op.outputs.filter (· != -1)).length V.inIgnU V.outIgnU

theorem StdOut.floatIn {env : Env} {sg : Subgraph} {qsvs : Qsvs} {oi : OpInfo} {con : Constraint} {gIn gOut : List Nat}
    {rs : List CReq} {qs' : Qsvs} {V : StdVars} (h : StdOut env sg qsvs oi con gIn gOut rs qs' V) :
    FloatSlots sg oi.op.inputs gIn V.inT := ⟨_, _, _, h.ignIn, h.splitIn⟩

theorem StdOut.floatOut {env : Env} {sg : Subgraph} {qsvs : Qsvs} {oi : OpInfo} {con : Constraint} {gIn gOut : List Nat}
    {rs : List CReq} {qs' : Qsvs} {V : StdVars} (h : StdOut env sg qsvs oi con gIn gOut rs qs' V) :
    FloatSlots sg oi.op.outputs gOut V.outT := ⟨_, _, _, h.ignOut, h.splitOut⟩

theorem standardOp_run (env : Env) (sg : Subgraph) (qs : Qsvs) (oi : OpInfo) (con : Constraint) (gi go : List Nat) :
    Run (fun out => ∃ V, StdOut env sg qs oi con gi go out.1 out.2 V) (AnySite (StdSite env sg qs oi con gi go))
      (standardOp env sg qs oi con gi go) := by
  rw [standardOp_eq]
  refine Run.bind_err ((ignoredSlots_sited _ _ _).mono (fun e h => ⟨_, .slot e h.left⟩)) (fun inIgn h1 => ?_)
  refine Run.bind_err ((ignoredSlots_sited _ _ _).mono (fun e h => ⟨_, .slot e h.right⟩)) (fun outIgn h2 => ?_)
  refine Run.bind_err ((splitTensors_sited _ _ _).mono (fun e h => ⟨_, .slot e h.left⟩)) (fun sI h3 => ?_)
  obtain ⟨ignInT, inT, inIgnU⟩ := sI
  refine Run.bind_err ((splitTensors_sited _ _ _).mono (fun e h => ⟨_, .slot e h.right⟩)) (fun sO h4 => ?_)
  obtain ⟨ignOutT, outT, outIgnU⟩ := sO
  refine Run.bind_err (stdCore_sited env sg qs oi con gi go ⟨inIgn, ignInT, inIgnU, h1, h3⟩ ⟨outIgn, ignOutT, outIgnU, h2, h4⟩)
    (fun c hc => ?_)
  obtain ⟨A, B, q⟩ := c
  obtain ⟨g, gO, hcore⟩ := stdCore_ok_iff.1 hc
  exact Run.ok ⟨⟨inIgn, outIgn, ignInT, inT, ignOutT, outT, inIgnU, outIgnU, A, B, g, gO⟩, h1, h2, h3, h4, hcore, rfl⟩

theorem standardOp_ok {env : Env} {sg : Subgraph} {qsvs : Qsvs} {oi : OpInfo} {con : Constraint}
    {gIn gOut : List Nat} {rs : List CReq} {qs' : Qsvs}
    (h : standardOp env sg qsvs oi con gIn gOut = .ok (rs, qs')) : ∃ V, StdOut env sg qsvs oi con gIn gOut rs qs' V :=
  (standardOp_run env sg qsvs oi con gIn gOut).of_ok h

theorem _root_.MatTotal.standardOp_sited (env : Env) (sg : Subgraph) (qs : Qsvs) (oi : OpInfo) (con : Constraint)
    (gi go : List Nat) : Sited (AnySite (StdSite env sg qs oi con gi go)) (standardOp env sg qs oi con gi go) :=
  fun _ he => (standardOp_run env sg qs oi con gi go).of_error he

theorem standardOp_ok_iff {env : Env} {sg : Subgraph} {qsvs : Qsvs} {oi : OpInfo} {con : Constraint}
    {gIn gOut : List Nat} {rs : List CReq} {qs' : Qsvs} :
    standardOp env sg qsvs oi con gIn gOut = .ok (rs, qs') ↔ ∃ V, StdOut env sg qsvs oi con gIn gOut rs qs' V := by
  constructor
  · exact standardOp_ok
  · rintro ⟨V, hV⟩
    rw [standardOp_eq, hV.eq]
    simp only [hV.ignIn, hV.ignOut, hV.splitIn, hV.splitOut, stdCore_ok_iff.2 ⟨_, _, hV.core⟩, bind, Except.bind]
    rfl

/-- the statistics `standardOp` returns: unchanged, except that a same-as-input operator copies the
    entry of its data operand to its results -/
theorem _root_.MatTotal.standardOp_qs (env : Env) (sg : Subgraph) (qs : Qsvs) (oi : OpInfo) (con : Constraint) (gi go : List Nat)
    (rs : List CReq) (qs' : Qsvs) (h : standardOp env sg qs oi con gi go = .ok (rs, qs')) :
    qs' = qs ∨ (con = .sameAsInput ∧ ∃ t iq outT, FloatSlots sg oi.op.inputs gi [t] ∧ FloatSlots sg oi.op.outputs go outT ∧
      Py.dictGet? qs t.name = some iq ∧ qs' = Locality.applyW (outT.map fun o => (o.name, iq)) qs) := by
  obtain ⟨V, hV⟩ := standardOp_ok h
  rcases hV.core.stats with hq | ⟨hc, t, iq, hT, hiq, hq⟩
  · exact .inl hq
  · refine .inr ⟨hc, t, iq, V.outT, hT ▸ hV.floatIn, hV.floatOut, hiq, ?_⟩
    rw [hq, Locality.applyW_map]

end Pipe

namespace Mat
open Pipe MatTotal

/-- slot `p = (tensor index, raw position)` of `slots` is one that `standardOp` quantizes: a float32 tensor at a position
    that is not among the given ones -/
def Live (sg : Subgraph) (slots : List Int) (given : List Nat) (p : Int × Nat) (t : Tensor) : Prop :=
  p ∈ cslots slots ∧ tensorAt sg p.1 = .ok t ∧ t.dtype = Tables.ttFloat32 ∧ p.2 ∉ given

theorem Split.oth_len {sg : Subgraph} {ign : List Nat} : ∀ {k cs sel oth upd}, Split sg ign k cs sel oth upd →
    oth.length = (cs.filter fun p => !ign.contains p.2).length := by
  intro k cs sel oth upd h
  induction h with
  | nil k => rfl
  | yes k p t cs sel oth upd ht hc hS ih =>
    rw [List.filter_cons_of_neg (by rw [hc]; decide)]
    exact ih
  | no k p t cs sel oth upd ht hc hS ih =>
    rw [List.filter_cons_of_pos (by rw [hc]; rfl)]
    simp [ih]

theorem Split.oth_nil {sg : Subgraph} {ign : List Nat} {k cs sel upd} (h : Split sg ign k cs sel [] upd) :
    ∀ p ∈ cs, ign.contains p.2 = true := by
  have hl := Split.oth_len h
  intro p hp
  cases hc : ign.contains p.2 with
  | true => rfl
  | false =>
    have : p ∈ cs.filter fun p => !ign.contains p.2 := List.mem_filter.2 ⟨hp, by rw [hc]; rfl⟩
    rw [List.eq_nil_of_length_eq_zero hl.symm] at this
    cases this

theorem Split.oth_one {sg : Subgraph} {ign : List Nat} {k cs sel upd t} (h : Split sg ign k cs sel [t] upd) :
    ∃ q ∈ cs, ign.contains q.2 = false ∧ tensorAt sg q.1 = .ok t ∧
      ∀ q' ∈ cs, ign.contains q'.2 = false → q' = q := by
  have hl := Split.oth_len h
  obtain ⟨q, hq, hc, ht⟩ := Split.oth_mem h t List.mem_cons_self
  refine ⟨q, hq, hc, ht, ?_⟩
  intro q' hq' hc'
  have m1 : q ∈ cs.filter fun p => !ign.contains p.2 := List.mem_filter.2 ⟨hq, by rw [hc]; rfl⟩
  have m2 : q' ∈ cs.filter fun p => !ign.contains p.2 := List.mem_filter.2 ⟨hq', by rw [hc']; rfl⟩
  obtain ⟨x, hx⟩ := List.length_eq_one_iff.1 hl.symm
  rw [hx, List.mem_singleton] at m1 m2
  rw [m1, m2]

/-- the request of the non-absent slot `p` of side `b`, when `g` is handed to the `wrapper` calls of that side -/
def SlotOut (env : Env) (sg : Subgraph) (qs : Qsvs) (oi : OpInfo) (b : Bool) (given : List Nat) (g : Option Param)
    (p : Int × Nat) (r : CReq) : Prop :=
  ∃ t, tensorAt sg p.1 = .ok t ∧
    if t.dtype = Tables.ttFloat32 ∧ p.2 ∉ given then wrapper env qs oi t b g = .ok r
    else r = noQuantReq t.name oi.opId b

theorem SlotOut.det {env : Env} {sg : Subgraph} {qs : Qsvs} {oi : OpInfo} {b : Bool} {given : List Nat}
    {g : Option Param} {p p' : Int × Nat} {r r' : CReq} (h : SlotOut env sg qs oi b given g p r)
    (h' : SlotOut env sg qs oi b given g p' r') (e : p.1 = p'.1) (hg : p.2 ∈ given ↔ p'.2 ∈ given) : r = r' := by
  obtain ⟨t, ht, h⟩ := h
  obtain ⟨t', ht', h'⟩ := h'
  rw [← e, ht] at ht'
  cases ht'
  by_cases hl : t.dtype = Tables.ttFloat32 ∧ p.2 ∉ given
  · rw [if_pos hl] at h
    rw [if_pos ⟨hl.1, fun hm => hl.2 (hg.2 hm)⟩, h] at h'
    exact Except.ok.inj h'
  · rw [if_neg hl] at h
    rw [if_neg fun hl' => hl ⟨hl'.1, fun hm => hl'.2 (hg.1 hm)⟩] at h'
    rw [h, h']

theorem SlotOut.eq_sideReq {env : Env} {sg : Subgraph} {qs : Qsvs} {oi : OpInfo} {b : Bool} {given : List Nat}
    {g : Option Param} {p : Int × Nat} {r : CReq} (h : SlotOut env sg qs oi b given g p r) :
    ∃ t c, tensorAt sg p.1 = .ok t ∧ r = sideReq t.name b c ∧ c.opId = oi.opId := by
  obtain ⟨t, ht, h⟩ := h
  split at h
  · obtain ⟨q, xfs, -, -, rfl⟩ := wrapper_ok.1 h
    exact ⟨t, _, ht, rfl, rfl⟩
  · exact ⟨t, _, ht, h, rfl⟩

/-- what `standardOp` hands to the `wrapper` calls of its operands (`g`) and of its results (`gO`): nothing without a
    constraint or when it quantizes no slot at all; otherwise THE quantized operand hands its parameter object, without the
    quantized values, to the results (same-as-input), THE quantized result hands its own to the operands (same-as-output) -/
inductive Hands (env : Env) (sg : Subgraph) (qs : Qsvs) (oi : OpInfo) (gIn gOut : List Nat) :
    Constraint → Option Param → Option Param → Prop
  | none : Hands env sg qs oi gIn gOut .none none none
  | idle (con : Constraint) : (∀ p t, ¬ Live sg oi.op.inputs gIn p t) → (∀ p t, ¬ Live sg oi.op.outputs gOut p t) →
      Hands env sg qs oi gIn gOut con none none
  | toResults (p : Int × Nat) (t : Tensor) (ir : CReq) (p0 : Option Param) : Live sg oi.op.inputs gIn p t →
      (∀ q t', Live sg oi.op.inputs gIn q t' → q = p) → wrapper env qs oi t true none = .ok ir → reqParam0 ir = .ok p0 →
      Hands env sg qs oi gIn gOut .sameAsInput none (stripData p0)
  | toOperands (p : Int × Nat) (t : Tensor) (orq : CReq) : Live sg oi.op.outputs gOut p t →
      (∀ q t', Live sg oi.op.outputs gOut q t' → q = p) → wrapper env qs oi t false none = .ok orq →
      Hands env sg qs oi gIn gOut .sameAsOutput (match orq.producer with | some pr => pr.param | none => none) none

/-- **`standardOp`, slot by slot**: one request per non-absent operand slot, then one per non-absent result slot, each
    `SlotOut` under what is handed to its side -/
theorem standardOp_slots {env : Env} {sg : Subgraph} {qs : Qsvs} {oi : OpInfo} {con : Constraint}
    {gIn gOut : List Nat} {rs : List CReq} {qs' : Qsvs}
    (h : standardOp env sg qs oi con gIn gOut = .ok (rs, qs')) :
    ∃ rin rout g gO, rs = rin ++ rout ∧
      Pointwise (SlotOut env sg qs oi true gIn g) (cslots oi.op.inputs) rin ∧
      Pointwise (SlotOut env sg qs oi false gOut gO) (cslots oi.op.outputs) rout ∧
      Hands env sg qs oi gIn gOut con g gO := by
  obtain ⟨⟨inIgn, outIgn, ignInT, inT, ignOutT, outT, inIgnU, outIgnU, A, B, g, gO⟩, hinIgn, houtIgn, hsplitIn, hsplitOut,
    hcore, hrs⟩ := standardOp_ok h
  have hSI := splitTensors_spec _ _ _ _ _ _ hsplitIn
  have hSO := splitTensors_spec _ _ _ _ _ _ hsplitOut
  have hI := ignoredSlots_spec _ _ _ _ hinIgn
  have hO := ignoredSlots_spec _ _ _ _ houtIgn
  obtain ⟨rin, rout, hm, hrin, hrout⟩ := mergeReqs_shape
    (fun t => wrapper env qs oi t true g) (fun t => wrapper env qs oi t false gO)
    (fun t => noQuantReq t.name oi.opId true) (fun t => noQuantReq t.name oi.opId false) hSI hSO A B
    hcore.operands hcore.results
  rw [cslots_length, cslots_length, hm] at hrs
  -- a slot is ignored exactly when it is not live
  have side : ∀ {b : Bool} {slots : List Int} {given ign : List Nat} {g : Option Param} {l : List CReq},
      IgnSpec sg slots given ign →
      List.Forall₂ (SlotRel sg ign (fun t => wrapper env qs oi t b g) (fun t => noQuantReq t.name oi.opId b)) (cslots slots) l →
      Pointwise (SlotOut env sg qs oi b given g) (cslots slots) l := by
    intro b slots given ign g l hspec hF
    refine (Pointwise.iff_forall₂.2 hF).imp fun p hp r ⟨t, ht, hcase⟩ => ?_
    have hiff := ignSpec_live_iff hspec hp ht
    refine ⟨t, ht, ?_⟩
    split at hcase
    · rename_i hc
      rw [if_neg (fun hl => by rw [hiff.2 hl] at hc; cases hc)]
      exact hcase
    · rename_i hc
      rw [if_pos (hiff.1 (by simpa using hc))]
      exact hcase
  have live : ∀ {slots : List Int} {given ign : List Nat} {p : Int × Nat} {t : Tensor}, IgnSpec sg slots given ign →
      (Live sg slots given p t ↔ p ∈ cslots slots ∧ tensorAt sg p.1 = .ok t ∧ ign.contains p.2 = false) :=
    fun hspec => ⟨fun ⟨hp, ht, hl⟩ => ⟨hp, ht, (ignSpec_live_iff hspec hp ht).2 hl⟩,
      fun ⟨hp, ht, hc⟩ => ⟨hp, ht, (ignSpec_live_iff hspec hp ht).1 hc⟩⟩
  refine ⟨rin, rout, g, gO, hrs, side hI hrin, side hO hrout, ?_⟩
  cases hcore with
  | empty con hi ho =>
    subst hi ho
    refine .idle con (fun p t hl => ?_) (fun p t hl => ?_)
    · obtain ⟨hp, -, hc⟩ := (live hI).1 hl
      rw [Split.oth_nil hSI p hp] at hc
      cases hc
    · obtain ⟨hp, -, hc⟩ := (live hO).1 hl
      rw [Split.oth_nil hSO p hp] at hc
      cases hc
  | none A B _ _ => exact .none
  | sameAsInput t ir p0 iq B hT hw hp0 _ _ =>
    subst hT
    obtain ⟨q, hq, hc, ht, huniq⟩ := Split.oth_one hSI
    exact .toResults q t ir p0 ((live hI).2 ⟨hq, ht, hc⟩)
      (fun q' t' hl => let ⟨hq', _, hc'⟩ := (live hI).1 hl; huniq q' hq' hc') hw hp0
  | sameAsOutput t orq A hT hw _ =>
    subst hT
    obtain ⟨q, hq, hc, ht, huniq⟩ := Split.oth_one hSO
    exact .toOperands q t orq ((live hO).2 ⟨hq, ht, hc⟩)
      (fun q' t' hl => let ⟨hq', _, hc'⟩ := (live hO).1 hl; huniq q' hq' hc') hw

theorem slotOut_live {env : Env} {sg : Subgraph} {qs : Qsvs} {oi : OpInfo} {b : Bool} {given : List Nat}
    {g : Option Param} {slots : List Int} {l : List CReq} (hP : Pointwise (SlotOut env sg qs oi b given g) (cslots slots) l)
    {p : Int × Nat} {t : Tensor} (hl : Live sg slots given p t) :
    ∃ r ∈ l, wrapper env qs oi t b g = .ok r := by
  obtain ⟨r, hr, t', ht', hreq⟩ := hP.mem_left hl.1
  cases hl.2.1.symm.trans ht'
  rw [if_pos hl.2.2] at hreq
  exact ⟨r, hr, hreq⟩

theorem _root_.Pipe.fixedRangeOp_run (env : Env) (sg : Subgraph) (qs : Qsvs) (oi : OpInfo) (sl : Bool) :
    Run (fun out => oi.op.outputs.length = 1 ∧ ∃ r0 q0, standardOp env sg qs oi .none [] [] = .ok (r0, q0) ∧
        fixLast oi sl (r0, q0) = .ok out)
      (AnySite (FixedSite env sg qs oi sl)) (fixedRangeOp env sg qs oi sl) := by
  rw [fixedRangeOp_eq_fixLast]
  refine Run.ite _ (fun h => Run.error ⟨_, FixedSite.outputs h⟩) (fun hlen => ?_)
  refine Run.bind_err ((standardOp_sited env sg qs oi .none [] []).mono (fun e h => h.elim fun num h => ⟨num, .std num e h⟩))
    (fun x hx => ?_)
  obtain ⟨reqs, q0⟩ := x
  refine Run.intro (fun out hout => ⟨Decidable.not_not.1 hlen, reqs, q0, hx, hout⟩) (fun e he => ?_)
  exact (fixLast_run oi sl reqs q0 (fun a ha hf => ⟨_, .bits a ha hf⟩) (fun a fp e ha hf he => ⟨_, .minMax a fp e ha hf he⟩)
    (fun last hl hp hd => ⟨_, .stats reqs q0 last hx hl hp hd⟩)).of_error he

theorem _root_.MatTotal.fixedRangeOp_sited (env : Env) (sg : Subgraph) (qs : Qsvs) (oi : OpInfo) (sl : Bool) :
    Sited (AnySite (FixedSite env sg qs oi sl)) (fixedRangeOp env sg qs oi sl) :=
  fun _ he => (fixedRangeOp_run env sg qs oi sl).of_error he

/-- what a successful `runKind` ran, by kind -/
def KindOut (env : Env) (sg : Subgraph) (qs : Qsvs) (oi : OpInfo) : Kind → List CReq → Qsvs → Prop
  | .std con gi, rs, qs' => standardOp env sg qs oi con gi [] = .ok (rs, qs')
  | .conv, rs, qs' => ∃ r0, standardOp env sg qs oi .none [2] [] = .ok (r0, qs') ∧ biasFor env sg oi r0 0 1 2 = .ok rs
  | .convT, rs, qs' => ∃ r0, standardOp env sg qs oi .none [0, 3] [] = .ok (r0, qs') ∧ 2 ≤ r0.length ∧
      biasFor env sg oi r0 2 1 3 = .ok rs
  | .fixed sl, rs, qs' => oi.op.outputs.length = 1 ∧ ∃ r0 q0, standardOp env sg qs oi .none [] [] = .ok (r0, q0) ∧
      fixLast oi sl (r0, q0) = .ok (rs, qs')
  | .cast a b c, rs, qs' => floatCastOp env sg oi a b c = .ok rs ∧ qs' = qs
  | .unknown, _, _ => False

theorem runKind_run (env : Env) (sg : Subgraph) (qs : Qsvs) (oi : OpInfo) (k : Kind) :
    Run (fun out => KindOut env sg qs oi k out.1 out.2) (AnySite (OpSite env sg qs oi k)) (runKind env sg qs oi k) := by
  cases k with
  | std con gi =>
    exact Run.intro (fun _ h => h)
      ((standardOp_sited env sg qs oi con gi []).mono (fun e h => h.elim fun num h => ⟨num, .std num con gi e h⟩))
  | conv =>
    refine Run.bind_err ((standardOp_sited env sg qs oi .none [2] []).mono (fun e h => h.elim fun num h => ⟨num, .convStd num e h⟩))
      (fun rq hrq => ?_)
    exact Run.bind_err ((biasFor_sited env sg oi rq.1 0 1 2).mono (fun e h => h.elim fun num h => ⟨num, .convBias num rq.1 rq.2 e hrq h⟩))
      (fun r' hr' => Run.ok ⟨rq.1, hrq, hr'⟩)
  | convT =>
    refine Run.bind_err ((standardOp_sited env sg qs oi .none [0, 3] []).mono (fun e h => h.elim fun num h => ⟨num, .convTStd num e h⟩))
      (fun rq hrq => ?_)
    refine Run.ite _ (fun hl => Run.error ⟨_, .convTArity rq.1 rq.2 hrq hl⟩) (fun hl => ?_)
    exact Run.bind_err ((biasFor_sited env sg oi rq.1 2 1 3).mono (fun e h => h.elim fun num h => ⟨num, .convTBias num rq.1 rq.2 e hrq h⟩))
      (fun r' hr' => Run.ok ⟨rq.1, hrq, Nat.le_of_not_lt hl, hr'⟩)
  | fixed sl =>
    exact Run.intro (fun _ h => (fixedRangeOp_run env sg qs oi sl).of_ok h)
      ((fixedRangeOp_sited env sg qs oi sl).mono (fun e h => h.elim fun num h => ⟨num, .fixed num sl e h⟩))
  | cast a b c =>
    exact Run.bind_err ((floatCastOp_sited env sg oi a b c).mono (fun e h => h.elim fun num h => ⟨num, .cast num a b c e h⟩))
      (fun r hr => Run.ok ⟨hr, rfl⟩)
  | unknown => exact Run.error ⟨_, .unknown⟩

theorem runKind_ok {env : Env} {sg : Subgraph} {qs : Qsvs} {oi : OpInfo} {k : Kind} {rs : List CReq} {qs' : Qsvs}
    (h : runKind env sg qs oi k = .ok (rs, qs')) : KindOut env sg qs oi k rs qs' :=
  (runKind_run env sg qs oi k).of_ok h

theorem _root_.MatTotal.runKind_sited (env : Env) (sg : Subgraph) (qs : Qsvs) (oi : OpInfo) (k : Kind) :
    Sited (AnySite (OpSite env sg qs oi k)) (runKind env sg qs oi k) :=
  fun _ he => (runKind_run env sg qs oi k).of_error he

end Mat
