import QProofs.GraphInv
/-!
# C19 — the performer treats every subgraph as if it stood alone (whole run)

`transformGraph` on a multi-subgraph model and on the single-subgraph model extracted from it are linked by a
simulation `Sim ρ`: tensors equal up to a renaming `ρ` of the parameter ids (the performer looks their `PInfo` up
and copies them, it never compares them), equal inputs / outputs / op-id maps, operators equal up to the POSITION
of their opcode in the table (`ORel`, stable under the appending of `addOpCode`), buffer tables of equal length
(`quantizeTensor` only consults the length), signatures of subgraph `j` re-indexed to `0`.
-/
open Graph Perform GraphStep StepTypes Wiring GraphInv

namespace Rename

def rnInst (ρ : PId → PId) (i : Inst) : Inst := { i with param := i.param.map ρ }

def rnTI (ρ : PId → PId) (t : TInsts) : TInsts := { t with insts := t.insts.map (rnInst ρ) }

def rnTensor (ρ : PId → PId) (t : Tensor) : Tensor := { t with quant := t.quant.map ρ }

def rnSg (ρ : PId → PId) (sg : Subgraph) : Subgraph := { sg with tensors := sg.tensors.map (rnTensor ρ) }

def rnBuf (ρ : PId → PId) : BufContent → BufContent
  | some (.inr p) => some (.inr (ρ p))
  | b => b

def rnModel (ρ : PId → PId) (m : Model) : Model :=
  { m with subgraphs := m.subgraphs.map (rnSg ρ), buffers := m.buffers.map (rnBuf ρ) }

end Rename

namespace Locality
open Rename

/-- what an observer sees of subgraph `j`: tensors, operators with their opcode RESOLVED through the
    opcode table (so that the position of an opcode in the shared table does not matter), inputs and
    outputs -/
def view (m : Model) (j : Nat) :
    Option (List Tensor × List (Option Nat × List Int × List Int × Option Nat) × List Int × List Int) :=
  (m.subgraphs[j]?).map fun sg =>
    (sg.tensors, sg.ops.map (fun o => (m.opcodes[o.code]?, o.inputs, o.outputs, o.orig)), sg.inputs, sg.outputs)

def sigsOf (m : Model) (j : Nat) : List Sig := (m.sigs.filter (·.sg == j)).map fun s => { s with sg := 0 }

/-- the single-subgraph model extracted from `m` (all buffers and opcodes are kept, as the extraction
    in the check does) -/
def extract (m : Model) (j : Nat) (sg : Subgraph) : Model :=
  { subgraphs := [sg], buffers := m.buffers, opcodes := m.opcodes, sigs := sigsOf m j }

def restrict (tis : List TInsts) (j : Nat) : List TInsts :=
  (tis.filter (·.sg == j)).map fun t => { t with sg := 0 }

def ORel (cb cs : List Nat) (o o1 : Op) : Prop :=
  o.inputs = o1.inputs ∧ o.outputs = o1.outputs ∧ o.orig = o1.orig ∧
    ∃ c, cb[o.code]? = some c ∧ cs[o1.code]? = some c

def OpsRel (cb cs : List Nat) (l l1 : List Op) : Prop :=
  l.length = l1.length ∧ ∀ (i : Nat) (o o1 : Op), l[i]? = some o → l1[i]? = some o1 → ORel cb cs o o1

structure SgRel (cb cs : List Nat) (sg sg1 : Subgraph) : Prop where
  tensors : sg.tensors = sg1.tensors
  inputs : sg.inputs = sg1.inputs
  outputs : sg.outputs = sg1.outputs
  ops : OpsRel cb cs sg.ops sg1.ops

theorem ORel.mono {cb cs : List Nat} {o o1 : Op} (e e1 : List Nat) (h : ORel cb cs o o1) :
    ORel (cb ++ e) (cs ++ e1) o o1 := by
  obtain ⟨h1, h2, h3, c, hc, hc1⟩ := h
  refine ⟨h1, h2, h3, c, ?_, ?_⟩
  · rw [List.getElem?_append_left (List.getElem?_eq_some_iff.1 hc).1]; exact hc
  · rw [List.getElem?_append_left (List.getElem?_eq_some_iff.1 hc1).1]; exact hc1

theorem ORel.rew {cb cs : List Nat} {o o1 : Op} (f : Int → Int) (h : ORel cb cs o o1) :
    ORel cb cs { o with inputs := o.inputs.map f } { o1 with inputs := o1.inputs.map f } := by
  obtain ⟨h1, h2, h3, h4⟩ := h
  exact ⟨by simp only [h1], h2, h3, h4⟩

theorem OpsRel.mono {cb cs : List Nat} {l l1 : List Op} (e e1 : List Nat) (h : OpsRel cb cs l l1) :
    OpsRel (cb ++ e) (cs ++ e1) l l1 :=
  ⟨h.1, fun i o o1 ho ho1 => (h.2 i o o1 ho ho1).mono e e1⟩

theorem OpsRel.insertIdx {cb cs : List Nat} {l l1 : List Op} (h : OpsRel cb cs l l1) (k : Nat) (x x1 : Op)
    (hk : k ≤ l.length) (hx : ORel cb cs x x1) :
    OpsRel cb cs (l.insertIdx k x) (l1.insertIdx k x1) := by
  have hk1 : k ≤ l1.length := h.1 ▸ hk
  refine ⟨by rw [List.length_insertIdx_of_le_length hk, List.length_insertIdx_of_le_length hk1, h.1], ?_⟩
  intro i o o1 ho ho1
  rcases Nat.lt_trichotomy i k with hlt | heq | hgt
  · rw [List.getElem?_insertIdx_of_lt hlt] at ho ho1
    exact h.2 i o o1 ho ho1
  · subst heq
    rw [List.getElem?_insertIdx_self, if_pos hk] at ho
    rw [List.getElem?_insertIdx_self, if_pos hk1] at ho1
    cases ho; cases ho1; exact hx
  · rw [List.getElem?_insertIdx_of_gt hgt] at ho ho1
    exact h.2 _ o o1 ho ho1

theorem OpsRel.map_eq {cb cs : List Nat} {l l1 : List Op} (h : OpsRel cb cs l l1) :
    l.map (fun o => (cb[o.code]?, o.inputs, o.outputs, o.orig)) =
      l1.map (fun o => (cs[o.code]?, o.inputs, o.outputs, o.orig)) := by
  apply List.ext_getElem?
  intro i
  rw [List.getElem?_map, List.getElem?_map]
  by_cases hi : i < l.length
  · have hi1 : i < l1.length := h.1 ▸ hi
    obtain ⟨h1, h2, h3, c, hc, hc1⟩ := h.2 i l[i] l1[i] (List.getElem?_eq_getElem hi) (List.getElem?_eq_getElem hi1)
    rw [List.getElem?_eq_getElem hi, List.getElem?_eq_getElem hi1]
    simp only [Option.map_some, hc, hc1, h1, h2, h3]
  · have hi1 : ¬ i < l1.length := h.1 ▸ hi
    rw [List.getElem?_eq_none (by omega), List.getElem?_eq_none (by omega)]
    rfl

theorem OpsRel.refl_of {c : List Nat} {l : List Op} (h : ∀ o ∈ l, o.code < c.length) : OpsRel c c l l := by
  refine ⟨rfl, ?_⟩
  intro i o o1 ho ho1
  rw [ho] at ho1; cases ho1
  have := h o (List.mem_of_getElem? ho)
  exact ⟨rfl, rfl, rfl, c[o.code], List.getElem?_eq_getElem this, List.getElem?_eq_getElem this⟩

theorem OpsRel.rewired {cb cs : List Nat} {l l1 : List Op} (h : OpsRel cb cs l l1) (cons : List Int)
    (t n : Int) : OpsRel cb cs (rewired cons t n l) (rewired cons t n l1) := by
  refine ⟨by rw [rewired_length, rewired_length]; exact h.1, fun i o o1 ho ho1 => ?_⟩
  rw [rewired_get] at ho ho1
  obtain ⟨a, ha, rfl⟩ := Option.map_eq_some_iff.1 ho
  obtain ⟨a1, ha1, rfl⟩ := Option.map_eq_some_iff.1 ho1
  have := h.2 i a a1 ha ha1
  split
  · exact this.rew _
  · exact this

/-! No consistency of the transformation input is assumed, so the `↔` forms of `quantizeTensor` and `wireNewOp`
are used (not `StepTypes.runXf_exact`).  The small run works with parameter ids `p`, the big one with `ρ p`;
`hpt` says that the two tables give them the same `PInfo`. -/

theorem lt_of_get {α} {l : List α} {k : Nat} {a : α} (h : l[k]? = some a) : k < l.length :=
  (List.getElem?_eq_some_iff.1 h).1

theorem index_map {α β} (f : α → β) (l : List α) (i : Int) : Py.index (l.map f) i = (Py.index l i).map f := by
  unfold Py.index
  simp only [List.length_map, List.getElem?_map]
  generalize (if i < 0 then i + (l.length : Int) else i) = j
  by_cases hc : j < 0 ∨ j ≥ (l.length : Int)
  · rw [if_pos hc, if_pos hc]; rfl
  · rw [if_neg hc, if_neg hc]
    cases l[j.toNat]? <;> rfl

variable {ρ : PId → PId} {pt pt1 : PTable}

theorem retype_rn (pi : PInfo) (p : PId) (ty : Nat) (tn : Tensor) :
    retype pi (ρ p) ty (rnTensor ρ tn) = rnTensor ρ (retype pi p ty tn) := by
  unfold retype; split <;> rfl

theorem getTensor_sim {sg sg1 : Subgraph} {t : Int} {tn : Tensor} (ht : sg.tensors = sg1.tensors.map (rnTensor ρ))
    (h : getTensor sg t = .ok tn) : ∃ tn1, getTensor sg1 t = .ok tn1 ∧ tn = rnTensor ρ tn1 := by
  unfold getTensor at h ⊢
  rw [ht, index_map] at h
  obtain ⟨tn1, h1, rfl⟩ := PyM.map_eq_ok_iff.1 h
  exact ⟨tn1, h1, rfl⟩

/-- `quantizeTensor` only consults the tensor list, the LENGTH of the buffer table and the `PInfo` of its parameter -/
theorem quantizeTensor_sim (hpt : ∀ p, pinfo pt (ρ p) = pinfo pt1 p) {bufs bufs1 : List BufContent}
    {sg sg1 : Subgraph} {t : Int} {param : Option PId} {r : List BufContent × Subgraph}
    (h : quantizeTensor pt bufs sg t (param.map ρ) = .ok r)
    (ht : sg.tensors = sg1.tensors.map (rnTensor ρ)) (hb : bufs1.length = bufs.length) :
    ∃ T b1, r.2 = { sg with tensors := T.map (rnTensor ρ) } ∧ r.1.length = bufs.length ∧
      quantizeTensor pt1 bufs1 sg1 t param = .ok (b1, { sg1 with tensors := T }) ∧
      b1.length = bufs1.length := by
  obtain ⟨q, pi, ty, tn, hp, hpi, hty, hget, hlt, rfl⟩ := quantizeTensor_ok_iff.1 h
  obtain ⟨p, rfl, rfl⟩ := Option.map_eq_some_iff.1 hp
  obtain ⟨tn1, hget1, rfl⟩ := getTensor_sim ht hget
  refine ⟨(setTensor sg1 t (retype pi p ty tn1)).tensors, newBufs bufs1 tn1 pi p, ?_, newBufs_length ..,
    quantizeTensor_ok_iff.2 ⟨p, pi, ty, tn1, rfl, (hpt p).symm.trans hpi, hty, hget1, ?_, rfl⟩, newBufs_length ..⟩
  · unfold setTensor
    simp only [ht, List.length_map, retype_rn, List.map_set]
  · rw [hb]; exact hlt

theorem wireNewOp_sim {cb cs : List Nat} {sg sg1 : Subgraph} {inp : TIn} {newT : Int} {op : Op}
    {r : Subgraph × TInfoOut} (h : wireNewOp sg inp newT op = .ok r) (op1 : Op)
    (hr : SgRel cb cs sg (rnSg ρ sg1)) (hop : ORel cb cs op op1) :
    ∃ sg3', wireNewOp sg1 inp newT op1 = .ok (sg3', r.2) ∧ SgRel cb cs r.1 (rnSg ρ sg3') := by
  obtain ⟨first, hf, hrange, rfl⟩ := wireNewOp_ok_iff.1 h
  have hops : OpsRel cb cs sg.ops sg1.ops := hr.ops
  have hout : sg.outputs = sg1.outputs := hr.outputs
  refine ⟨_, wireNewOp_ok_iff.2 ⟨first, hf, by rw [← hops.1]; exact hrange, rfl⟩, hr.tensors, hr.inputs, ?_, ?_⟩
  · show (if _ then _ else _) = (if _ then _ else _)
    rw [hout]
  · have hrel := hops.rewired inp.consumers inp.tensor newT
    show OpsRel cb cs (pyInsert _ _ _) (pyInsert _ _ _)
    unfold pyInsert
    simp only [hrel.1]
    exact hrel.insertIdx _ _ _ (by rw [hrel.1]; exact Nat.min_le_right _ _) hop

def rnIn (ρ : PId → PId) (inp : TIn) : TIn := { inp with param := inp.param.map ρ }

theorem insertOp_sim (hpt : ∀ p, pinfo pt (ρ p) = pinfo pt1 p) {m m1 m' : Model} {j j1 : Nat} {sg sg1 : Subgraph}
    {inp : TIn} {code : Nat} {suffix : String} {onNew : Bool} {info : TInfoOut}
    (hsg : m.subgraphs[j]? = some sg) (hsg1 : m1.subgraphs[j1]? = some sg1)
    (hr : SgRel m.opcodes m1.opcodes sg (rnSg ρ sg1)) (hb : m.buffers.length = m1.buffers.length)
    (h : insertOp pt m j sg (rnIn ρ inp) code suffix onNew = .ok (m', info)) :
    ∃ m1' sg' sg1', insertOp pt1 m1 j1 sg1 inp code suffix onNew = .ok (m1', info) ∧
      StepOut m m' j sg' ∧ StepOut m1 m1' j1 sg1' ∧ SgRel m'.opcodes m1'.opcodes sg' (rnSg ρ sg1') := by
  have ht : sg.tensors = sg1.tensors.map (rnTensor ρ) := hr.tensors
  have hlen : sg.tensors.length = sg1.tensors.length := by rw [ht, List.length_map]
  obtain ⟨tn, r, w, htn, hq, hw, h⟩ := insertOp_ok_iff.1 h
  obtain ⟨rfl, rfl⟩ := Prod.mk.inj h
  obtain ⟨tn1, htn1, rfl⟩ := getTensor_sim ht htn
  -- the appended tensor carries no parameter: the extended subgraphs are related like `sg`, `sg1`
  obtain ⟨T, b1, hT, hlb, hq1, hlb1⟩ := quantizeTensor_sim hpt (param := inp.param)
    (sg1 := { sg1 with tensors := sg1.tensors ++
      [fresh (uniqueName (sg1.tensors.map (·.name)) (tn1.name ++ suffix)) tn1] }) hq
    (by simp only [ht, List.map_append, List.map_map, List.map_cons, List.map_nil]; rfl) hb.symm
  obtain ⟨hc, e, he⟩ := GraphBasics.addOpCode_spec m.opcodes code
  obtain ⟨hc1, e1, he1⟩ := GraphBasics.addOpCode_spec m1.opcodes code
  have hr2 : SgRel (addOpCode m.opcodes code).1 (addOpCode m1.opcodes code).1 r.2
      (rnSg ρ ({ sg1 with tensors := T } : Subgraph)) := by
    rw [he, he1, hT]
    exact ⟨rfl, hr.inputs, hr.outputs, hr.ops.mono e e1⟩
  obtain ⟨sg3', hw1, hr3⟩ := wireNewOp_sim hw
    ⟨(addOpCode m1.opcodes code).2, [inp.tensor], [(sg1.tensors.length : Int)], none⟩ hr2
    ⟨rfl, by rw [hlen], rfl, code, hc, hc1⟩
  refine ⟨{ m1 with subgraphs := m1.subgraphs.set j1 sg3', buffers := b1,
                    opcodes := (addOpCode m1.opcodes code).1 }, w.1, sg3',
    insertOp_ok_iff.2 ⟨tn1, (b1, { sg1 with tensors := T }), (sg3', w.2), htn1, ?_, ?_, rfl⟩,
    ⟨lt_of_get hsg, rfl, rfl, hlb, e, he⟩, ⟨lt_of_get hsg1, rfl, rfl, hlb1, e1, he1⟩, hr3⟩
  · rw [← hlen]; exact hq1
  · rw [hlen] at hw1; exact hw1

theorem quantizeOnly_sim (hpt : ∀ p, pinfo pt (ρ p) = pinfo pt1 p) {m m1 m' : Model} {j j1 : Nat}
    {sg sg1 : Subgraph} {inp : TIn} {info : TInfoOut}
    (hsg : m.subgraphs[j]? = some sg) (hsg1 : m1.subgraphs[j1]? = some sg1)
    (hr : SgRel m.opcodes m1.opcodes sg (rnSg ρ sg1)) (hb : m.buffers.length = m1.buffers.length)
    (h : quantizeOnly pt m j (rnIn ρ inp) = .ok (m', info)) :
    ∃ m1' sg' sg1', quantizeOnly pt1 m1 j1 inp = .ok (m1', info) ∧
      StepOut m m' j sg' ∧ StepOut m1 m1' j1 sg1' ∧ SgRel m'.opcodes m1'.opcodes sg' (rnSg ρ sg1') := by
  rw [quantizeOnly_eq _ hsg] at h
  rw [quantizeOnly_eq _ hsg1]
  obtain ⟨r, hq, h⟩ := PyM.bind_eq_ok_iff.1 h
  obtain ⟨rfl, rfl⟩ := Prod.mk.inj (PyM.pure_eq_ok_iff.1 h)
  obtain ⟨T, b1, hT, hlen, hq1, hlen1⟩ := quantizeTensor_sim hpt hq hr.tensors hb.symm
  refine ⟨{ m1 with subgraphs := m1.subgraphs.set j1 { sg1 with tensors := T }, buffers := b1 }, r.2,
    { sg1 with tensors := T }, ?_, ⟨lt_of_get hsg, rfl, rfl, hlen, [], by simp⟩,
    ⟨lt_of_get hsg1, rfl, rfl, hlen1, [], by simp⟩, ?_⟩
  · exact PyM.bind_eq_ok_iff.2 ⟨_, hq1, rfl⟩
  · show SgRel m.opcodes m1.opcodes r.2 _
    rw [hT]; exact ⟨rfl, hr.inputs, hr.outputs, hr.ops⟩

theorem runXf_sim (hpt : ∀ p, pinfo pt (ρ p) = pinfo pt1 p) {m m1 m' : Model} {j j1 : Nat} {sg sg1 : Subgraph}
    {x : Xf} {inp : TIn} {info : TInfoOut}
    (hsg : m.subgraphs[j]? = some sg) (hsg1 : m1.subgraphs[j1]? = some sg1)
    (hr : SgRel m.opcodes m1.opcodes sg (rnSg ρ sg1)) (hb : m.buffers.length = m1.buffers.length)
    (h : runXf pt m j x (rnIn ρ inp) = .ok (m', info)) :
    ∃ m1' sg' sg1', runXf pt1 m1 j1 x inp = .ok (m1', info) ∧
      StepOut m m' j sg' ∧ StepOut m1 m1' j1 sg1' ∧ SgRel m'.opcodes m1'.opcodes sg' (rnSg ρ sg1') := by
  cases x with
  | noQuant => cases h
  | emulated => cases h
  | quantTensor => exact quantizeOnly_sim hpt hsg hsg1 hr hb h
  | addQuant =>
    show ∃ m1' sg' sg1', insertQuant pt1 m1 j1 inp = _ ∧ _
    rw [insertQuant_eq inp hsg1]
    exact insertOp_sim hpt hsg hsg1 hr hb ((insertQuant_eq _ hsg).symm.trans h)
  | addDequant =>
    show ∃ m1' sg' sg1', insertDequant pt1 m1 j1 inp = _ ∧ _
    rw [insertDequant_eq inp hsg1]
    exact insertOp_sim hpt hsg hsg1 hr hb ((insertDequant_eq _ hsg).symm.trans h)

def sigsOfL (sigs : List Sig) (j : Nat) : List Sig :=
  (sigs.filter (·.sg == j)).map fun s => { s with sg := 0 }

theorem filter_sg_updSig (k j : Nat) (b a : List Int) (sigs : List Sig) :
    (sigs.map (updSig k b a)).filter (·.sg == j) = (sigs.filter (·.sg == j)).map (updSig k b a) := by
  rw [List.filter_map]
  congr 1
  exact List.filter_congr fun s _ => by simp only [Function.comp, (updSig_basic k b a s).2.1]

theorem sigsOfL_updateSigs_ne (sigs : List Sig) (k j : Nat) (hkj : k ≠ j) (b a : List Int) :
    sigsOfL (updateSigs sigs k b a) j = sigsOfL sigs j := by
  unfold sigsOfL
  rw [updateSigs_eq, filter_sg_updSig, List.map_map]
  refine List.map_congr_left fun s hs => ?_
  have hsj : s.sg = j := by simpa using (List.mem_filter.1 hs).2
  rw [Function.comp, updSig_other _ _ _ _ (hsj ▸ Ne.symm hkj)]

theorem sigsOfL_updateSigs_same (sigs : List Sig) (j : Nat) (b a : List Int) :
    sigsOfL (updateSigs sigs j b a) j = updateSigs (sigsOfL sigs j) 0 b a := by
  unfold sigsOfL
  rw [updateSigs_eq, updateSigs_eq, filter_sg_updSig, List.map_map, List.map_map]
  refine List.map_congr_left fun s hs => ?_
  have hsj : s.sg = j := by simpa using (List.mem_filter.1 hs).2
  simp only [Function.comp, updSig, hsj, bne_self_eq_false, Bool.false_eq_true, if_false]

structure Sim (ρ : PId → PId) (j : Nat) (st st1 : PState) : Prop where
  sg : ∃ sg sg1, st.model.subgraphs[j]? = some sg ∧ st1.model.subgraphs[0]? = some sg1 ∧
        SgRel st.model.opcodes st1.model.opcodes sg (rnSg ρ sg1)
  omap : st.origMap[j]? = st1.origMap[0]?
  amap : st.addedMap[j]? = st1.addedMap[0]?
  bufs : st.model.buffers.length = st1.model.buffers.length
  sigs : sigsOfL st.model.sigs j = st1.model.sigs

/-- the entry of the big run that entry `t` of the small run stands for -/
def lift (ρ : PId → PId) (j : Nat) (t : TInsts) : TInsts :=
  { name := t.name, sg := j, insts := t.insts.map (rnInst ρ) }

theorem updateInsts_rn (later : List Inst) (prev : List Int) (np nt : Int) :
    updateInsts (later.map (rnInst ρ)) prev np nt = (updateInsts later prev np nt).map (rnInst ρ) := by
  unfold updateInsts
  rw [List.map_map, List.map_map]
  refine List.map_congr_left fun t _ => ?_
  simp only [Function.comp]
  rw [show (rnInst ρ t).consumers = t.consumers from rfl]
  split <;> rfl

theorem postMaps_rn (insts : List Inst) (idx : Nat) (ins : Inst) (omap amap : List Int) (info : TInfoOut) :
    postMaps (insts.map (rnInst ρ)) idx (rnInst ρ ins) omap amap info =
      ((postMaps insts idx ins omap amap info).1, (postMaps insts idx ins omap amap info).2.1,
        (postMaps insts idx ins omap amap info).2.2.map (rnInst ρ)) := by
  unfold postMaps
  have : (rnInst ρ ins).consumers = ins.consumers := rfl
  rw [this]
  by_cases h : info.added = 0
  · simp only [h, if_true]
  · simp only [h, if_false, ← List.map_take, ← List.map_drop, updateInsts_rn, List.map_append]

theorem applySingle_same (hpt : ∀ p, pinfo pt (ρ p) = pinfo pt1 p) (j : Nat) (st st1 st' : PState)
    (ti1 ti' : TInsts) (idx : Nat) (h0 : ti1.sg = 0) (hS : Sim ρ j st st1)
    (h : applySingle pt st (lift ρ j ti1) idx = .ok (st', ti')) :
    ∃ st1' ti1', applySingle pt1 st1 ti1 idx = .ok (st1', ti1') ∧ Sim ρ j st' st1' ∧
      ti' = lift ρ j ti1' ∧ ti1'.sg = 0 := by
  obtain ⟨n, s, insts⟩ := ti1
  cases h0
  obtain ⟨⟨sg, sg1, hsg, hsg1, hr⟩, hom, ham, hb, hsigs⟩ := hS
  obtain ⟨ins, om, am, producer, consumers, sgc, m', info, sgA, hins, hom', ham', hprod, hcons, hsgc, hrun,
    hafter, h⟩ := applySingle_ok_iff.1 h
  obtain ⟨rfl, rfl⟩ := Prod.mk.inj h
  cases hsg.symm.trans hsgc
  obtain ⟨ins1, hins1, rfl⟩ : ∃ ins1, insts[idx]? = some ins1 ∧ ins = rnInst ρ ins1 := by
    have : (insts.map (rnInst ρ))[idx]? = some ins := hins
    rw [List.getElem?_map] at this
    obtain ⟨a, ha, rfl⟩ := Option.map_eq_some_iff.1 this
    exact ⟨a, ha, rfl⟩
  obtain ⟨m1', sg', sg1', hrun1, hso, hso1, hr'⟩ :=
    runXf_sim hpt (j1 := 0) (inp := ⟨ins1.tensor, producer, consumers, ins1.param⟩) hsg hsg1 hr hb hrun
  have hA : m'.subgraphs[j]? = some sg' := by rw [hso.subs, List.getElem?_set_self hso.lt]
  cases hafter.symm.trans hA
  have hafter1 : m1'.subgraphs[0]? = some sg1' := by rw [hso1.subs, List.getElem?_set_self hso1.lt]
  have hom1 : st1.origMap[0]? = some om := hom ▸ hom'
  have ham1 : st1.addedMap[0]? = some am := ham ▸ ham'
  have hpm := postMaps_rn (ρ := ρ) insts idx ins1 om am info
  refine ⟨_, _, applySingle_ok_iff.2 ⟨ins1, om, am, producer, consumers, sg1, m1', info, sg1', hins1, hom1, ham1,
    hprod, hcons, hsg1, hrun1, hafter1, rfl⟩, ⟨⟨sgA, sg1', hafter, hafter1, hr'⟩, ?_, ?_, ?_, ?_⟩, ?_, rfl⟩
  · show (st.origMap.set j (postMaps (insts.map (rnInst ρ)) idx (rnInst ρ ins1) om am info).1)[j]? =
      (st1.origMap.set 0 _)[0]?
    rw [hpm, List.getElem?_set_self (lt_of_get hom' : j < _), List.getElem?_set_self (lt_of_get hom1)]
  · show (st.addedMap.set j (postMaps (insts.map (rnInst ρ)) idx (rnInst ρ ins1) om am info).2.1)[j]? =
      (st1.addedMap.set 0 _)[0]?
    rw [hpm, List.getElem?_set_self (lt_of_get ham' : j < _), List.getElem?_set_self (lt_of_get ham1)]
  · show m'.buffers.length = m1'.buffers.length
    rw [hso.bufs, hso1.bufs, hb]
  · show sigsOfL (updateSigs m'.sigs j sg.outputs sgA.outputs) j =
      updateSigs m1'.sigs 0 sg1.outputs sg1'.outputs
    rw [sigsOfL_updateSigs_same, hso.sigs, hso1.sigs, hsigs, hr.outputs, hr'.outputs]
    rfl
  · show (⟨n, j, (postMaps (insts.map (rnInst ρ)) idx (rnInst ρ ins1) om am info).2.2⟩ : TInsts) = _
    rw [hpm]
    rfl

theorem applySingle_other (pt : PTable) (j : Nat) (st st1 st' : PState) (ti ti' : TInsts) (idx : Nat)
    (hS : Sim ρ j st st1) (hj : ti.sg ≠ j) (h : applySingle pt st ti idx = .ok (st', ti')) :
    Sim ρ j st' st1 ∧ ti'.sg = ti.sg := by
  obtain ⟨⟨sg, sg1, hsg, hsg1, hr⟩, hom, ham, hb, hsigs⟩ := hS
  obtain ⟨ins, om, am, producer, consumers, sgc, m', info, sgA, hins, hom', ham', hprod, hcons, hsgc, hrun,
    hafter, h⟩ := applySingle_ok_iff.1 h
  obtain ⟨rfl, rfl⟩ := Prod.mk.inj h
  obtain ⟨sg', hso⟩ := runXf_out hsgc hrun
  obtain ⟨e, he⟩ := hso.codes
  refine ⟨⟨⟨sg, sg1, ?_, hsg1, ?_⟩, ?_, ?_, ?_, ?_⟩, rfl⟩
  · show m'.subgraphs[j]? = some sg
    rw [hso.subs, List.getElem?_set_ne hj]; exact hsg
  · show SgRel m'.opcodes st1.model.opcodes sg _
    have := hr.ops.mono e []
    rw [List.append_nil] at this
    rw [he]; exact ⟨hr.tensors, hr.inputs, hr.outputs, this⟩
  · show (st.origMap.set ti.sg _)[j]? = _
    rw [List.getElem?_set_ne hj]; exact hom
  · show (st.addedMap.set ti.sg _)[j]? = _
    rw [List.getElem?_set_ne hj]; exact ham
  · show m'.buffers.length = _
    rw [hso.bufs]; exact hb
  · show sigsOfL (updateSigs m'.sigs ti.sg _ _) j = _
    rw [sigsOfL_updateSigs_ne _ _ _ hj, hso.sigs]; exact hsigs

theorem applyAll_same (hpt : ∀ p, pinfo pt (ρ p) = pinfo pt1 p) (j : Nat) (st st1 st' : PState) (ti1 : TInsts)
    (h0 : ti1.sg = 0) (hS : Sim ρ j st st1) (h : applyAll pt st (lift ρ j ti1) = .ok st') :
    ∃ st1', applyAll pt1 st1 ti1 = .ok st1' ∧ Sim ρ j st' st1' := by
  rw [applyAll_eq] at h ⊢
  obtain ⟨cur, hloop, h⟩ := PyM.bind_eq_ok_iff.1 h
  rw [show (lift ρ j ti1).insts.length = ti1.insts.length from List.length_map _] at hloop
  obtain ⟨cur1, hloop1, hR1, hR2, -⟩ := PyM.foldlM_sim_filter (applyStep pt) (applyStep pt1) (fun _ => true) id
    (fun (c c1 : PState × TInsts) => Sim ρ j c.1 c1.1 ∧ c.2 = lift ρ j c1.2 ∧ c1.2.sg = 0)
    (List.range ti1.insts.length) (List.range ti1.insts.length) (by simp)
    (by
      rintro idx - ⟨c, t⟩ ⟨c1, t1⟩ ⟨c', t'⟩ ⟨hI, ht, ht0⟩ hf
      subst ht
      have hget : ∀ i, (lift ρ j t1).insts[idx]? = some i → ∃ i1, t1.insts[idx]? = some i1 ∧ i1.xf = i.xf :=
        fun i hi => by
          obtain ⟨i1, h1, rfl⟩ := Option.map_eq_some_iff.1 ((List.getElem?_map ..).symm.trans hi)
          exact ⟨i1, h1, rfl⟩
      rcases applyStep_ok_iff.1 hf with ⟨i, hi, hx, hs⟩ | ⟨hskip, hc⟩
      · obtain ⟨i1, hi1, hxf⟩ := hget i hi
        obtain ⟨c1', t1', hc1, hI', ht', ht0'⟩ := applySingle_same hpt j c c1 c' t1 t' idx ht0 hI hs
        exact ⟨(c1', t1'), applyStep_ok_iff.2 (.inl ⟨i1, hi1, hxf ▸ hx, hc1⟩), hI', ht', ht0'⟩
      · cases hc
        refine ⟨(c1, t1), applyStep_ok_iff.2 (.inr ⟨fun i1 hi1 => ?_, rfl⟩), hI, rfl, ht0⟩
        exact hskip (rnInst ρ i1) (by
          show (t1.insts.map (rnInst ρ))[idx]? = _
          rw [List.getElem?_map, hi1]; rfl))
    (fun _ _ h => nomatch h) (st, lift ρ j ti1) (st1, ti1) cur ⟨hS, rfl, h0⟩ hloop
  have e : cur.2.insts.any (·.xf == .emulated) = cur1.2.insts.any (·.xf == .emulated) := by
    rw [hR2]
    show (cur1.2.insts.map (rnInst ρ)).any _ = _
    rw [List.any_map]
    rfl
  rw [e] at h
  split at h
  · cases h
  · rename_i hne
    cases PyM.pure_eq_ok_iff.1 h
    exact ⟨cur1.1, PyM.bind_eq_ok_iff.2 ⟨cur1, hloop1, by rw [if_neg hne]; rfl⟩, hR1⟩

theorem applyAll_other (pt : PTable) (j : Nat) (st st1 st' : PState) (ti : TInsts)
    (hS : Sim ρ j st st1) (hj : ti.sg ≠ j) (h : applyAll pt st ti = .ok st') : Sim ρ j st' st1 := by
  rw [applyAll_eq] at h
  obtain ⟨cur, hloop, h⟩ := PyM.bind_eq_ok_iff.1 h
  have hP : Sim ρ j cur.1 st1 ∧ cur.2.sg = ti.sg := by
    refine PyM.foldlM_inv (applyStep pt) (fun c => Sim ρ j c.1 st1 ∧ c.2.sg = ti.sg) _ (st, ti) cur
      ⟨hS, rfl⟩ ?_ hloop
    rintro idx - ⟨c, t⟩ ⟨c', t'⟩ ⟨hI, ht⟩ hf
    rcases applyStep_ok_iff.1 hf with ⟨i, -, -, hs⟩ | ⟨-, hc⟩
    · obtain ⟨hI', ht'⟩ := applySingle_other pt j c st1 c' t t' idx hI (ht ▸ hj) hs
      exact ⟨hI', ht'.trans ht⟩
    · cases hc
      exact ⟨hI, ht⟩
  split at h
  · cases h
  · cases PyM.pure_eq_ok_iff.1 h
    exact hP.1

theorem view_of_sim (j : Nat) (st st1 : PState) (hS : Sim ρ j st st1) :
    view st.model j = view (rnModel ρ st1.model) 0 := by
  obtain ⟨sg, sg1, hsg, hsg1, hr⟩ := hS.sg
  unfold view
  rw [hsg, show (rnModel ρ st1.model).subgraphs[0]? = some (rnSg ρ sg1) by
    simp only [rnModel, List.getElem?_map, hsg1, Option.map_some]]
  simp only [Option.map_some, hr.tensors, hr.inputs, hr.outputs, hr.ops.map_eq]
  rfl

/-- **the performer treats subgraph `j` as if it stood alone, whatever the parameter ids are called**: `m1`, `tis1`, `pt1`
    are subgraph `j`, its instructions and the table, with ids `p` for `ρ p` -/
theorem performer_sim (hpt : ∀ p, pinfo pt (ρ p) = pinfo pt1 p) (m m' m1 : Model) (tis tis1 : List TInsts)
    (j : Nat) (sg sg1 : Subgraph) (hsg : m.subgraphs[j]? = some sg)
    (hcodes : ∀ o ∈ sg.ops, o.code < m.opcodes.length)
    (h1 : m1.subgraphs = [sg1]) (hρ : sg = rnSg ρ sg1) (h2 : m1.opcodes = m.opcodes)
    (h3 : m1.buffers.length = m.buffers.length) (h4 : m1.sigs = sigsOf m j)
    (htis : tis.filter (·.sg == j) = tis1.map (lift ρ j)) (h0 : ∀ t ∈ tis1, t.sg = 0)
    (h : transformGraph pt m tis = .ok m') :
    ∃ m1', transformGraph pt1 m1 tis1 = .ok m1' ∧ view m' j = view (rnModel ρ m1') 0 ∧
      sigsOf m' j = m1'.sigs := by
  subst hρ
  have hinit : Sim ρ j (initSt m) (initSt m1) := by
    refine ⟨⟨_, sg1, hsg, by simp only [initSt, h1, List.getElem?_cons_zero], rfl, rfl, rfl, ?_⟩, ?_, ?_,
      h3.symm, h4.symm⟩
    · simp only [initSt, h2]
      exact OpsRel.refl_of hcodes
    · simp only [initSt, List.getElem?_map, hsg, h1, Option.map_some, List.map_cons, List.map_nil,
        List.getElem?_cons_zero]
      rfl
    · simp only [initSt, List.getElem?_map, hsg, h1, Option.map_some, List.map_cons, List.map_nil,
        List.getElem?_cons_zero]
  obtain ⟨st, hfold, rfl⟩ := (transformGraph_ok_iff pt m m' tis).1 h
  obtain ⟨st1, hfold1, hS⟩ := PyM.foldlM_sim_filter (applyAll pt) (applyAll pt1) (·.sg == j) (lift ρ j)
    (Sim ρ j) tis tis1 htis
    (fun t1 ht1 s s1 s' hS hs => applyAll_same hpt j s s1 s' t1 (h0 t1 ht1) hS hs)
    (fun t _ ht s s1 s' hS hs => applyAll_other pt j s s1 s' t hS (by simpa using ht) hs)
    _ _ st hinit hfold
  exact ⟨st1.model, (transformGraph_ok_iff pt1 m1 _ _).2 ⟨st1, hfold1, rfl⟩, view_of_sim j st st1 hS, hS.sigs⟩

/-- the hypotheses of `performer_sim` on the instructions, from the form in which `genInsts` gives them -/
theorem lift_of_restrict {tis tis1 : List TInsts} {j : Nat} (h : restrict tis j = tis1.map (rnTI ρ)) :
    tis.filter (·.sg == j) = tis1.map (lift ρ j) ∧ ∀ t ∈ tis1, t.sg = 0 := by
  constructor
  · have := congrArg (List.map fun t : TInsts => { t with sg := j }) h
    unfold restrict at this
    rw [List.map_map, List.map_map] at this
    refine .trans ?_ (this.trans (List.map_congr_left fun t _ => rfl))
    conv => lhs; rw [← List.map_id (tis.filter _)]
    refine List.map_congr_left fun t ht => ?_
    obtain ⟨n, s, i⟩ := t
    cases (show s = j by simpa using (List.mem_filter.1 ht).2)
    rfl
  · intro t ht
    have : rnTI ρ t ∈ restrict tis j := h ▸ List.mem_map_of_mem ht
    obtain ⟨_, _, e⟩ := List.mem_map.1 this
    exact (congrArg TInsts.sg e).symm

theorem rnTensor_id (t : Tensor) : rnTensor id t = t := by
  cases t; simp [rnTensor]

theorem rnSg_eq_self (sg : Subgraph) (h : ∀ t ∈ sg.tensors, rnTensor ρ t = t) : rnSg ρ sg = sg := by
  unfold rnSg
  rw [(List.map_congr_left h).trans (List.map_id _)]

theorem rnSg_id (sg : Subgraph) : rnSg id sg = sg := rnSg_eq_self sg fun t _ => rnTensor_id t

theorem rnModel_view (m : Model) (k : Nat) : view (rnModel id m) k = view m k := by
  unfold view
  simp only [rnModel, List.getElem?_map, funext rnSg_id, Option.map_id']

theorem rnTI_id (t : TInsts) : rnTI id t = t := by
  have : ∀ i : Inst, rnInst id i = i := fun i => by cases i; simp [rnInst]
  cases t; simp [rnTI, funext this]

/-- **C19, whole run.**  The only hypothesis beyond the success of the big run is that the operators
    of the subgraph refer to existing entries of the opcode table (part of well-formedness): an
    operator with a dangling code would start to resolve as soon as an instruction of ANOTHER
    subgraph appends to the shared table. -/
theorem performer_local (pt : PTable) (m m' : Model) (tis : List TInsts) (j : Nat) (sg : Subgraph)
    (hsg : m.subgraphs[j]? = some sg)
    (hcodes : ∀ o ∈ sg.ops, o.code < m.opcodes.length)
    (h : transformGraph pt m tis = .ok m') :
    ∃ m1', transformGraph pt (extract m j sg) (restrict tis j) = .ok m1' ∧
      view m' j = view m1' 0 ∧ sigsOf m' j = m1'.sigs := by
  obtain ⟨htis, h0⟩ := lift_of_restrict (ρ := id) (tis := tis) (j := j) (tis1 := restrict tis j)
    (by rw [funext rnTI_id, List.map_id'])
  obtain ⟨m1', a, b, c⟩ := performer_sim (ρ := id) (fun _ => rfl) m m' (extract m j sg) tis (restrict tis j) j sg sg
    hsg hcodes rfl (rnSg_id sg).symm rfl rfl rfl htis h0 h
  exact ⟨m1', a, b.trans (rnModel_view m1' 0), c⟩

end Locality
