import QProofs.GraphInv
import QProofs.ListLemmas
/-!
# A run of `transformGraph` as a sequence of `applySingle` steps

A successful run performs one `applySingle` for every insertion-type instruction, in order
(`run_trace`).  `Trace R l s s'` is that sequence for a step relation `R`; what one step says (`R`)
and what holds between the steps (`B`) are parameters, so a fact about the whole run is an induction
over the trace.  `GraphInv.transformGraph_ok` (C01 on the graph stage) is the first instance.
-/
open Graph Perform GraphInv

namespace RunRule

/-- the insertion-type instructions of `tis`, each with its entry, in the order they are performed -/
def performed (tis : List TInsts) : List (TInsts × Inst) :=
  tis.flatMap fun ti => (ti.insts.filter (isInsertion ·.xf)).map (ti, ·)

theorem mem_performed {tis : List TInsts} {e : TInsts × Inst} :
    e ∈ performed tis ↔ e.1 ∈ tis ∧ e.2 ∈ e.1.insts ∧ isInsertion e.2.xf = true := by
  obtain ⟨ti, ins⟩ := e
  simp only [performed, List.mem_flatMap, List.mem_map, List.mem_filter, Prod.mk.injEq]
  constructor
  · rintro ⟨ti', hti, ins', ⟨hins, hx⟩, rfl, rfl⟩
    exact ⟨hti, hins, hx⟩
  · rintro ⟨hti, hins, hx⟩
    exact ⟨ti, hti, ins, ⟨hins, hx⟩, rfl, rfl⟩

theorem mem_take_idx {α} {l : List α} {n : Nat} {a : α} (h : a ∈ l.take n) : ∃ j, j < n ∧ l[j]? = some a := by
  obtain ⟨j, hj, rfl⟩ := List.mem_take_iff_getElem.1 h
  exact ⟨j, by omega, List.getElem?_eq_getElem (by omega)⟩

theorem mem_drop_idx {α} {l : List α} {n : Nat} {a : α} (h : a ∈ l.drop n) : ∃ j, n ≤ j ∧ l[j]? = some a := by
  obtain ⟨j, hj, rfl⟩ := List.mem_drop_iff_getElem.1 h
  exact ⟨n + j, by omega, List.getElem?_eq_getElem (by omega)⟩

theorem performed_split {tis : List TInsts} {I idx : Nat} {ti : TInsts} {ins : Inst}
    (hti : tis[I]? = some ti) (hins : ti.insts[idx]? = some ins) (hx : isInsertion ins.xf = true) :
    ∃ pre post, performed tis = pre ++ (ti, ins) :: post ∧
      (∀ e ∈ pre, ∃ i' idx', tis[i']? = some e.1 ∧ e.1.insts[idx']? = some e.2 ∧
        (i' < I ∨ (i' = I ∧ idx' < idx))) ∧
      (∀ e ∈ post, ∃ i' idx', tis[i']? = some e.1 ∧ e.1.insts[idx']? = some e.2 ∧
        (I < i' ∨ (i' = I ∧ idx < idx'))) := by
  refine ⟨performed (tis.take I) ++ ((ti.insts.take idx).filter (isInsertion ·.xf)).map (ti, ·),
    ((ti.insts.drop (idx + 1)).filter (isInsertion ·.xf)).map (ti, ·) ++ performed (tis.drop (I + 1)),
    ?_, ?_, ?_⟩
  · conv => lhs; rw [List.eq_take_cons_drop hti]
    unfold performed
    rw [List.flatMap_append, List.flatMap_cons]
    conv => lhs; arg 2; arg 1; rw [List.eq_take_cons_drop hins]
    rw [List.filter_append, List.filter_cons_of_pos (by simpa using hx), List.map_append, List.map_cons,
      List.append_assoc, List.append_assoc, List.cons_append]
  · intro e he
    rcases List.mem_append.1 he with he | he
    · obtain ⟨h1, h2, -⟩ := mem_performed.1 he
      obtain ⟨i', hi', g1⟩ := mem_take_idx h1
      obtain ⟨idx', g2⟩ := List.mem_iff_getElem?.1 h2
      exact ⟨i', idx', g1, g2, .inl hi'⟩
    · obtain ⟨x, hx', rfl⟩ := List.mem_map.1 he
      obtain ⟨idx', hlt, g2⟩ := mem_take_idx (List.mem_filter.1 hx').1
      exact ⟨I, idx', hti, g2, .inr ⟨rfl, hlt⟩⟩
  · intro e he
    rcases List.mem_append.1 he with he | he
    · obtain ⟨x, hx', rfl⟩ := List.mem_map.1 he
      obtain ⟨idx', hlt, g2⟩ := mem_drop_idx (List.mem_filter.1 hx').1
      exact ⟨I, idx', hti, g2, .inr ⟨rfl, hlt⟩⟩
    · obtain ⟨h1, h2, -⟩ := mem_performed.1 he
      obtain ⟨i', hi', g1⟩ := mem_drop_idx h1
      obtain ⟨idx', g2⟩ := List.mem_iff_getElem?.1 h2
      exact ⟨i', idx', g1, g2, .inl hi'⟩

/-- `B` holds between the steps and `R` describes a step -/
def Sound (pt : PTable) (m0 : Model) (B : PState → Prop)
    (R : Nat → Inst → PState → PState → Prop) : Prop :=
  ∀ (st st' : PState) (ti ti' : TInsts) (idx : Nat) (sg0 : Subgraph) (ins : Inst), B st →
    m0.subgraphs[ti.sg]? = some sg0 → ti.insts[idx]? = some ins → InstOK pt m0 sg0 ins →
    NoChain ti.insts → applySingle pt st ti idx = .ok (st', ti') →
    R ti.sg ins st st' ∧ B st' ∧ ti' = ti

inductive Trace (R : Nat → Inst → PState → PState → Prop) :
    List (TInsts × Inst) → PState → PState → Prop
  | nil (s : PState) : Trace R [] s s
  | cons {e : TInsts × Inst} {l : List (TInsts × Inst)} {s s1 s2 : PState} :
    R e.1.sg e.2 s s1 → Trace R l s1 s2 → Trace R (e :: l) s s2

variable {R : Nat → Inst → PState → PState → Prop}

theorem Trace.append {l1 l2 : List (TInsts × Inst)} {s s1 s2 : PState} (T1 : Trace R l1 s s1)
    (T2 : Trace R l2 s1 s2) : Trace R (l1 ++ l2) s s2 := by
  induction T1 with
  | nil => exact T2
  | cons r _ ih => exact .cons r (ih T2)

theorem Trace.split {l1 l2 : List (TInsts × Inst)} {s s' : PState} (T : Trace R (l1 ++ l2) s s') :
    ∃ s1, Trace R l1 s s1 ∧ Trace R l2 s1 s' := by
  induction l1 generalizing s with
  | nil => exact ⟨s, .nil s, T⟩
  | cons e l ih =>
    cases T with
    | cons r T' =>
      obtain ⟨s1, T1, T2⟩ := ih T'
      exact ⟨s1, .cons r T1, T2⟩

theorem Trace.inv {l : List (TInsts × Inst)} {s s' : PState} (T : Trace R l s s') (I : PState → Prop)
    (hI : ∀ e ∈ l, ∀ st st', R e.1.sg e.2 st st' → I st → I st') (h0 : I s) : I s' := by
  induction T with
  | nil => exact h0
  | cons r _ ih =>
    exact ih (fun e he => hI e (List.mem_cons_of_mem _ he)) (hI _ List.mem_cons_self _ _ r h0)

variable {pt : PTable} {m0 : Model} {B : PState → Prop}

/-- Loop rule for `applyAll`: `Q idx` holds before instruction `idx` is looked at.  Every performed
    instruction must hand the instruction list back unchanged (which `applySingle_run` provides). -/
theorem applyAll_rule (pt : PTable) (st st' : PState) (ti : TInsts) (Q : Nat → PState → Prop)
    (h0 : Q 0 st)
    (hstep : ∀ (idx : Nat) (ins : Inst) (s s' : PState) (ti' : TInsts), ti.insts[idx]? = some ins →
      isInsertion ins.xf = true → Q idx s → applySingle pt s ti idx = .ok (s', ti') →
      ti' = ti ∧ Q (idx + 1) s')
    (hskip : ∀ (idx : Nat) (ins : Inst) (s : PState), ti.insts[idx]? = some ins →
      isInsertion ins.xf = false → Q idx s → Q (idx + 1) s)
    (h : applyAll pt st ti = .ok st') : Q ti.insts.length st' := by
  rw [applyAll_eq] at h
  obtain ⟨cur, hloop, h⟩ := PyM.bind_eq_ok_iff.1 h
  have key := PyM.foldlM_inv_idx (applyStep pt) (List.range ti.insts.length)
    (fun j c => c.2 = ti ∧ Q j c.1) (st, ti) cur ⟨rfl, h0⟩ ?_ hloop
  · split at h
    · cases h
    · cases PyM.pure_eq_ok_iff.1 h
      rw [List.length_range] at key
      exact key.2
  · rintro j x ⟨s, t⟩ ⟨s', t'⟩ hx ⟨rfl, hQ⟩ hf
    obtain ⟨hj, rfl⟩ : j < t.insts.length ∧ x = j := by
      have hj := (List.getElem?_eq_some_iff.1 hx).1
      rw [List.length_range] at hj
      rw [List.getElem?_range hj] at hx
      exact ⟨hj, (Option.some.inj hx).symm⟩
    rcases applyStep_ok_iff.1 hf with ⟨i, hi, hxf, hf⟩ | ⟨hno, h⟩
    · exact hstep x i s s' t' hi hxf hQ hf
    · cases h
      exact ⟨rfl, hskip x _ s (List.getElem?_eq_getElem hj) (hno _ (List.getElem?_eq_getElem hj)) hQ⟩

theorem applyAll_trace (hR : Sound pt m0 B R) {ti : TInsts} (hok : TInstsOK pt m0 ti)
    {st st' : PState} (hb : B st) (h : applyAll pt st ti = .ok st') :
    B st' ∧ Trace R ((ti.insts.filter (isInsertion ·.xf)).map (ti, ·)) st st' := by
  obtain ⟨sg0, hsg0, hall⟩ := hok.insts
  -- before instruction `j` is looked at, the insertion-type ones among the first `j` are performed
  have key := applyAll_rule pt st st' ti
    (fun j s => B s ∧ Trace R (((ti.insts.take j).filter (isInsertion ·.xf)).map (ti, ·)) st s)
    ⟨hb, .nil st⟩ ?_ ?_ h
  · rwa [List.take_length] at key
  · intro j ins s s' ti' hins hx ⟨hB, hT⟩ hf
    obtain ⟨r, hB', e⟩ := hR _ _ _ _ _ _ _ hB hsg0 hins (hall _ (List.mem_of_getElem? hins))
      hok.noChain hf
    refine ⟨e, hB', ?_⟩
    rw [List.take_add_one, hins, Option.toList_some, List.filter_append, List.map_append,
      List.filter_cons_of_pos (p := fun x : Inst => isInsertion x.xf) (a := ins) hx]
    exact hT.append (.cons r (.nil _))
  · intro j ins s hins hx ⟨hB, hT⟩
    refine ⟨hB, ?_⟩
    rw [List.take_add_one, hins, Option.toList_some, List.filter_append,
      List.filter_cons_of_neg (p := fun x : Inst => isInsertion x.xf) (a := ins)
        (by rw [hx]; exact Bool.false_ne_true), List.filter_nil,
      List.append_nil]
    exact hT

theorem run_trace (hR : Sound pt m0 B R) {tis : List TInsts} (hok : ∀ ti ∈ tis, TInstsOK pt m0 ti)
    {s0 st : PState} (hb : B s0) (h : tis.foldlM (applyAll pt) s0 = .ok st) :
    B st ∧ Trace R (performed tis) s0 st := by
  induction tis generalizing s0 with
  | nil => cases PyM.pure_eq_ok_iff.1 h; exact ⟨hb, .nil _⟩
  | cons ti tis ih =>
    obtain ⟨s1, h1, h⟩ := PyM.foldlM_cons_ok_iff.1 h
    obtain ⟨hb1, T1⟩ := applyAll_trace hR (hok ti List.mem_cons_self) hb h1
    obtain ⟨hb', T⟩ := ih (fun ti' h' => hok ti' (List.mem_cons_of_mem _ h')) hb1 h
    exact ⟨hb', T1.append T⟩

theorem sound_of_applied (hinv : ∀ st, B st → Inv m0 st)
    (hstep : ∀ s ins st st', B st → Applied pt m0 s ins st st' → B st') :
    Sound pt m0 B (fun s ins st st' => B st ∧ Nonempty (Applied pt m0 s ins st st')) :=
  fun st st' ti ti' idx sg0 ins hb hsg0 hins hok hnc h =>
    have ⟨e, ⟨A⟩⟩ := applySingle_run pt m0 st st' ti ti' idx sg0 ins (hinv st hb) hsg0 hins hok hnc h
    ⟨⟨hb, ⟨A⟩⟩, hstep _ _ _ _ hb A, e⟩

end RunRule

namespace GraphInv

theorem transformGraph_ok (pt : PTable) (m m' : Model) (tis : List TInsts)
    (hwf : WF.modelOK m = true) (hok : ∀ ti ∈ tis, TInstsOK pt m ti)
    (h : transformGraph pt m tis = .ok m') : WF.modelOK m' = true := by
  obtain ⟨st, hfold, rfl⟩ := (transformGraph_ok_iff pt m m' tis).1 h
  exact (RunRule.run_trace (RunRule.sound_of_applied (fun _ hb => hb) fun _ _ _ _ hb A => A.inv hb) hok
    (inv_init m hwf) hfold).1.wf

end GraphInv
