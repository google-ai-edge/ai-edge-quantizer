import QModel.Calib
import QProofs.PyLemmas
import QProofs.DictLemmas
/-!
# Calibration: what one sample does to every entry; resumption and completeness (C09 / C10)
`calibrateSample_lookup` describes the result of one sample name by name (`calibrateSample` restated as a nested `foldlM`);
`resume` and `stats_complete` are read off from it. -/
open Graph Arith Cfg Mat Calib

namespace CalibProofs

section Calibrate
variable {rx : String → String → Bool} {env : Env} {st : Recipe.State} {sgi : Nat}
  {previous : Option Qsvs} {samples : List Contents}

theorem calibrate_of_not_need (hneed : Recipe.needCalibration st = false) :
    calibrate rx env st sgi previous samples = .ok [] := by
  unfold calibrate
  rw [hneed]; rfl

theorem calibrate_of_need (hneed : Recipe.needCalibration st = true) :
    calibrate rx env st sgi previous samples =
      (if (previous.getD []).isEmpty then initModel rx env st else pure (previous.getD [])) >>=
        fun q0 => samples.foldlM (calibrateSample rx env st sgi) q0 := by
  unfold calibrate
  rw [hneed]
  show (if (previous.getD []).isEmpty = true then _ else _) = _
  split <;> rfl

theorem calibrate_cases {qs : Qsvs} (hneed : Recipe.needCalibration st = true)
    (h : calibrate rx env st sgi previous samples = .ok qs) :
    ∃ q0, (((previous.getD []).isEmpty = true ∧ initModel rx env st = .ok q0) ∨
        ((previous.getD []).isEmpty = false ∧ q0 = previous.getD [])) ∧
      samples.foldlM (calibrateSample rx env st sgi) q0 = .ok qs := by
  rw [calibrate_of_need hneed] at h
  obtain ⟨q0, h0, h⟩ := PyM.bind_eq_ok_iff.1 h
  refine ⟨q0, ?_, h⟩
  cases he : (previous.getD []).isEmpty
  · rw [he, if_neg Bool.false_ne_true] at h0
    exact .inr ⟨rfl, (PyM.pure_eq_ok_iff.1 h0).symm⟩
  · rw [he, if_pos rfl] at h0
    exact .inl ⟨rfl, h0⟩

end Calibrate

/-- the statistic one sample contributes to a runtime tensor: whole-tensor min / max of its contents -/
def _root_.CalibExact.sampleStat (n : String) (c : Contents) : PyM Qsv :=
  match Py.dictGet? c n with
  | none => .error .keyError
  | some d => minMaxAll d

open CalibExact (sampleStat)

theorem minMaxAll_some (d : FArr) (q : Qsv) (h : minMaxAll d = .ok q) : ∃ w, q = some w := by
  obtain ⟨a, _, h⟩ := PyM.bind_eq_ok_iff.1 h
  obtain ⟨b, _, h⟩ := PyM.bind_eq_ok_iff.1 h
  exact ⟨_, (PyM.pure_eq_ok_iff.1 h).symm⟩

theorem sampleStat_some {n : String} {c : Contents} {q : Qsv} (h : sampleStat n c = .ok q) :
    ∃ w, q = some w := by
  unfold sampleStat at h
  split at h
  · cases h
  · exact minMaxAll_some _ q h

theorem ema_some (old : Qsv) (w : FArr × FArr) (nv : Qsv) (h : ema old (some w) = .ok nv) :
    ∃ v, nv = some v := by
  cases old with
  | none => exact ⟨w, (PyM.pure_eq_ok_iff.1 h).symm⟩
  | some o =>
    obtain ⟨a, _, h⟩ := PyM.bind_eq_ok_iff.1 h
    obtain ⟨b, _, h⟩ := PyM.bind_eq_ok_iff.1 h
    exact ⟨(a, b), (PyM.pure_eq_ok_iff.1 h).symm⟩

theorem mem_slots {op : Op} {i : Int} :
    i ∈ (op.inputs ++ op.outputs).filter (· != -1) ↔ i ∈ op.inputs ++ op.outputs ∧ i ≠ -1 := by
  simp only [List.mem_filter, bne_iff_ne, ne_eq]

def calibSlot (env : Env) (sg : Subgraph) (contents : Contents) (acc : List (String × Qsv)) (i : Int) :
    PyM (List (String × Qsv)) := do
  let t ← tensorAt sg i
  if (constAny env t).isSome then pure acc
  else match Py.dictGet? contents t.name with
    | none => throw .keyError
    | some d => do
      let q ← minMaxAll d
      pure (Py.dictSet acc t.name q)

theorem calibrateOp_eq (env : Env) (sg : Subgraph) (op : Op) (contents : Contents) :
    calibrateOp env sg op contents =
      ((op.inputs ++ op.outputs).filter (· != -1)).foldlM (calibSlot env sg contents) [] := rfl

theorem calibSlot_ok {env : Env} {sg : Subgraph} {c : Contents} {acc acc' : List (String × Qsv)} {i : Int}
    (h : calibSlot env sg c acc i = .ok acc') :
    ∃ t, tensorAt sg i = .ok t ∧
      (((constAny env t).isSome = true ∧ acc' = acc) ∨
       (constAny env t = none ∧ ∃ q, sampleStat t.name c = .ok q ∧ acc' = Py.dictSet acc t.name q)) := by
  obtain ⟨t, ht, h⟩ := PyM.bind_eq_ok_iff.1 h
  refine ⟨t, ht, ?_⟩
  split at h
  · rename_i hc
    exact .inl ⟨hc, (PyM.pure_eq_ok_iff.1 h).symm⟩
  · rename_i hc
    refine .inr ⟨Option.not_isSome_iff_eq_none.1 hc, ?_⟩
    unfold sampleStat
    split at h
    · cases h
    · rename_i d hd
      obtain ⟨q, hq, h⟩ := PyM.bind_eq_ok_iff.1 h
      exact ⟨q, hq, (PyM.pure_eq_ok_iff.1 h).symm⟩

theorem calibrateOp_entries (env : Env) (sg : Subgraph) (op : Op) (c : Contents)
    (opq : List (String × Qsv)) (h : calibrateOp env sg op c = .ok opq) :
    ∀ e ∈ opq, sampleStat e.1 c = .ok e.2 ∧ ∃ t ∈ sg.tensors, t.name = e.1 ∧ constAny env t = none := by
  rw [calibrateOp_eq] at h
  refine PyM.foldlM_inv (calibSlot env sg c)
    (fun acc => ∀ e ∈ acc, sampleStat e.1 c = .ok e.2 ∧ ∃ t ∈ sg.tensors, t.name = e.1 ∧ constAny env t = none)
    _ [] opq (fun e he => nomatch he) ?_ h
  intro i _ acc acc' hacc hstep e he
  obtain ⟨t, ht, ⟨_, rfl⟩ | ⟨hnc, q, hq, rfl⟩⟩ := calibSlot_ok hstep
  · exact hacc e he
  · rcases Py.mem_dictSet _ _ _ _ he with he | rfl
    · exact hacc e he
    · exact ⟨hq, t, Py.index_mem _ _ _ ht, rfl, hnc⟩

theorem calibrateOp_key (env : Env) (sg : Subgraph) (op : Op) (contents : Contents)
    (opq : List (String × Qsv)) (h : calibrateOp env sg op contents = .ok opq)
    (i : Int) (hi : i ∈ op.inputs ++ op.outputs) (hi1 : i ≠ -1) (t : Tensor)
    (ht : tensorAt sg i = .ok t) (hnc : constAny env t = none) :
    t.name ∈ opq.map (·.1) := by
  rw [calibrateOp_eq] at h
  refine PyM.foldlM_reach _ (fun acc => t.name ∈ acc.map (·.1)) _ [] opq ?_ i (mem_slots.2 ⟨hi, hi1⟩) ?_ h
  · intro j _ acc acc' hacc hstep
    obtain ⟨_, _, ⟨_, rfl⟩ | ⟨_, q, _, rfl⟩⟩ := calibSlot_ok hstep
    · exact hacc
    · exact (Py.mem_keys_dictSet _ _ _ _).2 (.inl hacc)
  · intro acc acc' hstep
    obtain ⟨t', ht', hcase⟩ := calibSlot_ok hstep
    obtain rfl : t' = t := Except.ok.inj (ht'.symm.trans ht)
    rcases hcase with ⟨hs, _⟩ | ⟨_, q, _, rfl⟩
    · rw [hnc] at hs; cases hs
    · exact (Py.mem_keys_dictSet _ _ _ _).2 (.inr rfl)

/-- loop state of one sample: the dictionary and the names already updated in this sample -/
abbrev MState := Qsvs × List String

def mergeStep (s : MState) (e : String × Qsv) : PyM MState :=
  if s.2.contains e.1 then pure s
  else match Py.dictGet? s.1 e.1 with
    | none => pure (s.1 ++ [e], s.2 ++ [e.1])
    | some old =>
      match ema old e.2 with
      | .error err => .error err
      | .ok nv => pure (Py.dictSet s.1 e.1 nv, s.2 ++ [e.1])

/-- a name is merged once per sample; appending under an absent key is `dictSet`, and `ema` from an
    absent entry and from `{}` is the same, so the three branches are one -/
theorem mergeStep_eq (s : MState) (e : String × Qsv) :
    mergeStep s e = if e.1 ∈ s.2 then pure s else
      (ema (Py.dictGet? s.1 e.1).join e.2).map fun nv => (Py.dictSet s.1 e.1 nv, s.2 ++ [e.1]) := by
  unfold mergeStep
  by_cases hc : e.1 ∈ s.2
  · rw [if_pos (List.contains_iff_mem.2 hc), if_pos hc]
  · rw [if_neg (fun h => hc (List.contains_iff_mem.1 h)), if_neg hc]
    cases hg : Py.dictGet? s.1 e.1 with
    | none =>
      show (pure (s.1 ++ [e], s.2 ++ [e.1]) : PyM MState) = pure (Py.dictSet s.1 e.1 e.2, s.2 ++ [e.1])
      rw [Py.dictSet_of_not_mem _ _ _ ((Py.dictGet?_eq_none_iff _ _).1 hg)]
    | some old =>
      show (match ema old e.2 with | .error err => .error err | .ok nv => pure _) = (ema old e.2).map _
      cases ema old e.2 <;> rfl

theorem mergeStep_ok_iff (s s' : MState) (e : String × Qsv) :
    mergeStep s e = .ok s' ↔
      (e.1 ∈ s.2 ∧ s' = s) ∨
      (e.1 ∉ s.2 ∧ ∃ nv, ema (Py.dictGet? s.1 e.1).join e.2 = .ok nv ∧
        s' = (Py.dictSet s.1 e.1 nv, s.2 ++ [e.1])) := by
  rw [mergeStep_eq]
  by_cases hc : e.1 ∈ s.2
  · rw [if_pos hc, PyM.pure_eq_ok_iff]
    exact ⟨fun h => .inl ⟨hc, h.symm⟩, fun h => h.elim (fun h => h.2.symm) (fun h => absurd hc h.1)⟩
  · rw [if_neg hc, PyM.map_eq_ok_iff]
    exact ⟨fun ⟨nv, h, hs⟩ => .inr ⟨hc, nv, h, hs.symm⟩,
      fun h => h.elim (fun h => absurd h.1 hc) (fun ⟨_, nv, h, hs⟩ => ⟨nv, h, hs.symm⟩)⟩

theorem mergeAll_upd (n : String) : ∀ (opq : List (String × Qsv)) (s s' : MState),
    opq.foldlM mergeStep s = .ok s' → (n ∈ s'.2 ↔ n ∈ s.2 ∨ n ∈ opq.map (·.1)) := by
  intro opq
  induction opq with
  | nil => intro s s' h; rw [PyM.pure_eq_ok_iff.1 h]; simp
  | cons e opq ih =>
    intro s s' h
    obtain ⟨s1, h1, h⟩ := PyM.foldlM_cons_ok_iff.1 h
    rw [ih s1 s' h, List.map_cons, List.mem_cons, ← or_assoc]
    rcases (mergeStep_ok_iff s s1 e).1 h1 with ⟨he, rfl⟩ | ⟨_, nv, _, rfl⟩
    · exact or_congr_left ⟨.inl, fun h => h.elim id (fun h => h ▸ he)⟩
    · exact or_congr_left (by rw [List.mem_append, List.mem_singleton])

/-- the key of an entry of the operator list (pseudo-operators carry their key) -/
def keyOf (env : Env) (q : Op × Option String) : PyM (Option String) :=
  match q.2 with
  | some k => pure (some k)
  | none => opKey env q.1

theorem algMinMax_ne_noQuantize : (Tables.algMinMax == Tables.algNoQuantize) = false := by decide +kernel

theorem collects_iff (alg : String) : collects alg = true ↔ alg = Tables.algMinMax := by
  simp [collects]

/-- what both passes over the operators decide before they touch one: its op key (`none`: not a
    supported op, skipped), its scope, and the algorithm the recipe resolves to (`no_quantize`:
    skipped; not registered for the key: `ValueError`; an algorithm that does not collect: skipped).
    Only then `body` runs, with the key and the resolved configuration. -/
def gate {σ} (rx : String → String → Bool) (st : Recipe.State) (sg : Subgraph) (op : Op)
    (key : PyM (Option String)) (body : String → OpCfg → PyM σ) (s : σ) : PyM σ :=
  match key with
  | .error err => .error err
  | .ok none => pure s
  | .ok (some k) =>
    match opScope sg op with
    | .error err => .error err
    | .ok scope =>
      if (Recipe.resolve rx st k scope).1 == Tables.algNoQuantize then pure s
      else if !registeredFor (Recipe.resolve rx st k scope).1 k then .error .valueError
      else if collects (Recipe.resolve rx st k scope).1 then body k (Recipe.resolve rx st k scope).2
      else pure s

section Gate
variable {σ : Type} {rx : String → String → Bool} {st : Recipe.State} {sg : Subgraph} {op : Op}
  {key : PyM (Option String)} {body : String → OpCfg → PyM σ} {s s' : σ}

theorem gate_ok (h : gate rx st sg op key body s = .ok s') :
    s' = s ∨ ∃ k scope cfg, key = .ok (some k) ∧ opScope sg op = .ok scope ∧
      Recipe.resolve rx st k scope = (Tables.algMinMax, cfg) ∧ body k cfg = .ok s' := by
  unfold gate at h
  split at h
  · cases h
  · exact .inl (PyM.pure_eq_ok_iff.1 h).symm
  · rename_i k
    split at h
    · cases h
    · rename_i scope hs
      split at h
      · exact .inl (PyM.pure_eq_ok_iff.1 h).symm
      · split at h
        · cases h
        · split at h
          · rename_i hc
            exact .inr ⟨k, scope, _, rfl, hs, Prod.ext ((collects_iff _).1 hc) rfl, h⟩
          · exact .inl (PyM.pure_eq_ok_iff.1 h).symm

theorem gate_sel {k scope : String} (hk : key = .ok (some k)) (hs : opScope sg op = .ok scope)
    (hsel : (Recipe.resolve rx st k scope).1 = Tables.algMinMax)
    (h : gate rx st sg op key body s = .ok s') : body k (Recipe.resolve rx st k scope).2 = .ok s' := by
  subst hk
  simp only [gate, hs, hsel, algMinMax_ne_noQuantize, Bool.false_eq_true, if_false] at h
  split at h
  · cases h
  · rwa [if_pos ((collects_iff _).2 rfl)] at h

end Gate

def opStep (rx : String → String → Bool) (env : Env) (st : Recipe.State) (sg : Subgraph)
    (contents : Contents) (s : MState) (q : Op × Option String) : PyM MState :=
  gate rx st sg q.1 (keyOf env q)
    (fun _ _ => calibrateOp env sg q.1 contents >>= fun opq => opq.foldlM mergeStep s) s

def allOps (sg : Subgraph) : List (Op × Option String) :=
  sg.ops.map (fun o => (o, none)) ++
    [({ code := 0, inputs := [], outputs := sg.inputs }, some "INPUT"),
     ({ code := 0, inputs := sg.outputs, outputs := [] }, some "OUTPUT")]

def sampleFold (rx : String → String → Bool) (env : Env) (st : Recipe.State) (sgIdx : Nat)
    (qs : Qsvs) (contents : Contents) : PyM Qsvs :=
  match env.model.subgraphs[sgIdx]? with
  | none => .error .indexError
  | some sg =>
    match (allOps sg).foldlM (opStep rx env st sg contents) (qs, []) with
    | .error err => .error err
    | .ok r => .ok r.1

theorem forIn_allOps_eq {F : Op × Option String → MState → PyM (ForInStep MState)}
    {rx : String → String → Bool} {env : Env} {st : Recipe.State} {sg : Subgraph} {c : Contents}
    (hnone : ∀ op s, F (op, none) s = opKey env op >>= fun key =>
      match key with
      | none => pure (.yield s)
      | some k => F (op, some k) s)
    (hsome : ∀ op k s, F (op, some k) s =
      opStep rx env st sg c s (op, some k) >>= fun r => pure (.yield r)) :
    ∀ (l : List (Op × Option String)) (init : MState),
      forIn l init F = l.foldlM (opStep rx env st sg c) init := by
  refine PyM.forIn_eq_foldlM F _ ?_
  rintro ⟨op, _ | k⟩ s
  · rw [hnone]
    show _ = gate rx st sg op (opKey env op) _ s >>= _
    cases opKey env op with
    | error e => rfl
    | ok key =>
      cases key with
      | none => rfl
      | some k => exact hsome op k s
  · exact hsome op k s

theorem calibrateSample_eq (rx : String → String → Bool) (env : Env) (st : Recipe.State) (sgIdx : Nat)
    (qs : Qsvs) (contents : Contents) :
    calibrateSample rx env st sgIdx qs contents = sampleFold rx env st sgIdx qs contents := by
  unfold calibrateSample sampleFold
  cases hsg : env.model.subgraphs[sgIdx]? with
  | none => rfl
  | some sg =>
    show (forIn _ (qs, []) _ >>= fun r => (pure r.1 : PyM Qsvs)) = _
    rw [forIn_allOps_eq (rx := rx) (env := env) (st := st) (sg := sg) (c := contents) ?hnone ?hsome]
    · show ((allOps sg).foldlM (opStep rx env st sg contents) (qs, []) >>= fun r => (pure r.1 : PyM Qsvs)) =
        match (allOps sg).foldlM (opStep rx env st sg contents) (qs, []) with
        | .error err => .error err
        | .ok r => .ok r.1
      cases (allOps sg).foldlM (opStep rx env st sg contents) (qs, []) <;> rfl
    case hnone =>
      intro op s
      show (opKey env op >>= _) = _
      cases opKey env op with
      | error e => rfl
      | ok key => cases key <;> rfl
    case hsome =>
      -- both sides are `gate`, the right one with `>>= pure ∘ yield` outside: split its three guards to push it in
      intro op k s
      simp only [opStep, gate, keyOf, pure, Except.pure, bind, Except.bind, throw, throwThe,
        MonadExceptOf.throw]
      cases opScope sg op with
      | error e => rfl
      | ok scope =>
        simp only []
        generalize (Recipe.resolve rx st k scope).fst = alg
        by_cases h1 : (alg == Tables.algNoQuantize) = true
        · rw [if_pos h1, if_pos h1]
        · rw [if_neg h1, if_neg h1]
          by_cases h2 : (!registeredFor alg k) = true
          · rw [if_pos h2, if_pos h2]
          · rw [if_neg h2, if_neg h2]
            by_cases h3 : collects alg = true
            · rw [if_pos h3, if_pos h3]
              cases calibrateOp env sg op contents with
              | error e => rfl
              | ok opq =>
                simp only []
                rw [PyM.forIn_eq_foldlM _ mergeStep]
                case hfg =>
                  intro e s'
                  simp only [mergeStep, bind, Except.bind, pure, Except.pure]
                  by_cases h4 : s'.2.contains e.1 = true
                  · rw [if_pos h4, if_pos h4]
                  · rw [if_neg h4, if_neg h4]
                    cases Py.dictGet? s'.1 e.1 with
                    | none => rfl
                    | some old => simp only []; cases ema old e.2 <;> rfl
            · rw [if_neg h3, if_neg h3]

theorem sampleFold_ok {rx : String → String → Bool} {env : Env} {st : Recipe.State} {sgi : Nat}
    {q0 qs : Qsvs} {c : Contents} (h : calibrateSample rx env st sgi q0 c = .ok qs) :
    ∃ sg U, env.model.subgraphs[sgi]? = some sg ∧
      (allOps sg).foldlM (opStep rx env st sg c) (q0, []) = .ok (qs, U) := by
  rw [calibrateSample_eq] at h
  unfold sampleFold at h
  split at h
  · cases h
  · rename_i sg hsg
    split at h
    · cases h
    · rename_i r hf
      cases h
      exact ⟨sg, r.2, hsg, hf⟩

theorem opStep_cases (rx : String → String → Bool) (env : Env) (st : Recipe.State) (sg : Subgraph)
    (c : Contents) (s s' : MState) (q : Op × Option String)
    (h : opStep rx env st sg c s q = .ok s') :
    s' = s ∨ ∃ opq, calibrateOp env sg q.1 c = .ok opq ∧ opq.foldlM mergeStep s = .ok s' := by
  rcases gate_ok h with rfl | ⟨_, _, _, _, _, _, hb⟩
  · exact .inl rfl
  · exact .inr (PyM.bind_eq_ok_iff.1 hb)

inductive IsOp (env : Env) (sg : Subgraph) : Op → String → Prop where
  | real (op : Op) (k : String) : op ∈ sg.ops → opKey env op = .ok (some k) → IsOp env sg op k
  | input : IsOp env sg { code := 0, inputs := [], outputs := sg.inputs } "INPUT"
  | output : IsOp env sg { code := 0, inputs := sg.outputs, outputs := [] } "OUTPUT"

theorem IsOp.mem_allOps {env : Env} {sg : Subgraph} {op : Op} {k : String} (h : IsOp env sg op k) :
    ∃ q ∈ allOps sg, q.1 = op ∧ keyOf env q = .ok (some k) := by
  cases h with
  | real op k hmem hkey =>
    exact ⟨(op, none), List.mem_append_left _ (List.mem_map.2 ⟨op, hmem, rfl⟩), rfl, hkey⟩
  | input =>
    exact ⟨(_, some "INPUT"), List.mem_append_right _ List.mem_cons_self, rfl, rfl⟩
  | output =>
    exact ⟨(_, some "OUTPUT"),
      List.mem_append_right _ (List.mem_cons_of_mem _ List.mem_cons_self), rfl, rfl⟩

/-- `t` is a non-constant operand / result of an operator (or of the INPUT / OUTPUT pseudo-operator)
    of `sg` that the recipe selects for min/max -/
def RuntimeSlot (rx : String → String → Bool) (env : Env) (st : Recipe.State) (sg : Subgraph)
    (t : Tensor) : Prop :=
  ∃ op k scope i, IsOp env sg op k ∧ opScope sg op = .ok scope ∧
    (Recipe.resolve rx st k scope).1 = Tables.algMinMax ∧
    i ∈ op.inputs ++ op.outputs ∧ i ≠ -1 ∧ tensorAt sg i = .ok t ∧ constAny env t = none

/-- the loop invariant of a sample started from `q0`; `.join`: an absent entry and `{}` both count as "no statistics yet" -/
structure SampleInv (env : Env) (sg : Subgraph) (q0 : Qsvs) (c : Contents) (s : MState) : Prop where
  upd : ∀ n ∈ s.2, ∃ m v, sampleStat n c = .ok m ∧ ema (Py.dictGet? q0 n).join m = .ok v ∧
    Py.dictGet? s.1 n = some v
  rest : ∀ n, n ∉ s.2 → Py.dictGet? s.1 n = Py.dictGet? q0 n
  runtime : ∀ n ∈ s.2, ∃ t ∈ sg.tensors, t.name = n ∧ constAny env t = none

section Sample
variable {rx : String → String → Bool} {env : Env} {st : Recipe.State} {sg : Subgraph}
  {q0 : Qsvs} {c : Contents}

theorem mergeStep_inv {s s' : MState} {e : String × Qsv} (he : sampleStat e.1 c = .ok e.2)
    (ht : ∃ t ∈ sg.tensors, t.name = e.1 ∧ constAny env t = none) (hI : SampleInv env sg q0 c s)
    (h : mergeStep s e = .ok s') : SampleInv env sg q0 c s' := by
  rcases (mergeStep_ok_iff s s' e).1 h with ⟨_, rfl⟩ | ⟨hns, nv, hnv, rfl⟩
  · exact hI
  · rw [hI.rest _ hns] at hnv
    have hne : ∀ n, n ≠ e.1 → Py.dictGet? (Py.dictSet s.1 e.1 nv) n = Py.dictGet? s.1 n :=
      fun n hn => by rw [Py.dictGet?_dictSet, if_neg (Ne.symm hn)]
    refine ⟨fun n hn => ?_, fun n hn => ?_, fun n hn => ?_⟩
    · rcases List.mem_append.1 hn with hn | hn
      · rw [hne n (fun h => hns (h ▸ hn))]; exact hI.upd n hn
      · obtain rfl := List.mem_singleton.1 hn
        exact ⟨e.2, nv, he, hnv, by rw [Py.dictGet?_dictSet, if_pos rfl]⟩
    · rw [List.mem_append, List.mem_singleton, not_or] at hn
      rw [hne n hn.2]; exact hI.rest n hn.1
    · rcases List.mem_append.1 hn with hn | hn
      · exact hI.runtime n hn
      · obtain rfl := List.mem_singleton.1 hn
        exact ht

theorem opStep_inv {s s' : MState} {q : Op × Option String} (hI : SampleInv env sg q0 c s)
    (h : opStep rx env st sg c s q = .ok s') : SampleInv env sg q0 c s' := by
  rcases opStep_cases rx env st sg c s s' q h with rfl | ⟨opq, hc, hm⟩
  · exact hI
  · have hent := calibrateOp_entries env sg q.1 c opq hc
    exact PyM.foldlM_inv mergeStep (SampleInv env sg q0 c) opq s s' hI
      (fun e he r r' hr hstep => mergeStep_inv (hent e he).1 (hent e he).2 hr hstep) hm

theorem opStep_mono {s s' : MState} {q : Op × Option String} {n : String} (hn : n ∈ s.2)
    (h : opStep rx env st sg c s q = .ok s') : n ∈ s'.2 := by
  rcases opStep_cases rx env st sg c s s' q h with rfl | ⟨opq, _, hm⟩
  · exact hn
  · exact (mergeAll_upd n opq s s' hm).2 (.inl hn)

theorem opStep_hit {s s' : MState} {q : Op × Option String} {k scope : String}
    (hk : keyOf env q = .ok (some k)) (hscope : opScope sg q.1 = .ok scope)
    (hsel : (Recipe.resolve rx st k scope).1 = Tables.algMinMax)
    {i : Int} (hi : i ∈ q.1.inputs ++ q.1.outputs) (hi1 : i ≠ -1) {t : Tensor}
    (ht : tensorAt sg i = .ok t) (hnc : constAny env t = none)
    (h : opStep rx env st sg c s q = .ok s') : t.name ∈ s'.2 := by
  obtain ⟨opq, hc, hm⟩ := PyM.bind_eq_ok_iff.1 (gate_sel hk hscope hsel h)
  exact (mergeAll_upd t.name opq s s' hm).2
    (.inr (calibrateOp_key env sg q.1 c opq hc i hi hi1 t ht hnc))

end Sample

section Lookup
variable {rx : String → String → Bool} {env : Env} {st : Recipe.State} {sgi : Nat} {q0 qs : Qsvs}
  {c : Contents}

/-- one sample, name by name: the names in `U` are updated, exactly once, to `ema old new`; every
    other entry is untouched; `U` holds only names of non-constant tensors of the calibrated subgraph,
    and the name of every runtime operand / result of a selected operator -/
theorem calibrateSample_lookup (h : calibrateSample rx env st sgi q0 c = .ok qs) :
    ∃ sg U, env.model.subgraphs[sgi]? = some sg ∧ SampleInv env sg q0 c (qs, U) ∧
      ∀ t, RuntimeSlot rx env st sg t → t.name ∈ U := by
  obtain ⟨sg, U, hsg, hf⟩ := sampleFold_ok h
  refine ⟨sg, U, hsg, ?_, ?_⟩
  · exact PyM.foldlM_inv (opStep rx env st sg c) (SampleInv env sg q0 c) (allOps sg) (q0, []) (qs, U)
      ⟨fun _ hn => (nomatch hn), fun _ _ => rfl, fun _ hn => (nomatch hn)⟩
      (fun q _ s s' hs hstep => opStep_inv hs hstep) hf
  · rintro t ⟨op, k, scope, i, hop, hscope, hsel, hi, hi1, ht, hnc⟩
    obtain ⟨q, hq, rfl, hqk⟩ := hop.mem_allOps
    exact PyM.foldlM_reach (opStep rx env st sg c) (fun s => t.name ∈ s.2) (allOps sg) (q0, []) (qs, U)
      (fun _ _ _ _ hn hs => opStep_mono hn hs) q hq (fun _ _ hs => opStep_hit hqk hscope hsel hi hi1 ht hnc hs) hf

/-- a property of the entry of `n` that every `ema` step keeps survives a run of samples, whether or not they update `n` -/
theorem samples_rule {samples : List Contents}
    (h : samples.foldlM (calibrateSample rx env st sgi) q0 = .ok qs) (n : String) (J : Option Qsv → Prop)
    (h0 : J (Py.dictGet? q0 n))
    (hstep : ∀ c ∈ samples, ∀ o m v, J o → sampleStat n c = .ok m → ema o.join m = .ok v → J (some v)) :
    J (Py.dictGet? qs n) := by
  refine PyM.foldlM_inv _ (fun s => J (Py.dictGet? s n)) samples q0 qs h0 (fun c hc s s' hs hstep' => ?_) h
  obtain ⟨sg, U, _, hI, _⟩ := calibrateSample_lookup hstep'
  by_cases hU : n ∈ U
  · obtain ⟨m, v, hm, hv, hg⟩ := hI.upd n hU
    rw [hg]; exact hstep c hc _ m v hs hm hv
  · rwa [hI.rest n hU]

theorem foldlM_calibrateSample_nil {D : List Contents}
    (h : D.foldlM (calibrateSample rx env st sgi) q0 = .ok []) : q0 = [] := by
  cases q0 with
  | nil => rfl
  | cons e q0 =>
    exact absurd rfl (samples_rule h e.1 (· ≠ none) (by rw [Py.dictGet?_cons_self]; exact Option.some_ne_none _)
      fun _ _ _ _ _ _ _ _ => Option.some_ne_none _)

end Lookup

theorem resume (rx : String → String → Bool) (env : Env) (st : Recipe.State) (sgi : Nat)
    (D1 D2 : List Contents) (q1 : Qsvs)
    (h1 : calibrate rx env st sgi none D1 = .ok q1) :
    calibrate rx env st sgi (some q1) D2 = calibrate rx env st sgi none (D1 ++ D2) := by
  cases hneed : Recipe.needCalibration st
  · rw [calibrate_of_not_need hneed, calibrate_of_not_need hneed]
  · obtain ⟨q0, hq0, hD1⟩ := calibrate_cases hneed h1
    have hi : initModel rx env st = .ok q0 := hq0.elim (·.2) (fun h => nomatch h.1)
    -- one pass: the fold over `D1` ends in `q1`, the fold over `D2` continues from there
    rw [calibrate_of_need hneed, calibrate_of_need hneed]
    show _ = initModel rx env st >>= _
    rw [hi]
    show _ = (D1 ++ D2).foldlM _ q0
    rw [List.foldlM_append, hD1]
    show _ = D2.foldlM _ q1
    -- resumed: `initModel` runs again only if `q1` is empty, and then it gave `q1` already
    cases q1 with
    | nil => obtain rfl := foldlM_calibrateSample_nil hD1; rfl
    | cons e q => rfl

def HS (qs : Qsvs) (n : String) : Prop := ∃ v, Py.dictGet? qs n = some (some v)

theorem stats_complete (rx : String → String → Bool) (env : Env) (st : Recipe.State) (sgi : Nat)
    (sg : Subgraph) (hsg : env.model.subgraphs[sgi]? = some sg)
    (previous : Option Qsvs) (samples : List Contents) (hne : samples ≠ []) (qs : Qsvs)
    (hneed : Recipe.needCalibration st = true)
    (h : calibrate rx env st sgi previous samples = .ok qs)
    (op : Op) (k scope : String) (hop : IsOp env sg op k) (hscope : opScope sg op = .ok scope)
    (hsel : (Recipe.resolve rx st k scope).1 = Tables.algMinMax)
    (i : Int) (hi : i ∈ op.inputs ++ op.outputs) (hi1 : i ≠ -1) (t : Tensor) (ht : tensorAt sg i = .ok t)
    (hnc : constAny env t = none) :
    ∃ mn mx, Py.dictGet? qs t.name = some (some (mn, mx)) := by
  -- the run ends with `calibrateSample` on the last sample
  obtain ⟨q0, _, hfold⟩ := calibrate_cases hneed h
  rw [← List.dropLast_concat_getLast hne] at hfold
  obtain ⟨qm, _, hlast⟩ := PyM.foldlM_append_ok_iff.1 hfold
  obtain ⟨q', hc, hq'⟩ := PyM.foldlM_cons_ok_iff.1 hlast
  obtain rfl := PyM.pure_eq_ok_iff.1 hq'
  -- which updates the entry of `t` to `ema _ (some _)`
  obtain ⟨sg', U, hsg', hI, hU⟩ := calibrateSample_lookup hc
  obtain rfl : sg' = sg := Option.some.inj (hsg'.symm.trans hsg)
  obtain ⟨m, v, hm, hv, hg⟩ := hI.upd _ (hU t ⟨op, k, scope, i, hop, hscope, hsel, hi, hi1, ht, hnc⟩)
  obtain ⟨w, rfl⟩ := sampleStat_some hm
  obtain ⟨x, rfl⟩ := ema_some _ w v hv
  exact ⟨x.1, x.2, hg⟩

end CalibProofs
