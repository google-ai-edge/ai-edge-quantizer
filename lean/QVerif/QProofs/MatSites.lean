import QProofs.MatKind
import QProofs.PyLemmas
/-!
# Raise sites of the materialisation stage, as data

`Sited S x`: every error of the computation `x` satisfies the site predicate `S`.  One inductive site predicate per
function of `QModel/Materialize.lean` (`OpSite` → `StdSite` / `BiasSite` / `FixedSite` / `CastSite` → `TensorSite`;
`StepSite` and `GenSite` follow the loop in `MatLoop` / `MatTotal`), indexed by the error raised and by a Boolean
tag -- `true`: NUMERIC site (a failure of `tensor_zp_scale_from_min_max`, `uniform_quantize`,
`symmetric_quantize_bias_tensor`, the float16 cast, on the actual data), `false`: STRUCTURAL site.  The sites of one
tensor speak of the reference computation (`MatParams.tcfgOf`, `statsOf`, `refQDim`, `refParams`), defined first.
-/
open Graph Mat Arith Cfg Num Nd

set_option autoImplicit false

namespace MatParams

/-- the quantized dimension attached to the parameters (`_get_tensor_quant_params`): none unless the
    tensor config is CHANNELWISE; then the runtime kernel's dimension for the op's weight -/
def refQDim (env : Env) (oi : OpInfo) (tc : TCfg) (content : Option (Arr Rat)) : PyM (Option Nat) :=
  if tc.gran == .channelwise then
    if oi.opName == "BATCH_MATMUL" then
      match content with
      | some c => .ok (some (bmmQDim c.shape.length (opAdjY env oi)))
      | none => .error .attributeError
    else match Tables.weightQDim.find? (·.1 == oi.opName) with
      | some e => .ok (some e.2)
      | none => .error .keyError
  else .ok none

/-- the reference parameters: the min/max formula (`tensor_zp_scale_from_min_max`) applied to the
    statistics `(mn, mx)` under the configured bit width and symmetry -/
def refParams (bits : Nat) (sym : Bool) (qdim : Option Nat) (mn mx : FArr) : PyM QParams :=
  match zpScale bits sym mn mx with
  | .ok zs => .ok { bits := bits, qdim := qdim, scale := zs.2, zp := zs.1, symmetric := sym }
  | .error e => .error e

/-- the quantized values attached to the parameters of a constant -/
def refData (tc : TCfg) (content : Option (Arr Rat)) (qp : QParams) : PyM (Option IArr) :=
  match content with
  | none => .ok none
  | some c =>
    if tc.gran == .blockwise then .error .unsupported
    else match uniformQuantize ⟨c, .f32⟩ qp with
      | .ok q => .ok (some q)
      | .error e => .error e

def refTensorParams (env : Env) (oi : OpInfo) (tc : TCfg) (content : Option (Arr Rat)) (mn mx : FArr) : PyM Param :=
  match zpScale tc.bits.toNat tc.symmetric mn mx with
  | .error e => .error e
  | .ok zs =>
    match refQDim env oi tc content with
    | .error e => .error e
    | .ok qdim =>
      match refData tc content { bits := tc.bits.toNat, qdim := qdim, scale := zs.2, zp := zs.1, symmetric := tc.symmetric } with
      | .error e => .error e
      | .ok d => .ok (.uniform { bits := tc.bits.toNat, qdim := qdim, scale := zs.2, zp := zs.1, symmetric := tc.symmetric } d)

/-- the tensor config `wrapper` uses: the weight config for a constant operand of a weight-only /
    dynamic-range op, the activation config otherwise -/
def tcfgOf (env : Env) (oi : OpInfo) (t : Tensor) : Option TCfg :=
  if (constData env t).isSome && (Tables.woOps.contains oi.opName || Tables.drqOps.contains oi.opName)
  then oi.cfg.weight else oi.cfg.act

/-- the statistics `wrapper` uses (D36): for a constant, always the true min/max of its data
    under the current op config (an empty constant has none); the statistics dictionary is consulted
    only for runtime tensors -/
def statsOf (env : Env) (qsvs : Qsvs) (oi : OpInfo) (t : Tensor) : PyM Qsv :=
  match constData env t with
  | some d =>
    if d.data.isEmpty then .ok none
    else match initMinMax env oi t d with
      | .ok r => .ok (some r)
      | .error e => .error e
  | none =>
    match Py.dictGet? qsvs t.name with
    | some e => .ok e
    | none => .error .valueError

def weightBlockwise (oi : OpInfo) : Bool :=
  match oi.cfg.weight with | some w => w.gran == Gran.blockwise | none => false

end MatParams

namespace Pipe

def hasData : Param → Bool
  | .uniform _ d => d.isSome
  | .nonlinear _ d => d.isSome

/-- what `Mat.standardOp` (same-as-input) does to the parameter object of the data operand before
    handing it to the results: uniform parameters lose their quantized values -/
def stripData (p : Option Param) : Option Param :=
  match p with
  | some (.uniform qp (some _)) => some (.uniform qp none)
  | x => x

theorem stripData_nodata (p : Option Param) (hu : ∀ q, p = some q → ∃ qp d, q = .uniform qp d) :
    ∀ q, stripData p = some q → hasData q = false := by
  intro q hq
  cases p with
  | none => cases hq
  | some q0 =>
    obtain ⟨qp, d, rfl⟩ := hu q0 rfl
    cases d <;> cases hq <;> rfl

end Pipe

open Pipe

namespace MatTotal

def Sited {α} (S : PyErr → Prop) (x : PyM α) : Prop := ∀ e, x = .error e → S e

theorem Sited.ok {α} {S : PyErr → Prop} (a : α) : Sited S (.ok a : PyM α) := by
  intro e h; cases h

theorem Sited.pure {α} {S : PyErr → Prop} (a : α) : Sited S (pure a : PyM α) := Sited.ok a

theorem Sited.error {α} {S : PyErr → Prop} {e : PyErr} (h : S e) : Sited S (.error e : PyM α) := by
  intro e' h'; cases h'; exact h

theorem Sited.throw {α} {S : PyErr → Prop} {e : PyErr} (h : S e) : Sited S (throw e : PyM α) := Sited.error h

theorem Sited.mono {α} {S S' : PyErr → Prop} {x : PyM α} (h : Sited S x) (hS : ∀ e, S e → S' e) : Sited S' x :=
  fun e he => hS e (h e he)

theorem Sited.bind {α β} {S : PyErr → Prop} {x : PyM α} {f : α → PyM β} (hx : Sited S x)
    (hf : ∀ a, x = .ok a → Sited S (f a)) : Sited S (x >>= f) := by
  intro e h
  rcases PyM.bind_eq_error_iff.1 h with h | ⟨a, ha, h⟩
  · exact hx e h
  · exact hf a ha e h

theorem Sited.bind_error {α β} {S : PyErr → Prop} {e : PyErr} {f : α → PyM β} (h : S e) :
    Sited S ((.error e : PyM α) >>= f) := Sited.error h

theorem Sited.ite {α} {S : PyErr → Prop} (c : Prop) [Decidable c] {a b : PyM α}
    (ha : c → Sited S a) (hb : ¬ c → Sited S b) : Sited S (if c then a else b) := by
  by_cases h : c
  · rw [if_pos h]; exact ha h
  · rw [if_neg h]; exact hb h

theorem Sited.mapM {α β} {S : PyErr → Prop} (f : α → PyM β) : ∀ (l : List α),
    (∀ a ∈ l, Sited S (f a)) → Sited S (l.mapM f) := by
  intro l
  induction l with
  | nil => intro _; exact Sited.ok _
  | cons a as ih =>
    intro h
    rw [List.mapM_cons]
    refine Sited.bind (h a List.mem_cons_self) (fun b _ => ?_)
    refine Sited.bind (ih (fun c hc => h c (List.mem_cons_of_mem _ hc))) (fun bs _ => Sited.ok _)

theorem Sited.filterMapM {α β} {S : PyErr → Prop} (f : α → PyM (Option β)) : ∀ (l : List α),
    (∀ a ∈ l, Sited S (f a)) → Sited S (l.filterMapM f) := by
  intro l
  induction l with
  | nil => intro _; exact Sited.ok _
  | cons a as ih =>
    intro h
    rw [List.filterMapM_cons]
    refine Sited.bind (h a List.mem_cons_self) (fun b _ => ?_)
    have := ih (fun c hc => h c (List.mem_cons_of_mem _ hc))
    cases b with
    | none => exact this
    | some b => exact Sited.bind this (fun bs _ => Sited.ok _)

theorem Sited.foldlM {α β} {S : PyErr → Prop} (f : β → α → PyM β) (J : β → Prop) : ∀ (l : List α) (init : β),
    J init → (∀ a ∈ l, ∀ s, J s → Sited S (f s a) ∧ ∀ s', f s a = .ok s' → J s') →
    Sited S (l.foldlM f init) := by
  intro l
  induction l with
  | nil => intro init _ _; exact Sited.ok _
  | cons a as ih =>
    intro init h0 h
    rw [List.foldlM_cons]
    refine Sited.bind (h a List.mem_cons_self init h0).1 (fun s' hs' => ?_)
    exact ih s' ((h a List.mem_cons_self init h0).2 s' hs') (fun c hc => h c (List.mem_cons_of_mem _ hc))

theorem Sited.match_option {α β} {S : PyErr → Prop} (o : Option α) {a : PyM β} {f : α → PyM β}
    (ha : o = none → Sited S a) (hf : ∀ x, o = some x → Sited S (f x)) :
    Sited S (match o with | none => a | some x => f x) := by
  cases o with
  | none => exact ha rfl
  | some x => exact hf x rfl

theorem Sited.forIn {α β} {S : PyErr → Prop} (f : α → β → PyM (ForInStep β)) : ∀ (l : List α) (init : β),
    (∀ a ∈ l, ∀ s, Sited S (f a s)) → Sited S (forIn l init f) := by
  intro l
  induction l with
  | nil => intro init _; exact Sited.ok _
  | cons a as ih =>
    intro init h
    rw [List.forIn_cons]
    refine Sited.bind (h a List.mem_cons_self init) (fun r _ => ?_)
    cases r with
    | done b => exact Sited.ok _
    | yield b => exact ih b (fun c hc => h c (List.mem_cons_of_mem _ hc))

abbrev AnySite (S : Bool → PyErr → Prop) (e : PyErr) : Prop := ∃ num, S num e

open MatParams in
/-- **why the materialisation of ONE tensor for ONE operator can fail**.  `qs` is the statistics
    dictionary at that point of the run, `g` the parameters handed over by a constrained operator. -/
inductive TensorSite (env : Env) (qs : Qsvs) (oi : OpInfo) (t : Tensor) (inbound : Bool) (g : Option Param) :
    Bool → PyErr → Prop
  /-- a runtime tensor that must be quantized has no entry in the statistics (ValueError) -/
  | statsMissing (tc : TCfg) : g = none → tcfgOf env oi t = some tc → constData env t = none →
      Py.dictGet? qs t.name = none → TensorSite env qs oi t inbound g false .valueError
  /-- the statistics entry is `{}` (never updated), or the constant has no elements (ValueError) -/
  | statsEmpty (tc : TCfg) : g = none → tcfgOf env oi t = some tc → statsOf env qs oi t = .ok none →
      TensorSite env qs oi t inbound g false .valueError
  /-- min/max of a constant under a BLOCKWISE weight config (out of model: `unsupported`) -/
  | constBlockwise (tc : TCfg) (d : Arr Rat) : g = none → tcfgOf env oi t = some tc → constData env t = some d →
      weightBlockwise oi = true → TensorSite env qs oi t inbound g false .unsupported
  /-- `tensor_zp_scale_from_min_max` fails: min/max of shapes that do not broadcast (ValueError) or a
      non-finite intermediate (`nonfinite`) -/
  | zpScale (tc : TCfg) (mn mx : FArr) (e : PyErr) : g = none → tcfgOf env oi t = some tc →
      statsOf env qs oi t = .ok (some (mn, mx)) → Arith.zpScale tc.bits.toNat tc.symmetric mn mx = .error e →
      TensorSite env qs oi t inbound g true e
  /-- CHANNELWISE config on a tensor without a quantized dimension: a BATCH_MATMUL runtime operand
      (AttributeError), an operator outside the `weightQDim` table (KeyError) -/
  | qdim (tc : TCfg) (e : PyErr) : g = none → tcfgOf env oi t = some tc →
      refQDim env oi tc (constData env t) = .error e → TensorSite env qs oi t inbound g false e
  /-- quantized values of a constant under a BLOCKWISE tensor config (out of model: `unsupported`) -/
  | quantBlockwise (tc : TCfg) (d : Arr Rat) : g = none → tcfgOf env oi t = some tc → constData env t = some d →
      tc.gran = Gran.blockwise → TensorSite env qs oi t inbound g false .unsupported
  /-- quantizing the constant's values fails: parameter rank/shape mismatch (ValueError, `unsupported`),
      non-finite intermediate (`nonfinite`) -/
  | quantize (tc : TCfg) (d : Arr Rat) (mn mx : FArr) (qdim : Option Nat) (qp : QParams) (e : PyErr) : g = none →
      tcfgOf env oi t = some tc → constData env t = some d → statsOf env qs oi t = .ok (some (mn, mx)) →
      refQDim env oi tc (constData env t) = .ok qdim → refParams tc.bits.toNat tc.symmetric qdim mn mx = .ok qp →
      tc.gran ≠ Gran.blockwise → uniformQuantize ⟨d, .f32⟩ qp = .error e → TensorSite env qs oi t inbound g true e
  /-- a constant that borrows data-free parameters (D21) cannot be quantized with them -/
  | givenQuantize (qp : QParams) (d : Arr Rat) (e : PyErr) : g = some (.uniform qp none) → constData env t = some d →
      uniformQuantize ⟨d, .f32⟩ qp = .error e → TensorSite env qs oi t inbound g true e
  /-- `get_tensor_transformations`: the op config is none of static-range / weight-only-integer /
      blockwise-emulated / float-with-explicit-dequantize (ValueError) -/
  | xfs (e : PyErr) : tensorXfs oi.cfg inbound (constData env t).isSome = .error e → TensorSite env qs oi t inbound g false e

/-- an operand / result slot that does not name a tensor of the subgraph (IndexError; excluded by
    `WF.modelOK`) -/
def SlotSite (sg : Subgraph) (slots : List Int) (e : PyErr) : Prop := ∃ a ∈ slots, tensorAt sg a = .error e

/-- `t` is a tensor `standardOp` quantizes: in a non-absent operand (`inbound`) / result slot, float32, position not in `given` -/
def SlotTensor (sg : Subgraph) (op : Op) (inbound : Bool) (given : List Nat) (t : Tensor) : Prop :=
  ∃ (i : Nat) (a : Int), (if inbound then op.inputs else op.outputs)[i]? = some a ∧ a ≠ -1 ∧
    tensorAt sg a = .ok t ∧ t.dtype = Tables.ttFloat32 ∧ i ∉ given

/-- the float operands / results `standardOp` materialises (in slot order) -/
def FloatSlots (sg : Subgraph) (slots : List Int) (given : List Nat) (ts : List Tensor) : Prop :=
  ∃ ign sel upd, ignoredSlots sg slots given = .ok ign ∧ splitTensors sg slots ign = .ok (sel, ts, upd)

/-- where the parameters handed to a per-tensor materialisation come from -/
inductive GivenFrom (env : Env) (sg : Subgraph) (qs : Qsvs) (oi : OpInfo) (con : Constraint) (gi go : List Nat) :
    Bool → Option Param → Prop
  | none (inbound : Bool) : (con = .none ∨ (con = .sameAsInput ∧ inbound = true) ∨ (con = .sameAsOutput ∧ inbound = false)) →
      GivenFrom env sg qs oi con gi go inbound none
  /-- same-as-input: the results get the parameters of the data operand, stripped of its values -/
  | fromInput (t : Tensor) (ir : CReq) (p0 : Option Param) : con = .sameAsInput →
      FloatSlots sg oi.op.inputs gi [t] → wrapper env qs oi t true none = .ok ir → reqParam0 ir = .ok p0 →
      GivenFrom env sg qs oi con gi go false (stripData p0)
  /-- same-as-output: the operands get the parameters of the result -/
  | fromOutput (t : Tensor) (orq : CReq) : con = .sameAsOutput →
      FloatSlots sg oi.op.outputs go [t] → wrapper env qs oi t false none = .ok orq →
      GivenFrom env sg qs oi con gi go true (match orq.producer with | some pr => pr.param | none => none)

/-- **why `materialize_standard_op` can fail** -/
inductive StdSite (env : Env) (sg : Subgraph) (qs : Qsvs) (oi : OpInfo) (con : Constraint) (gi go : List Nat) :
    Bool → PyErr → Prop
  | slot (e : PyErr) : SlotSite sg (oi.op.inputs ++ oi.op.outputs) e → StdSite env sg qs oi con gi go false e
  /-- a same-as-input operator with float operands/results that does not have exactly one float operand (ValueError) -/
  | arityIn (inT outT : List Tensor) : con = .sameAsInput → FloatSlots sg oi.op.inputs gi inT →
      FloatSlots sg oi.op.outputs go outT → ¬ (inT = [] ∧ outT = []) → inT.length ≠ 1 →
      StdSite env sg qs oi con gi go false .valueError
  /-- a same-as-output operator with float operands/results that does not have exactly one float result (ValueError) -/
  | arityOut (inT outT : List Tensor) : con = .sameAsOutput → FloatSlots sg oi.op.inputs gi inT →
      FloatSlots sg oi.op.outputs go outT → ¬ (inT = [] ∧ outT = []) → outT.length ≠ 1 →
      StdSite env sg qs oi con gi go false .valueError
  | tensor (num : Bool) (t : Tensor) (inbound : Bool) (g : Option Param) (e : PyErr) (ts : List Tensor) :
      SlotTensor sg oi.op inbound (if inbound then gi else go) t →
      FloatSlots sg (if inbound then oi.op.inputs else oi.op.outputs) (if inbound then gi else go) ts → t ∈ ts → GivenFrom env sg qs oi con gi go inbound g →
      TensorSite env qs oi t inbound g num e → StdSite env sg qs oi con gi go num e
  /-- same-as-input: the data operand has no statistics entry to copy to the results (KeyError) -/
  | copyStats (t : Tensor) (outT : List Tensor) : con = .sameAsInput → FloatSlots sg oi.op.inputs gi [t] →
      FloatSlots sg oi.op.outputs go outT → Py.dictGet? qs t.name = none →
      StdSite env sg qs oi con gi go false .keyError

/-- **why `_materialize_bias_for_conv_ops` can fail** (`reqs`: the requests of the operator so far) -/
inductive BiasSite (env : Env) (sg : Subgraph) (oi : OpInfo) (reqs : List CReq) (iIn iW iB : Nat) : Bool → PyErr → Prop
  | slot (e : PyErr) : SlotSite sg oi.op.inputs e → BiasSite env sg oi reqs iIn iW iB false e
  /-- static-range quantization of a bias that is not a constant (out of model: `unsupported`) -/
  | notConst (a : Int) (bt : Tensor) : oi.op.inputs[iB]? = some a → a ≠ -1 → tensorAt sg a = .ok bt → isSRQ oi.cfg = true →
      constData env bt = none → BiasSite env sg oi reqs iIn iW iB false .unsupported
  /-- no request at the data / weight position (IndexError) -/
  | reqIndex : isSRQ oi.cfg = true → (reqs[iIn]? = none ∨ reqs[iW]? = none) → BiasSite env sg oi reqs iIn iW iB false .indexError
  /-- the request at the data / weight position has no consumer entry (TypeError) -/
  | reqShape (r : CReq) (e : PyErr) : isSRQ oi.cfg = true → (reqs[iIn]? = some r ∨ reqs[iW]? = some r) → reqParam0 r = .error e →
      BiasSite env sg oi reqs iIn iW iB false e
  /-- data or weight carry no uniform parameters (AttributeError) -/
  | params (rin rw : CReq) (pin pw : Option Param) : isSRQ oi.cfg = true → reqs[iIn]? = some rin → reqs[iW]? = some rw →
      reqParam0 rin = .ok pin → reqParam0 rw = .ok pw →
      (∀ qi di qw dw, ¬ (pin = some (.uniform qi di) ∧ pw = some (.uniform qw dw))) →
      BiasSite env sg oi reqs iIn iW iB false .attributeError
  /-- `symmetric_quantize_bias_tensor` fails (scale shapes, non-finite intermediate) on the parameters of the
      data and weight requests -/
  | quantize (a : Int) (bt : Tensor) (bd : Arr Rat) (rin rw : CReq) (qi qw : QParams) (di dw : Option IArr) (e : PyErr) :
      oi.op.inputs[iB]? = some a → a ≠ -1 → tensorAt sg a = .ok bt → isSRQ oi.cfg = true → constData env bt = some bd →
      reqs[iIn]? = some rin → reqs[iW]? = some rw → reqParam0 rin = .ok (some (.uniform qi di)) →
      reqParam0 rw = .ok (some (.uniform qw dw)) → quantizeBias ⟨bd, .f32⟩ qi qw = .error e →
      BiasSite env sg oi reqs iIn iW iB true e
  | xfs (e : PyErr) : tensorXfs oi.cfg true (isSRQ oi.cfg) = .error e → BiasSite env sg oi reqs iIn iW iB false e
  /-- the bias position is beyond the request list (IndexError) -/
  | position (a : Int) : oi.op.inputs[iB]? = some a → a ≠ -1 → ¬ iB < reqs.length → BiasSite env sg oi reqs iIn iW iB false .indexError

/-- **why `materialize_op_with_output_activation_constraint` (SOFTMAX, LOGISTIC, TANH) can fail** -/
inductive FixedSite (env : Env) (sg : Subgraph) (qs : Qsvs) (oi : OpInfo) (sl : Bool) : Bool → PyErr → Prop
  /-- the operator does not have exactly one result (ValueError) -/
  | outputs : oi.op.outputs.length ≠ 1 → FixedSite env sg qs oi sl false .valueError
  | std (num : Bool) (e : PyErr) : StdSite env sg qs oi .none [] [] num e → FixedSite env sg qs oi sl num e
  /-- no hard-coded output range for this activation bit width (ValueError) -/
  | bits (a : TCfg) : oi.cfg.act = some a → fixedParams sl a.bits.toNat = none → FixedSite env sg qs oi sl false .valueError
  /-- dequantizing the range ends of the hard-coded parameters fails -/
  | minMax (a : TCfg) (fp : QParams) (e : PyErr) : oi.cfg.act = some a → fixedParams sl a.bits.toNat = some fp →
      minMaxFromParams a.bits.toNat a.symmetric fp = .error e → FixedSite env sg qs oi sl false e
  /-- the result has no statistics entry to overwrite (KeyError) -/
  | stats (reqs : List CReq) (qs' : Qsvs) (last : CReq) : standardOp env sg qs oi .none [] [] = .ok (reqs, qs') →
      reqs.getLast? = some last → last.producer.isSome = true → Py.dictGet? qs' last.name = none →
      FixedSite env sg qs oi sl false .keyError

/-- **why the float-casting materialisation can fail** -/
inductive CastSite (env : Env) (sg : Subgraph) (oi : OpInfo) (iIn iW iB : Nat) : Bool → PyErr → Prop
  /-- the operator has no data / weight operand or no result (IndexError) -/
  | noSlot : (oi.op.inputs[iIn]? = none ∨ oi.op.inputs[iW]? = none ∨ oi.op.outputs[0]? = none) →
      CastSite env sg oi iIn iW iB false .indexError
  | slot (e : PyErr) : SlotSite sg (oi.op.inputs ++ oi.op.outputs) e → CastSite env sg oi iIn iW iB false e
  /-- the weight is not a constant (AttributeError) -/
  | weightNotConst (a : Int) (tw : Tensor) : oi.op.inputs[iW]? = some a → tensorAt sg a = .ok tw →
      constData env tw = none → CastSite env sg oi iIn iW iB false .attributeError
  /-- a weight value overflows float16 (`nonfinite`) -/
  | f16 (a : Int) (tw : Tensor) (wd : Arr Rat) (x : Rat) (e : PyErr) : oi.op.inputs[iW]? = some a → tensorAt sg a = .ok tw →
      constData env tw = some wd → x ∈ wd.data → Prec.f16.chk x = .error e → CastSite env sg oi iIn iW iB true e

/-- **why the materialisation of one operator can fail**, by the `Kind` of its registered function -/
inductive OpSite (env : Env) (sg : Subgraph) (qs : Qsvs) (oi : OpInfo) : Kind → Bool → PyErr → Prop
  /-- the registered function is not modelled (never for the regenerated registry: `Pipe.kind_facts`) -/
  | unknown : OpSite env sg qs oi .unknown false .unsupported
  | std (num : Bool) (con : Constraint) (gi : List Nat) (e : PyErr) : StdSite env sg qs oi con gi [] num e →
      OpSite env sg qs oi (.std con gi) num e
  | convStd (num : Bool) (e : PyErr) : StdSite env sg qs oi .none [2] [] num e → OpSite env sg qs oi .conv num e
  | convBias (num : Bool) (r : List CReq) (q : Qsvs) (e : PyErr) : standardOp env sg qs oi .none [2] [] = .ok (r, q) →
      BiasSite env sg oi r 0 1 2 num e → OpSite env sg qs oi .conv num e
  | convTStd (num : Bool) (e : PyErr) : StdSite env sg qs oi .none [0, 3] [] num e → OpSite env sg qs oi .convT num e
  /-- CONV_2D_TRANSPOSE with fewer than two operands/results in all (ValueError) -/
  | convTArity (r : List CReq) (q : Qsvs) : standardOp env sg qs oi .none [0, 3] [] = .ok (r, q) → r.length < 2 →
      OpSite env sg qs oi .convT false .valueError
  | convTBias (num : Bool) (r : List CReq) (q : Qsvs) (e : PyErr) : standardOp env sg qs oi .none [0, 3] [] = .ok (r, q) →
      BiasSite env sg oi r 2 1 3 num e → OpSite env sg qs oi .convT num e
  | fixed (num : Bool) (sl : Bool) (e : PyErr) : FixedSite env sg qs oi sl num e → OpSite env sg qs oi (.fixed sl) num e
  | cast (num : Bool) (a b c : Nat) (e : PyErr) : CastSite env sg oi a b c num e → OpSite env sg qs oi (.cast a b c) num e

end MatTotal
