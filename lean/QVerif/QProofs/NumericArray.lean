import QProofs.NumericScalar
import QProofs.MatParams
import QProofs.ParamAPI
/-!
# Array totality of the arithmetic (C08, numeric half)

`zipB`, `Arith.zpScale`, `Arith.uniformQuantize`, `Arith.quantizeBias` return whenever the shapes broadcast and
the scalar cores succeed on the elements they are applied to (`NumericScalar`).  At the end `MatTotal.StatGood`, here because
the structural and the numeric ladder (`MatTotalOps`, `NumericSites`) both use it.
-/
open Nd Arith ArithL MatParams

set_option autoImplicit false

namespace NumT

theorem zipB_mem {α β γ} [Inhabited α] [Inhabited β] (f : α → β → PyM γ) (a : Arr α) (b : Arr β) (c : Arr γ)
    (h : zipB f a b = .ok c) (x : γ) (hx : x ∈ c.data) :
    ∃ rs i, bshapeAny a.shape b.shape = some rs ∧ i < numel rs ∧
      f (a.data.getD (bindex rs a.shape i) default) (b.data.getD (bindex rs b.shape i) default) = .ok x := by
  obtain ⟨hrs, hd⟩ := zipB_ok_iff.1 h
  obtain ⟨i, hi, hxi⟩ := PyM.mapM_ok _ _ _ hd x hx
  exact ⟨c.shape, i, hrs, List.mem_range.1 hi, hxi⟩

structure StatFin (mn mx : FArr) : Prop where
  prMn : F3264 mn.pr
  prMx : F3264 mx.pr
  shape : mn.arr.shape = mx.arr.shape
  bMn : ∀ v ∈ mn.arr.data, |v| ≤ B
  bMx : ∀ v ∈ mx.arr.data, |v| ≤ B

theorem B_zero : |(0:Rat)| ≤ B := by rw [abs_zero]; exact B_pos.le

theorem getD_bounded (l : List Rat) (i : Nat) (h : ∀ v ∈ l, |v| ≤ B) : |l.getD i default| ≤ B :=
  getD_all h B_zero i

/-- usable quantization parameters; `L` is the lower bound of the scales -/
structure QPGood (L : Rat) (qp : QParams) : Prop where
  pr : F3264 qp.scale.pr
  shape : qp.scale.arr.shape = qp.zp.arr.shape
  slen : qp.scale.arr.data.length = numel qp.scale.arr.shape
  zlen : qp.zp.arr.data.length = numel qp.scale.arr.shape
  lo : ∀ s ∈ qp.scale.arr.data, L ≤ s
  zp : ∀ z ∈ qp.zp.arr.data, |((z : Int) : Rat)| ≤ (2:Rat)^(63:Int)

theorem QPGood.mono {L L' : Rat} {qp : QParams} (h : QPGood L qp) (hl : L' ≤ L) : QPGood L' qp :=
  { pr := h.pr, shape := h.shape, slen := h.slen, zlen := h.zlen, lo := fun s hs => le_trans hl (h.lo s hs), zp := h.zp }

theorem zpScale_total (bits : Nat) (hb2 : 2 ≤ bits) (hb16 : bits ≤ 16) (sym : Bool) (mn mx : FArr) (S : StatFin mn mx) :
    ∃ zs, zpScale bits sym mn mx = .ok zs := by
  obtain ⟨both, hb⟩ := zipB_total_all (f := fun a b => zpScale1 (mn.pr.join mx.pr) bits sym a b)
    (by rw [← S.shape]; exact bshapeAny_self _) S.bMn S.bMx B_zero B_zero
    (fun x y hx hy => let ⟨z, s, h, _⟩ := zpScale1_total _ (F3264.join S.prMn S.prMx) bits hb2 hb16 sym x y hx hy; ⟨_, h⟩)
  exact ⟨_, PyM.bind_eq_ok_iff.2 ⟨both, hb, rfl⟩⟩

theorem zpScale_good (bits : Nat) (hb2 : 2 ≤ bits) (hb16 : bits ≤ 16) (sym : Bool) (mn mx : FArr) (S : StatFin mn mx)
    (qdim : Option Nat) (zp : IArr) (scale : FArr) (h : zpScale bits sym mn mx = .ok (zp, scale)) :
    QPGood sLo { bits := bits, qdim := qdim, scale := scale, zp := zp, symmetric := sym } ∧
    scale.arr.shape = mn.arr.shape ∧ (∀ s ∈ scale.arr.data, s ≤ B) := by
  have hj := F3264.join S.prMn S.prMx
  obtain ⟨hp, -, s2, s1, hP⟩ := (MatParams.zpScale_ok_iff _ _ mn mx _ rfl S.shape.symm _ _).1 h
  have chan : ∀ j z s, zpScale1 (mn.pr.join mx.pr) bits sym (mn.arr.data.getD j 0) (mx.arr.data.getD j 0) = .ok (z, s) →
      sLo ≤ s ∧ s ≤ B ∧ |((z : Int) : Rat)| ≤ (2:Rat)^(63:Int) := fun j z s hk => by
    obtain ⟨-, rfl, rfl⟩ := zpScale1_ok_iff.1 hk
    exact ⟨chanScale_ge _ hj.ne16 bits hb2 hb16 sym _ _, chanScale_le _ hj.ne16 bits hb2 hb16 sym _ _ 63 (by norm_num)
      (getD_bounded _ j S.bMn) (getD_bounded _ j S.bMx), chanZp_abs _ _ _ _ _⟩
  refine ⟨⟨hp ▸ hj, s2.trans s1.symm, by rw [hP.scLen, s2], by rw [hP.zpLen, s2], fun s hs => ?_, fun z hz => ?_⟩, s2, fun s hs => ?_⟩
  · obtain ⟨j, z, hk⟩ := hP.of_mem_sc hs; exact (chan j z s hk).1
  · obtain ⟨j, s, hk⟩ := hP.of_mem_zp hz; exact (chan j z s hk).2.2
  · obtain ⟨j, z, hk⟩ := hP.of_mem_sc hs; exact (chan j z s hk).2.1

theorem uniformQuantize_total (x : FArr) (qp : QParams) (hx : F3264 x.pr) (hxb : ∀ v ∈ x.arr.data, |v| ≤ B)
    (G : QPGood ((2:Rat)^(-60:Int)) qp) (hc : Compat qp.scale.arr.shape x.arr.shape) :
    ∃ q, uniformQuantize x qp = .ok q := by
  -- every element meets the scale and the zero point of its channel, inside the parameter arrays
  obtain ⟨d, hd⟩ := PyM.mapM_total (fun i => quantize1 x.pr qp.scale.pr qp.zp.w qp.bits qp.symmetric (x.arr.data.getD i 0)
      (qp.scale.arr.data.getD (bindex x.arr.shape qp.scale.arr.shape i) 0)
      (qp.zp.arr.data.getD (bindex x.arr.shape qp.scale.arr.shape i) 0)) (List.range (numel x.arr.shape)) (fun i hi => by
    have hj := bindex_compat_lt hc i (List.mem_range.1 hi)
    exact quantize1_total x.pr qp.scale.pr hx G.pr _ _ _ _ _ _ (getD_bounded _ i hxb)
      (G.lo _ (List.getD_mem _ _ _ (G.slen ▸ hj))) (G.zp _ (List.getD_mem _ _ _ (G.zlen ▸ hj))))
  exact ⟨_, by rw [uniformQuantize_fit x qp G.shape hc, hd]; rfl⟩

theorem numel_filter (s : List Nat) : numel (s.filter (· ≠ 1)) = numel s := by
  induction s with
  | nil => rfl
  | cons a s ih =>
    by_cases h : a = 1
    · subst h
      rw [List.filter_cons_of_neg (by simp), ih, numel_cons, Nat.one_mul]
    · rw [List.filter_cons_of_pos (by simpa using h), numel_cons, numel_cons, ih]

theorem numel_ones' (s : List Nat) (h : ∀ d ∈ s, d = 1) : numel s = 1 := by
  induction s with
  | nil => rfl
  | cons a s ih =>
    rw [numel_cons, h a List.mem_cons_self, ih (fun d hd => h d (List.mem_cons_of_mem _ hd))]

/-- at most one dimension differs from 1 (a per-tensor or per-channel parameter array) -/
def OneDim (s : List Nat) : Prop := (s.filter (· ≠ 1)).length ≤ 1

theorem filter_padLeft (n : Nat) (s : List Nat) : (padLeft n s).filter (· ≠ 1) = s.filter (· ≠ 1) := by
  unfold padLeft
  rw [List.filter_append]
  have : (List.replicate (n - s.length) 1).filter (· ≠ 1) = [] := by
    rw [List.filter_eq_nil_iff]
    intro a ha
    rw [List.eq_of_mem_replicate ha]
    simp
  rw [this, List.nil_append]

theorem oneDim_ones (s : List Nat) (h : ∀ d ∈ s, d = 1) : OneDim s := by
  unfold OneDim
  have : s.filter (· ≠ 1) = [] := by
    rw [List.filter_eq_nil_iff]
    intro a ha
    rw [h a ha]
    simp
  rw [this]
  exact Nat.zero_le _

theorem squeeze1_eq (a : Arr Rat) : squeeze1 a =
    if (a.shape.filter (· ≠ 1)).isEmpty then ⟨[1], a.data⟩ else ⟨a.shape.filter (· ≠ 1), a.data⟩ := rfl

theorem squeeze1_oneDim (a : Arr Rat) (h : OneDim a.shape) : (squeeze1 a).shape = [numel a.shape] ∧ (squeeze1 a).data = a.data := by
  rw [squeeze1_eq]
  have hn := numel_filter a.shape
  unfold OneDim at h
  rcases hf : a.shape.filter (· ≠ 1) with _ | ⟨c, _ | ⟨c', l⟩⟩
  · rw [hf] at hn
    simp only [hf, List.isEmpty_nil, if_true]
    exact ⟨by rw [← hn]; rfl, trivial⟩
  · rw [hf] at hn
    simp only [hf, List.isEmpty_cons, Bool.false_eq_true, if_false]
    refine ⟨?_, trivial⟩
    rw [← hn, numel_cons, numel_nil, Nat.mul_one]
  · rw [hf] at h
    simp at h

theorem compat_ones : ∀ (s r : List Nat), (∀ x ∈ s, x = 1) → s.length = r.length → Compat s r := by
  intro s
  induction s with
  | nil =>
    intro r _ hl
    cases r with
    | nil => exact List.Forall₂.nil
    | cons _ _ => cases hl
  | cons x s ih =>
    intro r h hl
    cases r with
    | nil => cases hl
    | cons y r =>
      exact List.Forall₂.cons (.inl (h x List.mem_cons_self))
        (ih r (fun z hz => h z (List.mem_cons_of_mem _ hz)) (by simpa using hl))

theorem padLeft_ones (n : Nat) (s : List Nat) (h : ∀ d ∈ s, d = 1) : ∀ d ∈ padLeft n s, d = 1 := by
  intro d hd
  unfold padLeft at hd
  rcases List.mem_append.1 hd with h1 | h1
  · exact List.eq_of_mem_replicate h1
  · exact h d h1

theorem bproj_ones : ∀ (s idx : List Nat), (∀ d ∈ s, d = 1) → ravel s (bproj s idx) = 0 := by
  intro s
  induction s with
  | nil => intro idx _; cases idx <;> rfl
  | cons d s ih =>
    intro idx h
    cases idx with
    | nil => rfl
    | cons i idx =>
      simp only [bproj, ravel, h d List.mem_cons_self, if_true, Nat.zero_mul, Nat.zero_add]
      exact ih idx (fun d hd => h d (List.mem_cons_of_mem _ hd))

theorem bindex_ones (rs s : List Nat) (h : ∀ d ∈ s, d = 1) (i : Nat) : bindex rs s i = 0 := by
  unfold bindex
  exact bproj_ones _ _ (padLeft_ones _ _ h)

theorem bshapeAny_ones_left (a b : List Nat) (h : ∀ d ∈ a, d = 1) :
    bshapeAny a b = some (padLeft (max a.length b.length) b) := by
  unfold bshapeAny
  exact bshape_compat' (compat_ones _ _ (padLeft_ones _ _ h) (by rw [padLeft_length, padLeft_length]; omega))

theorem quantizeBias_total (bd : Arr Rat) (n : Nat) (qi qw : QParams) (hbs : bd.shape = [n]) (hbb : ∀ v ∈ bd.data, |v| ≤ B)
    (Gi : QPGood sLo qi) (Gw : QPGood sLo qw) (hiB : ∀ s ∈ qi.scale.arr.data, s ≤ B) (hwB : ∀ s ∈ qw.scale.arr.data, s ≤ B)
    (hones : ∀ d ∈ qi.scale.arr.shape, d = 1) (hone : OneDim qw.scale.arr.shape)
    (hch : numel qw.scale.arr.shape = 1 ∨ numel qw.scale.arr.shape = n) :
    ∃ r, quantizeBias ⟨bd, .f32⟩ qi qw = .ok r := by
  have hj := F3264.join Gi.pr Gw.pr
  have hrs := bshapeAny_ones_left _ qw.scale.arr.shape hones
  have hI : ∀ s ∈ qi.scale.arr.data, sLo ≤ s ∧ s ≤ B := fun s hs => ⟨Gi.lo s hs, hiB s hs⟩
  have hW : ∀ s ∈ qw.scale.arr.data, sLo ≤ s ∧ s ≤ B := fun s hs => ⟨Gw.lo s hs, hwB s hs⟩
  -- the product of the scales: in `[2^-60, 2^126]`, of the weight scale's shape up to leading ones
  obtain ⟨prod, hprod⟩ := zipB_total_wf (f := fun a b => (qi.scale.pr.join qw.scale.pr).chk (a * b)) hrs Gi.slen Gw.slen hI hW
    (fun a b ha hb => let ⟨s, h, _⟩ := scaleProd_total _ hj a b ha.1 ha.2 hb.1 hb.2; ⟨s, h⟩)
  have hlo := zipB_all_wf hprod Gi.slen Gw.slen (R := fun s => (2:Rat)^(-60:Int) ≤ s) hI hW (fun a b z ha hb hz => by
    obtain ⟨s, h, hs⟩ := scaleProd_total _ hj a b ha.1 ha.2 hb.1 hb.2
    cases h.symm.trans hz
    exact hs)
  obtain ⟨hpshape, hplen⟩ := zipB_shape hprod
  have hpshape : prod.shape = padLeft (max qi.scale.arr.shape.length qw.scale.arr.shape.length) qw.scale.arr.shape :=
    (Option.some.inj (hrs.symm.trans hpshape)).symm
  obtain ⟨hes, hed⟩ := squeeze1_oneDim prod (by unfold OneDim; rw [hpshape, filter_padLeft]; exact hone)
  have hnum : numel prod.shape = numel qw.scale.arr.shape := by rw [hpshape, numel_padLeft]
  have hlen : (squeeze1 prod).data.length = numel (squeeze1 prod).shape := by
    rw [hed, hes, numel_cons, numel_nil, Nat.mul_one, hplen]
  obtain ⟨q, hq⟩ := uniformQuantize_total ⟨bd, .f32⟩
      { bits := if qi.bits = 16 then 64 else 32,
        qdim := if (squeeze1 prod).shape.head? = some 1 then none else some 0,
        scale := ⟨squeeze1 prod, qi.scale.pr.join qw.scale.pr⟩,
        zp := ⟨(squeeze1 prod).map (fun _ => 0), 32⟩, symmetric := true } (.inl rfl) hbb
    { pr := hj, shape := rfl, slen := hlen, zlen := (List.length_map _).trans hlen
      lo := fun s hs => hlo s (hed ▸ hs)
      zp := fun z hz => by
        obtain ⟨_, _, rfl⟩ := List.mem_map.1 hz
        rw [Int.cast_zero, abs_zero]
        exact (Rounding.two_zpow_pos _).le }
    (by
      show Compat (squeeze1 prod).shape bd.shape
      rw [hes, hnum, hbs]
      exact List.Forall₂.cons hch List.Forall₂.nil)
  exact ⟨(_, q), quantizeBias_ok_iff.2 ⟨prod, hprod, rfl, hq⟩⟩

/-- beyond `B`: a bias of `2^80` with the smallest scales a 16-bit activation / 8-bit weight config can produce overflows
    float32 in `bias / (s_in · s_w)`; data and weights of magnitude `2^71` give scales (`≈ 2^64` each) whose float32 product
    overflows -- `B = 2^63` is within 8 binary orders of the best possible bound … -/
theorem bias_overflow :
    isNonfinite (quantizeBias ⟨⟨[1], [(2:Rat)^80]⟩, .f32⟩
      { bits := 16, qdim := none, scale := ⟨⟨[1], [1/655350000]⟩, .f32⟩, zp := ⟨⟨[1], [0]⟩, 16⟩, symmetric := false }
      { bits := 8, qdim := none, scale := ⟨⟨[1], [1/1270000]⟩, .f32⟩, zp := ⟨⟨[1], [0]⟩, 8⟩, symmetric := true }) = true ∧
    isNonfinite (quantizeBias ⟨⟨[1], [1]⟩, .f32⟩
      { bits := 8, qdim := none, scale := ⟨⟨[1], [(2:Rat)^64]⟩, .f32⟩, zp := ⟨⟨[1], [0]⟩, 8⟩, symmetric := false }
      { bits := 8, qdim := none, scale := ⟨⟨[1], [(2:Rat)^64]⟩, .f32⟩, zp := ⟨⟨[1], [0]⟩, 8⟩, symmetric := true }) = true := by
  constructor <;> decide +kernel

/-- … and scales whose product underflows to 0 in float32 make it fail whatever the bias (findings D25 / D33): such scales
    are below `2^-30`, which `tensor_zp_scale_from_min_max` never returns (`min_bound = 1e-4`) -/
theorem bias_underflow :
    isNonfinite (quantizeBias ⟨⟨[1], [1]⟩, .f32⟩
      { bits := 8, qdim := none, scale := ⟨⟨[1], [(2:Rat)^(-80:Int)]⟩, .f32⟩, zp := ⟨⟨[1], [0]⟩, 8⟩, symmetric := false }
      { bits := 8, qdim := none, scale := ⟨⟨[1], [(2:Rat)^(-80:Int)]⟩, .f32⟩, zp := ⟨⟨[1], [0]⟩, 8⟩, symmetric := true }) = true := by
  decide +kernel

end NumT

namespace MatTotal
open NumT

/-- good statistics of a runtime tensor: finite (float32 / float64 / `exact`, `min` and `max` of one shape, magnitudes within
    `NumT.B = 2^63`) and per-tensor (every dimension of the arrays is 1: what `calibrate()` records, `keepdims=True`) -/
structure StatGood (mn mx : FArr) : Prop where
  fin : StatFin mn mx
  ones : ∀ d ∈ mn.arr.shape, d = 1

theorem reduceKeep_bounded (f : Rat → Rat → Rat) (R : Rat → Rat → Prop) (hf : Sel f R) (a : Arr Rat) (dims : Option (List Nat))
    (r : Arr Rat) (h : reduceKeep f a dims = .ok r) (hb : ∀ x ∈ a.data, |x| ≤ B) : ∀ v ∈ r.data, |v| ≤ B := by
  obtain ⟨_, _, hlen, hcells⟩ := reduceKeep_spec f R hf a dims r h
  intro v hv
  obtain ⟨j, hj, rfl⟩ := List.getElem_of_mem hv
  have hg : r.data.getD j 0 = r.data[j] := by
    rw [List.getD_eq_getElem?_getD, List.getElem?_eq_getElem hj, Option.getD_some]
  rcases hcells j (by omega) with ⟨_, h0⟩ | ⟨⟨i, hi, _, he⟩, _⟩
  · rw [← hg, h0, abs_zero]; exact le_of_lt B_pos
  · rw [← hg, he]
    exact hb _ (List.getD_mem _ _ _ hi)

end MatTotal
