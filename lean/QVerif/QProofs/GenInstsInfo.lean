import QProofs.GraphInv
import QProofs.DictLemmas
import Mathlib.Data.List.Nodup
/-!
# `nameMap` and `tensorInfo`
Every entry of `nameMap m` is the name and the `tensorInfo` of an existing tensor; what well-formedness says about `tensorInfo`. -/
open Graph InstGen GraphInv GraphStep

namespace GenInstsInfo

theorem mem_foldl_dictSet {ν} (l : List (String × ν)) : ∀ (d : List (String × ν)) (e : String × ν),
    e ∈ l.foldl (fun d e => Py.dictSet d e.1 e.2) d → e ∈ d ∨ e ∈ l := by
  induction l with
  | nil => exact fun d e h => .inl h
  | cons x xs ih =>
    intro d e h
    rcases ih _ e h with h | h
    · rcases Py.mem_dictSet d x.1 x.2 e h with h | rfl
      · exact .inl h
      · exact .inr List.mem_cons_self
    · exact .inr (List.mem_cons_of_mem _ h)

/-- the pairs that `nameMap` stores, in the order in which it stores them -/
def allNamed (m : Model) : List (String × TInfo) :=
  m.subgraphs.zipIdx.flatMap fun p => p.1.tensors.zipIdx.map fun q => (q.1.name, tensorInfo p.2 p.1 q.2)

theorem nameMap_eq_foldl (m : Model) :
    nameMap m = (allNamed m).foldl (fun d e => Py.dictSet d e.1 e.2) [] := by
  unfold nameMap allNamed
  rw [List.foldl_flatMap]
  simp only [List.foldl_map]

theorem mem_allNamed {m : Model} {e : String × TInfo} :
    e ∈ allNamed m ↔ ∃ s sg t tn, m.subgraphs[s]? = some sg ∧ sg.tensors[t]? = some tn ∧
      e = (tn.name, tensorInfo s sg t) := by
  unfold allNamed
  constructor
  · intro h
    obtain ⟨p, hp, h⟩ := List.mem_flatMap.1 h
    obtain ⟨q, hq, rfl⟩ := List.mem_map.1 h
    exact ⟨p.2, p.1, q.2, q.1, List.mem_zipIdx_iff_getElem?.1 hp, List.mem_zipIdx_iff_getElem?.1 hq, rfl⟩
  · rintro ⟨s, sg, t, tn, hs, ht, rfl⟩
    exact List.mem_flatMap.2 ⟨(sg, s), List.mem_zipIdx_iff_getElem?.2 hs,
      List.mem_map.2 ⟨(tn, t), List.mem_zipIdx_iff_getElem?.2 ht, rfl⟩⟩

theorem nameMap_mem (m : Model) (n : String) (info : TInfo)
    (h : Py.dictGet? (nameMap m) n = some info) :
    ∃ s sg t tn, m.subgraphs[s]? = some sg ∧ sg.tensors[t]? = some tn ∧ tn.name = n ∧
      info = tensorInfo s sg t := by
  have hmem := Py.dictGet?_mem _ _ _ h
  rw [nameMap_eq_foldl] at hmem
  rcases mem_foldl_dictSet _ _ _ hmem with h | h
  · cases h
  · obtain ⟨s, sg, t, tn, hs, ht, he⟩ := mem_allNamed.1 h
    obtain ⟨rfl, rfl⟩ := Prod.mk.inj he
    exact ⟨s, sg, t, tn, hs, ht, rfl, rfl⟩

theorem tensorInfo_id (s : Nat) (sg : Subgraph) (t : Nat) :
    (tensorInfo s sg t).tensorId = t ∧ (tensorInfo s sg t).sg = s := ⟨rfl, rfl⟩

theorem tensorInfo_producer (s : Nat) (sg : Subgraph) (t : Nat) :
    ((tensorInfo s sg t).producer = -1 ∧ ∀ (k : Nat) (o : Op), sg.ops[k]? = some o → (t : Int) ∉ o.outputs) ∨
    (∃ (j : Nat) (o : Op), (tensorInfo s sg t).producer = (j : Int) ∧ sg.ops[j]? = some o ∧ (t : Int) ∈ o.outputs) := by
  unfold tensorInfo
  cases hf : sg.ops.zipIdx.find? (fun p => memI (t : Int) p.1.outputs) with
  | none =>
    left
    refine ⟨rfl, ?_⟩
    intro k o hk hmem
    have := List.find?_eq_none.1 hf (o, k) (List.mem_zipIdx_iff_getElem?.2 hk)
    exact this ((memI_iff _ _).2 hmem)
  | some p =>
    right
    exact ⟨p.2, p.1, rfl, List.mem_zipIdx_iff_getElem?.1 (List.mem_of_find?_eq_some hf),
      (memI_iff _ _).1 (@List.find?_some _ (fun p : Op × Nat => memI (t : Int) p.1.outputs) _ _ hf)⟩

theorem tensorInfo_consumers (s : Nat) (sg : Subgraph) (t : Nat) :
    (∀ c ∈ (tensorInfo s sg t).consumers, (c = -1 ∧ (t : Int) ∈ sg.outputs) ∨
      ∃ (k : Nat) (o : Op), c = (k : Int) ∧ sg.ops[k]? = some o ∧ (t : Int) ∈ o.inputs) ∧
    (tensorInfo s sg t).consumers.Nodup := by
  have hmem : ∀ c ∈ (sg.ops.zipIdx.filter (fun p => memI (t : Int) p.1.inputs)).map (fun p => (p.2 : Int)),
      ∃ (k : Nat) (o : Op), c = (k : Int) ∧ sg.ops[k]? = some o ∧ (t : Int) ∈ o.inputs := by
    intro c hc
    obtain ⟨p, hp, rfl⟩ := List.mem_map.1 hc
    obtain ⟨hp1, hp2⟩ := List.mem_filter.1 hp
    exact ⟨p.2, p.1, rfl, List.mem_zipIdx_iff_getElem?.1 hp1, (memI_iff _ _).1 hp2⟩
  have hnd : ((sg.ops.zipIdx.filter (fun p => memI (t : Int) p.1.inputs)).map (fun p => (p.2 : Int))).Nodup := by
    have hsub : ((sg.ops.zipIdx.filter (fun p => memI (t : Int) p.1.inputs)).map (fun p => (p.2 : Int))).Sublist
        (sg.ops.zipIdx.map (fun p => (p.2 : Int))) := List.Sublist.map _ List.filter_sublist
    refine List.Nodup.sublist hsub ?_
    have : sg.ops.zipIdx.map (fun p => (p.2 : Int)) = (sg.ops.zipIdx.map Prod.snd).map (fun (k : Nat) => (k : Int)) := by
      rw [List.map_map]; rfl
    rw [this, List.zipIdx_map_snd]
    exact List.Nodup.map (fun a b h => Int.ofNat.inj h) List.nodup_range'
  unfold tensorInfo
  simp only
  split
  · rename_i hout
    refine ⟨?_, ?_⟩
    · intro c hc
      rcases List.mem_cons.1 hc with rfl | hc
      · exact .inl ⟨rfl, (memI_iff _ _).1 hout⟩
      · exact .inr (hmem c hc)
    · refine List.nodup_cons.2 ⟨?_, hnd⟩
      intro hc
      obtain ⟨k, _, hk, _⟩ := hmem _ hc
      omega
  · exact ⟨fun c hc => .inr (hmem c hc), hnd⟩

/-- the part of `InstOK` that depends only on (`tensor`, `producer`, `consumers ⊆ info.consumers`) -/
structure Core (pt : PTable) (m : Model) (sg : Subgraph) (info : TInfo) (ins : Inst) : Prop where
  notEmulated : ins.xf ≠ .emulated
  tensor : ins.tensor = info.tensorId
  producer : ins.producer = info.producer
  consumers : ∀ c ∈ ins.consumers, c ∈ info.consumers
  dataConst : ∀ p pi, ins.param = some p → pinfo pt p = some pi → pi.hasData = true →
    isConst m sg info.tensorId = true

theorem instOK_of_core (pt : PTable) (m : Model) (s : Nat) (sg : Subgraph) (t : Nat) (ins : Inst)
    (hsg : SgOK m sg) (ht : t < sg.tensors.length)
    (href : 0 ≤ (tensorInfo s sg t).producer ∨ (tensorInfo s sg t).consumers ≠ [] ∨ (t : Int) ∈ sg.inputs)
    (hc : Core pt m sg (tensorInfo s sg t) ins) : InstOK pt m sg ins := by
  have hcons := (tensorInfo_consumers s sg t).1
  have hprod := tensorInfo_producer s sg t
  have availAt : ∀ (k : Nat) (o : Op), sg.ops[k]? = some o → (t : Int) ∈ o.inputs → Avail m sg k t := by
    intro k o hk hmem
    rcases (hsg.ops k o hk).ins _ hmem with h | h
    · omega
    · exact h.2
  have prodLe : ∀ (j : Nat) (o : Op), sg.ops[j]? = some o → (t : Int) ∈ o.outputs →
      (t : Int) ∉ sg.inputs ∧ isConst m sg t = false ∧
        ∀ (j' : Nat) (o' : Op), sg.ops[j']? = some o' → (t : Int) ∈ o'.outputs → j ≤ j' := by
    intro j o hj hmem
    rcases (hsg.ops j o hj).outs _ hmem with h | ⟨_, h1, h2, h3⟩
    · omega
    · refine ⟨h1, h2, ?_⟩
      intro j' o' hj' hmem'
      by_contra hlt
      exact h3 ⟨j', o', by omega, hj', hmem'⟩
  refine ⟨hc.notEmulated, ?_, ?_, ?_, ?_, ?_⟩
  · rw [hc.tensor, validT_iff]
    show (0 : Int) ≤ (t : Int) ∧ (t : Int) < sg.tensors.length
    omega
  · rw [hc.producer]
    rcases hprod with ⟨h, _⟩ | ⟨j, o, h, hj, _⟩
    · rw [h]; omega
    · rw [h]
      have := (List.getElem?_eq_some_iff.1 hj).1
      omega
  · rw [hc.tensor, hc.producer, avail_iff]
    show Avail m sg ((tensorInfo s sg t).producer + 1).toNat (t : Int)
    rcases hprod with ⟨h, hno⟩ | ⟨j, o, h, hj, hmem⟩
    · have hnp : ∀ k, ¬ ProdBefore sg.ops k (t : Int) := by
        rintro k ⟨j, o, _, hj, hmem⟩
        exact hno j o hj hmem
      -- nobody produces `t`: `href` gives somebody who refers to it (a reader, the graph outputs, the graph inputs), and
      -- a well-formed graph has it available there, so as an input or a constant
      have hsome : ∃ k, Avail m sg k t := by
        rcases href with h0 | hne | hin
        · omega
        · obtain ⟨c, hcm⟩ := List.exists_mem_of_ne_nil _ hne
          rcases hcons c hcm with ⟨_, hout⟩ | ⟨k, o, _, hk, hmem⟩
          · exact ⟨_, hsg.outsAvail _ hout⟩
          · exact ⟨k, availAt k o hk hmem⟩
        · exact ⟨0, .inl hin⟩
      obtain ⟨k, hk⟩ := hsome
      rcases hk with hk | hk | hk
      · exact .inl hk
      · exact .inr (.inl hk)
      · exact absurd hk (hnp k)
    · rw [h]
      exact .inr (.inr ⟨j, o, by omega, hj, hmem⟩)
  · intro c hcm
    rw [hc.producer]
    rcases hcons c (hc.consumers c hcm) with ⟨h, _⟩ | ⟨k, o, rfl, hk, hmem⟩
    · left; omega
    · right
      have hklt := (List.getElem?_eq_some_iff.1 hk).1
      refine ⟨?_, by omega⟩
      rcases hprod with ⟨h, _⟩ | ⟨j, oj, h, hj, hmemj⟩
      · rw [h]; omega
      · rw [h]
        obtain ⟨hni, hnc, hle⟩ := prodLe j oj hj hmemj
        rcases availAt k o hk hmem with ha | ha | ⟨j', o', hj'k, hj', hmem'⟩
        · exact absurd ha hni
        · rw [hnc] at ha; cases ha
        · have := hle j' o' hj' hmem'
          omega
  · intro p pi h1 h2 h3
    rw [hc.tensor]
    exact hc.dataConst p pi h1 h2 h3

end GenInstsInfo
