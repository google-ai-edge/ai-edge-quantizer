import QProofs.PipeNameMap
/-!
# Result dictionary ↔ instruction lists
`gen_entries`: the instruction lists `genInsts` returns are those of the dictionary entries (entry `e` as `absR (tblOf res) e.2`).
`inst_side`: an insertion instruction with a parameter carries out ONE side of the entry of its tensor (`Carries`).  `Spine.origin_at`:
a side of an entry comes from an entry of the operator list of the tensor's subgraph, materialised under the statistics in force.
-/
open Graph Mat Pipeline InstGen GenInstsOK Pipe Perform Wiring

set_option autoImplicit false

namespace SharingGen

/-- the standing assumptions on the result dictionary of `Mat.generate` -/
structure Ctx (m : Model) (res : List (String × CReq)) : Prop where
  wf : WF.modelOK m = true
  nu : namesUnique m
  inp : ∀ sg ∈ m.subgraphs, ∀ t ∈ sg.inputs, isConst m sg t = false
  entries : ∀ e ∈ res, EntryOK m (fun _ _ => True) e.1 e.2
  keys : (res.map (·.1)).Nodup

/-- the parameter table / the abstract requests of a result dictionary -/
abbrev tblOf (res : List (String × CReq)) : List Param := (absReqs (res.map (·.2))).1
abbrev areqsOf (res : List (String × CReq)) : List TReq := (absReqs (res.map (·.2))).2

theorem const_noProd {m : Model} {res : List (String × CReq)} (C : Ctx m res) (e : String × CReq)
    (he : e ∈ res) (s : Nat) (sg : Subgraph) (i : Nat) (hloc : Loc m e.1 s sg i)
    (hc : isConst m sg i = true) : e.2.producer = none := by
  cases hp : e.2.producer with
  | none => rfl
  | some p =>
    have hsgOK : GraphStep.SgOK m sg :=
      GraphStep.SgOK.of_wf C.wf (List.mem_of_getElem? hloc.1)
    have := produced_notConst m sg i p.opId hsgOK (C.inp sg (List.mem_of_getElem? hloc.1))
      ((C.entries e he).prod p hp s sg i hloc).2
    rw [this] at hc; cases hc

end SharingGen

open SharingGen

namespace ReqTrace

/-- what `genInsts` makes of the entry `e`: the instruction list of its abstraction `absR (tblOf res) e.2` at the position of the
    tensor named `e.1` -/
def TiOf (m : Model) (res : List (String × CReq)) (e : String × CReq) (ti : TInsts) : Prop :=
  ReqOK (ptableOf (tblOf res)) m (absR (tblOf res) e.2) ∧ (∃ s sg i, Loc m e.1 s sg i) ∧
    ∀ s sg i, Loc m e.1 s sg i → Py.dictGet? (nameMap m) e.2.name = some (tensorInfo s sg i) ∧
      instsValid (Locality.instsList (tensorInfo s sg i) (absR (tblOf res) e.2)) = true ∧
      ti = ⟨e.2.name, s, Locality.instsList (tensorInfo s sg i) (absR (tblOf res) e.2)⟩

theorem areqsOf_eq (res : List (String × CReq)) : areqsOf res = res.map fun e => absR (tblOf res) e.2 := by
  exact (absReqs_snd _).trans (List.map_map ..)

theorem gen_entries {m : Model} {res : List (String × CReq)} (C : Ctx m res) {tis : List TInsts}
    (hgen : genInsts m (areqsOf res) = .ok tis) : Pointwise (TiOf m res) res tis := by
  have hl : tis.length = (areqsOf res).length := PyM.mapM_ok_length hgen
  refine ⟨by rw [hl, areqsOf_eq, List.length_map], fun j e ti he hti => ?_⟩
  have ha : (areqsOf res)[j]? = some (absR (tblOf res) e.2) := by rw [areqsOf_eq, List.getElem?_map, he]; rfl
  have hta := PyM.mapM_ok_getElem? hgen j _ ti ha hti
  have hE := C.entries e (List.mem_of_getElem? he)
  refine ⟨reqOK_of_absR m C.wf C.nu C.inp _ e.2 (by rw [hE.name]; exact hE), hE.loc, fun s sg i hloc => ?_⟩
  have hget : Py.dictGet? (nameMap m) e.2.name = some (tensorInfo s sg i) := by
    rw [hE.name]; exact nameMap_loc m C.nu _ _ _ _ hloc
  obtain ⟨info, hi, hv, rfl⟩ := Locality.tensorInsts_ok_iff.1 hta
  cases hget.symm.trans hi
  exact ⟨hget, hv, rfl⟩

theorem _root_.SharingGen.entry_of_ti {m : Model} {res : List (String × CReq)} (C : Ctx m res) (tis : List TInsts)
    (hgen : genInsts m (areqsOf res) = .ok tis) (ti : TInsts) (hti : ti ∈ tis) :
    ∃ e ∈ res, ReqOK (ptableOf (tblOf res)) m (absR (tblOf res) e.2) ∧
      ∃ s sg i, Loc m e.1 s sg i ∧
        Py.dictGet? (nameMap m) e.2.name = some (tensorInfo s sg i) ∧
        ti = ⟨e.2.name, s, Locality.instsList (tensorInfo s sg i) (absR (tblOf res) e.2)⟩ := by
  obtain ⟨e, he, hreq, ⟨s, sg, i, hloc⟩, hall⟩ := (gen_entries C hgen).mem_right hti
  exact ⟨e, he, hreq, s, sg, i, hloc, (hall s sg i hloc).1, (hall s sg i hloc).2.2⟩

theorem ti_of_entry {m : Model} {res : List (String × CReq)} (C : Ctx m res) {tis : List TInsts}
    (hgen : genInsts m (areqsOf res) = .ok tis) {e : String × CReq} (he : e ∈ res)
    {s : Nat} {sg : Subgraph} {i : Nat} (hloc : Loc m e.1 s sg i) :
    ReqOK (ptableOf (tblOf res)) m (absR (tblOf res) e.2) ∧
      Py.dictGet? (nameMap m) e.2.name = some (tensorInfo s sg i) ∧
      instsValid (Locality.instsList (tensorInfo s sg i) (absR (tblOf res) e.2)) = true ∧
      (⟨e.2.name, s, Locality.instsList (tensorInfo s sg i) (absR (tblOf res) e.2)⟩ : TInsts) ∈ tis := by
  obtain ⟨ti, hti, hreq, -, hall⟩ := Pointwise.mem_left (gen_entries C hgen) he
  obtain ⟨hget, hv, rfl⟩ := hall s sg i hloc
  exact ⟨hreq, hget, hv, hti⟩

theorem inst_entry {m : Model} {res : List (String × CReq)} (C : Ctx m res) {tis : List TInsts}
    (hgen : genInsts m (areqsOf res) = .ok tis) {s : Nat} {sg : Subgraph} {i : Nat} {tn : Tensor}
    (hsg : m.subgraphs[s]? = some sg) (htn : sg.tensors[i]? = some tn) {ti : TInsts} (hti : ti ∈ tis) (hs : ti.sg = s)
    {ins : Inst} (hins : ins ∈ ti.insts) (hten : ins.tensor = (i : Int)) :
    ∃ e, (tn.name, e) ∈ res ∧ ins ∈ Locality.instsList (tensorInfo s sg i) (absR (tblOf res) e) := by
  obtain ⟨e', he', hreq', s', sg', i', hloc', hget', rfl⟩ := entry_of_ti C tis hgen ti hti
  subst hs
  obtain ⟨hsg', t', ht', hn'⟩ := hloc'
  cases hsg.symm.trans hsg'
  have h1 := ((instsList_ok _ m s' sg i' _ hsg hget' hreq').1 ins hins).tensor
  obtain rfl : i' = i := by
    have : (tensorInfo s' sg i').tensorId = i' := rfl
    rw [this, hten] at h1; omega
  cases htn.symm.trans ht'
  exact ⟨e'.2, hn' ▸ he', hins⟩

theorem absR_consumers {tbl : List Param} {e : CReq} {cs : List CO2T} (h : e.consumers = some cs) :
    (absR tbl e).consumers = some (cs.map (absO tbl)) := by rw [absR, h]; rfl

theorem absR_producer {tbl : List Param} {e : CReq} {p : Option CO2T} (h : e.producer = p) :
    (absR tbl e).producer = p.map (absO tbl) := by rw [absR, h]

/-- forward counterpart of `inst_side` -/
theorem side_pid {res : List (String × CReq)} {e : String × CReq} (he : e ∈ res) {c : CO2T} (hc : c ∈ e.2.sides)
    {P : Param} (hP : c.param = some P) :
    ∃ pid, (absO (tblOf res) c).param = some pid ∧ (tblOf res).findIdx? (fun q => q.eqv P) = some pid := by
  obtain ⟨pid, hpid⟩ := absReqs_hasId (res.map (·.2)) P
    (List.mem_flatMap.2 ⟨e.2, List.mem_map_of_mem he, mem_paramsOfR.2 ⟨c, hc, hP⟩⟩)
  exact ⟨pid, by simp only [absO, hP, Option.bind_some, hpid], hpid⟩

/-- how instruction `ins` carries out side `c` of entry `r`: the producer side `[ADD_DEQUANTIZE]` by retyping the tensor; a
    consumer side by an instruction of the side's own kind that lists the side's operator -/
inductive Carries (r : CReq) (c : CO2T) (ins : Inst) : Prop
  | result : r.producer = some c → c.xfs = [.addDequant] → retypes ins.xf = true → Carries r c ins
  | operand (cs : List CO2T) : r.consumers = some cs → c ∈ cs → c.xfs = [ins.xf] → isInsertion ins.xf = true →
      c.opId ∈ ins.consumers → Carries r c ins

theorem Carries.side {Qp Qc : String → CO2T → Prop} {res : List (String × CReq)} {n : String} {e : CReq}
    {c : CO2T} {ins : Inst} (h : Carries e c ins) (hd : DictSides Qp Qc res) (he : (n, e) ∈ res) :
    Qp n c ∨ Qc n c := by
  cases h with
  | result hc _ _ => exact .inl ((hd _ he).1 c hc)
  | operand cs hcs hc _ _ _ => exact .inr ((hd _ he).2 cs c hcs hc)

theorem Carries.of_const {m : Model} {res : List (String × CReq)} (C : Ctx m res) {s : Nat} {sg : Subgraph}
    {i : Nat} {tn : Tensor} {e : CReq} {c : CO2T} {ins : Inst} (hsg : m.subgraphs[s]? = some sg)
    (htn : sg.tensors[i]? = some tn) (he : (tn.name, e) ∈ res) (hc : isConst m sg i = true) (h : Carries e c ins) :
    ∃ cs, e.consumers = some cs ∧ c ∈ cs ∧ c.xfs = [ins.xf] ∧ c.opId ∈ ins.consumers := by
  cases h with
  | result hp _ _ =>
    rw [const_noProd C _ he s sg i ⟨hsg, tn, htn, rfl⟩ hc] at hp
    cases hp
  | operand cs hcs hcm hx _ hoc => exact ⟨cs, hcs, hcm, hx, hoc⟩

/-- the request side behind the instruction `ins` (parameter id `p`) on a tensor of `sg` -/
structure InstSide (res : List (String × CReq)) (sg : Subgraph) (ins : Inst) (p : PId) (i : Nat) (tn : Tensor) (e : CReq)
    (c : CO2T) (P : Param) : Prop where
  tensor : ins.tensor = (i : Int)
  record : sg.tensors[i]? = some tn
  entry : (tn.name, e) ∈ res
  carries : Carries e c ins
  param : c.param = some P
  pid : (tblOf res).findIdx? (fun q => q.eqv P) = some p

/-- **every performed insertion instruction carries out a side of the entry of its tensor**: `GenInstsOK.inst_origin` read
    through `absReqs` -/
theorem inst_side {m : Model} {res : List (String × CReq)} (C : Ctx m res) {tis : List TInsts}
    (hgen : genInsts m (areqsOf res) = .ok tis) (ti : TInsts) (hti : ti ∈ tis) (ins : Inst)
    (hins : ins ∈ ti.insts) (hx : isInsertion ins.xf = true) (p : PId) (hp : ins.param = some p)
    (sg : Subgraph) (hsg : m.subgraphs[ti.sg]? = some sg) :
    ∃ (i : Nat) (tn : Tensor) (e : CReq) (c : CO2T) (P : Param), InstSide res sg ins p i tn e c P := by
  obtain ⟨e, he, hreq, ⟨s, sg', i, hloc⟩, hall⟩ := (gen_entries C hgen).mem_right hti
  obtain ⟨hget, -, rfl⟩ := hall s sg' i hloc
  obtain ⟨hsg', tn, htn, hname⟩ := hloc
  rw [hsg] at hsg'
  cases hsg'
  have hten := ((instsList_ok _ m s sg i _ hsg hget hreq).1 ins hins).tensor
  refine ⟨i, tn, e.2, ?_⟩
  rcases inst_origin (tensorInfo s sg i) _ (len_of_shape hreq.consShape) hreq.prodShape ins hins with
    ⟨-, -, -, hn, -⟩ | ⟨po, hpo, hpx, hxf, hpp⟩ | ⟨o, ho, hox, hop, hoc, -⟩
  · rw [hn] at hx
    cases hx
  · obtain ⟨c, hc, rfl⟩ := Option.map_eq_some_iff.1 hpo
    obtain ⟨P, hP, hidx⟩ := Option.bind_eq_some_iff.1 (hpp.symm.trans hp)
    have hr : retypes ins.xf = true := by
      rcases hxf with ⟨h, -⟩ | h
      · rw [h]; rfl
      · rw [h]; rfl
    exact ⟨c, P, hten, htn, hname ▸ he, .result hc hpx hr, hP, hidx⟩
  · obtain ⟨os, hos, hoo⟩ := getD_consumers _ o ho
    obtain ⟨cs, hcs, rfl⟩ := Option.map_eq_some_iff.1 hos
    obtain ⟨c, hc, rfl⟩ := List.mem_map.1 hoo
    obtain ⟨P, hP, hidx⟩ := Option.bind_eq_some_iff.1 (hop.symm.trans hp)
    exact ⟨c, P, hten, htn, hname ▸ he, .operand cs hcs hc hox hx hoc, hP, hidx⟩

theorem named_at {m : Model} (hnu : namesUnique m) {s : Nat} {sg : Subgraph} {i : Nat} {tn : Tensor}
    (hsg : m.subgraphs[s]? = some sg) (htn : sg.tensors[i]? = some tn) {s2 : Nat} {sg2 : Subgraph} {t : Tensor}
    (hsg2 : m.subgraphs[s2]? = some sg2) (ht : t ∈ sg2.tensors) (hn : t.name = tn.name) :
    s = s2 ∧ sg = sg2 ∧ tn = t := by
  obtain ⟨i2, hi2⟩ := List.getElem?_of_mem ht
  obtain ⟨rfl, rfl, rfl⟩ := loc_unique m hnu tn.name _ _ _ _ _ _ ⟨hsg2, t, hi2, hn⟩ ⟨hsg, tn, htn, rfl⟩
  rw [hi2] at htn
  cases htn
  exact ⟨rfl, rfl, rfl⟩

theorem named_at_mem {m : Model} (hnu : namesUnique m) {s : Nat} {sg : Subgraph} {i : Nat} {tn : Tensor}
    (hsg : m.subgraphs[s]? = some sg) (htn : sg.tensors[i]? = some tn) {sg2 : Subgraph} {t : Tensor}
    (hsg2 : sg2 ∈ m.subgraphs) (ht : t ∈ sg2.tensors) (hn : t.name = tn.name) : sg = sg2 ∧ tn = t := by
  obtain ⟨s2, hs2⟩ := List.getElem?_of_mem hsg2
  exact (named_at hnu hsg htn hs2 ht hn).2

end ReqTrace

open ParamsSrc

namespace Spine

section
variable (rx : String → String → Bool) (env : Env) (st : Recipe.State) (qsvs : Option Qsvs)

/-- side `c` (operand side iff `b`) of a request for tensor `t` of subgraph `s` (= `sg`) is among the requests of entry `j` of
    the operator list of `sg`, materialised under the statistics `qs` -/
def Origin (s : Nat) (sg : Subgraph) (t : Tensor) (b : Bool) (c : CO2T) : Prop :=
  ∃ (j : Nat) (q : Op × Option String × Int) (qs : Qsvs) (rs : List CReq) (qs' : Qsvs),
    (allOps sg)[j]? = some q ∧ StatsAt rx env st qsvs s sg j qs ∧
    opReqs rx env st s sg qs q = .ok (rs, qs') ∧ sideReq t.name b c ∈ rs

/-- `Origin` filed under the tensor's name: the form the fold over the dictionary keeps -/
def OriginN (b : Bool) (n : String) (c : CO2T) : Prop :=
  ∃ s sg t, env.model.subgraphs[s]? = some sg ∧ t ∈ sg.tensors ∧ t.name = n ∧ Origin rx env st qsvs s sg t b c

theorem generate_originN (qs : Qsvs) (res : List (String × CReq))
    (hfold : env.model.subgraphs.zipIdx.foldlM (sgStep rx env st) (qsvs.getD [], []) = .ok (qs, res)) :
    DictSides (OriginN rx env st qsvs false) (OriginN rx env st qsvs true) res := by
  refine (generate_sides_at (fun s sg hsg j q hq qs0 rs qs1 hst hr r hrm => ?_) hfold).2
  obtain ⟨t, b, c, ht, rfl⟩ : ∃ t b c, t ∈ sg.tensors ∧ r = sideReq t.name b c := by
    obtain ⟨t, b, ht, ⟨-, rfl⟩ | ⟨_, _, _, _, c, -, -, rfl⟩⟩ := opReqs_emitted hr r hrm
    · exact ⟨t, b, _, ht, noQuantReq_eq _ _ _⟩
    · exact ⟨t, b, c, ht, rfl⟩
  have hO : OriginN rx env st qsvs b t.name c := ⟨s, sg, t, hsg, ht, rfl, j, q, qs0, rs, qs1, hq, hst, hr, hrm⟩
  refine reqSides_sideReq.2 ?_
  cases b
  · exact hO
  · exact hO

end

def SideOf (e : CReq) (b : Bool) (c : CO2T) : Prop :=
  bif b then ∃ cs, e.consumers = some cs ∧ c ∈ cs else e.producer = some c

theorem sideReq_inj {n n' : String} {b b' : Bool} {c c' : CO2T} (h : sideReq n b c = sideReq n' b' c') :
    n = n' ∧ b = b' ∧ c = c' := by
  have hn : n = n' := by rw [← sideReq_name n b c, h, sideReq_name]
  have hp := congrArg CReq.producer h
  have hc := congrArg CReq.consumers h
  rw [sideReq_producer, sideReq_producer] at hp
  rw [sideReq_consumers, sideReq_consumers] at hc
  cases b <;> cases b'
  · exact ⟨hn, rfl, Option.some.inj hp⟩
  · cases hp
  · cases hp
  · exact ⟨hn, rfl, List.head_eq_of_cons_eq (Option.some.inj hc)⟩

theorem _root_.ReqTrace.Carries.sideOf {e : CReq} {c : CO2T} {ins : Inst} (h : ReqTrace.Carries e c ins) :
    ∃ b, SideOf e b c := by
  cases h with
  | result hc _ _ => exact ⟨false, hc⟩
  | operand cs hcs hc _ _ _ => exact ⟨true, cs, hcs, hc⟩

variable {rx : String → String → Bool} {env : Env} {st : Recipe.State} {qsvs : Option Qsvs}

theorem origin_at {qs : Qsvs} {res : List (String × CReq)} (hnu : GenInstsOK.namesUnique env.model)
    (hfold : env.model.subgraphs.zipIdx.foldlM (sgStep rx env st) (qsvs.getD [], []) = .ok (qs, res))
    {s : Nat} {sg : Subgraph} {i : Nat} {tn : Tensor} {e : CReq} (hsg : env.model.subgraphs[s]? = some sg)
    (htn : sg.tensors[i]? = some tn) (he : (tn.name, e) ∈ res) {b : Bool} {c : CO2T} (hc : SideOf e b c) :
    Origin rx env st qsvs s sg tn b c := by
  obtain ⟨hP, hC⟩ := generate_originN rx env st qsvs qs res hfold _ he
  obtain ⟨s2, sg2, t2, hsg2, ht2, hn2, hO⟩ : OriginN rx env st qsvs b tn.name c := by
    cases b
    · exact hP c hc
    · obtain ⟨cs, hcs, hcm⟩ := hc
      exact hC cs c hcs hcm
  obtain ⟨rfl, rfl, rfl⟩ := ReqTrace.named_at hnu hsg htn hsg2 ht2 hn2
  exact hO

end Spine
