import Mathlib.Tactic.Positivity
import Mathlib.Data.Rat.Floor
import QModel.Num
/-!
# The model's rounding operator satisfies the standard model of floating point
One part per function of `QModel/Num.lean`: `rhe` is within `1/2` of its argument and everything else about it follows from that bound alone;
`flog2 x` is the binade of `x`; `rnPos` rounds to a multiple of the spacing `2^(e-(p-1))` of the binade `e = max (flog2 x) emin`, stays in the closed
binade `[2^e, 2^(e+1)]` and is therefore monotone across binades too; `rn` extends it as an odd function.
-/
open Num

namespace Rounding

theorem floor_le' (x : Rat) : ((x.floor : Int) : Rat) ≤ x := Int.floor_le x

theorem lt_floor_add_one' (x : Rat) : x < ((x.floor : Int) : Rat) + 1 := Int.lt_floor_add_one x

theorem two_zpow_pos (e : Int) : (0:Rat) < (2:Rat)^e := zpow_pos (by norm_num) _

theorem rhe_err (x : Rat) : |((rhe x : Int) : Rat) - x| ≤ 1/2 := by
  have h1 := floor_le' x
  have h2 := lt_floor_add_one' x
  unfold rhe
  simp only []
  split_ifs <;> rw [abs_le] <;> constructor <;> push_cast <;> linarith

theorem le_rhe {x : Rat} {a : Int} (h : (a:Rat) - 1/2 < x) : a ≤ rhe x := by
  have h1 := (abs_le.mp (rhe_err x)).1
  have : ((a - 1 : Int) : Rat) < rhe x := by push_cast; linarith
  have : a - 1 < rhe x := by exact_mod_cast this
  omega

theorem rhe_le {x : Rat} {b : Int} (h : x < (b:Rat) + 1/2) : rhe x ≤ b := by
  have h1 := (abs_le.mp (rhe_err x)).2
  have : ((rhe x : Int) : Rat) < ((b + 1 : Int) : Rat) := by push_cast; linarith
  have : rhe x < b + 1 := by exact_mod_cast this
  omega

theorem rhe_eq_of_near (x : Rat) (c : Int) (h : |x - c| < 1/2) : rhe x = c := by
  obtain ⟨h1, h2⟩ := abs_lt.mp h
  exact le_antisymm (rhe_le (by linarith)) (le_rhe (by linarith))

theorem rhe_int (z : Int) : rhe (z : Rat) = z :=
  rhe_eq_of_near _ z (by rw [sub_self, abs_zero]; norm_num)

theorem rhe_mono {x y : Rat} (h : x ≤ y) : rhe x ≤ rhe y := by
  -- if `rhe y < rhe x` although `x ≤ y`, the error bound forces `x = y`
  by_contra hc
  have hlt : ((rhe y : Int) : Rat) + 1 ≤ rhe x := by exact_mod_cast not_le.mp hc
  have hx := (abs_le.mp (rhe_err x)).2
  have hy := (abs_le.mp (rhe_err y)).1
  have : x = y := le_antisymm h (by linarith)
  subst this
  exact hc le_rfl

theorem rhe_div_err {q : Rat} (hq : 0 < q) (x : Rat) :
    |((rhe (x / q) : Int) : Rat) * q - x| ≤ 1/2 * q := by
  have e : ((rhe (x / q) : Int) : Rat) * q - x = (((rhe (x / q) : Int) : Rat) - x / q) * q := by
    field_simp
  rw [e, abs_mul, abs_of_pos hq]
  exact mul_le_mul_of_nonneg_right (rhe_err _) hq.le

theorem rhe_div_le {q : Rat} (hq : 0 < q) {x : Rat} {m : Int} (h : x ≤ m * q) :
    ((rhe (x / q) : Int) : Rat) * q ≤ m * q := by
  have := rhe_mono ((div_le_iff₀ hq).mpr h)
  rw [rhe_int] at this
  exact mul_le_mul_of_nonneg_right (by exact_mod_cast this) hq.le

theorem le_rhe_div {q : Rat} (hq : 0 < q) {x : Rat} {m : Int} (h : m * q ≤ x) :
    m * q ≤ ((rhe (x / q) : Int) : Rat) * q := by
  have := rhe_mono ((le_div_iff₀ hq).mpr h)
  rw [rhe_int] at this
  exact mul_le_mul_of_nonneg_right (by exact_mod_cast this) hq.le

theorem flog2_spec (x : Rat) (hx : 0 < x) :
    (2:Rat)^(flog2 x) ≤ x ∧ x < (2:Rat)^(flog2 x + 1) := by
  have hnum : 0 < x.num := Rat.num_pos.mpr hx
  set n := x.num.toNat with hn
  have hn0 : n ≠ 0 := by omega
  have hdpos : (0:Rat) < x.den := by exact_mod_cast x.den_pos
  -- `x = n / d` with `2^a ≤ n < 2^(a+1)` and `2^b ≤ d < 2^(b+1)`
  have hxe : x = (n:Rat) / x.den := by
    rw [eq_div_iff hdpos.ne', Rat.mul_den_eq_num]; exact_mod_cast (show x.num = (n:Int) by omega)
  have h1 : (2:Rat)^(n.log2:Int) ≤ n := by
    rw [zpow_natCast]; exact_mod_cast Nat.log2_self_le hn0
  have h2 : (n:Rat) < (2:Rat)^((n.log2:Int) + 1) := by
    rw [← Nat.cast_succ, zpow_natCast]; exact_mod_cast (Nat.lt_log2_self : n < 2 ^ (n.log2 + 1))
  have h3 : (2:Rat)^(x.den.log2:Int) ≤ x.den := by
    rw [zpow_natCast]; exact_mod_cast Nat.log2_self_le x.den_nz
  have h4 : (x.den:Rat) < (2:Rat)^((x.den.log2:Int) + 1) := by
    rw [← Nat.cast_succ, zpow_natCast]; exact_mod_cast (Nat.lt_log2_self : x.den < 2 ^ (x.den.log2 + 1))
  have lo : (2:Rat)^((n.log2:Int) - x.den.log2 - 1) < x := by
    refine lt_of_lt_of_eq ((lt_div_iff₀ hdpos).mpr ?_) hxe.symm
    calc (2:Rat)^((n.log2:Int) - x.den.log2 - 1) * x.den
        < (2:Rat)^((n.log2:Int) - x.den.log2 - 1) * (2:Rat)^((x.den.log2:Int) + 1) :=
          mul_lt_mul_of_pos_left h4 (two_zpow_pos _)
      _ = (2:Rat)^(n.log2:Int) := by rw [← zpow_add₀ (by norm_num)]; congr 1; ring
      _ ≤ n := h1
  have hi : x < (2:Rat)^((n.log2:Int) - x.den.log2 + 1) := by
    refine lt_of_eq_of_lt hxe ((div_lt_iff₀ hdpos).mpr ?_)
    calc (n:Rat) < (2:Rat)^((n.log2:Int) + 1) := h2
      _ = (2:Rat)^((n.log2:Int) - x.den.log2 + 1) * (2:Rat)^(x.den.log2:Int) := by
          rw [← zpow_add₀ (by norm_num)]; congr 1; ring
      _ ≤ (2:Rat)^((n.log2:Int) - x.den.log2 + 1) * x.den :=
          mul_le_mul_of_nonneg_left h3 (two_zpow_pos _).le
  unfold flog2
  simp only [← hn]
  split_ifs with h
  · exact ⟨h, hi⟩
  · exact ⟨lo.le, by rw [sub_add_cancel]; exact not_le.mp h⟩

theorem le_flog2 {x : Rat} (hx : 0 < x) {e : Int} (h : (2:Rat)^e ≤ x) : e ≤ flog2 x := by
  have := (zpow_lt_zpow_iff_right₀ (by norm_num : (1:Rat) < 2)).mp
    (lt_of_le_of_lt h (flog2_spec x hx).2)
  omega

theorem flog2_lt {x : Rat} (hx : 0 < x) {e : Int} (h : x < (2:Rat)^e) : flog2 x < e :=
  (zpow_lt_zpow_iff_right₀ (by norm_num : (1:Rat) < 2)).mp (lt_of_le_of_lt (flog2_spec x hx).1 h)

theorem flog2_mono {x y : Rat} (hx : 0 < x) (hxy : x ≤ y) : flog2 x ≤ flog2 y :=
  le_flog2 (hx.trans_le hxy) ((flog2_spec x hx).1.trans hxy)

theorem flog2_two_zpow (k : Int) : flog2 ((2:Rat)^k) = k := by
  have h1 := le_flog2 (two_zpow_pos k) (le_refl ((2:Rat)^k))
  have h2 := flog2_lt (two_zpow_pos k) (e := k + 1)
    (zpow_lt_zpow_right₀ (by norm_num) (by omega))
  omega

theorem rnPos_abserr (p : Nat) (emin : Int) (x : Rat) :
    |rnPos p emin x - x| ≤ (1/2) * (2:Rat)^(max (flog2 x) emin - ((p:Int) - 1)) :=
  rhe_div_err (two_zpow_pos _) x

/-- the standard model of floating point -/
theorem rnPos_relerr (p : Nat) (emin : Int) (x : Rat) (hx : 0 < x)
    (hnorm : (2:Rat)^emin ≤ x) :
    |rnPos p emin x - x| ≤ (2:Rat)^(-(p:Int)) * x := by
  have h := rnPos_abserr p emin x
  rw [max_eq_left (le_flog2 hx hnorm)] at h
  have e : (1/2) * (2:Rat)^(flog2 x - ((p:Int) - 1)) = (2:Rat)^(-(p:Int)) * (2:Rat)^(flog2 x) := by
    rw [show (1/2 : Rat) = (2:Rat)^(-1:Int) by norm_num, ← zpow_add₀ (by norm_num),
      ← zpow_add₀ (by norm_num)]
    congr 1; ring
  rw [e] at h
  exact h.trans (mul_le_mul_of_nonneg_left (flog2_spec x hx).1 (two_zpow_pos _).le)

theorem rnPos_nonneg (p : Nat) (emin : Int) (x : Rat) (hx : 0 ≤ x) : 0 ≤ rnPos p emin x := by
  have := le_rhe_div (two_zpow_pos (max (flog2 x) emin - ((p:Int) - 1))) (x := x) (m := 0)
    (by rwa [Int.cast_zero, zero_mul])
  rwa [Int.cast_zero, zero_mul] at this

theorem zpow_eq_mul_spacing (a : Int) (k : Nat) :
    (2:Rat)^a = (((2:Int)^k : Int) : Rat) * (2:Rat)^(a - k) := by
  rw [Int.cast_pow, Int.cast_ofNat, ← zpow_natCast, ← zpow_add₀ (by norm_num)]
  congr 1; ring

theorem rnPos_le_top (p : Nat) (emin : Int) (x : Rat) (hx : 0 < x) :
    rnPos p emin x ≤ (2:Rat)^(max (flog2 x) emin + 1) := by
  have e := zpow_eq_mul_spacing (max (flog2 x) emin + 1) p
  rw [show max (flog2 x) emin + 1 - (p:Int) = max (flog2 x) emin - ((p:Int) - 1) by ring] at e
  have hxe : x ≤ (2:Rat)^(max (flog2 x) emin + 1) :=
    (flog2_spec x hx).2.le.trans
      (zpow_le_zpow_right₀ (by norm_num) (by have := le_max_left (flog2 x) emin; omega))
  rw [e] at hxe ⊢
  exact rhe_div_le (two_zpow_pos _) hxe

theorem rnPos_ge_bot (p : Nat) (hp : 1 ≤ p) (emin : Int) (x : Rat) (hx : 0 < x)
    (hn : emin ≤ flog2 x) : (2:Rat)^(flog2 x) ≤ rnPos p emin x := by
  have e := zpow_eq_mul_spacing (flog2 x) (p - 1)
  rw [show ((p - 1 : Nat) : Int) = (p:Int) - 1 by omega] at e
  have hlo := (flog2_spec x hx).1
  unfold rnPos
  simp only [max_eq_left hn]
  rw [e] at hlo ⊢
  exact le_rhe_div (two_zpow_pos _) hlo

theorem rnPos_mono (p : Nat) (hp : 1 ≤ p) (emin : Int) {x y : Rat} (hx : 0 < x) (hxy : x ≤ y) :
    rnPos p emin x ≤ rnPos p emin y := by
  have hy : 0 < y := lt_of_lt_of_le hx hxy
  have hf := flog2_mono hx hxy
  by_cases heq : max (flog2 x) emin = max (flog2 y) emin
  · unfold rnPos
    simp only [heq]
    have hqpos := two_zpow_pos (max (flog2 y) emin - ((p:Int) - 1))
    apply mul_le_mul_of_nonneg_right _ hqpos.le
    exact_mod_cast rhe_mono (div_le_div_of_nonneg_right hxy hqpos.le)
  · have hyn : emin ≤ flog2 y := by
      by_contra hc
      exact heq (by rw [max_eq_right (by omega), max_eq_right (by omega)])
    have hlt : max (flog2 x) emin + 1 ≤ flog2 y := by
      rw [max_eq_left hyn] at heq
      have := max_le hf hyn
      omega
    calc rnPos p emin x ≤ (2:Rat)^(max (flog2 x) emin + 1) := rnPos_le_top p emin x hx
      _ ≤ (2:Rat)^(flog2 y) := zpow_le_zpow_right₀ (by norm_num) hlt
      _ ≤ rnPos p emin y := rnPos_ge_bot p hp emin y hy hyn

theorem rnPos_two_zpow (p : Nat) (hp : 1 ≤ p) (emin k : Int) (hk : emin ≤ k) :
    rnPos p emin ((2:Rat)^k) = (2:Rat)^k := by
  have e := zpow_eq_mul_spacing k (p - 1)
  rw [show ((p - 1 : Nat) : Int) = (p:Int) - 1 by omega] at e
  unfold rnPos
  simp only [flog2_two_zpow, max_eq_left hk]
  rw [e, mul_div_cancel_right₀ _ (two_zpow_pos _).ne', rhe_int]

theorem rnPos_nat_exact (p : Nat) (emin : Int) (hemin : emin ≤ (p:Int) - 1) (n : Nat) (hn0 : 0 < n)
    (hn : n < 2^p) : rnPos p emin (n : Rat) = n := by
  have hx : (0:Rat) < n := by exact_mod_cast hn0
  have hfl : flog2 (n:Rat) < (p:Int) :=
    flog2_lt hx (by rw [zpow_natCast]; exact_mod_cast hn)
  unfold rnPos
  simp only []
  -- the spacing is `2^-k` with `k ≥ 0`, so `n` is the multiple `n·2^k` of it
  obtain ⟨k, hk⟩ : ∃ k : Nat, (k:Int) = (p:Int) - 1 - max (flog2 (n:Rat)) emin :=
    ⟨((p:Int) - 1 - max (flog2 (n:Rat)) emin).toNat, by have := max_le (by omega) hemin; omega⟩
  have hq : (2:Rat)^(max (flog2 (n:Rat)) emin - ((p:Int) - 1)) = ((2:Rat)^k)⁻¹ := by
    rw [← zpow_natCast, ← zpow_neg]; congr 1; omega
  rw [hq, div_inv_eq_mul, show (n:Rat) * (2:Rat)^k = (((n * 2^k : Nat) : Int) : Rat) by push_cast; ring,
    rhe_int]
  push_cast
  exact mul_inv_cancel_right₀ (by positivity) _

theorem rn_zero (p : Nat) (emin : Int) : rn p emin 0 = 0 := if_pos rfl

theorem rn_of_pos (p : Nat) (emin : Int) {x : Rat} (h : 0 < x) : rn p emin x = rnPos p emin x := by
  unfold rn; rw [if_neg h.ne', if_pos h]

theorem rn_of_neg (p : Nat) (emin : Int) {x : Rat} (h : x < 0) : rn p emin x = -rnPos p emin (-x) := by
  unfold rn; rw [if_neg h.ne, if_neg (not_lt.mpr h.le)]

theorem rn_neg (p : Nat) (emin : Int) (x : Rat) : rn p emin (-x) = -rn p emin x := by
  rcases lt_trichotomy x 0 with h | rfl | h
  · rw [rn_of_neg p emin h, rn_of_pos p emin (neg_pos.mpr h), neg_neg]
  · rw [neg_zero, rn_zero, neg_zero]
  · rw [rn_of_pos p emin h, rn_of_neg p emin (neg_neg_of_pos h), neg_neg]

theorem rn_err_eq (p : Nat) (emin : Int) {x : Rat} (hx : x ≠ 0) :
    |rn p emin x - x| = |rnPos p emin (abs x) - abs x| := by
  rcases lt_or_gt_of_ne hx with h | h
  · rw [rn_of_neg p emin h, abs_of_neg h, ← abs_neg]; congr 1; ring
  · rw [rn_of_pos p emin h, abs_of_pos h]

theorem rn_nonneg (p : Nat) (emin : Int) (x : Rat) (hx : 0 ≤ x) : 0 ≤ rn p emin x := by
  rcases hx.eq_or_lt with rfl | h
  · rw [rn_zero]
  · rw [rn_of_pos p emin h]; exact rnPos_nonneg p emin x hx

theorem rn_nonpos (p : Nat) (emin : Int) (x : Rat) (hx : x ≤ 0) : rn p emin x ≤ 0 := by
  rcases hx.eq_or_lt with rfl | h
  · rw [rn_zero]
  · rw [rn_of_neg p emin h]; exact neg_nonpos.mpr (rnPos_nonneg p emin _ (neg_nonneg.mpr hx))

theorem rn_relerr (p : Nat) (emin : Int) (x : Rat) (hnorm : (2:Rat)^emin ≤ |x|) :
    |rn p emin x - x| ≤ (2:Rat)^(-(p:Int)) * |x| := by
  have hx : 0 < |x| := (two_zpow_pos emin).trans_le hnorm
  rw [rn_err_eq p emin (abs_pos.mp hx)]
  exact rnPos_relerr p emin (abs x) hx hnorm

theorem rn_sub_err (p : Nat) (emin : Int) (x : Rat) (h : |x| < (2:Rat)^emin) :
    |rn p emin x - x| ≤ (1/2) * (2:Rat)^(emin - ((p:Int) - 1)) := by
  rcases eq_or_ne x 0 with rfl | hx
  · rw [rn_zero, sub_self, abs_zero]; exact (mul_pos (by norm_num) (two_zpow_pos _)).le
  · have := rnPos_abserr p emin (abs x)
    rwa [max_eq_right (flog2_lt (abs_pos.mpr hx) h).le, ← rn_err_eq p emin hx] at this

theorem rn_mono (p : Nat) (hp : 1 ≤ p) (emin : Int) {x y : Rat} (hxy : x ≤ y) :
    rn p emin x ≤ rn p emin y := by
  rcases lt_or_ge 0 x with hx | hx
  · rw [rn_of_pos p emin hx, rn_of_pos p emin (hx.trans_le hxy)]
    exact rnPos_mono p hp emin hx hxy
  rcases lt_or_ge y 0 with hy | hy
  · rw [rn_of_neg p emin hy, rn_of_neg p emin (hxy.trans_lt hy)]
    exact neg_le_neg (rnPos_mono p hp emin (neg_pos.mpr hy) (neg_le_neg hxy))
  · exact (rn_nonpos p emin x hx).trans (rn_nonneg p emin y hy)

theorem rn_two_zpow (p : Nat) (hp : 1 ≤ p) (emin k : Int) (hk : emin ≤ k) :
    rn p emin ((2:Rat)^k) = (2:Rat)^k := by
  rw [rn_of_pos p emin (two_zpow_pos k)]; exact rnPos_two_zpow p hp emin k hk

end Rounding
