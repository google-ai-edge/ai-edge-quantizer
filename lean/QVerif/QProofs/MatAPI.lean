import QProofs.MatSites
import QProofs.PyForall
/-!
# What a call of each function of `QModel/Materialize.lean` can do

Where a function has one, a single walk through its code `f_run : Run (closed form of the result) (AnySite (its raise
sites)) (f …)` with two readings, the inversion `f_ok` of the successful runs and the inventory `f_sited` of the errors
(`wrapperParam`, `biasFor`, `floatCastOp`, `fixLast`; the smaller functions have `_ok` / `_sited` directly).  Every request
the materialisation emits has ONE side (`sideReq`); statements are indexed by that Boolean.
-/
open Graph Mat Cfg Arith Num Nd PyM MatTotal MatParams

open Pipe

namespace Mat

/-- the request for tensor `name` with one side: the consumer entry `c` (`inbound`), or the producer entry `c` -/
def sideReq (name : String) (inbound : Bool) (c : CO2T) : CReq :=
  if inbound then ⟨name, none, some [c]⟩ else ⟨name, some c, none⟩

theorem noQuantReq_eq (n : String) (o : Int) (b : Bool) : noQuantReq n o b = sideReq n b ⟨o, [.noQuant], none⟩ := rfl

theorem sideReq_name (n : String) (b : Bool) (c : CO2T) : (sideReq n b c).name = n := by cases b <;> rfl

theorem sideReq_producer (n : String) (b : Bool) (c : CO2T) :
    (sideReq n b c).producer = bif b then none else some c := by cases b <;> rfl

theorem sideReq_consumers (n : String) (b : Bool) (c : CO2T) :
    (sideReq n b c).consumers = bif b then some [c] else none := by cases b <;> rfl

theorem noQuantReq_name (n : String) (o : Int) (b : Bool) : (noQuantReq n o b).name = n := by
  cases b <;> rfl

theorem reqParam0_sideReq (n : String) (c : CO2T) : reqParam0 (sideReq n true c) = .ok c.param := rfl

def CReq.sides (r : CReq) : List CO2T := r.producer.toList ++ r.consumers.getD []

theorem mem_sides {r : CReq} {c : CO2T} :
    c ∈ r.sides ↔ r.producer = some c ∨ ∃ cs, r.consumers = some cs ∧ c ∈ cs := by
  obtain ⟨n, p, cs⟩ := r
  cases p <;> cases cs <;> simp [CReq.sides, eq_comm]

def ReqSides (Qp Qc : String → CO2T → Prop) (r : CReq) : Prop :=
  (∀ p, r.producer = some p → Qp r.name p) ∧ (∀ cs c, r.consumers = some cs → c ∈ cs → Qc r.name c)

theorem reqSides_sideReq {Qp Qc : String → CO2T → Prop} {n : String} {b : Bool} {c : CO2T} :
    ReqSides Qp Qc (sideReq n b c) ↔ bif b then Qc n c else Qp n c := by
  cases b
  · exact ⟨fun h => h.1 c rfl, fun h => ⟨fun p hp => (by cases hp; exact h), fun _ _ hcs => (by cases hcs)⟩⟩
  · refine ⟨fun h => h.2 [c] c rfl List.mem_cons_self, fun h => ⟨fun _ hp => (by cases hp), fun cs c' hcs hc => ?_⟩⟩
    cases hcs
    rw [List.mem_singleton.1 hc]
    exact h

/-- the successful leaves of `tensorXfs c inbound isConst` -/
inductive XfCase (c : OpCfg) : Bool → Bool → Xf → Prop
  | srqConst : isSRQ c = true → XfCase c true true .quantTensor
  | srqIn : isSRQ c = true → XfCase c true false .addQuant
  | srqOut (isC : Bool) : isSRQ c = true → XfCase c false isC .addDequant
  | woConst : c.cp = .integer → c.act = none → XfCase c true true .quantTensor
  | woOther (inb isC : Bool) : c.cp = .integer → c.act = none → (inb && isC) = false → XfCase c inb isC .noQuant
  | emulated (inb : Bool) (w : TCfg) : c.weight = some w → w.gran = .blockwise → XfCase c inb true .emulated
  | deqConst : c.cp = .float → c.explicitDeq = true → XfCase c true true .addDequant
  | deqOther (inb isC : Bool) : c.cp = .float → c.explicitDeq = true → (inb && isC) = false → XfCase c inb isC .noQuant

theorem tensorXfs_ok {c : OpCfg} {inb isC : Bool} {xfs : List Xf} (h : tensorXfs c inb isC = .ok xfs) :
    ∃ x, xfs = [x] ∧ XfCase c inb isC x := by
  unfold tensorXfs at h
  by_cases hs : (c.cp == CP.integer && c.act.isSome) = true
  · rw [if_pos hs] at h
    have hs' : isSRQ c = true := hs
    cases inb <;> cases isC <;> cases h
    · exact ⟨_, rfl, .srqOut _ hs'⟩
    · exact ⟨_, rfl, .srqOut _ hs'⟩
    · exact ⟨_, rfl, .srqIn hs'⟩
    · exact ⟨_, rfl, .srqConst hs'⟩
  rw [if_neg hs] at h
  by_cases hw : (c.cp == CP.integer && c.act.isNone) = true
  · rw [if_pos hw] at h
    obtain ⟨hcp, hact⟩ : c.cp = .integer ∧ c.act = none := by simpa using hw
    by_cases hb : (inb && isC) = true
    · rw [if_pos hb] at h
      cases h
      obtain ⟨rfl, rfl⟩ : inb = true ∧ isC = true := by simpa using hb
      exact ⟨_, rfl, .woConst hcp hact⟩
    · rw [if_neg hb] at h
      cases h
      exact ⟨_, rfl, .woOther _ _ hcp hact (by simpa using hb)⟩
  rw [if_neg hw] at h
  have deq : (if (c.cp == CP.float && c.explicitDeq) = true then
        (if (inb && isC) = true then Except.ok [Xf.addDequant] else Except.ok [Xf.noQuant])
      else (Except.error PyErr.valueError : PyM (List Xf))) = .ok xfs → ∃ x, xfs = [x] ∧ XfCase c inb isC x := by
    intro h
    by_cases hd : (c.cp == CP.float && c.explicitDeq) = true
    · rw [if_pos hd] at h
      obtain ⟨hcp, hdeq⟩ : c.cp = .float ∧ c.explicitDeq = true := by simpa using hd
      by_cases hb : (inb && isC) = true
      · rw [if_pos hb] at h
        cases h
        obtain ⟨rfl, rfl⟩ : inb = true ∧ isC = true := by simpa using hb
        exact ⟨_, rfl, .deqConst hcp hdeq⟩
      · rw [if_neg hb] at h
        cases h
        exact ⟨_, rfl, .deqOther _ _ hcp hdeq (by simpa using hb)⟩
    · rw [if_neg hd] at h
      cases h
  cases hcw : c.weight with
  | none =>
    simp only [hcw, Bool.false_and, Bool.false_eq_true, if_false] at h
    exact deq h
  | some w =>
    simp only [hcw] at h
    by_cases hbw : (w.gran == Gran.blockwise && isC) = true
    · rw [if_pos hbw] at h
      cases h
      obtain ⟨hg, rfl⟩ : w.gran = .blockwise ∧ isC = true := by simpa using hbw
      exact ⟨_, rfl, .emulated _ w hcw hg⟩
    · rw [if_neg hbw] at h
      exact deq h

theorem tensorXfs_srq {c : OpCfg} (h : isSRQ c = true) (inb isC : Bool) :
    tensorXfs c inb isC = .ok [if inb then (if isC then .quantTensor else .addQuant) else .addDequant] := by
  unfold tensorXfs
  rw [if_pos (show (c.cp == CP.integer && c.act.isSome) = true from h)]
  cases inb <;> cases isC <;> rfl

theorem mkReq_ok {name : String} {oi : OpInfo} {inb : Bool} {p : Option Param} {isC : Bool} {r : CReq} :
    mkReq name oi inb p isC = .ok r ↔
      ∃ xfs, tensorXfs oi.cfg inb isC = .ok xfs ∧ r = sideReq name inb ⟨oi.opId, xfs, p⟩ := by
  unfold mkReq
  rw [bind_eq_ok_iff]
  exact exists_congr fun xfs => and_congr_right fun _ => pure_eq_ok_iff.trans eq_comm

/-- the end of `tensorQuantParams`, behind the look-up of the quantized dimension -/
def tqpTail (tc : TCfg) (content : Option (Arr Rat)) (zs : IArr × FArr) (qdim : Option Nat) : PyM Param :=
  match content with
  | none =>
    pure (.uniform { bits := tc.bits.toNat, qdim := qdim, scale := zs.2, zp := zs.1, symmetric := tc.symmetric } none)
  | some c =>
    if tc.gran == .blockwise then throw .unsupported >>= fun (_ : Unit) =>
      uniformQuantize ⟨c, .f32⟩
        { bits := tc.bits.toNat, qdim := qdim, scale := zs.2, zp := zs.1, symmetric := tc.symmetric } >>= fun q =>
      pure (.uniform { bits := tc.bits.toNat, qdim := qdim, scale := zs.2, zp := zs.1, symmetric := tc.symmetric } (some q))
    else uniformQuantize ⟨c, .f32⟩
        { bits := tc.bits.toNat, qdim := qdim, scale := zs.2, zp := zs.1, symmetric := tc.symmetric } >>= fun q =>
      pure (.uniform { bits := tc.bits.toNat, qdim := qdim, scale := zs.2, zp := zs.1, symmetric := tc.symmetric } (some q))

/-- the look-up of the quantized dimension with the continuation `k` in every branch, as the `do` block has it -/
def tqpDim (env : Env) (oi : OpInfo) (tc : TCfg) (content : Option (Arr Rat)) (k : Option Nat → PyM Param) : PyM Param :=
  if tc.gran == .channelwise then
    if oi.opName == "BATCH_MATMUL" then
      match content with
      | some c => pure (some (bmmQDim c.shape.length (opAdjY env oi))) >>= k
      | none => throw .attributeError >>= k
    else match Tables.weightQDim.find? (·.1 == oi.opName) with
      | some e => pure (some e.2) >>= k
      | none => throw .keyError >>= k
  else pure none >>= k

-- `smartUnfolding false`, continuation-passing `tqpDim`: see the note at `PyM.forIn_eq_foldlM`
set_option smartUnfolding false in
theorem tensorQuantParams_text (env : Env) (oi : OpInfo) (mm : Qsv) (tc : TCfg) (content : Option (Arr Rat)) :
    tensorQuantParams env oi mm tc content =
      match mm with
      | some p => zpScale tc.bits.toNat tc.symmetric p.1 p.2 >>= fun zs => tqpDim env oi tc content (tqpTail tc content zs)
      | none => throw .valueError := by
  cases mm <;> rfl

set_option smartUnfolding false in
theorem tqpDim_eq (env : Env) (oi : OpInfo) (tc : TCfg) (content : Option (Arr Rat)) (k : Option Nat → PyM Param) :
    tqpDim env oi tc content k = refQDim env oi tc content >>= k := by
  unfold tqpDim refQDim
  by_cases h1 : (tc.gran == Gran.channelwise) = true
  · rw [if_pos h1, if_pos h1]
    by_cases h2 : (oi.opName == "BATCH_MATMUL") = true
    · rw [if_pos h2, if_pos h2]
      cases content <;> rfl
    · rw [if_neg h2, if_neg h2]
      cases Tables.weightQDim.find? (·.1 == oi.opName) <;> rfl
  · rw [if_neg h1, if_neg h1]
    rfl

set_option smartUnfolding false in
theorem tqpTail_eq (tc : TCfg) (content : Option (Arr Rat)) (zs : IArr × FArr) (qdim : Option Nat) :
    tqpTail tc content zs qdim =
      refData tc content
          { bits := tc.bits.toNat, qdim := qdim, scale := zs.2, zp := zs.1, symmetric := tc.symmetric } >>= fun d =>
        pure (.uniform { bits := tc.bits.toNat, qdim := qdim, scale := zs.2, zp := zs.1, symmetric := tc.symmetric } d) := by
  unfold tqpTail refData
  cases content with
  | none => rfl
  | some c =>
    show (if _ then _ else _) = ((if _ then _ else _) >>= _)
    by_cases h : (tc.gran == Gran.blockwise) = true
    · rw [if_pos h, if_pos h]; rfl
    · rw [if_neg h, if_neg h]
      cases uniformQuantize ⟨c, .f32⟩ _ <;> rfl

set_option smartUnfolding false in
/-- **`tensorQuantParams` is the reference computation** (an empty statistics entry is `ValueError`) -/
theorem _root_.MatParams.tensorQuantParams_eq (env : Env) (oi : OpInfo) (mm : Qsv) (tc : TCfg) (content : Option (Arr Rat)) :
    tensorQuantParams env oi mm tc content =
      match mm with
      | none => .error .valueError
      | some s => refTensorParams env oi tc content s.1 s.2 := by
  rw [tensorQuantParams_text]
  cases mm with
  | none => rfl
  | some s =>
    unfold refTensorParams
    dsimp only
    cases zpScale tc.bits.toNat tc.symmetric s.1 s.2 with
    | error e => rfl
    | ok zs =>
      refine (tqpDim_eq env oi tc content _).trans ?_
      cases refQDim env oi tc content with
      | error e => rfl
      | ok qdim => exact tqpTail_eq tc content zs qdim

theorem tensorQuantParams_ok {env : Env} {oi : OpInfo} {mm : Qsv} {tc : TCfg} {content : Option (Arr Rat)} {p : Param}
    (h : tensorQuantParams env oi mm tc content = .ok p) :
    ∃ qp d, p = .uniform qp d ∧ d.isSome = content.isSome ∧ qp.bits = tc.bits.toNat ∧ qp.symmetric = tc.symmetric := by
  rw [tensorQuantParams_eq] at h
  cases mm with
  | none => cases h
  | some s =>
    simp only [] at h
    unfold refTensorParams at h
    cases hz : zpScale tc.bits.toNat tc.symmetric s.1 s.2 with
    | error e => rw [hz] at h; cases h
    | ok zs =>
      rw [hz] at h
      cases hq : refQDim env oi tc content with
      | error e => rw [hq] at h; cases h
      | ok qdim =>
        rw [hq] at h
        simp only [] at h
        cases hd : refData tc content
            { bits := tc.bits.toNat, qdim := qdim, scale := zs.2, zp := zs.1, symmetric := tc.symmetric } with
        | error e => rw [hd] at h; cases h
        | ok d =>
          rw [hd] at h
          cases h
          refine ⟨_, d, rfl, ?_, rfl, rfl⟩
          unfold refData at hd
          cases content with
          | none => cases hd; rfl
          | some c =>
            simp only [] at hd
            split at hd
            · cases hd
            · cases hu : uniformQuantize ⟨c, .f32⟩
                  { bits := tc.bits.toNat, qdim := qdim, scale := zs.2, zp := zs.1, symmetric := tc.symmetric } with
              | error e => rw [hu] at hd; cases hd
              | ok q => rw [hu] at hd; cases hd; rfl

/-- the dimension along which `init_tensor_min_max` keeps separate statistics: the op's weight
    dimension when the *weight* config is CHANNELWISE, none (one statistic for the tensor) otherwise -/
def _root_.MatParams.statQDim (env : Env) (oi : OpInfo) (rank : Nat) : Option Nat :=
  match oi.cfg.weight with
  | some w =>
    if w.gran == .channelwise then
      (if oi.opName == "BATCH_MATMUL" then some (bmmQDim rank (opAdjY env oi))
       else (Tables.weightQDim.find? (·.1 == oi.opName)).map (·.2))
    else none
  | none => none

theorem _root_.MatParams.initMinMax_eq (env : Env) (oi : OpInfo) (t : Tensor) (d : Arr Rat) :
    initMinMax env oi t d =
      if weightBlockwise oi then .error .unsupported else
        match reduceKeep minR d (reduceDims (statQDim env oi d.shape.length) t.shape.length) with
        | .error e => .error e
        | .ok mn =>
          match reduceKeep maxR d (reduceDims (statQDim env oi d.shape.length) t.shape.length) with
          | .error e => .error e
          | .ok mx => .ok (⟨mn, .f32⟩, ⟨mx, .f32⟩) := by
  unfold initMinMax weightBlockwise statQDim
  simp only [bind, Except.bind, pure, Except.pure, throw, throwThe, MonadExceptOf.throw]
  cases oi.cfg.weight with
  | none =>
    simp only [Bool.false_eq_true, if_false]
    cases reduceKeep minR d _ with
    | error e => rfl
    | ok mn => cases reduceKeep maxR d _ <;> rfl
  | some w =>
    simp only []
    cases (w.gran == Gran.blockwise) <;> simp only [Bool.false_eq_true, if_false, if_true]
    cases reduceKeep minR d _ with
    | error e => rfl
    | ok mn => cases reduceKeep maxR d _ <;> rfl

/-- the parameter object `wrapper` puts into the request for `t`: computed from the statistics `statsOf` under the
    configuration `tcfgOf` when nothing is given -/
def wrapperParam (env : Env) (qsvs : Qsvs) (oi : OpInfo) (t : Tensor) (given : Option Param) : PyM (Option Param) :=
  match given, tcfgOf env oi t with
  | none, some tc => do
    let mm ← statsOf env qsvs oi t
    let r ← tensorQuantParams env oi mm tc (constData env t)
    pure (some r)
  | some (.uniform qp none), _ =>
    match constData env t with
    | some d => (do let q ← uniformQuantize ⟨d, .f32⟩ qp; pure (some (.uniform qp (some q))))
    | none => pure given
  | g, _ => pure g

theorem wrapper_eq (env : Env) (qsvs : Qsvs) (oi : OpInfo) (t : Tensor) (inbound : Bool) (given : Option Param) :
    wrapper env qsvs oi t inbound given =
      wrapperParam env qsvs oi t given >>= fun p => mkReq t.name oi inbound p (constData env t).isSome := by
  unfold wrapper wrapperParam statsOf tcfgOf
  simp only []
  generalize (if ((constData env t).isSome && (Tables.woOps.contains oi.opName || Tables.drqOps.contains oi.opName)) = true
    then oi.cfg.weight else oi.cfg.act) = tcfg
  generalize constData env t = data
  -- the model binds the parameter in every branch of its `match`; the branches are compared one by one
  rcases given with _ | (⟨qp, _ | q⟩ | ⟨bits, dat⟩)
  · cases tcfg with
    | none => rfl
    | some tc =>
      cases data with
      | none => cases Py.dictGet? qsvs t.name <;> rfl
      | some d =>
        simp only []
        generalize d.data.isEmpty = e
        cases e
        · cases initMinMax env oi t d <;> rfl
        · rfl
  · cases tcfg <;> cases data <;> rfl
  · cases tcfg <;> rfl
  · cases tcfg <;> rfl

/-- how the parameter object of a `wrapper` request arises from the given one -/
inductive WrapCase (env : Env) (qsvs : Qsvs) (oi : OpInfo) (t : Tensor) : Option Param → Option Param → Prop
  | unconfigured : tcfgOf env oi t = none → WrapCase env qsvs oi t none none
  | computed (tc : TCfg) (mm : Qsv) (q : Param) : tcfgOf env oi t = some tc → statsOf env qsvs oi t = .ok mm →
      tensorQuantParams env oi mm tc (constData env t) = .ok q → WrapCase env qsvs oi t none (some q)
  /-- data-free uniform parameters given to a constant (D21): its values are quantized with them -/
  | requantized (qp : QParams) (d : Arr Rat) (q : IArr) : constData env t = some d →
      uniformQuantize ⟨d, .f32⟩ qp = .ok q → WrapCase env qsvs oi t (some (.uniform qp none)) (some (.uniform qp (some q)))
  | kept (P : Param) : (∀ qp, P = .uniform qp none → constData env t = none) → WrapCase env qsvs oi t (some P) (some P)

theorem mkReq_error {name : String} {oi : OpInfo} {inb : Bool} {p : Option Param} {isC : Bool} {e : PyErr}
    (h : mkReq name oi inb p isC = .error e) : tensorXfs oi.cfg inb isC = .error e := by
  unfold mkReq at h
  cases hx : tensorXfs oi.cfg inb isC with
  | error e' => rw [hx] at h; cases h; rfl
  | ok xfs => rw [hx] at h; cases h

theorem _root_.MatTotal.mkReq_sited (env : Env) (qs : Qsvs) (oi : OpInfo) (t : Tensor) (inbound : Bool) (g p : Option Param) :
    Sited (AnySite (TensorSite env qs oi t inbound g)) (mkReq t.name oi inbound p (constData env t).isSome) :=
  fun _ h => ⟨_, .xfs _ (mkReq_error h)⟩

theorem statsOf_sited {env : Env} {qs : Qsvs} {oi : OpInfo} {t : Tensor} {inbound : Bool} {tc : TCfg}
    (htc : tcfgOf env oi t = some tc) : Sited (AnySite (TensorSite env qs oi t inbound none)) (statsOf env qs oi t) := by
  intro e hs
  unfold statsOf at hs
  cases hd : constData env t with
  | none =>
    rw [hd] at hs
    cases hq : Py.dictGet? qs t.name with
    | none => rw [hq] at hs; cases hs; exact ⟨_, .statsMissing tc rfl htc hd hq⟩
    | some v => rw [hq] at hs; cases hs
  | some d =>
    rw [hd] at hs
    simp only [] at hs
    split at hs
    · cases hs
    · rename_i hne
      have hne' : d.data.isEmpty = false := by simpa using hne
      cases hi : initMinMax env oi t d with
      | ok r => rw [hi] at hs; cases hs
      | error e' =>
        rw [hi] at hs
        cases hs
        rw [initMinMax_eq] at hi
        by_cases hbw : weightBlockwise oi = true
        · rw [if_pos hbw] at hi
          cases hi
          exact ⟨_, .constBlockwise tc d rfl htc hd hbw⟩
        · -- the reductions of a non-empty array do not fail
          rw [if_neg hbw] at hi
          exfalso
          revert hi
          unfold reduceKeep
          simp only [hne', Bool.false_eq_true, if_false]
          intro hi
          cases hi

theorem tensorQuantParams_sited {env : Env} {qs : Qsvs} {oi : OpInfo} {t : Tensor} {inbound : Bool} {tc : TCfg} {mm : Qsv}
    (htc : tcfgOf env oi t = some tc) (hs : statsOf env qs oi t = .ok mm) :
    Sited (AnySite (TensorSite env qs oi t inbound none)) (tensorQuantParams env oi mm tc (constData env t)) := by
  intro e hp
  rw [tensorQuantParams_eq] at hp
  cases mm with
  | none => cases hp; exact ⟨_, .statsEmpty tc rfl htc hs⟩
  | some s =>
    obtain ⟨mn, mx⟩ := s
    simp only [] at hp
    unfold refTensorParams at hp
    cases hz : Arith.zpScale tc.bits.toNat tc.symmetric mn mx with
    | error e' => rw [hz] at hp; cases hp; exact ⟨_, .zpScale tc mn mx _ rfl htc hs hz⟩
    | ok zs =>
      rw [hz] at hp
      cases hq : refQDim env oi tc (constData env t) with
      | error e' => rw [hq] at hp; cases hp; exact ⟨_, .qdim tc _ rfl htc hq⟩
      | ok qdim =>
        rw [hq] at hp
        simp only [] at hp
        cases hdat : refData tc (constData env t)
            { bits := tc.bits.toNat, qdim := qdim, scale := zs.2, zp := zs.1, symmetric := tc.symmetric } with
        | ok dd => rw [hdat] at hp; cases hp
        | error e' =>
          rw [hdat] at hp
          cases hp
          unfold refData at hdat
          cases hd : constData env t with
          | none => rw [hd] at hdat; cases hdat
          | some d =>
            rw [hd] at hdat
            simp only [] at hdat
            by_cases hb : (tc.gran == Gran.blockwise) = true
            · rw [if_pos hb] at hdat
              cases hdat
              exact ⟨_, .quantBlockwise tc d rfl htc hd (beq_iff_eq.1 hb)⟩
            · rw [if_neg hb] at hdat
              cases hu : uniformQuantize ⟨d, .f32⟩
                  { bits := tc.bits.toNat, qdim := qdim, scale := zs.2, zp := zs.1, symmetric := tc.symmetric } with
              | ok q => rw [hu] at hdat; cases hdat
              | error e2 =>
                rw [hu] at hdat
                cases hdat
                refine ⟨_, .quantize tc d mn mx qdim _ _ rfl htc hd hs hq ?_ (fun hh => hb (by rw [hh]; rfl)) hu⟩
                unfold refParams
                rw [hz]

theorem wrapperParam_run (env : Env) (qs : Qsvs) (oi : OpInfo) (t : Tensor) (inbound : Bool) (g : Option Param) :
    Run (WrapCase env qs oi t g) (AnySite (TensorSite env qs oi t inbound g)) (wrapperParam env qs oi t g) := by
  unfold wrapperParam
  rcases g with _ | (⟨qp, _ | q⟩ | ⟨bits, dat⟩)
  · cases htc : tcfgOf env oi t with
    | none => exact Run.ok (.unconfigured htc)
    | some tc =>
      refine Run.bind_err (statsOf_sited htc) (fun mm hs => ?_)
      exact Run.bind_err (tensorQuantParams_sited htc hs) (fun q hq => Run.ok (.computed tc mm q htc hs hq))
  · simp only []
    cases hd : constData env t with
    | none => exact Run.ok (.kept _ (fun _ _ => hd))
    | some d =>
      exact Run.bind_err (fun e he => ⟨_, .givenQuantize qp d e rfl hd he⟩)
        (fun q hq => Run.ok (.requantized qp d q hd hq))
  · exact Run.ok (.kept _ (fun _ hP => by cases hP))
  · exact Run.ok (.kept _ (fun _ hP => by cases hP))

theorem wrapperParam_ok {env : Env} {qsvs : Qsvs} {oi : OpInfo} {t : Tensor} {g p : Option Param}
    (h : wrapperParam env qsvs oi t g = .ok p) : WrapCase env qsvs oi t g p :=
  (wrapperParam_run env qsvs oi t true g).of_ok h

theorem wrapper_ok {env : Env} {qsvs : Qsvs} {oi : OpInfo} {t : Tensor} {inb : Bool} {g : Option Param} {r : CReq} :
    wrapper env qsvs oi t inb g = .ok r ↔
      ∃ p xfs, wrapperParam env qsvs oi t g = .ok p ∧ tensorXfs oi.cfg inb (constData env t).isSome = .ok xfs ∧
        r = sideReq t.name inb ⟨oi.opId, xfs, p⟩ := by
  rw [wrapper_eq, bind_eq_ok_iff]
  refine exists_congr fun p => ?_
  rw [mkReq_ok]
  exact ⟨fun ⟨h1, xfs, h2, h3⟩ => ⟨xfs, h1, h2, h3⟩, fun ⟨xfs, h1, h2, h3⟩ => ⟨h1, xfs, h2, h3⟩⟩

theorem wrapper_name (env : Env) (qs : Qsvs) (oi : OpInfo) (t : Tensor) (b : Bool) (g : Option Param) (r : CReq)
    (h : wrapper env qs oi t b g = .ok r) : r.name = t.name := by
  obtain ⟨p, xfs, -, -, rfl⟩ := wrapper_ok.1 h
  exact sideReq_name t.name b _

theorem _root_.MatTotal.wrapper_sited (env : Env) (qs : Qsvs) (oi : OpInfo) (t : Tensor) (inbound : Bool) (g : Option Param) :
    Sited (AnySite (TensorSite env qs oi t inbound g)) (wrapper env qs oi t inbound g) := by
  rw [wrapper_eq]
  exact Sited.bind (fun e he => (wrapperParam_run env qs oi t inbound g).of_error he)
    (fun p _ => mkReq_sited env qs oi t inbound g p)

theorem reqParam0_of_wrapper (env : Env) (qs : Qsvs) (oi : OpInfo) (t : Tensor) (g : Option Param) (r : CReq)
    (h : wrapper env qs oi t true g = .ok r) : ∃ p, reqParam0 r = .ok p := by
  obtain ⟨p, xfs, -, -, rfl⟩ := wrapper_ok.1 h
  exact ⟨p, reqParam0_sideReq ..⟩

theorem WrapCase.uniform {env : Env} {qsvs : Qsvs} {oi : OpInfo} {t : Tensor} {g p : Option Param}
    (h : WrapCase env qsvs oi t g p) (hg : ∀ P, g = some P → ∃ qp d, P = .uniform qp d) :
    ∀ P, p = some P → ∃ qp d, P = .uniform qp d := by
  cases h with
  | unconfigured _ => intro P hP; cases hP
  | computed tc mm q _ _ hq =>
    intro P hP; cases hP
    obtain ⟨qp, d, rfl, -⟩ := tensorQuantParams_ok hq
    exact ⟨qp, d, rfl⟩
  | requantized qp d q _ _ => intro P hP; cases hP; exact ⟨_, _, rfl⟩
  | kept P _ => exact hg

theorem WrapCase.data {env : Env} {qsvs : Qsvs} {oi : OpInfo} {t : Tensor} {g p : Option Param}
    (h : WrapCase env qsvs oi t g p) (hg : ∀ P, g = some P → hasData P = true → (constData env t).isSome = true) :
    ∀ P, p = some P → hasData P = true → (constData env t).isSome = true := by
  cases h with
  | unconfigured _ => intro P hP; cases hP
  | computed tc mm q _ _ hq =>
    intro P hP hd; cases hP
    obtain ⟨qp, d, rfl, hdc, -⟩ := tensorQuantParams_ok hq
    exact hdc ▸ hd
  | requantized qp d q hc _ => intro _ _ _; rw [hc]; rfl
  | kept P _ => exact hg

/-- `t` is the tensor in a non-absent operand (`b = true`) / result (`b = false`) slot of `op` (`-1` marks an
    absent operand; `tensorAt sg (-1)` would read the last tensor) -/
def AtSlot (sg : Subgraph) (op : Op) (b : Bool) (t : Tensor) : Prop :=
  ∃ a ∈ (bif b then op.inputs else op.outputs), a ≠ -1 ∧ tensorAt sg a = .ok t

theorem AtSlot.mem {sg : Subgraph} {op : Op} {b : Bool} {t : Tensor} (h : AtSlot sg op b t) : t ∈ sg.tensors := by
  obtain ⟨a, -, -, ht⟩ := h
  exact Py.index_mem _ _ _ ht

theorem noQuantOp_mem_iff {sg : Subgraph} {op : Op} {opId : Int} {rs : List CReq} (h : noQuantOp sg op opId = .ok rs)
    (r : CReq) : r ∈ rs ↔ ∃ b t, AtSlot sg op b t ∧ r = noQuantReq t.name opId b := by
  unfold noQuantOp at h
  obtain ⟨ins, hins, h⟩ := bind_ok _ _ _ h
  obtain ⟨outs, houts, h⟩ := bind_ok _ _ _ h
  cases pure_eq_ok_iff.1 h
  have side : ∀ (b : Bool) (l : List Int) (xs : List CReq),
      (l.filter (· != -1)).mapM (fun i => do let t ← tensorAt sg i; pure (noQuantReq t.name opId b)) = .ok xs →
      (r ∈ xs ↔ ∃ t, (∃ a ∈ l, a ≠ -1 ∧ tensorAt sg a = .ok t) ∧ r = noQuantReq t.name opId b) := by
    intro b l xs hxs
    constructor
    · intro hr
      obtain ⟨a, ha, hf⟩ := mapM_ok _ _ _ hxs r hr
      obtain ⟨t, ht, hf⟩ := bind_ok _ _ _ hf
      obtain ⟨ha1, ha2⟩ := List.mem_filter.1 ha
      exact ⟨t, ⟨a, ha1, by simpa using ha2, ht⟩, (pure_eq_ok_iff.1 hf).symm⟩
    · rintro ⟨t, ⟨a, ha1, ha2, ht⟩, rfl⟩
      obtain ⟨y, hy, hf⟩ := mapM_ok' _ _ _ hxs a (List.mem_filter.2 ⟨ha1, by simpa using ha2⟩)
      obtain ⟨t', ht', hf⟩ := bind_ok _ _ _ hf
      rw [ht] at ht'
      cases ht'
      exact pure_eq_ok_iff.1 hf ▸ hy
  rw [List.mem_append, side true _ _ hins, side false _ _ houts]
  constructor
  · rintro (⟨t, ht, hr⟩ | ⟨t, ht, hr⟩)
    · exact ⟨true, t, ht, hr⟩
    · exact ⟨false, t, ht, hr⟩
  · rintro ⟨b, t, ht, hr⟩
    cases b
    · exact .inr ⟨t, ht, hr⟩
    · exact .inl ⟨t, ht, hr⟩

theorem noQuantOp_ok_iff {sg : Subgraph} {op : Op} {opId : Int} {rs : List CReq} :
    noQuantOp sg op opId = .ok rs ↔
      ∃ tin tout, List.Forall₂ (fun a t => tensorAt sg a = .ok t) (op.inputs.filter (· != -1)) tin ∧
        List.Forall₂ (fun a t => tensorAt sg a = .ok t) (op.outputs.filter (· != -1)) tout ∧
        rs = tin.map (fun t => noQuantReq t.name opId true) ++ tout.map (fun t => noQuantReq t.name opId false) := by
  unfold noQuantOp
  simp only [bind_eq_ok_iff, mapM_bind_pure_ok_iff, pure_eq_ok_iff]
  constructor
  · rintro ⟨_, ⟨tin, hin, rfl⟩, _, ⟨tout, hout, rfl⟩, rfl⟩
    exact ⟨tin, tout, hin, hout, rfl⟩
  · rintro ⟨tin, tout, hin, hout, rfl⟩
    exact ⟨_, ⟨tin, hin, rfl⟩, _, ⟨tout, hout, rfl⟩, rfl⟩

theorem _root_.MatTotal.noQuantOp_sited (sg : Subgraph) (op : Op) (opId : Int) :
    Sited (SlotSite sg (op.inputs ++ op.outputs)) (noQuantOp sg op opId) := by
  unfold noQuantOp
  refine Sited.bind (Sited.mapM _ _ (fun a ha => ?_)) (fun ins _ => ?_)
  · refine Sited.bind ?_ (fun _ _ => Sited.ok _)
    intro e he
    exact ⟨a, List.mem_append_left _ (List.mem_filter.1 ha).1, he⟩
  refine Sited.bind (Sited.mapM _ _ (fun a ha => ?_)) (fun outs _ => Sited.ok _)
  refine Sited.bind ?_ (fun _ _ => Sited.ok _)
  intro e he
  exact ⟨a, List.mem_append_right _ (List.mem_filter.1 ha).1, he⟩

/-- the parameter object of the bias request: none unless the configuration is static-range; then the
    bias (a constant) quantized with the scales of the data operand and the weight, read off positions
    `iIn`, `iW` of the request list -/
inductive BiasParam (env : Env) (oi : OpInfo) (reqs : List CReq) (iIn iW : Nat) (bt : Tensor) : Option Param → Prop
  | none : isSRQ oi.cfg = false → BiasParam env oi reqs iIn iW bt none
  | quantized (bd : Arr Rat) (rI rW : CReq) (qi qw : QParams) (di dw : Option IArr) (qp : QParams) (q : IArr) :
      isSRQ oi.cfg = true → constData env bt = some bd →
      reqs[iIn]? = some rI → reqParam0 rI = .ok (some (.uniform qi di)) →
      reqs[iW]? = some rW → reqParam0 rW = .ok (some (.uniform qw dw)) →
      quantizeBias ⟨bd, .f32⟩ qi qw = .ok (qp, q) → BiasParam env oi reqs iIn iW bt (some (.uniform qp (some q)))

/-- `biasFor` with a bias in raw slot `iB`: the tensor `bt` of that slot, its parameter object `bp`, and the request `r`
    that replaces the one at list position `iB` -/
structure BiasSet (env : Env) (sg : Subgraph) (oi : OpInfo) (reqs : List CReq) (iIn iW iB : Nat) (rs : List CReq)
    (a : Int) (bt : Tensor) (bp : Option Param) (r : CReq) : Prop where
  slot : oi.op.inputs[iB]? = some a
  present : a ≠ -1
  tensor : tensorAt sg a = .ok bt
  param : BiasParam env oi reqs iIn iW bt bp
  req : mkReq bt.name oi true bp (isSRQ oi.cfg) = .ok r
  lt : iB < reqs.length
  eq : rs = reqs.set iB r

/-- what a successful `biasFor` returned: the requests unchanged when the operator has no bias operand, or the
    bias request put at position `iB` -/
def BiasOut (env : Env) (sg : Subgraph) (oi : OpInfo) (reqs : List CReq) (iIn iW iB : Nat) (rs : List CReq) : Prop :=
  ((oi.op.inputs[iB]? = none ∨ oi.op.inputs[iB]? = some (-1)) ∧ rs = reqs) ∨
  ∃ a bt bp r, BiasSet env sg oi reqs iIn iW iB rs a bt bp r

theorem biasFor_run (env : Env) (sg : Subgraph) (oi : OpInfo) (reqs : List CReq) (iIn iW iB : Nat) :
    Run (BiasOut env sg oi reqs iIn iW iB) (AnySite (BiasSite env sg oi reqs iIn iW iB))
      (biasFor env sg oi reqs iIn iW iB) := by
  unfold biasFor
  cases hb : oi.op.inputs[iB]? with
  | none => exact Run.ok (.inl ⟨.inl hb, rfl⟩)
  | some bslot =>
    refine Run.ite _ (fun hc => Run.ok (.inl ⟨.inr (by rw [hb, beq_iff_eq.1 hc]), rfl⟩)) (fun hne => ?_)
    have hne' : bslot ≠ -1 := by simpa using hne
    refine Run.bind_err (fun e he => ⟨_, .slot e ⟨bslot, List.mem_of_getElem? hb, he⟩⟩) (fun bt hbt => ?_)
    -- whatever the parameter object `bp`, the rest makes the request and puts it at position `iB`
    have fin : ∀ bp, BiasParam env oi reqs iIn iW bt bp →
        Run (BiasOut env sg oi reqs iIn iW iB) (AnySite (BiasSite env sg oi reqs iIn iW iB))
          (mkReq bt.name oi true bp (isSRQ oi.cfg) >>= fun r =>
            if iB < reqs.length then pure (reqs.set iB r) else throw PyErr.indexError) := by
      intro bp hbp
      exact Run.bind_err (fun e he => ⟨_, .xfs _ (mkReq_error he)⟩) (fun r hr => Run.ite _
        (fun hlt => Run.ok (.inr ⟨bslot, bt, bp, r, hb, hne', hbt, hbp, hr, hlt, rfl⟩))
        (fun h => Run.error ⟨_, .position bslot hb hne' h⟩))
    by_cases hs : isSRQ oi.cfg = true
    · rw [if_pos hs]
      cases hc : constData env bt with
      | none => exact Run.error ⟨_, BiasSite.notConst bslot bt hb hne' hbt hs hc⟩
      | some bd =>
        cases hrin : reqs[iIn]? with
        | none => exact Run.error ⟨_, .reqIndex hs (.inl hrin)⟩
        | some rin =>
          refine Run.bind_err (fun e he => ⟨_, .reqShape rin e hs (.inl hrin) he⟩) (fun pin hpin => ?_)
          cases hrw : reqs[iW]? with
          | none => exact Run.error ⟨_, .reqIndex hs (.inr hrw)⟩
          | some rw' =>
            refine Run.bind_err (fun e he => ⟨_, .reqShape rw' e hs (.inr hrw) he⟩) (fun pw hpw => ?_)
            split
            · rename_i qi di qw dw
              refine Run.bind_err ?_ (fun bp hbp => ?_)
              · exact Sited.bind (fun e he => ⟨_, .quantize bslot bt bd rin rw' qi qw di dw e hb hne' hbt hs hc hrin hrw hpin hpw he⟩)
                  (fun _ _ => Sited.ok _)
              obtain ⟨⟨qp, q⟩, hq, hbp⟩ := bind_ok _ _ _ hbp
              cases pure_eq_ok_iff.1 hbp
              exact fin _ (.quantized bd rin rw' qi qw di dw qp q hs hc hrin hpin hrw hpw hq)
            · rename_i hno
              exact Run.error ⟨_, .params rin rw' pin pw hs hrin hrw hpin hpw
                (fun qi di qw dw h => hno qi di qw dw h.1 h.2)⟩
    · rw [if_neg hs]
      exact fin none (.none (by simpa using hs))

theorem biasFor_ok {env : Env} {sg : Subgraph} {oi : OpInfo} {reqs rs : List CReq} {iIn iW iB : Nat}
    (h : biasFor env sg oi reqs iIn iW iB = .ok rs) : BiasOut env sg oi reqs iIn iW iB rs :=
  (biasFor_run env sg oi reqs iIn iW iB).of_ok h

theorem _root_.MatTotal.biasFor_sited (env : Env) (sg : Subgraph) (oi : OpInfo) (reqs : List CReq) (iIn iW iB : Nat) :
    Sited (AnySite (BiasSite env sg oi reqs iIn iW iB)) (biasFor env sg oi reqs iIn iW iB) :=
  fun _ he => (biasFor_run env sg oi reqs iIn iW iB).of_error he

/-- the weight request of the float-casting algorithm: `[ADD_DEQUANTIZE]` with the float16 values -/
def f16Req (opId : Int) (tw : Tensor) (wd : Arr Rat) (h : List Rat) : CReq :=
  sideReq tw.name true ⟨opId, [.addDequant], some (.nonlinear 16 (some ⟨wd.shape, h⟩))⟩

/-- what `floatCastOp` reads (raw slots, without the test for an absent slot): data operand, weight with its constant
    contents as float16 values, first result; `reqs`: the three requests, and a fourth when the bias slot is present -/
structure CastParts (env : Env) (sg : Subgraph) (oi : OpInfo) (iIn iW iB : Nat) (rs : List CReq) (sIn sW sOut : Int)
    (tin tw tout : Tensor) (wd : Arr Rat) (hh : List Rat) : Prop where
  inSlot : oi.op.inputs[iIn]? = some sIn
  wSlot : oi.op.inputs[iW]? = some sW
  outSlot : oi.op.outputs[0]? = some sOut
  inT : tensorAt sg sIn = .ok tin
  wT : tensorAt sg sW = .ok tw
  outT : tensorAt sg sOut = .ok tout
  const : constData env tw = some wd
  f16 : wd.data.mapM (fun x => Prec.f16.chk x) = .ok hh
  reqs : ((∀ b, oi.op.inputs[iB]? = some b → b = -1) ∧
        rs = [noQuantReq tin.name oi.opId true, f16Req oi.opId tw wd hh, noQuantReq tout.name oi.opId false]) ∨
     ∃ b tb, oi.op.inputs[iB]? = some b ∧ b ≠ -1 ∧ tensorAt sg b = .ok tb ∧
       rs = [noQuantReq tin.name oi.opId true, f16Req oi.opId tw wd hh, noQuantReq tout.name oi.opId false] ++
         [noQuantReq tb.name oi.opId true]

/-- what a successful `floatCastOp` returned: `noQuantReq` for the data operand and the result, the float16 request
    for the (constant) weight, `noQuantReq` for a bias operand if there is one -/
def CastOut (env : Env) (sg : Subgraph) (oi : OpInfo) (iIn iW iB : Nat) (rs : List CReq) : Prop :=
  ∃ sIn sW sOut tin tw tout wd hh, CastParts env sg oi iIn iW iB rs sIn sW sOut tin tw tout wd hh

theorem floatCastOp_run (env : Env) (sg : Subgraph) (oi : OpInfo) (iIn iW iB : Nat) :
    Run (CastOut env sg oi iIn iW iB) (AnySite (CastSite env sg oi iIn iW iB)) (floatCastOp env sg oi iIn iW iB) := by
  unfold floatCastOp
  simp only []
  have hslotI : ∀ (i : Nat) (a : Int), oi.op.inputs[i]? = some a →
      Sited (AnySite (CastSite env sg oi iIn iW iB)) (tensorAt sg a) :=
    fun i a ha e he => ⟨_, .slot e ⟨a, List.mem_append_left _ (List.mem_of_getElem? ha), he⟩⟩
  cases h1 : oi.op.inputs[iIn]? with
  | none => exact Run.error ⟨_, CastSite.noSlot (.inl h1)⟩
  | some a1 =>
    -- the model binds each look-up (`match … | some s => pure s | none => throw`); after `cases` on the option a
    -- `.ok a1 >>= _` is left, and `Run.bind` with `P := (a1 = ·)` steps over it without unfolding `bind`
    refine Run.bind (Run.ok rfl) (fun a1' _ ha1' => ?_)
    cases (ha1' : a1 = a1')
    refine Run.bind_err (hslotI iIn a1 h1) (fun tin htin => ?_)
    cases h2 : oi.op.inputs[iW]? with
    | none => exact Run.error ⟨_, CastSite.noSlot (.inr (.inl h2))⟩
    | some a2 =>
      refine Run.bind (Run.ok rfl) (fun a2' _ ha2' => ?_)
      cases (ha2' : a2 = a2')
      refine Run.bind_err (hslotI iW a2 h2) (fun tw htw => ?_)
      cases h3 : oi.op.outputs[0]? with
      | none => exact Run.error ⟨_, CastSite.noSlot (.inr (.inr h3))⟩
      | some a3 =>
        refine Run.bind (Run.ok rfl) (fun a3' _ ha3' => ?_)
        cases (ha3' : a3 = a3')
        refine Run.bind_err (fun e he => ⟨_, .slot e ⟨a3, List.mem_append_right _ (List.mem_of_getElem? h3), he⟩⟩)
          (fun tout htout => ?_)
        cases hc : constData env tw with
        | none => exact Run.error ⟨_, CastSite.weightNotConst a2 tw h2 htw hc⟩
        | some wd =>
          refine Run.bind (Run.ok rfl) (fun wd' _ hwd' => ?_)
          cases (hwd' : wd = wd')
          refine Run.bind_err (Sited.mapM _ _ (fun x hx e he => ⟨_, .f16 a2 tw wd x e h2 htw hc hx he⟩)) (fun hh hhh => ?_)
          cases h4 : oi.op.inputs[iB]? with
          | none =>
            exact Run.ok ⟨a1, a2, a3, tin, tw, tout, wd, hh, h1, h2, h3, htin, htw, htout, hc, hhh,
              .inl ⟨fun b hb => (by rw [h4] at hb; cases hb), rfl⟩⟩
          | some b =>
            refine Run.ite _ (fun hne => ?_) (fun hne => ?_)
            · exact Run.bind_err (hslotI iB b h4) (fun tb htb =>
                Run.ok ⟨a1, a2, a3, tin, tw, tout, wd, hh, h1, h2, h3, htin, htw, htout, hc, hhh,
                  .inr ⟨b, tb, h4, by simpa using hne, htb, rfl⟩⟩)
            · exact Run.ok ⟨a1, a2, a3, tin, tw, tout, wd, hh, h1, h2, h3, htin, htw, htout, hc, hhh,
                .inl ⟨fun b' hb' => (by rw [h4] at hb'; cases hb'; simpa using hne), rfl⟩⟩

theorem floatCastOp_ok {env : Env} {sg : Subgraph} {oi : OpInfo} {iIn iW iB : Nat} {rs : List CReq}
    (h : floatCastOp env sg oi iIn iW iB = .ok rs) : CastOut env sg oi iIn iW iB rs :=
  (floatCastOp_run env sg oi iIn iW iB).of_ok h

theorem _root_.MatTotal.floatCastOp_sited (env : Env) (sg : Subgraph) (oi : OpInfo) (iIn iW iB : Nat) :
    Sited (AnySite (CastSite env sg oi iIn iW iB)) (floatCastOp env sg oi iIn iW iB) :=
  fun _ he => (floatCastOp_run env sg oi iIn iW iB).of_error he

/-- the part of `fixedRangeOp` after `standardOp`: the producer entry of the last request gets the fixed
    parameters, and the statistics of that tensor the range they stand for -/
def fixLast (oi : OpInfo) (softmaxLike : Bool) (p : List CReq × Qsvs) : PyM (List CReq × Qsvs) :=
  match p.1.getLast?, oi.cfg.act with
  | some last, some a =>
    match last.producer with
    | none => pure (p.1, p.2)
    | some pr =>
      match fixedParams softmaxLike a.bits.toNat with
      | none => throw .valueError
      | some fp => do
        let last' : CReq := { last with producer := some { pr with param := some (.uniform fp none) } }
        let mm ← minMaxFromParams a.bits.toNat a.symmetric fp
        match Py.dictGet? p.2 last.name with
        | none => throw .keyError
        | some _ => pure (p.1.dropLast ++ [last'], Py.dictSet p.2 last.name (some mm))
  | _, _ => pure (p.1, p.2)

theorem fixedRangeOp_eq_fixLast (env : Env) (sg : Subgraph) (qs : Qsvs) (oi : OpInfo) (b : Bool) :
    fixedRangeOp env sg qs oi b =
      if oi.op.outputs.length ≠ 1 then .error .valueError
      else standardOp env sg qs oi .none [] [] >>= fixLast oi b := by
  unfold fixedRangeOp
  by_cases hc : oi.op.outputs.length ≠ 1
  · rw [if_pos hc, if_pos hc]
    rfl
  · rw [if_neg hc, if_neg hc]
    rfl

/-- `fixLast` overriding: the last request `last`, its producer entry `pr`, the activation config `a`, the fixed
    parameters `fp` with their range `mm` -/
structure FixSet (oi : OpInfo) (sl : Bool) (reqs : List CReq) (qs : Qsvs) (rs : List CReq) (qs' : Qsvs)
    (last : CReq) (pr : CO2T) (a : TCfg) (fp : QParams) (mm : FArr × FArr) : Prop where
  getLast : reqs.getLast? = some last
  prod : last.producer = some pr
  act : oi.cfg.act = some a
  params : fixedParams sl a.bits.toNat = some fp
  minMax : minMaxFromParams a.bits.toNat a.symmetric fp = .ok mm
  stat : (Py.dictGet? qs last.name).isSome = true
  eq : rs = reqs.dropLast ++ [{ last with producer := some { pr with param := some (.uniform fp none) } }]
  qs_eq : qs' = Py.dictSet qs last.name (some mm)

/-- what a successful `fixLast` returned: its argument (no last request, no activation configuration, or a last request
    without producer entry), or the fixed parameters on the producer entry of the last request and their range as
    the statistics of that tensor -/
def FixOut (oi : OpInfo) (sl : Bool) (reqs : List CReq) (qs : Qsvs) (rs : List CReq) (qs' : Qsvs) : Prop :=
  ((reqs.getLast? = none ∨ oi.cfg.act = none ∨ ∃ last, reqs.getLast? = some last ∧ last.producer = none) ∧
    rs = reqs ∧ qs' = qs) ∨
  ∃ last pr a fp mm, FixSet oi sl reqs qs rs qs' last pr a fp mm

/-- the three ways `fixLast` can fail are handed in (`fixedRangeOp_run` names the sites) -/
theorem fixLast_run {S : PyErr → Prop} (oi : OpInfo) (sl : Bool) (reqs : List CReq) (qs : Qsvs)
    (hbits : ∀ a, oi.cfg.act = some a → fixedParams sl a.bits.toNat = none → S .valueError)
    (hmm : ∀ a fp e, oi.cfg.act = some a → fixedParams sl a.bits.toNat = some fp →
      minMaxFromParams a.bits.toNat a.symmetric fp = .error e → S e)
    (hstats : ∀ last, reqs.getLast? = some last → last.producer.isSome = true → Py.dictGet? qs last.name = none →
      S .keyError) :
    Run (fun out => FixOut oi sl reqs qs out.1 out.2) S (fixLast oi sl (reqs, qs)) := by
  unfold fixLast
  split
  · rename_i last a hl ha
    cases hp : last.producer with
    | none => exact Run.ok (.inl ⟨.inr (.inr ⟨last, hl, hp⟩), rfl, rfl⟩)
    | some pr =>
      cases hf : fixedParams sl a.bits.toNat with
      | none => exact Run.error (hbits a ha hf)
      | some fp =>
        refine Run.bind_err (fun e he => hmm a fp e ha hf he) (fun mm hmm' => ?_)
        cases hd : Py.dictGet? qs last.name with
        | none => exact Run.error (hstats last hl (by rw [hp]; rfl) hd)
        | some v => exact Run.ok (.inr ⟨last, pr, a, fp, mm, hl, hp, ha, hf, hmm', by rw [hd]; rfl, rfl, rfl⟩)
  · rename_i hno
    refine Run.ok (.inl ⟨?_, rfl, rfl⟩)
    cases hl : reqs.getLast? with
    | none => exact .inl rfl
    | some last =>
      cases ha : oi.cfg.act with
      | none => exact .inr (.inl rfl)
      | some a => exact absurd ha (hno last a hl)

theorem fixLast_ok {oi : OpInfo} {sl : Bool} {reqs rs : List CReq} {qs qs' : Qsvs}
    (h : fixLast oi sl (reqs, qs) = .ok (rs, qs')) : FixOut oi sl reqs qs rs qs' :=
  (fixLast_run (S := fun _ => True) oi sl reqs qs (fun _ _ _ => trivial) (fun _ _ _ _ _ _ => trivial)
    (fun _ _ _ _ => trivial)).of_ok h

theorem fixLast_ok_iff {oi : OpInfo} {sl : Bool} {reqs rs : List CReq} {qs qs' : Qsvs} :
    fixLast oi sl (reqs, qs) = .ok (rs, qs') ↔ FixOut oi sl reqs qs rs qs' := by
  constructor
  · exact fixLast_ok
  · rintro (⟨hwhy, rfl, rfl⟩ | ⟨last, pr, a, fp, mm, hlast, hpr, hact, hfp, hmm, hq, rfl, rfl⟩)
    · unfold fixLast
      rcases hwhy with h | h | ⟨last, h1, h2⟩
      · simp only [h]; rfl
      · simp only [h]
        split
        · rename_i heq; cases heq
        · rfl
      · simp only [h1]
        split
        · rename_i l a hl _
          cases hl
          simp only [h2]; rfl
        · rfl
    · obtain ⟨v, hv⟩ := Option.isSome_iff_exists.1 hq
      simp only [fixLast, hlast, hact, hpr, hfp, hmm, hv, bind, Except.bind, pure, Except.pure]

end Mat
