import QProofs.TypingE2E
/-!
# C04 end to end, graph stage: where the `quant` field of an output tensor comes from

`quant_final`: after a run of the performer, the `quant` field of an ORIGINAL tensor is the original one or the parameter id
of a retyping instruction (QUANTIZE_TENSOR / ADD_DEQUANTIZE) on that tensor.  (A NEW tensor gets its `quant` from the
ADD_QUANTIZE instruction that created it: `TypingGraph.Final.news`, read in `ParamsE2E.quant_source`.)
-/
open Graph Perform GraphInv StepTypes Wiring SharingE2E

set_option autoImplicit false

namespace ParamsGraph

theorem quant_final {pt : PTable} {m : Model} {tis : List TInsts} {st : PState} (B : Base m st)
    (R : RunDesc.Ran pt m (RunRule.performed tis) st) (hok : ∀ ti ∈ tis, TInstsOK pt m ti) :
    ∀ (s : Nat) (sg0 sg : Subgraph) (i : Nat) (tn0 tn : Tensor), m.subgraphs[s]? = some sg0 →
      st.model.subgraphs[s]? = some sg → sg0.tensors[i]? = some tn0 → sg.tensors[i]? = some tn →
      tn.quant = tn0.quant ∨ ∃ p pi, tn.quant = some p ∧ Retyped tis s i p ∧ pinfo pt p = some pi ∧
        pi.uniform = true := by
  intro s sg0 sg i tn0 tn h0 h1 h2 h3
  obtain ⟨_, om, h1', hom, -⟩ := B.cur s sg0 h0
  cases h1.symm.trans h1'
  obtain rfl := Option.some.inj (h3.symm.trans ((R.sg s sg0 sg om h0 h1 hom).orig i tn0 h2))
  -- each retyping instruction on `i` sets the field (uniform parameter) or keeps it
  refine RunDesc.retyped_ind pt _ i tn0 (fun tn => tn.quant = tn0.quant ∨ ∃ p pi, tn.quant = some p ∧
    Retyped tis s i p ∧ pinfo pt p = some pi ∧ pi.uniform = true) (.inl rfl) fun e he hr hi tn hP => ?_
  obtain ⟨ti, hmem, rfl⟩ := RunDesc.mem_on.1 he
  rcases RunDesc.retypeBy_cases pt e tn with h | ⟨p, pi, ty, e1, e2, e3, h⟩ <;> rw [h]
  · exact hP
  · rw [retype_quant]
    split
    · exact .inr ⟨p, pi, rfl, hi ▸ retyped_of_performed hok hmem hr e1, e2, ‹_›⟩
    · exact hP

theorem insertion_cases (x : Xf) (h : isInsertion x = true) : retypes x = true ∨ x = .addQuant := by
  cases x
  case noQuant | emulated => cases h
  case addQuant => exact .inr rfl
  case addDequant | quantTensor => exact .inl rfl

theorem retypes_cases (x : Xf) (h : retypes x = true) : x = .quantTensor ∨ x = .addDequant := by
  cases x
  case quantTensor => exact .inl rfl
  case addDequant => exact .inr rfl
  case noQuant | addQuant | emulated => cases h

end ParamsGraph
