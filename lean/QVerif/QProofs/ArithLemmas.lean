import QProofs.PrecLemmas
import QProofs.BytesProofs
import QModel.Arith
/-!
# Lemmas about the scalar cores of `QModel/Arith.lean`
Namespace `Arith`: the cores in closed form behind their finiteness checks (`zpScale1_ok_iff` with the components `chanZp`, `chanScale`, `chanFin`;
`quantize1_ok_iff`).  Namespace `ArithL`: the integer side (`clipI`, `storageBits`, `roundClip`), the scale of one channel (`chanScale_ge`,
`chanScale_le`) and the algebra of the asymmetric zero point (`cover_of_zp_err`). -/
open Num Arith PrecL

namespace Arith

/-- zero point, scale and finiteness checks of one channel: the components of `zpScale1`, for either symmetry -/
def chanZp (pr : Prec) (bits : Nat) (sym : Bool) (mn mx : Rat) : Int :=
  if sym then 0 else asymZp pr bits mn mx
def chanScale (pr : Prec) (bits : Nat) (sym : Bool) (mn mx : Rat) : Rat :=
  if sym then symScale pr bits mn mx else asymScale pr bits mn mx
def chanFin (pr : Prec) (bits : Nat) (sym : Bool) (mn mx : Rat) : Bool :=
  if sym then fin pr (symScale pr bits mn mx)
  else fin pr (asymDiff pr mn mx) && fin pr (asymScale pr bits mn mx) && fin pr (asymQuo pr bits mn mx)
    && fin pr (asymZpF pr bits mn mx)

theorem zpScale1_ok_iff {pr : Prec} {bits : Nat} {sym : Bool} {mn mx : Rat} {z : Int} {s : Rat} :
    zpScale1 pr bits sym mn mx = .ok (z, s) ↔
      chanFin pr bits sym mn mx = true ∧ z = chanZp pr bits sym mn mx ∧ s = chanScale pr bits sym mn mx := by
  have e : zpScale1 pr bits sym mn mx = if chanFin pr bits sym mn mx
      then .ok (chanZp pr bits sym mn mx, chanScale pr bits sym mn mx) else .error .nonfinite := by
    cases sym <;> rfl
  rw [e, PyM.guard_ok_iff, Prod.mk.injEq]

theorem chanZp_sym (pr : Prec) (bits : Nat) (mn mx : Rat) : chanZp pr bits true mn mx = 0 := rfl

theorem chanFin_scale {pr : Prec} {bits : Nat} {sym : Bool} {mn mx : Rat} (h : chanFin pr bits sym mn mx = true) :
    pr.isFin (chanScale pr bits sym mn mx) = true := by
  cases sym
  · exact (Bool.and_eq_true_iff.1 (Bool.and_eq_true_iff.1 (Bool.and_eq_true_iff.1 h).1).1).2
  · exact h

theorem quantize1_ok_iff {xpr spr : Prec} {zw bits : Nat} {narrow : Bool} {x s : Rat} {z c : Int} :
    quantize1 xpr spr zw bits narrow x s z = .ok c ↔
      s ≠ 0 ∧ (fin spr (qInv spr s) && fin (xpr.join spr) (qProd xpr spr x s)
        && fin (promoteInt (xpr.join spr) zw) (qSum xpr spr zw x s z)) = true ∧
      c = roundClip bits narrow (qSum xpr spr zw x s z) := by
  unfold quantize1
  by_cases hs : s = 0
  · rw [if_pos hs]; exact ⟨fun h => (by cases h), fun h => absurd hs h.1⟩
  · rw [if_neg hs, PyM.guard_ok_iff]; exact ⟨fun h => ⟨hs, h⟩, fun h => h.2⟩

end Arith

namespace ArithL

theorem emin_ge (pr : Prec) : (-1022:Int) ≤ pr.emin := by cases pr <;> simp [Prec.emin]

theorem expOK (pr : Prec) (h16 : pr ≠ .f16) {k : Int} (hk : -126 ≤ k) : pr = .exact ∨ pr.emin ≤ k := by
  cases pr
  · exact absurd rfl h16
  · exact .inr hk
  · exact .inr (le_trans (by decide) hk)
  · exact .inl rfl

theorem maxR_ge_left (a b : Rat) : a ≤ maxR a b := by unfold maxR; split_ifs <;> linarith
theorem maxR_ge_right (a b : Rat) : b ≤ maxR a b := by unfold maxR; split_ifs <;> linarith
theorem minR_le_left (a b : Rat) : minR a b ≤ a := by unfold minR; split_ifs <;> linarith
theorem minR_le_right (a b : Rat) : minR a b ≤ b := by unfold minR; split_ifs <;> linarith
theorem maxR_le {a b c : Rat} (h1 : a ≤ c) (h2 : b ≤ c) : maxR a b ≤ c := by
  unfold maxR; split <;> assumption
theorem le_minR {a b c : Rat} (h1 : c ≤ a) (h2 : c ≤ b) : c ≤ minR a b := by
  unfold minR; split <;> assumption
theorem absR_eq (x : Rat) : absR x = |x| := by
  unfold absR; split_ifs with h
  · rw [abs_of_neg h]
  · rw [abs_of_nonneg (not_lt.mp h)]

theorem abs_le_symBound (pr : Prec) {mn mx x : Rat} (h1 : mn ≤ x) (h2 : x ≤ mx) :
    |x| ≤ symBound pr mn mx := by
  have a1 : |mn| ≤ symBound pr mn mx :=
    (absR_eq mn).symm.trans_le ((maxR_ge_left _ _).trans (maxR_ge_left _ _))
  have a2 : |mx| ≤ symBound pr mn mx :=
    (absR_eq mx).symm.trans_le ((maxR_ge_right _ _).trans (maxR_ge_left _ _))
  exact abs_le.mpr ⟨by linarith only [h1, neg_abs_le mn, a1], by linarith only [h2, le_abs_self mx, a2]⟩

theorem minBound_ge14 (pr : Prec) (h16 : pr ≠ .f16) : (2:Rat)^(-14:Int) ≤ minBound pr := by
  have h0 : (2:Rat)^(-14:Int) ≤ 1/10000 := by norm_num
  have h64 := rn_ge_pow .f64 (-14) (.inr (by decide)) h0
  cases pr
  · exact absurd rfl h16
  · exact rn_ge_pow .f32 (-14) (.inr (by decide)) h64
  · exact rn_ge_pow .f64 (-14) (.inr (by decide)) h64
  · exact h0

theorem minBound_le_one (pr : Prec) (h16 : pr ≠ .f16) : minBound pr ≤ 1 := by
  have h0 : (1:Rat)/10000 ≤ (2:Rat)^(0:Int) := by norm_num
  have h64 := rn_le_pow .f64 0 (.inr (by decide)) h0
  rw [← zpow_zero (2:Rat)]
  cases pr
  · exact absurd rfl h16
  · exact rn_le_pow .f32 0 (.inr (by decide)) h64
  · exact rn_le_pow .f64 0 (.inr (by decide)) h64
  · exact h0

theorem qmaxF_eq (bits : Nat) (h : bits ≤ 53) : qmaxF bits = ((2:Rat)^(bits-1) - 1) := by
  unfold qmaxF qmax; rw [if_pos h]; push_cast; ring
theorem qminF_eq (bits : Nat) (h : bits ≤ 53) : qminF bits = -((2:Rat)^(bits-1)) := by
  unfold qminF qmin; rw [if_pos h]; push_cast; ring

theorem qmin_cast (bits : Nat) : ((qmin bits : Int) : Rat) = -(2:Rat)^(bits-1) := by
  unfold qmin; push_cast; ring
theorem qmax_cast (bits : Nat) : ((qmax bits : Int) : Rat) = (2:Rat)^(bits-1) - 1 := by
  unfold qmax; push_cast; ring

theorem two_le_pow_pred (bits : Nat) (h2 : 2 ≤ bits) : (2:Int) ≤ (2:Int)^(bits-1) :=
  calc (2:Int) = 2^1 := by norm_num
    _ ≤ 2^(bits-1) := pow_le_pow_right₀ (by norm_num) (by omega)

theorem pow_bounds (bits : Nat) (h2 : 2 ≤ bits) (h16 : bits ≤ 16) :
    (2:Rat) ≤ (2:Rat)^(bits-1) ∧ (2:Rat)^(bits-1) ≤ 32768 := by
  constructor
  · calc (2:Rat) = (2:Rat)^1 := by norm_num
      _ ≤ (2:Rat)^(bits-1) := pow_le_pow_right₀ (by norm_num) (by omega)
  · calc (2:Rat)^(bits-1) ≤ (2:Rat)^15 := pow_le_pow_right₀ (by norm_num) (by omega)
      _ = 32768 := by norm_num

theorem range_bounds (bits : Nat) (hb2 : 2 ≤ bits) (hb16 : bits ≤ 16) :
    qmin bits = -(2:Int)^(bits-1) ∧ qmax bits = (2:Int)^(bits-1) - 1 ∧
    (2:Int) ≤ (2:Int)^(bits-1) ∧ (2:Int)^(bits-1) ≤ 32768 := by
  refine ⟨rfl, rfl, two_le_pow_pred bits hb2, ?_⟩
  calc (2:Int)^(bits-1) ≤ (2:Int)^15 := pow_le_pow_right₀ (by norm_num) (by omega)
    _ = 32768 := by norm_num

theorem steps_bounds (bits : Nat) (hb2 : 2 ≤ bits) (hb16 : bits ≤ 16) :
    1 ≤ qmaxF bits ∧ qmaxF bits ≤ (2:Rat)^(16:Int) ∧ qminF bits = -(qmaxF bits + 1) ∧ qmaxF bits ≤ 32767 := by
  obtain ⟨hp1, hp2⟩ := pow_bounds bits hb2 hb16
  rw [qmaxF_eq bits (by omega), qminF_eq bits (by omega)]
  refine ⟨by linarith, by norm_num; linarith, by ring, by linarith⟩

theorem clipI_range (v lo hi : Int) (h : lo ≤ hi) : lo ≤ clipI v lo hi ∧ clipI v lo hi ≤ hi := by
  unfold clipI; split_ifs <;> omega

theorem clipI_mono (lo hi : Int) {a b : Int} (h : a ≤ b) : clipI a lo hi ≤ clipI b lo hi ∨ hi < lo := by
  unfold clipI; split_ifs <;> omega

theorem clipI_of_mem {v lo hi : Int} (h1 : lo ≤ v) (h2 : v ≤ hi) : clipI v lo hi = v := by
  unfold clipI; rw [if_neg (by omega), if_neg (by omega)]

theorem clipI_of_ge {v lo hi : Int} (h : lo ≤ hi) (h2 : hi ≤ v) : clipI v lo hi = hi := by
  unfold clipI; split_ifs <;> omega

theorem clip_near_ext (r lo hi : Int) (y η : Rat) (hlh : lo ≤ hi)
    (h1 : (lo:Rat) - η ≤ y) (h2 : y ≤ (hi:Rat) + η) :
    |((clipI r lo hi : Int) : Rat) - y| ≤ max |(r:Rat) - y| η := by
  have hlhR : (lo:Rat) ≤ (hi:Rat) := by exact_mod_cast hlh
  unfold clipI
  split_ifs with a b
  · have ha : (r:Rat) < lo := by exact_mod_cast a
    rcases le_or_gt (lo:Rat) y with hy | hy
    · refine le_trans ?_ (le_max_left _ _)
      rw [abs_of_nonpos (by linarith), abs_of_nonpos (by linarith)]; linarith
    · refine le_trans ?_ (le_max_right _ _)
      rw [abs_of_pos (by linarith)]; linarith
  · have hb : (hi:Rat) < r := by exact_mod_cast b
    rcases le_or_gt y (hi:Rat) with hy | hy
    · refine le_trans ?_ (le_max_left _ _)
      rw [abs_of_nonneg (by linarith), abs_of_nonneg (by linarith)]; linarith
    · refine le_trans ?_ (le_max_right _ _)
      rw [abs_of_neg (by linarith)]; linarith
  · exact le_max_left _ _

theorem rhe_clip_near (v y e ε : Rat) (L H : Int) (hLH : L ≤ H) (hv : |v - y| ≤ e) (hε : 0 ≤ ε)
    (h1 : (L:Rat) - (1/2 + ε) ≤ y) (h2 : y ≤ (H:Rat) + (1/2 + ε)) :
    |((clipI (rhe v) L H : Int) : Rat) - y| ≤ 1/2 + ε + e := by
  have he : 0 ≤ e := (abs_nonneg _).trans hv
  refine (clip_near_ext (rhe v) L H y _ hLH h1 h2).trans (max_le ?_ (by linarith only [he]))
  calc |((rhe v : Int) : Rat) - y| ≤ |((rhe v : Int) : Rat) - v| + |v - y| := abs_sub_le _ _ _
    _ ≤ 1/2 + e := add_le_add (Rounding.rhe_err v) hv
    _ ≤ 1/2 + ε + e := by linarith only [hε]

theorem storage_ge (bits : Nat) (h : bits ≤ 64) : bits ≤ storageBits bits := by
  unfold storageBits; split_ifs <;> omega

theorem storageBits_le16 (bits : Nat) (h : bits ≤ 16) : storageBits bits = 8 ∨ storageBits bits = 16 := by
  unfold storageBits; split_ifs <;> simp

theorem wrapInt_storage (bits : Nat) (hb2 : 2 ≤ bits) (hb : bits ≤ 64) {z : Int}
    (h1 : qmin bits ≤ z) (h2 : z ≤ qmax bits) : wrapInt (storageBits bits) z = z := by
  have hsto := storage_ge bits hb
  have hpw : (2:Int)^(bits-1) ≤ (2:Int)^(storageBits bits - 1) :=
    pow_le_pow_right₀ (by norm_num) (by omega)
  unfold qmin at h1
  unfold qmax at h2
  exact BytesProofs.wrapInt_id _ (by omega) _ (by omega) (by omega)

theorem qLoI_of_le53 (bits : Nat) (h : bits ≤ 53) (narrow : Bool) :
    qLoI bits narrow = qmin bits + (if narrow then 1 else 0) := if_pos h
theorem qHiI_of_le53 (bits : Nat) (h : bits ≤ 53) : qHiI bits = qmax bits := if_pos h

theorem qLoHi (bits : Nat) (hb2 : 2 ≤ bits) (narrow : Bool) :
    qmin bits + (if narrow then 1 else 0) ≤ qLoI bits narrow ∧ qLoI bits narrow ≤ qHiI bits ∧
    qHiI bits ≤ qmax bits := by
  have h2 := two_le_pow_pred bits hb2
  have hn : (0:Int) ≤ (if narrow then 1 else 0) ∧ (if narrow then 1 else 0) ≤ (1:Int) := by
    split_ifs <;> omega
  unfold qLoI qHiI qmin qmax
  by_cases h : bits ≤ 53
  · rw [if_pos h, if_pos h]; omega
  · have h1 : (1:Int) ≤ 2^(bits-54) := one_le_pow₀ (by norm_num)
    have h3 : (2:Int)^(bits-54) ≤ 2^(bits-1) := pow_le_pow_right₀ (by norm_num) (by omega)
    rw [if_neg h, if_neg h]
    split_ifs <;> omega

/-- the final cast to the storage type does not wrap -/
theorem roundClip_eq_clip (bits : Nat) (hb2 : 2 ≤ bits) (hb : bits ≤ 64) (narrow : Bool) (v : Rat) :
    roundClip bits narrow v = clipI (rhe v) (qLoI bits narrow) (qHiI bits) := by
  obtain ⟨h1, h2, h3⟩ := qLoHi bits hb2 narrow
  obtain ⟨c1, c2⟩ := clipI_range (rhe v) _ _ h2
  have hn : (0:Int) ≤ (if narrow then 1 else 0) := by split_ifs <;> omega
  exact wrapInt_storage bits hb2 hb (by omega) (by omega)

theorem roundClip_eq (bits : Nat) (hb2 : 2 ≤ bits) (hb : bits ≤ 32) (narrow : Bool) (v : Rat) :
    roundClip bits narrow v
      = clipI (rhe v) (qmin bits + (if narrow then 1 else 0)) (qmax bits) := by
  rw [roundClip_eq_clip bits hb2 (by omega), qLoI_of_le53 bits (by omega), qHiI_of_le53 bits (by omega)]

theorem roundClip_range (bits : Nat) (hb2 : 2 ≤ bits) (hb : bits ≤ 64) (narrow : Bool) (v : Rat) :
    qmin bits + (if narrow then 1 else 0) ≤ roundClip bits narrow v ∧ roundClip bits narrow v ≤ qmax bits := by
  obtain ⟨h1, h2, h3⟩ := qLoHi bits hb2 narrow
  obtain ⟨c1, c2⟩ := clipI_range (rhe v) _ _ h2
  rw [roundClip_eq_clip bits hb2 hb]
  exact ⟨h1.trans c1, c2.trans h3⟩

theorem roundClip_mono (bits : Nat) (hb2 : 2 ≤ bits) (hb : bits ≤ 64) (narrow : Bool) {u v : Rat}
    (h : u ≤ v) : roundClip bits narrow u ≤ roundClip bits narrow v := by
  rw [roundClip_eq_clip bits hb2 hb, roundClip_eq_clip bits hb2 hb]
  exact (clipI_mono _ _ (Rounding.rhe_mono h)).resolve_right (not_lt.mpr (qLoHi bits hb2 narrow).2.1)

theorem asymZp_eq_rhe (pr : Prec) (bits : Nat) (hb2 : 2 ≤ bits) (hb : bits ≤ 64) (mn mx : Rat)
    (h1 : qmin bits ≤ rhe (asymZpF pr bits mn mx)) (h2 : rhe (asymZpF pr bits mn mx) ≤ qmax bits) :
    asymZp pr bits mn mx = rhe (asymZpF pr bits mn mx) :=
  wrapInt_storage bits hb2 hb h1 h2

theorem zpScale1_sym_ok {pr : Prec} {bits : Nat} {mn mx : Rat} {zp : Int} {s : Rat}
    (h : zpScale1 pr bits true mn mx = .ok (zp, s)) : zp = 0 ∧ s = symScale pr bits mn mx :=
  (zpScale1_ok_iff.1 h).2

theorem zpScale1_asym_ok {pr : Prec} {bits : Nat} {mn mx : Rat} {zp : Int} {s : Rat}
    (h : zpScale1 pr bits false mn mx = .ok (zp, s)) :
    zp = asymZp pr bits mn mx ∧ s = asymScale pr bits mn mx :=
  (zpScale1_ok_iff.1 h).2

theorem qSum_exact (zw : Nat) (x s : Rat) (z : Int) : qSum .exact .exact zw x s z = x / s + z := by
  unfold qSum qProd qInv promoteInt
  simp only [Prec.join, Prec.rn]
  ring

theorem qSum_f32 (zw : Nat) (hzw : zw = 8 ∨ zw = 16) (x s : Rat) (zp : Int) :
    qSum .f32 .f32 zw x s zp = Prec.f32.rn (Prec.f32.rn (x * Prec.f32.rn (1 / s)) + zp) := by
  rcases hzw with rfl | rfl <;> rfl

/-- `uniform_dequantize` with `widen = true` on codes and zero points of at most 16 bits: the difference
    is taken in int32 (no wrap-around for `|q - zp| < 2^31`), the product with the float32 scale in
    float64 -/
theorem dqVal_widen_f32 (qw zw : Nat) (hqw : qw = 8 ∨ qw = 16) (hzw : zw = 8 ∨ zw = 16) (q zp : Int)
    (s : Rat) (h1 : -(2:Int)^31 ≤ q - zp) (h2 : q - zp < (2:Int)^31) :
    dqVal true qw zw .f32 q zp s = Prec.f64.rn (((q - zp : Int) : Rat) * s) := by
  have hsub : subWidth true qw zw = 32 := by
    rcases hqw with rfl | rfl <;> rcases hzw with rfl | rfl <;> rfl
  unfold dqVal
  rw [hsub, BytesProofs.wrapInt_id 32 (by norm_num) _ h1 h2]
  rfl

/-! Both scales of `tensor_zp_scale_from_min_max` are `rn (max(range, min_bound) / steps)` with `1 ≤ steps ≤ 2^16`. -/

/-- a bound `b ≥ 2^-14` (`min_bound`) over at most `2^16` steps -/
theorem div_ge30 {b N : Rat} (hb : (2:Rat)^(-14:Int) ≤ b) (hN0 : 0 < N) (hN : N ≤ (2:Rat)^(16:Int)) :
    (2:Rat)^(-30:Int) ≤ b / N := by
  rw [le_div_iff₀ hN0]
  calc (2:Rat)^(-30:Int) * N ≤ (2:Rat)^(-30:Int) * (2:Rat)^(16:Int) :=
        mul_le_mul_of_nonneg_left hN (Rounding.two_zpow_pos _).le
    _ = (2:Rat)^(-14:Int) := by rw [← zpow_add₀ (by norm_num)]; norm_num
    _ ≤ b := hb

/-- the scale `rn(b / N)` is at least `2^-30`: rounding does not cross a power of two -/
theorem scale_ge (pr : Prec) (h16 : pr ≠ .f16) {b N : Rat} (hb : (2:Rat)^(-14:Int) ≤ b) (hN0 : 0 < N)
    (hN : N ≤ (2:Rat)^(16:Int)) : (2:Rat)^(-30:Int) ≤ pr.rn (b / N) :=
  rn_ge_pow pr _ (expOK pr h16 (by norm_num)) (div_ge30 hb hN0 hN)

theorem chanScale_ge (pr : Prec) (h16 : pr ≠ .f16) (bits : Nat) (hb2 : 2 ≤ bits) (hb16 : bits ≤ 16) (sym : Bool)
    (mn mx : Rat) : (2:Rat)^(-30:Int) ≤ chanScale pr bits sym mn mx := by
  obtain ⟨hq1, hq2, hqmin, hq3⟩ := steps_bounds bits hb2 hb16
  have hmb := minBound_ge14 pr h16
  cases sym
  · exact scale_ge pr h16 (hmb.trans (maxR_ge_right _ _)) (by rw [hqmin]; linarith only [hq1])
      (by rw [hqmin]; norm_num; linarith only [hq3])
  · exact scale_ge pr h16 (hmb.trans (maxR_ge_right _ _)) (by linarith only [hq1]) hq2

/-- statistics within `2^k` give a scale within `2^k`: `min_bound ≤ 1`, at least one step when symmetric; the asymmetric
    range is at most `2·2^k` over at least three steps -/
theorem chanScale_le (pr : Prec) (h16 : pr ≠ .f16) (bits : Nat) (hb2 : 2 ≤ bits) (hb16 : bits ≤ 16) (sym : Bool)
    (mn mx : Rat) (k : Int) (hk0 : 0 ≤ k) (hmn : |mn| ≤ (2:Rat)^k) (hmx : |mx| ≤ (2:Rat)^k) :
    chanScale pr bits sym mn mx ≤ (2:Rat)^k := by
  obtain ⟨hq1, -, hqmin, -⟩ := steps_bounds bits hb2 hb16
  have hmb := (minBound_le_one pr h16).trans (one_le_zpow₀ (by norm_num : (1:Rat) ≤ 2) hk0)
  have hk0' := (Rounding.two_zpow_pos k).le
  cases sym
  · have h2 : (2:Rat)^(k+1) = 2 * (2:Rat)^k := by rw [zpow_add_one₀ (by norm_num)]; ring
    have hD : maxR mx 0 - minR mn 0 ≤ (2:Rat)^(k+1) := by
      have m1 : maxR mx 0 ≤ (2:Rat)^k := maxR_le ((le_abs_self _).trans hmx) hk0'
      have m2 : -(2:Rat)^k ≤ minR mn 0 := le_minR (by linarith only [neg_abs_le mn, hmn]) (by linarith only [hk0'])
      rw [h2]; linarith only [m1, m2]
    have hb : asymBound pr mn mx ≤ 2 * (2:Rat)^k :=
      maxR_le (h2 ▸ rn_le_pow pr (k+1) (expOK pr h16 (by omega)) hD) (by linarith only [hmb, hk0'])
    refine rn_le_pow pr k (expOK pr h16 (by omega)) ((div_le_iff₀ (by rw [hqmin]; linarith only [hq1])).2 (hb.trans ?_))
    rw [hqmin, mul_comm]
    exact mul_le_mul_of_nonneg_left (by linarith only [hq1]) hk0'
  · have hb : symBound pr mn mx ≤ (2:Rat)^k :=
      maxR_le (maxR_le ((absR_eq mn).trans_le hmn) ((absR_eq mx).trans_le hmx)) hmb
    have hb0 : 0 ≤ symBound pr mn mx := (abs_nonneg mn).trans ((absR_eq mn).symm.trans_le
      ((maxR_ge_left _ _).trans (maxR_ge_left _ _)))
    exact rn_le_pow pr k (expOK pr h16 (by omega)) ((div_le_self hb0 hq1).trans hb)

/-! The asymmetric zero point, algebra only: `sc` is the scale, `t = bmin / sc` the exact quotient, `N = 2P - 1` the number of steps. `θ` bounds
the relative defect of `sc·N` against `bmax - bmin`, `h` the distance of the zero point from the
exact `-P - t`. Ideal arithmetic is `θ = 0`, `h = 1/2`. -/

theorem quo_range {bmin bmax sc N θ : Rat} (hsc : 0 < sc) (h0 : bmin ≤ 0) (h1 : 0 ≤ bmax)
    (hD : bmax - bmin ≤ sc * N * (1 + θ)) : -(N * (1 + θ)) ≤ bmin / sc ∧ bmin / sc ≤ 0 := by
  refine ⟨?_, div_nonpos_of_nonpos_of_nonneg h0 hsc.le⟩
  rw [le_div_iff₀ hsc]
  linarith

/-- the dequantized integer range, widened by `h` steps, covers `[bmin, bmax]` when the zero point
    is within `κ ≤ h` of its exact value (`κ + θ(2P-1) ≤ h` at the upper end, where the defect of the
    scale counts too) -/
theorem cover_of_zp_err {P bmin bmax sc θ κ h zp : Rat} (hsc : 0 < sc)
    (hD : bmax - bmin ≤ sc * (2 * P - 1) * (1 + θ)) (hz : |zp - (-P - bmin / sc)| ≤ κ)
    (h1 : κ ≤ h) (h2 : κ + θ * (2 * P - 1) ≤ h) :
    ((-P - zp) - h) * sc ≤ bmin ∧ bmax ≤ ((P - 1 - zp) + h) * sc := by
  obtain ⟨z1, z2⟩ := abs_le.mp hz
  have hts : bmin / sc * sc = bmin := div_mul_cancel₀ _ hsc.ne'
  have a1 : 0 ≤ (zp - (-P - bmin / sc) + h) * sc :=
    mul_nonneg (by linarith only [z1, h1]) hsc.le
  have a2 : 0 ≤ (h - θ * (2 * P - 1) - (zp - (-P - bmin / sc))) * sc :=
    mul_nonneg (by linarith only [z2, h2]) hsc.le
  constructor
  · linarith only [a1, hts]
  · linarith only [a2, hts, hD]

end ArithL
