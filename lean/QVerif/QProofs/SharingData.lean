import QProofs.SharingGen
import QProofs.PipeGen
import QProofs.PipelineWF
/-!
# A rewriting request on a constant carries packed data (`ConstData`, end to end)

`CD c`: if the consumer request `c` rewrites its tensor (QUANTIZE_TENSOR / ADD_DEQUANTIZE) and carries a
parameter object, that object carries quantized data.  It holds for every consumer request emitted by
the materialisation (`opReqs_cd`), hence for every entry of the result dictionary of `Mat.generate`
(`generate_res`), hence `SharingE2E.ConstData` holds for the generated instructions
(`constData_of_cd`).
-/
open Graph Mat Pipeline InstGen GenInstsOK GraphStep GraphInv Pipe SharingGen

namespace SharingData

def CD (c : CO2T) : Prop :=
  ∀ x P, c.xfs = [x] → quantSrc x = true → c.param = some P → hasData P = true

def ReqCD (r : CReq) : Prop := ∀ cs c, r.consumers = some cs → c ∈ cs → CD c

theorem reqCD_sideReq (n : String) (b : Bool) (c : CO2T) (h : b = true → CD c) : ReqCD (sideReq n b c) := by
  intro cs c' hcs hc
  rw [sideReq_consumers] at hcs
  cases b with
  | false => cases hcs
  | true =>
    cases hcs
    rw [List.mem_singleton.1 hc]
    exact h rfl

/-- whatever the materialisation of an operator emits for an OPERAND: a parameter object on a rewriting
    entry carries data, because such an entry is made for constants only -/
theorem stdEntry_cd {env : Env} {sg : Subgraph} {qs : Qsvs} {oi : OpInfo} {con : Constraint} {i : Nat} {t : Tensor}
    {c : CO2T} (he : StdEntry env sg qs oi con true i t c) : CD c := by
  intro x P hx hq hP
  cases he with
  | noQuant => cases hx; cases hq
  | wrapped g p xfs _ _ hg hp hxfs =>
    cases hP
    obtain ⟨x', rfl, hcase⟩ := tensorXfs_ok hxfs
    cases hx
    -- a rewriting transformation is chosen for a constant operand only
    have hconst : (constData env t).isSome = true := by
      generalize (constData env t).isSome = isC at hcase
      cases hcase <;> first | rfl | cases hq
    -- what `standardOp` hands down is uniform
    have hgu : ∀ Q, g = some Q → ∃ qp d, Q = .uniform qp d := by
      cases hg with
      | none => exact fun Q h => nomatch h
      | ofResult t' p' _ _ hp' => exact (wrapperParam_ok hp').uniform (fun Q h => nomatch h)
    cases wrapperParam_ok hp with
    | computed tc mm q _ _ hq' =>
      obtain ⟨qp, d, rfl, hd, -⟩ := tensorQuantParams_ok hq'
      exact hd.trans hconst
    | requantized qp d q _ _ => rfl
    | kept _ hk =>
      obtain ⟨qp, d, rfl⟩ := hgu P rfl
      cases d with
      | some _ => rfl
      | none => rw [hk qp rfl] at hconst; cases hconst

theorem emitted_cd {env : Env} {sg : Subgraph} {qs : Qsvs} {oi : OpInfo} {k : MatTotal.Kind} {t : Tensor}
    {c : CO2T} (he : EmittedK env sg qs oi k t true c) : CD c := by
  cases he with
  | std _ i _ _ _ hs => exact stdEntry_cd hs
  | biasPlain => exact fun _ _ _ _ hP => nomatch hP
  | biasQuant => intro x P hx hq hP; cases hP; rfl
  | castPlain => intro x P hx hq hP; cases hP
  | f16 => intro x P hx hq hP; cases hP; rfl

theorem opReqs_cd (rx : String → String → Bool) (env : Env) (st : Recipe.State)
    (sIdx : Nat) (sg : Subgraph) (qs : Qsvs) (q : Op × Option String × Int) (rs : List CReq) (qs' : Qsvs)
    (h : opReqs rx env st sIdx sg qs q = .ok (rs, qs')) : ∀ r ∈ rs, ReqCD r := by
  intro r hr
  obtain ⟨t, b, -, ⟨-, rfl⟩ | ⟨k, scope, ops, fn, c, -, he, rfl⟩⟩ := opReqs_emitted h r hr
  · exact reqCD_sideReq _ _ _ (fun _ x P hx hq _ => by cases hx; cases hq)
  · exact reqCD_sideReq _ _ _ (fun hb => by subst hb; exact emitted_cd he)

def ResCD (res : List (String × CReq)) : Prop := ∀ e ∈ res, ReqCD e.2

theorem generate_cd {rx : String → String → Bool} {env : Env} {st : Recipe.State} {qsvs : Option Qsvs}
    {qs : Qsvs} {res : List (String × CReq)} (h : generateLoop rx env st qsvs = .ok (qs, res)) : ResCD res :=
  fun e he => (generate_sides (Qp := fun _ _ => True) (Qc := fun _ c => CD c)
    (fun s sg _ q _ qs0 rs qs1 ho r hr => ⟨fun _ _ => trivial, opReqs_cd rx env st s sg qs0 q rs qs1 ho r hr⟩) h e he).2

/-- after the loop the dictionary has what the sharing argument assumes of it -/
theorem generateLoop_res (rx : String → String → Bool) (env : Env) (st : Recipe.State) (qsvs : Option Qsvs)
    (hg : GenHyp env st) (hnu : namesUnique env.model) (s : GState)
    (h : generateLoop rx env st qsvs = .ok s) : Ctx env.model s.2 ∧ ResCD s.2 :=
  ⟨⟨hg.wf, hnu, hg.inputsNotConst, generateLoop_entryOK rx env st qsvs hg hnu s h, generate_keys h⟩,
    generate_cd (qs := s.1) h⟩

theorem generate_res (rx : String → String → Bool) (env : Env) (st : Recipe.State) (qsvs : Option Qsvs)
    (reqs : List CReq) (hg : GenHyp env st) (h : Mat.generate rx env st qsvs = .ok reqs) :
    ∃ qs res, generateLoop rx env st qsvs = .ok (qs, res) ∧ reqs = res.map (·.2) ∧
      checkBufferSharing env.model res = .ok () ∧ checkUnreadOwn env.model res = .ok () ∧
      Ctx env.model res ∧ ResCD res := by
  obtain ⟨-, hnu, -, qs, res, hl, hchk, hown, hr⟩ := generate_ok_iff.1 h
  obtain ⟨C, hcd⟩ := generateLoop_res rx env st qsvs hg hnu (qs, res) hl
  exact ⟨qs, res, hl, hr, hchk, hown, C, hcd⟩

theorem reqOK_of_ctx {m : Model} {res : List (String × CReq)} (C : Ctx m res) :
    ∀ a ∈ areqsOf res, ReqOK (ptableOf (tblOf res)) m a := by
  refine reqOK_of_entryOK m C.wf C.nu C.inp (res.map (·.2)) ?_
  intro r hr
  obtain ⟨e, he, rfl⟩ := List.mem_map.1 hr
  have hE := C.entries e he
  rw [hE.name]; exact hE

theorem tinstsOK_of_ctx {m : Model} {res : List (String × CReq)} (C : Ctx m res) (tis : List TInsts)
    (hgen : genInsts m (areqsOf res) = .ok tis) :
    ∀ ti ∈ tis, TInstsOK (ptableOf (tblOf res)) m ti :=
  genInsts_ok _ m _ tis C.wf (reqOK_of_ctx C) hgen

theorem constData_of_cd {m : Model} {res : List (String × CReq)} (C : Ctx m res) (hcd : ResCD res)
    (tis : List TInsts) (hgen : genInsts m (areqsOf res) = .ok tis) :
    SharingE2E.ConstData (ptableOf (tblOf res)) m tis := by
  intro ti hti ins hins hr sg tn c p pi h1 h2 h3 h4 h5
  obtain ⟨sg', hsg', hall⟩ := (tinstsOK_of_ctx C tis hgen ti hti).insts
  rw [h1] at hsg'; cases hsg'
  have hv := (validT_iff _ _).1 (hall ins hins).tvalid
  unfold ValidT at hv
  have hcast : ((ins.tensor.toNat : Nat) : Int) = ins.tensor := by omega
  have hc : isConst m sg (ins.tensor.toNat : Int) = true := isConst_of m sg _ tn c h2 h3
  obtain ⟨e, he, -, cs, c0, x, P, g1, g2, g3, g4, g5, g6⟩ :=
    retyped_req C tis hgen ti.sg ins.tensor.toNat p sg tn h1 h2 hc
      ⟨ti, hti, ins, hins, rfl, hcast.symm, hr, h4⟩
  have hd : hasData P = true := hcd e he cs c0 g1 g2 x P g3 g4 g5
  obtain ⟨hp, hq, -⟩ := List.findIdx?_eq_some_iff_getElem.1 g6
  rw [pinfo_ptableOf, List.getElem?_eq_getElem hp] at h5
  simp only [Option.map_some, Option.some.injEq] at h5
  subst h5
  rw [hasData_pinfoOf, eqv_hasData _ _ hq]
  exact hd

end SharingData
