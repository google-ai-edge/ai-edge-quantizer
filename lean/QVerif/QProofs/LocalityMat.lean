import QProofs.LocalityQsv
/-!
# C19 — the materialisation loop `Mat.generate` is local

With model-wide unique tensor names the walk over a subgraph `k ≠ j` neither reads nor writes statistics or
dictionary entries at a name of subgraph `j`, and the walk over `j` is the walk of the extracted model
(`generateLoop_local`).  The buffer-sharing check that `Mat.generate` then runs looks at the whole model and
is the one place where the two runs can differ (`generate_local_core`).
-/
open Graph Mat Pipe GenInstsOK

namespace Locality

/-- the environment of the extracted single-subgraph model: same constant data; the `adj_y` flags of
    subgraph `j`, re-indexed to subgraph 0 -/
def extractEnv (env : Env) (j : Nat) (sg : Subgraph) : Env :=
  { model := extract env.model j sg, consts := env.consts,
    adjY := (env.adjY.filter (·.1 == j)).map fun p => (0, p.2) }

def restrictCReqs (reqs : List CReq) (sg : Subgraph) : List CReq := reqs.filter fun r => nameIn sg r.name

theorem adjY_extract (l : List (Nat × Nat)) (j : Nat) (o : Int) :
    (((l.filter (·.1 == j)).map fun p => ((0 : Nat), p.2) : List (Nat × Nat))).any
        (fun p => p.1 == 0 && (p.2 : Int) == o) =
      l.any (fun p => p.1 == j && (p.2 : Int) == o) := by
  rw [List.any_map, List.any_filter]
  simp only [Function.comp, beq_self_eq_true, Bool.true_and]

theorem envEq_extract (env : Env) (j : Nat) (sg : Subgraph) (oi : OpInfo) (hoi : oi.sgIdx = j) :
    EnvEq env (extractEnv env j sg) oi { oi with sgIdx := 0 } := by
  refine ⟨rfl, rfl, ?_, rfl, rfl, rfl, rfl⟩
  unfold opAdjY extractEnv
  simp only [hoi]
  exact adjY_extract env.adjY j oi.opId

theorem opReqs_env (rx : String → String → Bool) (env : Env) (st : Recipe.State) (j : Nat) (sg : Subgraph)
    (qs : Qsvs) (q : Op × Option String × Int) :
    opReqs rx (extractEnv env j sg) st 0 sg qs q = opReqs rx env st j sg qs q := by
  unfold opReqs
  have hk : keyOf (extractEnv env j sg) q = keyOf env q := rfl
  rw [hk]
  have hm : ∀ k scope fn, materializeOp (extractEnv env j sg) sg qs
      { sgIdx := 0, op := q.1, opName := k, opId := q.2.2, cfg := (Recipe.resolve rx st k scope).2 }
      (Recipe.resolve rx st k scope).1 fn =
    materializeOp env sg qs
      { sgIdx := j, op := q.1, opName := k, opId := q.2.2, cfg := (Recipe.resolve rx st k scope).2 }
      (Recipe.resolve rx st k scope).1 fn := by
    intro k scope fn
    exact materializeOp_env (envEq_extract env j sg
      { sgIdx := j, op := q.1, opName := k, opId := q.2.2, cfg := (Recipe.resolve rx st k scope).2 } rfl) sg qs _ fn
  simp only [hm]

theorem opReqs_replay (rx : String → String → Bool) (env : Env) (st : Recipe.State) (s : Nat) (sg : Subgraph)
    (qs qs1 : Qsvs) (hag : Agree (nameIn sg) qs qs1) (q : Op × Option String × Int) :
    Replay (nameIn sg) qs qs1 (opReqs rx env st s sg qs q) (opReqs rx env st s sg qs1 q) := by
  intro rs q' h
  rcases opReqs_ok_iff.1 h with ⟨hn, rfl, why⟩ | ⟨k, scope, ops, fn, S, hrun⟩
  · exact ⟨[], by simp, rfl, opReqs_ok_iff.2 (.inl ⟨hn, rfl, why⟩)⟩
  · rw [← MatTotal.materializeOp_kind] at hrun
    obtain ⟨w, hw, hq, h1⟩ := materializeOp_replay env sg hag _ _ fn rs q' hrun
    exact ⟨w, hw, hq, opReqs_ok_iff.2 (.inr ⟨k, scope, ops, fn, S, MatTotal.materializeOp_kind .. ▸ h1⟩)⟩

theorem opReqs_names (rx : String → String → Bool) (env : Env) (st : Recipe.State) (s : Nat) (sg : Subgraph)
    (qs : Qsvs) (q : Op × Option String × Int) (rs : List CReq) (qs' : Qsvs)
    (h : opReqs rx env st s sg qs q = .ok (rs, qs')) : ∀ r ∈ rs, nameIn sg r.name = true := by
  intro r hr
  obtain ⟨t, b, hs, ⟨-, rfl⟩ | ⟨_, _, _, _, c, -, -, rfl⟩⟩ := opReqs_emitted h r hr
  · rw [noQuantReq_name]
    exact nameIn_of_mem sg t hs
  · rw [sideReq_name]
    exact nameIn_of_mem sg t hs

theorem stepF_in (N : String → Bool) (res res' : List (String × CReq)) (r : CReq) (hr : N r.name = true)
    (h : stepF res r = .ok res') : stepF (keep N res) r = .ok (keep N res') := by
  rw [stepF_ok_iff, dictGet?_keep N res r.name hr]
  rcases stepF_ok h with ⟨hg, rfl⟩ | ⟨cur, hg, hp, rfl⟩
  · exact .inl ⟨hg, keep_append_in N res (r.name, r) hr⟩
  · exact .inr ⟨cur, hg, hp, keep_dictSet_in N res r.name _ hr⟩

theorem stepF_out (N : String → Bool) (res res' : List (String × CReq)) (r : CReq) (hr : N r.name = false)
    (h : stepF res r = .ok res') : keep N res' = keep N res := by
  rcases stepF_ok h with ⟨-, rfl⟩ | ⟨cur, -, -, rfl⟩
  · exact keep_append_out N res (r.name, r) hr
  · exact keep_dictSet_out N res r.name _ hr

theorem updateResults_in (N : String → Bool) (rs : List CReq) (res res' : List (String × CReq))
    (hrs : ∀ r ∈ rs, N r.name = true) (h : updateResults res rs = .ok res') :
    updateResults (keep N res) rs = .ok (keep N res') := by
  rw [updateResults_eq] at h ⊢
  obtain ⟨_, h1, rfl⟩ := PyM.foldlM_sim_filter stepF stepF (fun _ => true) id (fun d d1 => d1 = keep N d) rs rs
    (by simp) (fun r hr d _ d' hd hs => ⟨_, hd ▸ stepF_in N d d' r (hrs r hr) hs, rfl⟩) (fun _ _ h => nomatch h)
    res _ res' rfl h
  exact h1

theorem updateResults_out (N : String → Bool) (rs : List CReq) (res res' : List (String × CReq))
    (hrs : ∀ r ∈ rs, N r.name = false) (h : updateResults res rs = .ok res') : keep N res' = keep N res := by
  rw [updateResults_eq] at h
  exact PyM.foldlM_inv stepF (fun d => keep N d = keep N res) rs res res' rfl
    (fun r hr d d' hd hstep => (stepF_out N d d' r (hrs r hr) hstep).trans hd) h

def WalkRel (sg : Subgraph) (s s1 : GState) : Prop := Agree (nameIn sg) s.1 s1.1 ∧ s1.2 = keep (nameIn sg) s.2

theorem opStep_same (rx : String → String → Bool) (env : Env) (st : Recipe.State) (j : Nat) (sg : Subgraph)
    (s s1 s' : GState) (q : Op × Option String × Int) (hR : WalkRel sg s s1)
    (h : opStep rx env st j sg s q = .ok s') :
    ∃ s1', opStep rx (extractEnv env j sg) st 0 sg s1 q = .ok s1' ∧ WalkRel sg s' s1' := by
  obtain ⟨qs1, res1⟩ := s1
  obtain ⟨hag, rfl⟩ := hR
  obtain ⟨rs, ho, hu⟩ := opStep_ok rx env st j sg s s' q h
  obtain ⟨w, -, hq, ho1⟩ := opReqs_replay rx env st j sg s.1 qs1 hag q rs s'.1 ho
  have hnames := opReqs_names rx env st j sg s.1 q rs _ ho
  exact ⟨(applyW w qs1, keep (nameIn sg) s'.2),
    opStep_ok_iff.2 ⟨rs, by rw [opReqs_env]; exact ho1, updateResults_in (nameIn sg) rs s.2 s'.2 hnames hu⟩,
    hq ▸ hag.applyW w, rfl⟩

theorem opStep_other (rx : String → String → Bool) (env : Env) (st : Recipe.State) (k : Nat) (sgk sg : Subgraph)
    (hdis : ∀ n, nameIn sgk n = true → nameIn sg n = false)
    (s s1 s' : GState) (q : Op × Option String × Int) (hR : WalkRel sg s s1)
    (h : opStep rx env st k sgk s q = .ok s') : WalkRel sg s' s1 := by
  obtain ⟨rs, ho, hu⟩ := opStep_ok rx env st k sgk s s' q h
  obtain ⟨w, hw, hq, -⟩ := opReqs_replay rx env st k sgk s.1 s.1 (Agree.refl _ _) q rs s'.1 ho
  have hnames := opReqs_names rx env st k sgk s.1 q rs _ ho
  refine ⟨fun n hn => ?_, hR.2.trans
    (updateResults_out (nameIn sg) rs s.2 s'.2 (fun r hr => hdis _ (hnames r hr)) hu).symm⟩
  have hnk : nameIn sgk n = false := by
    cases hc : nameIn sgk n with
    | false => rfl
    | true => rw [hdis n hc] at hn; cases hn
  rw [hq, applyW_frame w hw n hnk s.1]
  exact hR.1 n hn

theorem names_disjoint (m : Model) (hnu : namesUnique m) (j k : Nat) (sg sgk : Subgraph)
    (hsg : m.subgraphs[j]? = some sg) (hsgk : m.subgraphs[k]? = some sgk) (hkj : k ≠ j) :
    ∀ n, nameIn sgk n = true → nameIn sg n = false := by
  intro n hn
  cases hc : nameIn sg n with
  | false => rfl
  | true =>
    obtain ⟨a, t, ht, htn⟩ := (nameIn_iff sgk n).1 hn
    obtain ⟨b, t', ht', htn'⟩ := (nameIn_iff sg n).1 hc
    exact absurd (loc_unique m hnu n k j sgk sg a b ⟨hsgk, t, ht, htn⟩ ⟨hsg, t', ht', htn'⟩).1 hkj

/-- **the dictionary of the big run, restricted to the names of subgraph `j`, is the dictionary of the
    stand-alone run**: the walk over the whole model, seen through `WalkRel sg`, is the walk over `sg` -/
theorem generateLoop_local (rx : String → String → Bool) (env : Env) (st : Recipe.State) (qsvs : Option Qsvs)
    (hnu : namesUnique env.model) (j : Nat) (sg : Subgraph) (hsg : env.model.subgraphs[j]? = some sg)
    (s : GState) (h : generateLoop rx env st qsvs = .ok s) :
    ∃ qs1, generateLoop rx (extractEnv env j sg) st qsvs = .ok (qs1, keep (nameIn sg) s.2) := by
  obtain ⟨⟨qs1, res1⟩, h1, -, rfl⟩ := PyM.foldlM_sim_filter (sgStep rx env st) (sgStep rx (extractEnv env j sg) st)
    (·.2 == j) (fun p => (p.1, j)) (WalkRel sg) env.model.subgraphs.zipIdx [(sg, 0)]
    (by simpa using List.zipIdx_filter_idx sg _ j 0 hsg)
    (fun p hp s s1 s' hR hs => by
      cases List.mem_singleton.1 hp
      exact PyM.foldlM_sim_filter _ _ (fun _ => true) id (WalkRel sg) (allOps sg) (allOps sg) (by simp)
        (fun q _ s s1 s' => opStep_same rx env st j sg s s1 s' q) (fun _ _ h => nomatch h) s s1 s' hR hs)
    (fun p hp hpj s s1 s' hR hs =>
      PyM.foldlM_inv _ (WalkRel sg · s1) _ s s' hR
        (fun q _ x x' => opStep_other rx env st p.2 p.1 sg
          (names_disjoint env.model hnu j p.2 sg p.1 hsg (List.mem_zipIdx_iff_getElem?.1 hp) (by simpa using hpj))
          x s1 x' q) hs)
    _ (qsvs.getD [], []) s ⟨Agree.refl _ _, rfl⟩ h
  exact ⟨qs1, h1⟩

theorem restrict_map (res : List (String × CReq)) (hk : Keyed res) (sg : Subgraph) :
    restrictCReqs (res.map (·.2)) sg = (keep (nameIn sg) res).map (·.2) := by
  unfold restrictCReqs keep
  rw [List.filter_map]
  congr 1
  exact List.filter_congr fun e he => by simp only [Function.comp, hk e he]

/-- **`Mat.generate` is local up to the buffer-sharing check**: the stand-alone run on subgraph `j` computes the dictionary
    `keep (nameIn sg) res` and returns its requests unless ITS buffer-sharing check (on the extracted model) fails -/
theorem generate_local_core (rx : String → String → Bool) (env : Env) (st : Recipe.State) (qsvs : Option Qsvs)
    (j : Nat) (sg : Subgraph) (hsg : env.model.subgraphs[j]? = some sg) (reqs : List CReq)
    (h : Mat.generate rx env st qsvs = .ok reqs) :
    ∃ res : List (String × CReq), (∃ qs, generateLoop rx env st qsvs = .ok (qs, res)) ∧
      checkBufferSharing env.model res = .ok () ∧ checkUnreadOwn env.model res = .ok () ∧
      (keep (nameIn sg) res).map (·.2) = restrictCReqs reqs sg ∧
      Mat.generate rx (extractEnv env j sg) st qsvs =
        match checkBufferSharing (extract env.model j sg) (keep (nameIn sg) res) with
        | .error e => .error e
        | .ok _ => match checkUnreadOwn (extract env.model j sg) (keep (nameIn sg) res) with
          | .error e => .error e
          | .ok _ => .ok (restrictCReqs reqs sg) := by
  obtain ⟨hq, hnu, hcal, qs, res, hcore, hchk, hchk2, rfl⟩ := generate_ok_iff.1 h
  obtain ⟨qs1, hsmall⟩ := generateLoop_local rx env st qsvs hnu j sg hsg (qs, res) hcore
  have hk := generate_keyed hcore
  refine ⟨res, ⟨qs, hcore⟩, hchk, hchk2, (restrict_map res hk sg).symm, ?_⟩
  have c1 : ((extractEnv env j sg).model.subgraphs.any fun sg => sg.tensors.any (·.quant.isSome)) = false := by
    show ([sg].any fun sg => sg.tensors.any (·.quant.isSome)) = false
    rw [List.any_cons, List.any_nil, Bool.or_false]
    exact List.any_eq_false.1 hq sg (List.mem_of_getElem? hsg) |> Bool.eq_false_iff.2
  have c2 : ((extractEnv env j sg).model.subgraphs.flatMap fun sg => sg.tensors.map (·.name)).Nodup :=
    namesUnique_extract env.model hnu j sg hsg
  rw [restrict_map res hk sg, Pipe.generate_eq, c1, if_neg Bool.false_ne_true,
    if_neg (by rw [decide_eq_true c2]; exact Bool.false_ne_true), hcal, if_neg Bool.false_ne_true, hsmall]
  show (checkBufferSharing (extract env.model j sg) (keep (nameIn sg) res) >>= fun _ =>
    checkUnreadOwn (extract env.model j sg) (keep (nameIn sg) res) >>= fun _ => pure _) = _
  cases checkBufferSharing (extract env.model j sg) (keep (nameIn sg) res) with
  | error e => rfl
  | ok _ => cases checkUnreadOwn (extract env.model j sg) (keep (nameIn sg) res) <;> rfl

end Locality
