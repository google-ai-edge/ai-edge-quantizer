import QProofs.SharingE2E
/-!
Graph stage of C03, end to end: what is known about all operators and tensors of the result at once.
`SlotInv` (every operand slot of an ORIGINAL operator), `NewInv` (every appended tensor and the operator
that produces it) and `SharingE2E.BInv` (the original tensors) are read off `RunDesc.Ran`; `Final`
collects them for the final state.  Namespace `IOInv`: what a reader of the final graph (an original operator, the graph
outputs) holds in place of an original tensor (`Reads`), and an inserted operator with the tensor it produces (`NewT`).
-/
open Graph Perform GraphStep GraphInv Skeleton SkeletonProof StepTypes Wiring SharingE2E RunRule RunDesc IOStep

namespace TypingGraph

/-- the ORIGINAL operator `k` keeps opcode index and results; every operand slot holds the original
    tensor or a NEW tensor -/
def SlotInv (m : Model) (st : PState) : Prop :=
  ∀ (s : Nat) (sg0 sg : Subgraph) (om : List Int) (k : Nat) (a : Int) (o0 oc : Op),
    m.subgraphs[s]? = some sg0 → st.model.subgraphs[s]? = some sg → st.origMap[s]? = some om →
    om[k]? = some a → sg0.ops[k]? = some o0 → sg.ops[a.toNat]? = some oc →
    oc.code = o0.code ∧ oc.outputs = o0.outputs ∧ oc.inputs.length = o0.inputs.length ∧
    ∀ (j : Nat) (t : Int), o0.inputs[j]? = some t →
      oc.inputs[j]? = some t ∨ ∃ x, oc.inputs[j]? = some x ∧ (sg0.tensors.length : Int) ≤ x

variable {pt : PTable} {m : Model} {tis : List TInsts} {l : List (TInsts × Inst)} {st : PState}

theorem _root_.RunDesc.Ran.slotInv (R : Ran pt m l st) : SlotInv m st := by
  intro s sg0 sg om k a o0 oc h0 h1 h2 h3 h4 h5
  obtain rfl := Option.some.inj (h5.symm.trans ((R.sg s sg0 sg om h0 h1 h2).ops k a o0 h3 h4))
  refine ⟨rfl, rfl, List.length_map _, fun j t hj => ?_⟩
  rw [List.getElem?_map, hj, Option.map_some]
  rcases slot_cases sg0.tensors.length (on s l) (lists k) t with ⟨h, -⟩ | ⟨n, e, h, -⟩
  · exact .inl (by rw [h])
  · exact .inr ⟨_, rfl, by rw [h]; omega⟩

/-- the fact established by an op-adding instruction: every listed real consumer reads, in the slots
    where the original operator read the instruction's tensor, a NEW tensor -/
def Wired (m : Model) (ti : TInsts) (ins : Inst) (st : PState) : Prop :=
  addsOp ins.xf = true → ∀ (sg0 sg : Subgraph) (om : List Int) (k : Nat) (a : Int) (o0 oc : Op),
    m.subgraphs[ti.sg]? = some sg0 → st.model.subgraphs[ti.sg]? = some sg →
    st.origMap[ti.sg]? = some om → (k : Int) ∈ ins.consumers → om[k]? = some a →
    sg0.ops[k]? = some o0 → sg.ops[a.toNat]? = some oc →
    ∀ j : Nat, o0.inputs[j]? = some ins.tensor →
      ∃ x, oc.inputs[j]? = some x ∧ (sg0.tensors.length : Int) ≤ x

theorem _root_.RunDesc.Ran.wired (R : Ran pt m (performed tis) st) {ti : TInsts} {ins : Inst}
    (hti : ti ∈ tis) (hins : ins ∈ ti.insts) : Wired m ti ins st := by
  intro hadd sg0 sg om k a o0 oc h0 h1 h2 hk h3 h4 h5 j hj
  obtain rfl := Option.some.inj (h5.symm.trans ((R.sg _ sg0 sg om h0 h1 h2).ops k a o0 h3 h4))
  rw [List.getElem?_map, hj, Option.map_some]
  rcases slot_cases sg0.tensors.length (on ti.sg (performed tis)) (lists k) ins.tensor with
    ⟨-, hno⟩ | ⟨n, e, h, -⟩
  · exact absurd ⟨rfl, decide_eq_true hk⟩ (hno ins (mem_adds_on hti hins hadd))
  · exact ⟨_, congrArg some h, by omega⟩

/-- the record written for the tensor appended by the op-adding instruction `ins` -/
def NewRec (pt : PTable) (ins : Inst) (tn : Tensor) : Prop :=
  ∃ p pi ty nm tn0, ins.param = some p ∧ pinfo pt p = some pi ∧ dtypeOf pi = .ok ty ∧
    tn = if ins.xf = .addQuant then retype pi p ty (fresh nm tn0) else fresh nm tn0

/-- everything about the NEW tensor `n` of subgraph `s`: the ONE op-adding instruction that appended it, its record, the one
    inserted operator that produces it, and which ORIGINAL operators read it where -/
def NewAt (pt : PTable) (tis : List TInsts) (st : PState) (s : Nat) (sg0 sg : Subgraph)
    (om : List Int) (n : Nat) : Prop :=
  ∃ ti ∈ tis, ∃ ins ∈ ti.insts, ti.sg = s ∧ addsOp ins.xf = true ∧
    (∃ tn, sg.tensors[n]? = some tn ∧ NewRec pt ins tn) ∧
    (∃ ci, newOp ci ins.tensor (n : Int) ∈ sg.ops ∧ st.model.opcodes[ci]? = some (insCode ins.xf) ∧
      ∀ o ∈ sg.ops, o.orig = none → o.outputs = [(n : Int)] → o = newOp ci ins.tensor (n : Int)) ∧
    ∀ (k : Nat) (a : Int) (o0 oc : Op), om[k]? = some a → sg0.ops[k]? = some o0 →
      sg.ops[a.toNat]? = some oc → ∀ j : Nat, oc.inputs[j]? = some (n : Int) →
        (k : Int) ∈ ins.consumers ∧ o0.inputs[j]? = some ins.tensor

def NewInv (pt : PTable) (m : Model) (tis : List TInsts) (st : PState) : Prop :=
  ∀ (s : Nat) (sg0 sg : Subgraph) (om : List Int), m.subgraphs[s]? = some sg0 →
    st.model.subgraphs[s]? = some sg → st.origMap[s]? = some om →
    ∀ n, sg0.tensors.length ≤ n → n < sg.tensors.length → NewAt pt tis st s sg0 sg om n

theorem _root_.RunDesc.Ran.newInv (hwf : WF.modelOK m = true) (R : Ran pt m (performed tis) st) :
    NewInv pt m tis st := by
  intro s sg0 sg om h0 h1 h2 n hn hn'
  have S := R.sg s sg0 sg om h0 h1 h2
  obtain ⟨e, he⟩ : ∃ e, (adds (on s (performed tis)))[n - sg0.tensors.length]? = some e :=
    ⟨_, List.getElem?_eq_getElem (by have := S.len; omega)⟩
  have N := S.new _ e he
  rw [show sg0.tensors.length + (n - sg0.tensors.length) = n by omega] at N
  obtain ⟨tn0, p, pi, ty, -, c3, c4, c5, c6⟩ := N.record
  obtain ⟨hon, hadd⟩ := List.mem_filter.1 (List.mem_of_getElem? he)
  obtain ⟨ti, hp, rfl⟩ := mem_on.1 hon
  obtain ⟨hti, hins, -⟩ := mem_performed.1 hp
  refine ⟨ti, hti, e, hins, rfl, hadd, ⟨_, c6, p, pi, ty, _, tn0, c3, c4, c5, rfl⟩, N.op, ?_⟩
  intro k a o0 oc g3 g4 g5 j hj
  obtain rfl := Option.some.inj (g5.symm.trans (S.ops k a o0 g3 g4))
  rw [List.getElem?_map] at hj
  obtain ⟨t, ht, hs⟩ := Option.map_eq_some_iff.1 hj
  rcases slot_cases sg0.tensors.length (on ti.sg (performed tis)) (lists k) t with
    ⟨h, -⟩ | ⟨n', e', h, g1, g2, g3'⟩
  · -- the slot would hold an ORIGINAL tensor
    have hsgOK : SgOK m sg0 := SgOK.of_wf hwf (List.mem_of_getElem? h0)
    rcases (hsgOK.ops _ o0 g4).ins t (List.mem_of_getElem? ht) with h' | h'
    · omega
    · have := h'.1.2; omega
  · rw [h] at hs
    obtain rfl : n' = n - sg0.tensors.length := by omega
    cases he.symm.trans g1
    exact ⟨of_decide_eq_true g3', by rw [ht, g2]⟩

def HasParam (pt : PTable) (ins : Inst) : Prop :=
  ∃ p pi ty, ins.param = some p ∧ pinfo pt p = some pi ∧ dtypeOf pi = .ok ty

structure Final (pt : PTable) (m : Model) (tis : List TInsts) (st : PState) : Prop where
  base : Base m st
  binv : BInv pt m tis st
  slots : SlotInv m st
  news : NewInv pt m tis st
  done : ∀ ti ∈ tis, ∀ ins ∈ ti.insts, Done pt m tis ti ins st
  wired : ∀ ti ∈ tis, ∀ ins ∈ ti.insts, Wired m ti ins st
  params : ∀ ti ∈ tis, ∀ ins ∈ ti.insts, isInsertion ins.xf = true → HasParam pt ins

theorem run_fin (pt : PTable) (m m' : Model) (tis : List TInsts)
    (hwf : WF.modelOK m = true) (htag : origTagged m = true)
    (hok : ∀ ti ∈ tis, TInstsOK pt m ti) (hcd : ConstData pt m tis)
    (h : transformGraph pt m tis = .ok m') :
    ∃ st, st.model = m' ∧ Final pt m tis st ∧ Ran pt m (performed tis) st := by
  obtain ⟨st, hfold, rfl⟩ := (transformGraph_ok_iff pt m m' tis).1 h
  obtain ⟨B, R⟩ := run_ran pt m tis hwf htag hok hfold
  exact ⟨st, rfl, ⟨B, R.binv hwf hcd hok B, R.slotInv, R.newInv hwf, fun ti hti ins hins => R.done hwf hcd hok B hti hins,
    fun ti hti ins hins => R.wired hti hins,
    fun ti hti ins hins hx => R.params (ti, ins) (mem_performed.2 ⟨hti, hins, hx⟩)⟩, R⟩

theorem orig_unique (sg0 sg : Subgraph) (K : SkInv sg0 sg)
    (htag0 : ∀ (i : Nat) (o : Op), sg0.ops[i]? = some o → o.orig = some i)
    (o1 o2 : Op) (h1 : o1 ∈ sg.ops) (h2 : o2 ∈ sg.ops) (k : Nat)
    (e1 : o1.orig = some k) (e2 : o2.orig = some k) : o1 = o2 := by
  have key : ∀ o ∈ sg.ops, o.orig = some k → (sg.ops.filter (·.orig.isSome))[k]? = some o := by
    intro o ho e
    have hm : o ∈ sg.ops.filter (·.orig.isSome) := List.mem_filter.2 ⟨ho, by simp [e]⟩
    obtain ⟨i, hi⟩ := List.mem_iff_getElem?.1 hm
    have hops := K.ops
    unfold eraseOps at hops
    have := congrArg (·[i]?) hops
    simp only [List.getElem?_map, hi, Option.map_some] at this
    have ht := htag0 i _ this.symm
    simp only [e, Option.some.injEq] at ht
    subst ht
    exact hi
  have a := key o1 h1 e1
  rw [key o2 h2 e2] at a
  cases a
  rfl

/-- the record `tn'` of the ORIGINAL tensor `i` (record `tn0`) in the output `sg'` -/
structure Kept (pt : PTable) (tis : List TInsts) (s i : Nat) (tn0 : Tensor) (sg' : Subgraph) (tn' : Tensor) : Prop where
  get : sg'.tensors[i]? = some tn'
  name : tn'.name = tn0.name
  shape : tn'.shape = tn0.shape
  buffer : tn'.buffer = tn0.buffer
  typed : tn' = tn0 ∨ ∃ p, Retyped tis s i p ∧ TypedBy pt p tn'
  written : (∃ p, Retyped tis s i p) → ∃ p, Retyped tis s i p ∧ TypedBy pt p tn'

theorem tensor_final (pt : PTable) (m : Model) (tis : List TInsts) (st : PState) (F : Final pt m tis st)
    (s : Nat) (sg sg' : Subgraph) (hsg : m.subgraphs[s]? = some sg)
    (hsg' : st.model.subgraphs[s]? = some sg') (i : Nat) (tn0 : Tensor) (ht : sg.tensors[i]? = some tn0) :
    ∃ tn', Kept pt tis s i tn0 sg' tn' := by
  obtain ⟨sgx, tn', o1, o2, o3, o4⟩ := F.binv.orig s sg i tn0 hsg ht
  rw [hsg'] at o1; cases o1
  have K := F.base.sk.sgs s sg sg' hsg hsg'
  have hlt : i < sg.tensors.length := (List.getElem?_eq_some_iff.1 ht).1
  have hfr := K.tframe
  rw [tensorFrame_eq, tensorFrame_eq] at hfr
  have hfr' := congrArg (·[i]?) hfr
  simp only [List.getElem?_take, hlt, if_true, List.getElem?_map, o2, ht, Option.map_some,
    Option.some.injEq, ns, Prod.mk.injEq] at hfr'
  refine ⟨tn', o2, hfr'.1, hfr'.2, o3, ?_, ?_⟩
  · rcases o4 with o4 | ⟨sgw, tnw, p, w1, w2, w3, w4, -⟩
    · exact .inl o4
    · rw [hsg'] at w1; cases w1
      rw [o2] at w2; cases w2
      exact .inr ⟨p, w3, w4⟩
  · rintro ⟨p, ti, hti, ins, hins, rfl, e2, hr, e4⟩
    have e5 : ins.tensor.toNat = i := by omega
    obtain ⟨sgw, tnw, p', w1, w2, w3, w4, -⟩ :=
      F.done ti hti ins hins hr sg tn0 hsg (by rw [e5]; exact ht)
    rw [hsg'] at w1; cases w1
    rw [e5] at w2 w3
    rw [o2] at w2; cases w2
    exact ⟨p', w3, w4⟩

end TypingGraph

open TypingGraph

namespace IOInv

/-- the NEW tensor `n` of the current subgraph `sg` was appended by the op-adding instruction `ins` -/
structure NewT (pt : PTable) (tis : List TInsts) (st : PState) (s : Nat) (sg0 sg : Subgraph) (n : Nat)
    (ti : TInsts) (ins : Inst) : Prop where
  hti : ti ∈ tis
  hins : ins ∈ ti.insts
  hs : ti.sg = s
  adds : addsOp ins.xf = true
  ge : sg0.tensors.length ≤ n
  t0 : 0 ≤ ins.tensor
  record : ∃ tn0 p pi ty, sg0.tensors[ins.tensor.toNat]? = some tn0 ∧ ins.param = some p ∧
    pinfo pt p = some pi ∧ dtypeOf pi = .ok ty ∧
    sg.tensors[n]? = some (newRecord pi p ty ins.xf
      (uniqueName ((sg.tensors.take n).map (·.name)) (tn0.name ++ sfx ins.xf)) tn0)
  op : ∃ ci, newOp ci ins.tensor (n : Int) ∈ sg.ops ∧ st.model.opcodes[ci]? = some (insCode ins.xf)

variable {pt : PTable} {m : Model} {tis : List TInsts} {st : PState}

theorem _root_.RunDesc.SgRan.newT {s : Nat} {sg0 sg : Subgraph} {om : List Int}
    (S : SgRan pt st.model.opcodes (on s (performed tis)) sg0 sg om) {n : Nat} {e : Inst}
    (he : (adds (on s (performed tis)))[n]? = some e) :
    ∃ ti, NewT pt tis st s sg0 sg (sg0.tensors.length + n) ti e := by
  have N := S.new n e he
  obtain ⟨hon, hadd⟩ := List.mem_filter.1 (List.mem_of_getElem? he)
  obtain ⟨ti, hp, rfl⟩ := mem_on.1 hon
  obtain ⟨hti, hins, -⟩ := mem_performed.1 hp
  exact ⟨ti, hti, hins, rfl, hadd, Nat.le_add_right _ _, N.t0, N.record, N.op.imp fun _ h => ⟨h.1, h.2.1⟩⟩

theorem NewT.newRec {s : Nat} {sg0 sg : Subgraph} {n : Nat} {ti : TInsts} {ins : Inst}
    (N : NewT pt tis st s sg0 sg n ti ins) : ∃ tn, sg.tensors[n]? = some tn ∧ NewRec pt ins tn :=
  let ⟨tn0, p, pi, ty, _, hp, hpi, hty, h⟩ := N.record
  ⟨_, h, p, pi, ty, _, tn0, hp, hpi, hty, rfl⟩

/-- what a reader holds (`z`) in place of the ORIGINAL tensor `t` of subgraph `s`, where `served ins` says that the op-adding
    instruction `ins` is for this reader (it lists the original operator `k`; it lists the graph-output marker): `t` itself, and
    no op-adding instruction on `t` serves the reader; or the NEW tensor appended by one that does, which only the one inserted
    operator `newOp ci t n` produces -/
def Reads (pt : PTable) (tis : List TInsts) (st : PState) (s : Nat) (sg0 sg : Subgraph) (served : Inst → Prop)
    (t z : Int) : Prop :=
  (z = t ∧ ¬ ∃ ti ∈ tis, ∃ ins ∈ ti.insts, ti.sg = s ∧ ins.tensor = t ∧ addsOp ins.xf = true ∧ served ins) ∨
  ∃ (n : Nat) (ti : TInsts) (ins : Inst), z = (n : Int) ∧ ins.tensor = t ∧ served ins ∧ NewT pt tis st s sg0 sg n ti ins ∧
    ∃ ci, ∀ o ∈ sg.ops, o.orig = none → o.outputs = [(n : Int)] → o = newOp ci t (n : Int)

variable {s : Nat} {sg0 sg : Subgraph} {served : Inst → Prop} {t z : Int}

theorem Reads.same (h : Reads pt tis st s sg0 sg served t z)
    (hn : ¬ ∃ ti ∈ tis, ∃ ins ∈ ti.insts, ti.sg = s ∧ ins.tensor = t ∧ addsOp ins.xf = true ∧ served ins) : z = t := by
  rcases h with ⟨h, -⟩ | ⟨n, ti, ins, -, ht, hs, N, -⟩
  · exact h
  · exact absurd ⟨ti, N.hti, ins, N.hins, N.hs, ht, N.adds, hs⟩ hn

theorem Reads.new (h : Reads pt tis st s sg0 sg served t z)
    (hw : ∃ ti ∈ tis, ∃ ins ∈ ti.insts, ti.sg = s ∧ ins.tensor = t ∧ addsOp ins.xf = true ∧ served ins) :
    ∃ (n : Nat) (ti : TInsts) (ins : Inst), z = (n : Int) ∧ ins.tensor = t ∧ served ins ∧ NewT pt tis st s sg0 sg n ti ins ∧
      ∃ ci, ∀ o ∈ sg.ops, o.orig = none → o.outputs = [(n : Int)] → o = newOp ci t (n : Int) := by
  rcases h with ⟨-, hn⟩ | h
  · exact absurd hw hn
  · exact h

theorem Reads.congr {served' : Inst → Prop} (h : Reads pt tis st s sg0 sg served t z)
    (hs : ∀ ti ∈ tis, ∀ ins ∈ ti.insts, (served ins ↔ served' ins)) : Reads pt tis st s sg0 sg served' t z := by
  rcases h with ⟨h, hn⟩ | ⟨n, ti, ins, hz, ht, hsv, N, hu⟩
  · exact .inl ⟨h, fun ⟨ti, hti, ins, hins, a, b, c, d⟩ => hn ⟨ti, hti, ins, hins, a, b, c, (hs ti hti ins hins).2 d⟩⟩
  · exact .inr ⟨n, ti, ins, hz, ht, (hs ti N.hti ins N.hins).1 hsv, N, hu⟩

theorem _root_.RunDesc.SgRan.reads {om : List Int}
    (S : SgRan pt st.model.opcodes (on s (performed tis)) sg0 sg om) {r : Inst → Bool}
    (hr : ∀ ins, r ins = true ↔ served ins) (t : Int) :
    Reads pt tis st s sg0 sg served t (slot sg0.tensors.length (on s (performed tis)) r t) := by
  rcases slot_cases sg0.tensors.length (on s (performed tis)) r t with ⟨h, hno⟩ | ⟨n, e, h, g1, g2, g3⟩
  · refine .inl ⟨h, ?_⟩
    rintro ⟨ti, hti, ins, hins, rfl, rfl, hadd, hs⟩
    exact hno ins (mem_adds_on hti hins hadd) ⟨rfl, (hr ins).2 hs⟩
  · obtain ⟨ti, N⟩ := S.newT g1
    obtain ⟨ci, -, -, hu⟩ := (S.new n e g1).op
    exact .inr ⟨_, ti, e, h, g2, (hr e).1 g3, N, ci, g2 ▸ hu⟩

/-- **graph output position `j` of the output**: the graph outputs are the reader that the instructions listing the
    graph-output marker serve -/
theorem out_final (B : Base m st) (R : Ran pt m (performed tis) st) (s : Nat) (sg sg' : Subgraph)
    (hsg : m.subgraphs[s]? = some sg) (hsg' : st.model.subgraphs[s]? = some sg') (j : Nat) (t : Int)
    (hj : sg.outputs[j]? = some t) :
    ∃ z, sg'.outputs[j]? = some z ∧ Reads pt tis st s sg sg' ListsOut t z := by
  obtain ⟨_, om, h1, h2, -⟩ := B.cur s sg hsg
  cases hsg'.symm.trans h1
  have S := R.sg s sg sg' om hsg hsg' h2
  exact ⟨_, by rw [S.outs, List.getElem?_map, hj]; rfl, S.reads listsOut_iff t⟩

/-- **an inserted operator of the output** is the `newOp ci t n` of ONE op-adding instruction (`NewT`), `ci` resolving to QUANTIZE /
    DEQUANTIZE according to its kind -/
theorem inserted_final (B : Base m st) (R : Ran pt m (performed tis) st) (s : Nat) (sg sg' : Subgraph)
    (hsg : m.subgraphs[s]? = some sg) (hsg' : st.model.subgraphs[s]? = some sg') (o : Op) (ho : o ∈ sg'.ops)
    (hn : o.orig = none) :
    ∃ (ci n : Nat) (ti : TInsts) (ins : Inst), o = newOp ci ins.tensor (n : Int) ∧ NewT pt tis st s sg sg' n ti ins ∧
      st.model.opcodes[ci]? = some (insCode ins.xf) := by
  obtain ⟨_, om, h1, h2, -⟩ := B.cur s sg hsg
  cases hsg'.symm.trans h1
  have S := R.sg s sg sg' om hsg hsg' h2
  obtain ⟨n, e, ci, he, rfl⟩ := S.ins o ho hn
  obtain ⟨ti, N⟩ := S.newT he
  obtain ⟨ci', -, hc, hu⟩ := (S.new n e he).op
  exact ⟨ci', _, ti, e, hu _ ho hn rfl, N, hc⟩

/-- **the ORIGINAL operator `k` in the output** (`KernelSig.Same`): it is the reader that the instructions listing `k` serve -/
theorem op_final (B : Base m st) (R : Ran pt m (performed tis) st)
    (htag : origTagged m = true) (s : Nat) (sg sg' : Subgraph)
    (hsg : m.subgraphs[s]? = some sg) (hsg' : st.model.subgraphs[s]? = some sg')
    (k : Nat) (o : Op) (ho : sg.ops[k]? = some o) :
    ∃ o', KernelSig.Same sg' k o o' ∧
      ∀ (j : Nat) (t : Int), o.inputs[j]? = some t →
        ∃ z, o'.inputs[j]? = some z ∧ Reads pt tis st s sg sg' (fun ins => (k : Int) ∈ ins.consumers) t z := by
  obtain ⟨om, a, o', g2, g3, g4, g5, g6⟩ := final_op m st B htag s sg sg' hsg hsg' k o ho
  have S := R.sg s sg sg' om hsg hsg' g2
  have K := B.sk.sgs s sg sg' hsg hsg'
  obtain rfl := Option.some.inj (g4.symm.trans (S.ops k a o g3 ho))
  refine ⟨_, ⟨List.mem_of_getElem? g4, g5, fun o'' ho'' e => ?_, rfl, rfl, List.length_map _, g6⟩, fun j t hj => ?_⟩
  · exact orig_unique sg sg' K (fun i x hx => origTagged_get m htag s sg hsg i x hx) o'' _ ho''
      (List.mem_of_getElem? g4) k e g5
  · exact ⟨_, by rw [List.getElem?_map, hj]; rfl, S.reads (fun _ => decide_eq_true_iff) t⟩

/-- the appended tensor `n` of the instruction `ins` on a tensor with record `tn`: its record `tn'`, the operator that produces it, its root -/
structure NewSlot (st : PState) (sg' : Subgraph) (n : Nat) (ins : Inst) (tn : Tensor) (ci : Nat) (tn' : Tensor) : Prop where
  get : sg'.tensors[n]? = some tn'
  shape : tn'.shape = tn.shape
  buffer : tn'.buffer = 0
  name : tn'.name = uniqueName ((sg'.tensors.take n).map (·.name)) (tn.name ++ sfx ins.xf)
  fresh : ins.xf ≠ .addQuant → tn' = Wiring.fresh (uniqueName ((sg'.tensors.take n).map (·.name)) (tn.name ++ sfx ins.xf)) tn
  op : SkeletonProof.newOp ci ins.tensor (n : Int) ∈ sg'.ops
  root : Skeleton.root sg' (n : Int) = ins.tensor
  code : st.model.opcodes[ci]? = some (TypingGraph.insCode ins.xf)

theorem newT_slot {pt : PTable} {tis : List TInsts} {st : PState} {s : Nat} {sg sg' : Subgraph}
    {n : Nat} {ti : TInsts} {ins : Inst} (N : NewT pt tis st s sg sg' n ti ins)
    (K : SkeletonProof.SkInv sg sg') (tn : Tensor) (htn : sg.tensors[ins.tensor.toNat]? = some tn) :
    ∃ (ci : Nat) (tn' : Tensor), NewSlot st sg' n ins tn ci tn' := by
  obtain ⟨tn0, p, pi, ty, r1, r2, r3, r4, r5⟩ := N.record
  rw [htn] at r1; cases r1
  obtain ⟨ci, o1, o2⟩ := N.op
  refine ⟨ci, _, r5, newRecord_shape _ _ _ _ _ _, ?_, newRecord_name _ _ _ _ _ _, ?_, o1,
    SkeletonProof.root_derived sg.tensors.length sg' K.ins _ ins.tensor (n : Int) o1 rfl rfl rfl, o2⟩
  · unfold newRecord
    split
    · rw [StepTypes.retype_buffer]; rfl
    · rfl
  · intro hx
    unfold newRecord
    rw [if_neg hx]

end IOInv
