import QProofs.SkeletonProof
import QProofs.PipeGen
import QProofs.PipeNameMap
/-!
# End to end: `quantizePure` returns a well-formed graph with the input's skeleton, or raises (C01/C02)

A successful run in normal form `NF` is a run of `Mat.generate` whose requests, abstracted to parameter
ids, have the closed shape `GenInstsOK.ReqOK` (`generate_reqOK`), followed by the graph stage on such
requests (`quantizePure_stages`).  C01 and C02 read the result off the last stage.
-/
open Graph Mat Cfg Pipeline PipeNF

namespace PipelineWF

/-- converter normal form, as far as the graph stage needs it: besides well-formedness and the `orig` tags, the facts
    about the input model / recipe that make the materialisation emit requests of the closed shape `GenInstsOK.ReqOK`;
    each holds of converter-produced float models and API-accepted recipes.  `OpNamed m op k`: operator `op` has the
    quantizer's name `k`; `slotRole k i` (0 regular, 1 index/shape/axis operand, 2 bias) is the role the registered
    materialisation of `k` gives to operand position `i` (tables in `QProofs/PipeNF.lean`, restating the position lists
    hard-coded in `Mat.materializeOp`).

    No hypothesis on the data operand of the pass-through operators (RESHAPE, TRANSPOSE, AVERAGE_POOL_2D,
    STRIDED_SLICE, SPLIT; same-as-input constraint) is needed: `Mat.standardOp` hands the operand's parameters to the
    results *without* its quantized values (`Pipe.stripData`), so `ReqOK.dataConst` holds for the results even when the
    data operand is a constant. -/
structure NF (env : Env) (st : Recipe.State) : Prop where
  wf : WF.modelOK env.model = true
  tagged : Skeleton.origTagged env.model = true
  /-- needed for `ReqOK.consShape` / `prodShape` (no `.emulated`): op replacement is outside the model -/
  noBlockwise : ∀ e ∈ st, ∀ r ∈ e.2, ∀ w, r.cfg.weight = some w → w.gran ≠ Gran.blockwise
  /-- **graph inputs are not constants** (they have no buffer data).  Needed for `ReqOK.prodCons`:
      the INPUT pseudo-operator emits a *producer* request for every graph input (`[addDequant]`
      under static-range quantization), while the consumers of a constant get `[quantTensor]`;
      `WF.modelOK` only excludes constants among the results of real operators. -/
  inputsNotConst : ∀ sg ∈ env.model.subgraphs, ∀ t ∈ sg.inputs, isConst env.model sg t = false
  /-- **slot roles**: an operator does not use one tensor in two operand positions that its
      materialisation treats differently by position (index/shape/axis operand vs. bias vs. regular
      operand; e.g. the bias of a convolution is not also its input, a RESHAPE's shape operand is
      not also its data operand).  Needed for `ReqOK.consSameOp`: the two requests of operator `op`
      for that tensor would differ (`noQuantReq` for the index slot, the `biasFor` request for the
      bias slot, `wrapper` for a regular slot), and `biasFor` overwrites the request *at the bias
      position*, which must not be the only request of another operand. -/
  slotRoles : ∀ sg ∈ env.model.subgraphs, ∀ op ∈ sg.ops, ∀ k, OpNamed env.model op k →
    ∀ (i j : Nat) a, op.inputs[i]? = some a → op.inputs[j]? = some a → a ≠ -1 → slotRole k i = slotRole k j
  /-- **a constant weight is not also the data operand** of a convolution-like operator
      (FULLY_CONNECTED, CONV_2D, DEPTHWISE_CONV_2D, CONV_2D_TRANSPOSE, EMBEDDING_LOOKUP: weight at
      position 1, data at `dataSlot k`).  Needed for `ReqOK.consSameOp` under float casting
      (`floatCastOp`: `[noQuant]` for the data operand, `[addDequant]` + fp16 data for the weight). -/
  constWeight : ∀ sg ∈ env.model.subgraphs, ∀ op ∈ sg.ops, ∀ k, OpNamed env.model op k →
    ∀ b a, biasSlot k = some b → op.inputs[1]? = some a → op.inputs[dataSlot k]? = some a → a ≠ -1 →
      isConst env.model sg a = false
  /-- **mandatory operands are present**: a convolution-like operator has no `-1` (absent optional
      tensor) before its bias position, and its first result is not `-1`.  Needed for
      `ReqOK.known`/`consReal`/`consSameOp`: `floatCastOp` reads these slots with Python indexing
      (`tensors[-1]` is the *last* tensor of the subgraph, which the operator does not use), and
      `biasFor` addresses the request list -- which skips `-1` slots -- by the raw bias position. -/
  mandatory : ∀ sg ∈ env.model.subgraphs, ∀ op ∈ sg.ops, ∀ k, OpNamed env.model op k →
    ∀ b, biasSlot k = some b → (∀ i < b, op.inputs[i]? ≠ some (-1)) ∧ op.outputs[0]? ≠ some (-1)

theorem NF.genHyp {env : Env} {st : Recipe.State} (h : NF env st) : Pipe.GenHyp env st :=
  ⟨h.wf, h.noBlockwise, h.inputsNotConst, h.slotRoles, h.constWeight, h.mandatory⟩

theorem generate_reqOK (rx : String → String → Bool) (env : Env) (st : Recipe.State) (qsvs : Option Qsvs)
    (reqs : List CReq) (hnf : NF env st) (h : Mat.generate rx env st qsvs = .ok reqs) :
    GenInstsOK.namesUnique env.model ∧
      ∀ r ∈ (absReqs reqs).2, GenInstsOK.ReqOK (ptableOf (absReqs reqs).1) env.model r := by
  obtain ⟨hnu, hE⟩ := Pipe.generate_entryOK rx env st qsvs reqs hnf.genHyp h
  exact ⟨hnu, Pipe.reqOK_of_entryOK env.model hnf.wf hnu hnf.inputsNotConst reqs hE⟩

/-- `quantizePure` is `generate`, `absReqs` and the graph part of `modify_model` -/
theorem quantizePure_eq (rx : String → String → Bool) (env : Env) (st : Recipe.State) (qsvs : Option Qsvs) :
    quantizePure rx env st qsvs =
      if (Recipe.getRecipe st).isEmpty then .error .runtimeError
      else Mat.generate rx env st qsvs >>= fun reqs =>
        Perform.modify (ptableOf (absReqs reqs).1) env.model (absReqs reqs).2 >>= fun m' =>
          pure (m', (absReqs reqs).1) := by
  unfold quantizePure
  split <;> rfl

theorem quantizePure_ok_iff {rx : String → String → Bool} {env : Env} {st : Recipe.State} {qsvs : Option Qsvs}
    {m' : Model} {tbl : List Param} :
    quantizePure rx env st qsvs = .ok (m', tbl) ↔
      (Recipe.getRecipe st).isEmpty = false ∧ ∃ reqs, Mat.generate rx env st qsvs = .ok reqs ∧
        tbl = (absReqs reqs).1 ∧
        Perform.modify (ptableOf (absReqs reqs).1) env.model (absReqs reqs).2 = .ok m' := by
  rw [quantizePure_eq]
  cases (Recipe.getRecipe st).isEmpty
  · rw [if_neg Bool.false_ne_true]
    constructor
    · intro h
      obtain ⟨reqs, hgen, h⟩ := PyM.bind_eq_ok_iff.1 h
      obtain ⟨m, hmod, h⟩ := PyM.bind_eq_ok_iff.1 h
      obtain ⟨rfl, rfl⟩ := Prod.mk.inj (PyM.pure_eq_ok_iff.1 h)
      exact ⟨rfl, reqs, hgen, rfl, hmod⟩
    · rintro ⟨-, reqs, hgen, rfl, hmod⟩
      exact PyM.bind_eq_ok_iff.2 ⟨reqs, hgen, PyM.bind_eq_ok_iff.2 ⟨m', hmod, rfl⟩⟩
  · exact ⟨nofun, fun h => nomatch h.1⟩

/-- what a successful `quantizePure` run on an input in normal form consists of: requests of the closed
    shape, instruction lists that are applicable to the input graph, and their application -/
theorem quantizePure_stages (rx : String → String → Bool) (env : Env) (st : Recipe.State) (qsvs : Option Qsvs)
    (m' : Model) (tbl : List Param) (hnf : NF env st)
    (h : quantizePure rx env st qsvs = .ok (m', tbl)) :
    ∃ reqs tis, Mat.generate rx env st qsvs = .ok reqs ∧ tbl = (absReqs reqs).1 ∧
      GenInstsOK.namesUnique env.model ∧
      (∀ r ∈ (absReqs reqs).2, GenInstsOK.ReqOK (ptableOf tbl) env.model r) ∧
      InstGen.genInsts env.model (absReqs reqs).2 = .ok tis ∧
      (∀ ti ∈ tis, GraphInv.TInstsOK (ptableOf tbl) env.model ti) ∧
      Perform.transformGraph (ptableOf tbl) env.model tis = .ok m' := by
  obtain ⟨-, reqs, hgen, rfl, hmod⟩ := quantizePure_ok_iff.1 h
  unfold Perform.modify at hmod
  obtain ⟨tis, htis, htg⟩ := PyM.bind_ok _ _ _ hmod
  obtain ⟨hnu, hreq⟩ := generate_reqOK rx env st qsvs reqs hnf hgen
  exact ⟨reqs, tis, hgen, rfl, hnu, hreq, htis,
    GenInstsOK.genInsts_ok _ env.model _ tis hnf.wf hreq htis, htg⟩

/-- **C01 (structural part), end to end**: on a model in normal form `quantize()` raises or returns a well-formed graph -/
theorem quantizePure_wf (rx : String → String → Bool) (env : Env) (st : Recipe.State) (qsvs : Option Qsvs)
    (m' : Model) (tbl : List Param) (hnf : NF env st)
    (h : quantizePure rx env st qsvs = .ok (m', tbl)) : WF.modelOK m' = true := by
  obtain ⟨_, tis, -, -, -, -, -, hok, htg⟩ := quantizePure_stages rx env st qsvs m' tbl hnf h
  exact GraphInv.transformGraph_ok _ env.model m' tis hnf.wf hok htg

/-- **C02, end to end**: … and the result has exactly the input's skeleton and I/O contract -/
theorem quantizePure_skeleton (rx : String → String → Bool) (env : Env) (st : Recipe.State) (qsvs : Option Qsvs)
    (m' : Model) (tbl : List Param) (hnf : NF env st)
    (h : quantizePure rx env st qsvs = .ok (m', tbl)) : Skeleton.sameModelSkeleton env.model m' = true := by
  obtain ⟨_, tis, -, -, -, -, -, hok, htg⟩ := quantizePure_stages rx env st qsvs m' tbl hnf h
  exact SkeletonProof.transformGraph_skeleton _ env.model m' tis hnf.wf hnf.tagged hok htg

theorem quantizePure_error_of_generate {rx : String → String → Bool} {env : Env} {st : Recipe.State}
    {qsvs : Option Qsvs} {e : PyErr} (hr : (Recipe.getRecipe st).isEmpty = false)
    (h : Mat.generate rx env st qsvs = .error e) : quantizePure rx env st qsvs = .error e := by
  rw [quantizePure_eq, hr, h]
  rfl

end PipelineWF
