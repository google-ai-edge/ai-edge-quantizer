import QModel.Materialize
import QProofs.PyLemmas
import QProofs.DictLemmas
/-!
# What `checkBufferSharing` and `checkUnreadOwn` check

Closed forms of `compatO2T` and `compatReq`; the two checks, their loop bodies written in the combinators of `PyM.Body` and
read by the rules of `PyM.Chk` (`checkBufferSharing_ok_iff`, `checkUnreadOwn_ok_iff`); `bufferToTensors` as the grouping of
the operand occurrences, and the first check per data buffer over its `readers` (`checkBufferSharing_readers`).
-/
open Graph Mat

/-! Two definitions that belong to other namespaces and that this file states its results with. -/

namespace SharingGen

/-- what `checkUnreadOwn` establishes for one tensor: an unread constant whose OWN request rewrites its
    buffer is the only tensor of the model that references that buffer -/
def UnreadOwnOK (m : Model) (res : List (String × CReq)) (t : Tensor) : Prop :=
  t.name ∉ (bufferToTensors m).flatMap (·.2) → (∃ c, m.buffers[t.buffer]? = some (some c)) →
    ∀ own, Py.dictGet? res t.name = some own →
      (∃ c ∈ own.consumers.getD [], ∃ x, c.xfs.head? = some x ∧ (x = .quantTensor ∨ x = .addDequant)) →
      (m.subgraphs.flatMap (·.tensors)).countP (fun u => u.buffer == t.buffer) ≤ 1

end SharingGen

namespace Locality

/-- the (buffer, name) pairs of the operand/result slots of the operators of one subgraph, in the order
    `bufferToTensors` visits them -/
def occSg (sg : Subgraph) : List (Nat × String) :=
  sg.ops.flatMap fun op =>
    ((op.outputs ++ op.inputs).filter (· != -1)).filterMap fun i =>
      (sg.tensors[i.toNat]?).map fun t => (t.buffer, t.name)

end Locality

namespace SharingProofs

/-- the last conjunct: both heads read a float source (ADD_QUANTIZE / NO_QUANTIZE) or both a quantized one
    (QUANTIZE_TENSOR / ADD_DEQUANTIZE) -/
theorem compatO2T_ok_iff (a b : CO2T) : compatO2T a b = .ok true ↔
    (a.xfs = b.xfs ∧ optParamEq a.param b.param = true) ∨
    ∃ x y, a.xfs.head? = some x ∧ b.xfs.head? = some y ∧
      (x = .noQuant ∨ y = .noQuant ∨ optParamEq a.param b.param = true) ∧
      ((x == .addQuant || x == .noQuant) && (y == .addQuant || y == .noQuant) ||
        (x == .quantTensor || x == .addDequant) && (y == .quantTensor || y == .addDequant)) = true := by
  unfold compatO2T
  by_cases h1 : (a.xfs == b.xfs && optParamEq a.param b.param) = true
  · rw [if_pos h1]
    rw [Bool.and_eq_true, beq_iff_eq] at h1
    exact ⟨fun _ => .inl h1, fun _ => rfl⟩
  rw [if_neg h1]
  rw [Bool.and_eq_true, beq_iff_eq] at h1
  cases a.xfs.head? with
  | none =>
    constructor
    · intro h; cases h
    · rintro (h | ⟨_, _, h, _⟩)
      · exact absurd h h1
      · cases h
  | some x =>
  cases b.xfs.head? with
  | none =>
    constructor
    · intro h; cases h
    · rintro (h | ⟨_, _, _, h, _⟩)
      · exact absurd h h1
      · cases h
  | some y =>
  -- the early `return false`: both sides quantize and the parameters differ
  have hc : (x != Xf.noQuant && y != Xf.noQuant && !optParamEq a.param b.param) = true ↔
      ¬ (x = .noQuant ∨ y = .noQuant ∨ optParamEq a.param b.param = true) := by
    simp only [Bool.and_eq_true, bne_iff_ne, ne_eq, Bool.not_eq_true', not_or, Bool.not_eq_true, and_assoc]
  constructor
  · intro h
    have h : (if _ then _ else _ : PyM Bool) = _ := h
    by_cases h2 : (x != Xf.noQuant && y != Xf.noQuant && !optParamEq a.param b.param) = true
    · rw [if_pos h2] at h; cases h
    · rw [if_neg h2] at h
      exact .inr ⟨x, y, rfl, rfl, Classical.not_not.1 (mt hc.2 h2), Except.ok.inj h⟩
  · rintro (h | ⟨_, _, hx, hy, hp, hcls⟩)
    · exact absurd h h1
    · cases hx; cases hy
      show (if _ then _ else _ : PyM Bool) = _
      rw [if_neg (fun h2 => hc.1 h2 hp)]
      exact congrArg Except.ok hcls

theorem test_iff (g k : PyM Bool) :
    (do let r ← g; if (!r) = true then pure false else k) = .ok true ↔ g = .ok true ∧ k = .ok true := by
  cases g with
  | error e => exact ⟨(fun h => nomatch h), fun h => nomatch h.1⟩
  | ok r =>
    cases r
    · exact ⟨(fun h => nomatch h), fun h => nomatch h.1⟩
    · exact ⟨fun h => ⟨rfl, h⟩, fun h => h.2⟩

/-- the loop `for c in l: if !(← g c) then return false`, followed by `k`; `f` is the continuation as the `do` notation
    builds it (its `match` written into the statement would be another matcher and not unify) -/
theorem allTrue_iff {α} (g : α → PyM Bool) (k : PyM Bool) (f : Option Bool × Unit → PyM Bool)
    (hk : ∀ u, f (none, u) = k) (hr : ∀ r u, f (some r, u) = pure r) : ∀ l : List α,
    (forIn l ((none, ()) : Option Bool × Unit) (fun c _ => do
          let r ← g c
          if (!r) = true then pure (ForInStep.done (some false, ())) else pure (ForInStep.yield (none, ())))
        >>= f) = .ok true ↔ (∀ c ∈ l, g c = .ok true) ∧ k = .ok true
  | [] => by
    show f (none, ()) = _ ↔ _
    rw [hk]
    exact ⟨fun h => ⟨(fun _ hc => nomatch hc), h⟩, fun h => h.2⟩
  | x :: xs => by
    rw [List.forIn_cons, List.forall_mem_cons, and_assoc, ← allTrue_iff g k f hk hr xs]
    cases hg : g x with
    | error e => exact ⟨(fun h => nomatch h), fun h => nomatch h.1⟩
    | ok r =>
      cases r
      · show f (some false, ()) = _ ↔ _
        rw [hr]
        exact ⟨(fun h => nomatch h), fun h => nomatch h.1⟩
      · exact ⟨fun h => ⟨rfl, h⟩, fun h => h.2⟩

/-- the consumer half of `compatReq` (its join point) -/
def consPart (a b : Option (List CO2T)) : PyM Bool :=
  match a, b with
  | some ca, some cb => do
    let a0 ← (match ca.head? with | some x => pure x | none => throw PyErr.indexError)
    let b0 ← (match cb.head? with | some x => pure x | none => throw PyErr.indexError)
    for c in ca do
      if !(← compatO2T c a0) then return false
    for c in cb do
      if !(← compatO2T c b0) then return false
    if !(← compatO2T a0 b0) then return false
    return true
  | none, none => return true
  | _, _ => return false

theorem compatReq_eq (a b : CReq) : compatReq a b =
    match a.producer, b.producer with
    | some pa, some pb => do
      let r ← compatO2T pa pb
      if (!r) = true then pure false else consPart a.consumers b.consumers
    | none, none => consPart a.consumers b.consumers
    | _, _ => pure false := by
  unfold compatReq consPart
  rfl

def Both {α} (R : α → α → Prop) (a b : Option α) : Prop :=
  (a = none ∧ b = none) ∨ ∃ x y, a = some x ∧ b = some y ∧ R x y

def ConsCompat (ca cb : List CO2T) : Prop :=
  ∃ a0 b0, ca.head? = some a0 ∧ cb.head? = some b0 ∧ (∀ c ∈ ca, compatO2T c a0 = .ok true) ∧
    (∀ c ∈ cb, compatO2T c b0 = .ok true) ∧ compatO2T a0 b0 = .ok true

theorem both_some {α} {R : α → α → Prop} {x y : α} : Both R (some x) (some y) ↔ R x y :=
  ⟨fun h => h.elim (fun h => nomatch h.1) fun ⟨_, _, e1, e2, h⟩ => by cases e1; cases e2; exact h,
    fun h => .inr ⟨x, y, rfl, rfl, h⟩⟩

theorem consPart_ok_iff (a b : Option (List CO2T)) : consPart a b = .ok true ↔ Both ConsCompat a b := by
  unfold consPart
  match a, b with
  | none, none => exact ⟨fun _ => .inl ⟨rfl, rfl⟩, fun _ => rfl⟩
  | none, some _ => exact ⟨(fun h => nomatch h), fun h => h.elim (fun h => nomatch h.2) fun ⟨_, _, h, _⟩ => nomatch h⟩
  | some _, none => exact ⟨(fun h => nomatch h), fun h => h.elim (fun h => nomatch h.1) fun ⟨_, _, _, h, _⟩ => nomatch h⟩
  | some ca, some cb =>
    rw [both_some]
    unfold ConsCompat
    dsimp only
    cases ha : ca.head? with
    | none => exact ⟨(fun h => nomatch h), fun ⟨_, _, h, _⟩ => nomatch h⟩
    | some a0 =>
    cases hb : cb.head? with
    | none => exact ⟨(fun h => nomatch h), fun ⟨_, _, _, h, _⟩ => nomatch h⟩
    | some b0 =>
      simp only [pure_bind]
      refine Iff.trans ?_ ⟨fun h => ⟨a0, b0, rfl, rfl, h⟩, fun ⟨_, _, e1, e2, h⟩ => by cases e1; cases e2; exact h⟩
      refine (allTrue_iff (fun c => compatO2T c a0) _ _ (fun _ => rfl) (fun _ _ => rfl) ca).trans (and_congr_right fun _ => ?_)
      refine (allTrue_iff (fun c => compatO2T c b0) _ _ (fun _ => rfl) (fun _ _ => rfl) cb).trans (and_congr_right fun _ => ?_)
      exact (test_iff _ _).trans (and_iff_left rfl)

theorem compatReq_ok_iff (a b : CReq) : compatReq a b = .ok true ↔
    Both (fun pa pb => compatO2T pa pb = .ok true) a.producer b.producer ∧ Both ConsCompat a.consumers b.consumers := by
  rw [compatReq_eq, ← consPart_ok_iff]
  match a.producer, b.producer with
  | none, none => exact ⟨fun h => ⟨.inl ⟨rfl, rfl⟩, h⟩, fun h => h.2⟩
  | none, some _ => exact ⟨(fun h => nomatch h), fun h => h.1.elim (fun h => nomatch h.2) fun ⟨_, _, h, _⟩ => nomatch h⟩
  | some _, none => exact ⟨(fun h => nomatch h), fun h => h.1.elim (fun h => nomatch h.1) fun ⟨_, _, _, h, _⟩ => nomatch h⟩
  | some pa, some pb => rw [both_some]; exact test_iff _ _

open PyM PyM.Body

def IsData (m : Model) (b : Nat) : Prop := ∃ c, m.buffers[b]? = some (some c)

def whenData (m : Model) (b : Nat) (x : Body) : Body := match m.buffers[b]? with | some (some _) => x | _ => skip

theorem _root_.PyM.Chk.whenData {m : Model} {b : Nat} {Q : Prop} {x : Body} (h : Chk Q x) :
    Chk (IsData m b → Q) (whenData m b x) := by
  unfold SharingProofs.whenData
  split
  · next c hb => exact h.iff ⟨fun h _ => h, fun h => h ⟨c, hb⟩⟩
  · next hb => exact Chk.skip.iff (iff_of_true trivial fun ⟨c, hc⟩ => absurd hc (hb c))

/-- the test of both unread-constant passes: some consumer side starts with QUANTIZE_TENSOR / ADD_DEQUANTIZE -/
def rewritesB (r : CReq) : Bool :=
  (r.consumers.getD []).any fun c => match c.xfs.head? with
    | some x => x == .quantTensor || x == .addDequant
    | none => false

theorem rewrites_iff (r : CReq) : rewritesB r = true ↔
    ∃ c ∈ r.consumers.getD [], ∃ x, c.xfs.head? = some x ∧ (x = .quantTensor ∨ x = .addDequant) := by
  unfold rewritesB
  rw [List.any_eq_true]
  refine exists_congr fun c => and_congr_right fun _ => ?_
  cases c.xfs.head? with
  | none => exact ⟨fun h => (nomatch h), fun ⟨_, h, _⟩ => (nomatch h)⟩
  | some x =>
    rw [Bool.or_eq_true, beq_iff_eq, beq_iff_eq]
    exact ⟨fun h => ⟨x, rfl, h⟩, fun ⟨_, hx, h⟩ => Option.some.inj hx ▸ h⟩

theorem rewritesB_false_iff (r : CReq) : rewritesB r = false ↔
    ∀ c ∈ r.consumers.getD [], ∀ x, c.xfs.head? = some x → x ≠ .quantTensor ∧ x ≠ .addDequant := by
  rw [← Bool.not_eq_true, rewrites_iff]
  exact ⟨fun h c hc x hx => ⟨fun e => h ⟨c, hc, x, hx, .inl e⟩, fun e => h ⟨c, hc, x, hx, .inr e⟩⟩,
    fun h ⟨c, hc, x, hx, e⟩ => e.elim (h c hc x hx).1 (h c hc x hx).2⟩

/-- the body of the first loop of `checkBufferSharing` -/
def entryBody (m : Model) (res : List (String × CReq)) (e : Nat × List String) : Body :=
  match e.2 with
  | [] => skip
  | [only] => whenData m e.1 (whenSome (Py.dictGet? res only) fun p => check (compatReq p p) .runtimeError)
  | first :: rest => whenData m e.1 do
    let fp ← orRaise (Py.dictGet? res first) .keyError
    each rest fun n => do
      let tp ← orRaise (Py.dictGet? res n) .keyError
      check (compatReq fp tp) .runtimeError

/-- the body of the second loop of `checkBufferSharing`, for an unread tensor whose buffer holds data -/
def shareBody (m : Model) (res : List (String × CReq)) (t : Tensor) : Body :=
  each ((Py.dictGet? (bufferToTensors m) t.buffer).getD []) fun n =>
    whenSome (Py.dictGet? res n) fun sp => raiseIf (rewritesB sp) .runtimeError

/-- the body of `checkUnreadOwn`, for an unread tensor whose buffer holds data -/
def ownBody (m : Model) (res : List (String × CReq)) (t : Tensor) : Body :=
  whenSome (Py.dictGet? res t.name) fun own =>
    raiseIf (decide (1 < (m.subgraphs.flatMap (·.tensors)).countP (fun u => u.buffer == t.buffer)) && rewritesB own)
      .runtimeError

/-- the loop nest shared by the second half of `checkBufferSharing` and by `checkUnreadOwn`: the body `k`
    runs on every tensor that no operator reads and whose buffer holds data -/
def unreadPass (m : Model) (k : Tensor → Body) : PyM PUnit :=
  forIn m.subgraphs PUnit.unit fun sg _ => each sg.tensors fun t =>
    if ((bufferToTensors m).flatMap (·.2)).contains t.name then skip else whenData m t.buffer (k t)

-- `isDefEq` does not unfold a stuck matcher under smart unfolding, and the matchers of the combinators are not the model's
set_option smartUnfolding false in
theorem checkBufferSharing_eq (m : Model) (res : List (String × CReq)) :
    checkBufferSharing m res = (do
      forIn (bufferToTensors m) PUnit.unit fun e _ => entryBody m res e
      unreadPass m (shareBody m res)
      pure ()) := rfl

set_option smartUnfolding false in
theorem checkUnreadOwn_eq (m : Model) (res : List (String × CReq)) :
    checkUnreadOwn m res = (do unreadPass m (ownBody m res); pure ()) := rfl

/-- what the first loop asks of the readers `l` of one data buffer -/
def ReadersOK (res : List (String × CReq)) : List String → Prop
  | [] => True
  | [only] => ∀ p, Py.dictGet? res only = some p → compatReq p p = .ok true
  | first :: rest => ∃ fp, Py.dictGet? res first = some fp ∧
      ∀ n ∈ rest, ∃ tp, Py.dictGet? res n = some tp ∧ compatReq fp tp = .ok true

theorem ReadersOK.of_pairwise {res : List (String × CReq)} {l : List String}
    (hpw : ∀ n ∈ l, ∀ n' ∈ l, ∀ p p', Py.dictGet? res n = some p → Py.dictGet? res n' = some p' →
      compatReq p p' = .ok true)
    (hex : 2 ≤ l.length → ∀ n ∈ l, ∃ p, Py.dictGet? res n = some p) : ReadersOK res l := by
  match l with
  | [] => trivial
  | [only] => exact fun p hp => hpw only List.mem_cons_self only List.mem_cons_self p p hp hp
  | first :: second :: rest =>
    have hex := hex (Nat.le_add_left 2 rest.length)
    obtain ⟨fp, hfp⟩ := hex first List.mem_cons_self
    refine ⟨fp, hfp, fun n hn => ?_⟩
    obtain ⟨tp, htp⟩ := hex n (List.mem_cons_of_mem _ hn)
    exact ⟨tp, htp, hpw first List.mem_cons_self n (List.mem_cons_of_mem _ hn) fp tp hfp htp⟩

theorem entryBody_chk (m : Model) (res : List (String × CReq)) (b : Nat) (l : List String) :
    Chk (IsData m b → ReadersOK res l) (entryBody m res (b, l)) := by
  unfold entryBody
  match l with
  | [] => exact Chk.skip.iff (iff_of_true trivial fun _ => trivial)
  | [only] => exact .whenData (.whenSome fun p => .check)
  | first :: second :: rest => exact .whenData (.bindGet fun fp => .each fun n => .bindGet fun tp => .check)

theorem shareBody_chk (m : Model) (res : List (String × CReq)) (t : Tensor) :
    Chk (∀ n ∈ (Py.dictGet? (bufferToTensors m) t.buffer).getD [], ∀ sp, Py.dictGet? res n = some sp →
        rewritesB sp = false) (shareBody m res t) :=
  .each fun _ => .whenSome fun _ => .raiseIf

theorem unreadPass_ok_iff {m : Model} {k : Tensor → Body} {Q : Tensor → Prop} (hk : ∀ t, Chk (Q t) (k t)) (u : PUnit) :
    unreadPass m k = .ok u ↔
      ∀ sg ∈ m.subgraphs, ∀ t ∈ sg.tensors, t.name ∉ (bufferToTensors m).flatMap (·.2) → IsData m t.buffer → Q t := by
  refine Chk.loop (fun sg _ => .each fun t => ?_) _ u
  by_cases hop : ((bufferToTensors m).flatMap (·.2)).contains t.name = true
  · rw [if_pos hop]
    exact Chk.skip.iff (iff_of_true trivial fun hun => absurd (List.contains_iff_mem.1 hop) hun)
  · rw [if_neg hop]
    exact (Chk.whenData (hk t)).iff ⟨fun h _ => h, fun h => h fun hm => hop (List.contains_iff_mem.2 hm)⟩

/-- what the second loop establishes for one tensor -/
def UnreadOK (m : Model) (res : List (String × CReq)) (t : Tensor) : Prop :=
  t.name ∉ (bufferToTensors m).flatMap (·.2) → IsData m t.buffer →
    ∀ n ∈ (Py.dictGet? (bufferToTensors m) t.buffer).getD [], ∀ sp, Py.dictGet? res n = some sp → rewritesB sp = false

theorem checkBufferSharing_ok_iff (m : Model) (res : List (String × CReq)) :
    checkBufferSharing m res = .ok () ↔
      (∀ e ∈ bufferToTensors m, IsData m e.1 → ReadersOK res e.2) ∧
      (∀ sg ∈ m.subgraphs, ∀ t ∈ sg.tensors, UnreadOK m res t) := by
  rw [checkBufferSharing_eq, PyM.bind_eq_ok_iff]
  constructor
  · rintro ⟨u1, h1, h⟩
    obtain ⟨u2, h2, -⟩ := PyM.bind_eq_ok_iff.1 h
    exact ⟨(Chk.loop (fun e _ => entryBody_chk m res e.1 e.2) _ u1).1 h1,
      (unreadPass_ok_iff (shareBody_chk m res) u2).1 h2⟩
  · rintro ⟨h1, h2⟩
    exact ⟨PUnit.unit, (Chk.loop (fun e _ => entryBody_chk m res e.1 e.2) _ _).2 h1,
      PyM.bind_eq_ok_iff.2 ⟨PUnit.unit, (unreadPass_ok_iff (shareBody_chk m res) _).2 h2, rfl⟩⟩

theorem ownBody_chk (m : Model) (res : List (String × CReq)) (t : Tensor) :
    Chk (∀ own, Py.dictGet? res t.name = some own →
        (∃ c ∈ own.consumers.getD [], ∃ x, c.xfs.head? = some x ∧ (x = .quantTensor ∨ x = .addDequant)) →
        (m.subgraphs.flatMap (·.tensors)).countP (fun u => u.buffer == t.buffer) ≤ 1) (ownBody m res t) :=
  .whenSome fun own => Chk.raiseIf.iff (by
    rw [Bool.and_eq_false_iff, decide_eq_false_iff_not, Nat.not_lt, ← Bool.not_eq_true, rewrites_iff]
    exact ⟨fun h hr => h.resolve_right (not_not_intro hr), fun h => (Classical.em _).imp_left h⟩)

theorem checkUnreadOwn_ok_iff (m : Model) (res : List (String × CReq)) :
    checkUnreadOwn m res = .ok () ↔ ∀ sg ∈ m.subgraphs, ∀ t ∈ sg.tensors, SharingGen.UnreadOwnOK m res t := by
  rw [checkUnreadOwn_eq, PyM.bind_eq_ok_iff]
  exact ⟨fun ⟨u, h, _⟩ => (unreadPass_ok_iff (ownBody_chk m res) u).1 h,
    fun h => ⟨PUnit.unit, (unreadPass_ok_iff (ownBody_chk m res) _).2 h, rfl⟩⟩

/-! ## `bufferToTensors` through the list of operand occurrences -/

def occ (m : Model) : List (Nat × String) := m.subgraphs.flatMap Locality.occSg

/-- one step of `bufferToTensors` -/
def bstep (acc : List (Nat × List String)) (e : Nat × String) : List (Nat × List String) :=
  Py.dictSet acc e.1 ((Py.dictGet? acc e.1).getD [] ++ [e.2])

theorem b2t_eq (m : Model) : bufferToTensors m = (occ m).foldl bstep [] := by
  unfold bufferToTensors occ
  rw [List.foldl_flatMap]
  congr 1
  funext acc sg
  unfold Locality.occSg
  rw [List.foldl_flatMap]
  congr 1
  funext acc op
  rw [List.foldl_filterMap]
  congr 1
  funext acc i
  cases sg.tensors[i.toNat]? <;> rfl

theorem bufferToTensors_nodup (m : Model) : ((bufferToTensors m).map (·.1)).Nodup := by
  rw [b2t_eq]
  exact List.foldlRecOn (motive := fun acc : List (Nat × List String) => (acc.map (·.1)).Nodup) _ _ (b := [])
    List.nodup_nil fun acc hacc e _ => Py.nodup_dictSet _ _ _ hacc

theorem b2t_mem_iff (m : Model) (b : Nat) (l : List String) :
    (b, l) ∈ bufferToTensors m ↔ Py.dictGet? (bufferToTensors m) b = some l :=
  Py.mem_iff_dictGet? _ (bufferToTensors_nodup m) b l

def namesAt (l : List (Nat × String)) (b : Nat) : List String := (l.filter (·.1 == b)).map (·.2)

theorem group_get : ∀ (l : List (Nat × String)) (acc : List (Nat × List String)) (b : Nat),
    Py.dictGet? (l.foldl bstep acc) b =
      if namesAt l b = [] then Py.dictGet? acc b else some ((Py.dictGet? acc b).getD [] ++ namesAt l b) := by
  intro l
  induction l with
  | nil => intro acc b; simp [namesAt]
  | cons e l ih =>
    intro acc b
    rw [List.foldl_cons, ih]
    unfold bstep
    rw [Py.dictGet?_dictSet]
    by_cases heb : e.1 = b
    · have h1 : namesAt (e :: l) b = e.2 :: namesAt l b := by simp [namesAt, heb]
      rw [h1, if_pos heb, heb, if_neg (List.cons_ne_nil _ _), Option.getD_some]
      split
      · next h0 => rw [h0]
      · rw [List.append_assoc]; rfl
    · have h1 : namesAt (e :: l) b = namesAt l b := by simp [namesAt, heb]
      rw [h1, if_neg heb]

theorem b2t_get (m : Model) (b : Nat) :
    Py.dictGet? (bufferToTensors m) b = if namesAt (occ m) b = [] then none else some (namesAt (occ m) b) := by
  rw [b2t_eq, group_get]
  simp [Py.dictGet?]

theorem mem_namesAt (l : List (Nat × String)) (b : Nat) (n : String) : n ∈ namesAt l b ↔ (b, n) ∈ l := by
  unfold namesAt
  simp only [List.mem_map, List.mem_filter, beq_iff_eq]
  constructor
  · rintro ⟨e, ⟨he, rfl⟩, rfl⟩; exact he
  · intro h; exact ⟨(b, n), ⟨h, rfl⟩, rfl⟩

theorem b2t_entry (m : Model) (b : Nat) (l : List String) :
    (b, l) ∈ bufferToTensors m ↔ l = namesAt (occ m) b ∧ l ≠ [] := by
  rw [b2t_mem_iff, b2t_get]
  by_cases h : namesAt (occ m) b = []
  · rw [if_pos h]
    constructor
    · intro h'; cases h'
    · rintro ⟨rfl, h2⟩; exact absurd h h2
  · rw [if_neg h]
    constructor
    · intro h'; cases h'; exact ⟨rfl, h⟩
    · rintro ⟨rfl, _⟩; rfl

theorem operands_mem (m : Model) (n : String) :
    n ∈ (bufferToTensors m).flatMap (·.2) ↔ ∃ b, (b, n) ∈ occ m := by
  rw [List.mem_flatMap]
  constructor
  · rintro ⟨⟨b, l⟩, he, hn⟩
    obtain ⟨rfl, _⟩ := (b2t_entry m b l).1 he
    exact ⟨b, (mem_namesAt _ _ _).1 hn⟩
  · rintro ⟨b, hb⟩
    have hn := (mem_namesAt _ _ _).2 hb
    refine ⟨(b, namesAt (occ m) b), (b2t_entry m b _).2 ⟨rfl, ?_⟩, hn⟩
    intro h; rw [h] at hn; cases hn

theorem occSg_name (sg : Subgraph) (e : Nat × String) (h : e ∈ Locality.occSg sg) :
    ∃ t ∈ sg.tensors, t.buffer = e.1 ∧ t.name = e.2 := by
  unfold Locality.occSg at h
  obtain ⟨op, _, h⟩ := List.mem_flatMap.1 h
  obtain ⟨i, _, h⟩ := List.mem_filterMap.1 h
  cases ht : sg.tensors[i.toNat]? with
  | none => rw [ht] at h; cases h
  | some t =>
    rw [ht] at h
    simp only [Option.map_some, Option.some.injEq] at h
    subst h
    exact ⟨t, List.mem_of_getElem? ht, rfl, rfl⟩

/-! ## `checkBufferSharing` per data buffer -/

/-- the operand occurrences of buffer `b`, in the order of the operators -/
abbrev readers (m : Model) (b : Nat) : List String := namesAt (occ m) b

theorem b2t_getD (m : Model) (b : Nat) : (Py.dictGet? (bufferToTensors m) b).getD [] = readers m b := by
  rw [b2t_get]
  split
  · next h => exact h.symm
  · rfl

/-- no operator reads or writes a tensor of this name -/
def Unread (m : Model) (n : String) : Prop := ¬ ∃ b, (b, n) ∈ occ m

theorem unread_iff (m : Model) (n : String) : n ∉ (bufferToTensors m).flatMap (·.2) ↔ Unread m n :=
  not_congr (operands_mem m n)

/-- the check per data buffer: its readers are compared with the first one, and if some tensor over it is read by no
    operator, no reader's request rewrites it -/
theorem checkBufferSharing_readers (m : Model) (res : List (String × CReq)) :
    checkBufferSharing m res = .ok () ↔ ∀ b, IsData m b →
      ReadersOK res (readers m b) ∧
      ∀ sg ∈ m.subgraphs, ∀ t ∈ sg.tensors, t.buffer = b → Unread m t.name →
        ∀ n ∈ readers m b, ∀ sp, Py.dictGet? res n = some sp → rewritesB sp = false := by
  rw [checkBufferSharing_ok_iff]
  constructor
  · rintro ⟨h1, h2⟩ b hb
    refine ⟨?_, fun sg hsg t ht hbt hun => ?_⟩
    · by_cases hne : readers m b = []
      · rw [hne]; trivial
      · exact h1 (b, readers m b) ((b2t_entry m b _).2 ⟨rfl, hne⟩) hb
    · subst hbt
      rw [← b2t_getD]
      exact h2 sg hsg t ht ((unread_iff m _).2 hun) hb
  · refine fun h => ⟨fun e he hd => ?_, fun sg hsg t ht hun hd => ?_⟩
    · obtain ⟨b, l⟩ := e
      obtain ⟨rfl, -⟩ := (b2t_entry m b l).1 he
      exact (h b hd).1
    · rw [b2t_getD]
      exact (h t.buffer hd).2 sg hsg t ht rfl ((unread_iff m _).1 hun)

end SharingProofs
