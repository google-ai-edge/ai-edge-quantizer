import QModel.Emulated
import QProofs.GraphStep
import QProofs.ListLemmas
/-!
# Specification lemmas for the stages of `Emulated.apply`
The tail of the function works on an operator list `pre ++ N ++ fc :: post`: it inserts after `N`, retargets the
last member of `N`, finally deletes `fc`.  `Chain` says what `N` is at every moment. -/
open Graph Perform Emulated GraphStep

namespace EmuSpec

theorem pyInsert_mid (pre N rest : List Op) (i : Int) (x : Op)
    (hi : i = (pre.length : Int) + (N.length : Int)) :
    pyInsert (pre ++ N ++ rest) i x = pre ++ (N ++ [x]) ++ rest := by
  have h1 : i.toNat = (pre ++ N).length := by simp; omega
  rw [GraphBasics.pyInsert_eq _ _ _ (by omega) (by rw [h1]; simp), h1, insertIdx_append_length]
  simp

theorem modify_append_left {α} (f : α → α) (l rest : List α) (i : Nat) (h : i < l.length) :
    (l ++ rest).modify i f = l.modify i f ++ rest := by
  induction l generalizing i with
  | nil => exact absurd h (Nat.not_lt_zero _)
  | cons a l ih =>
    cases i with
    | zero => rfl
    | succ i => exact congrArg (a :: ·) (ih i (Nat.lt_of_succ_lt_succ h))

theorem modify_append_right {α} (f : α → α) (pre l : List α) (i : Nat) :
    (pre ++ l).modify (pre.length + i) f = pre ++ l.modify i f := by
  induction pre with
  | nil => simp
  | cons a pre ih => simpa [Nat.add_right_comm] using ih

theorem setLastOut_mid (pre N rest : List Op) (t : Int) (hN : N ≠ []) :
    setLastOut (pre ++ N ++ rest) (pre.length + N.length - 1) t =
      pre ++ setLastOut N (N.length - 1) t ++ rest := by
  have hpos : 0 < N.length := List.length_pos_iff.2 hN
  unfold setLastOut
  rw [show pre.length + N.length - 1 = pre.length + (N.length - 1) by omega, List.append_assoc,
    modify_append_right, modify_append_left _ _ _ _ (by omega), List.append_assoc]

theorem eraseIdx_mid (pre N post : List Op) (fc : Op) :
    (pre ++ N ++ fc :: post).eraseIdx (pre.length + N.length) = pre ++ N ++ post := by
  rw [← List.length_append, List.eraseIdx_append_of_length_le (Nat.le_refl _), Nat.sub_self]
  rfl

theorem split_at {α} (l : List α) (k : Nat) (a : α) (h : l[k]? = some a) :
    ∃ pre post, l = pre ++ a :: post ∧ pre.length = k :=
  ⟨l.take k, l.drop (k + 1), List.eq_take_cons_drop h,
    List.length_take_of_le (Nat.le_of_lt (List.getElem?_eq_some_iff.1 h).1)⟩

theorem index_last {α} (l : List α) (a : α) : Py.index (l ++ [a]) (-1) = .ok a := by
  unfold Py.index
  simp only [List.length_append, List.length_cons, List.length_nil]
  have h1 : ((-1 : Int) < 0) := by omega
  simp only [h1, if_true]
  have h2 : ¬ ((-1 : Int) + ((l.length + (0 + 1) : Nat) : Int) < 0 ∨
      (-1 : Int) + ((l.length + (0 + 1) : Nat) : Int) ≥ ((l.length + (0 + 1) : Nat) : Int)) := by omega
  rw [if_neg h2]
  have h3 : ((-1 : Int) + ((l.length + (0 + 1) : Nat) : Int)).toNat = l.length := by omega
  rw [h3]
  simp

theorem index_zero {α} (l : List α) (a : α) (h : Py.index l 0 = .ok a) : ∃ rest, l = a :: rest := by
  have := (Py.index_nonneg (Int.le_refl 0)).1 h
  cases l with
  | nil => simp at this
  | cons b rest => simp at this; exact ⟨rest, by rw [this]⟩

theorem length_setLastOut (N : List Op) (i : Nat) (v : Int) : (setLastOut N i v).length = N.length := by
  simp [setLastOut]

theorem prodBefore_setLastOut (N : List Op) (k : Nat) (v : Int) {i : Nat} (hi : i ≤ k) (t : Int) :
    ProdBefore (setLastOut N k v) i t ↔ ProdBefore N i t := by
  refine exists_congr fun j => exists_congr fun o => and_congr_right fun hj => ?_
  rw [setLastOut, List.getElem?_modify_ne _ _ (by omega)]

/-- every operand is in `A` or a result of an earlier member; every member but the last has one result, a tensor id
    in `[lo, nT)` not produced earlier; the last member produces exactly `y` -/
structure Chain (A : Int → Prop) (lo nT : Nat) (y : Int) (N : List Op) : Prop where
  ne : N ≠ []
  ins : ∀ (i : Nat) (o : Op), N[i]? = some o → ∀ t ∈ o.inputs,
    A t ∨ ∃ (j : Nat) (o' : Op), j < i ∧ N[j]? = some o' ∧ t ∈ o'.outputs
  mid : ∀ (i : Nat) (o : Op), N[i]? = some o → i + 1 < N.length →
    ∃ f : Nat, o.outputs = [(f : Int)] ∧ lo ≤ f ∧ f < nT ∧
      ∀ (j : Nat) (o' : Op), j < i → N[j]? = some o' → (f : Int) ∉ o'.outputs
  last : ∀ o : Op, N[N.length - 1]? = some o → o.outputs = [y]

theorem forall_mem_pair {P : Int → Prop} {a b : Int} (ha : P a) (hb : P b) : ∀ t ∈ [a, b], P t := by
  simp [ha, hb]

section ChainAPI
variable {A : Int → Prop} {lo nT : Nat} {y : Int} {N : List Op}

theorem Chain.out_cases (h : Chain A lo nT y N) {i : Nat} {o : Op} (ho : N[i]? = some o) :
    o.outputs = [y] ∨ ∃ f : Nat, o.outputs = [(f : Int)] ∧ lo ≤ f ∧ f < nT := by
  by_cases hi : i + 1 < N.length
  · obtain ⟨f, hf, h1, h2, _⟩ := h.mid i o ho hi
    exact .inr ⟨f, hf, h1, h2⟩
  · have := (List.getElem?_eq_some_iff.1 ho).1
    obtain rfl : i = N.length - 1 := by omega
    exact .inl (h.last o ho)

theorem Chain.last_get (h : Chain A lo nT y N) : ∃ o, N[N.length - 1]? = some o ∧ o.outputs = [y] :=
  have hlt : N.length - 1 < N.length := Nat.sub_lt (List.length_pos_iff.2 h.ne) Nat.one_pos
  ⟨N[N.length - 1], List.getElem?_eq_getElem hlt, h.last _ (List.getElem?_eq_getElem hlt)⟩

theorem Chain.single (lo : Nat) {op : Op} (hin : ∀ t ∈ op.inputs, A t) (hout : op.outputs = [y]) :
    Chain A lo lo y [op] := by
  refine ⟨List.cons_ne_nil _ _, fun i o hi t ht => ?_, fun i o _ hlt => absurd hlt (by simp), fun o ho => ?_⟩
  · cases i with
    | zero => cases hi; exact .inl (hin t ht)
    | succ i => cases hi
  · cases ho; exact hout

end ChainAPI

/-- the step of the tail of the function: the last member is retargeted to the new tensor `nT`, an operator that may
    read `nT` and produces `y` is appended.  The `ins` / `mid` clauses of `Chain` speak of `ProdBefore N i`, and up to
    the old last position the new list produces what the old one did (`hPB`). -/
theorem Chain.extend {A : Int → Prop} {lo nT : Nat} {y : Int} {N : List Op} (h : Chain A lo nT y N)
    (op : Op) (hlo : lo ≤ nT) (hin : ∀ t ∈ op.inputs, A t ∨ t = (nT : Int)) (hout : op.outputs = [y]) :
    Chain A lo (nT + 1) y (setLastOut N (N.length - 1) (nT : Int) ++ [op]) := by
  have hpos : 0 < N.length := List.length_pos_iff.2 h.ne
  obtain ⟨oL, hoL, _⟩ := h.last_get
  have hlen := length_setLastOut N (N.length - 1) (nT : Int)
  have hold : ∀ j, j + 1 < N.length → (setLastOut N (N.length - 1) (nT : Int))[j]? = N[j]? := fun j hj => by
    rw [setLastOut, List.getElem?_modify_ne _ _ (by omega)]
  have hnew : (setLastOut N (N.length - 1) (nT : Int))[N.length - 1]? =
      some { oL with outputs := [(nT : Int)] } := by
    rw [setLastOut, List.getElem?_modify_eq, hoL]; rfl
  have hPB : ∀ i t, i ≤ N.length - 1 →
      (ProdBefore (setLastOut N (N.length - 1) (nT : Int) ++ [op]) i t ↔ ProdBefore N i t) := fun i t hi => by
    rw [prodBefore_append_left _ t (by omega), prodBefore_setLastOut N _ _ hi]
  generalize setLastOut N (N.length - 1) (nT : Int) = L at hlen hold hnew hPB ⊢
  have hL : ∀ i, i < N.length → (L ++ [op])[i]? = L[i]? := fun i hi => List.getElem?_append_left (hlen ▸ hi)
  refine ⟨by simp, fun i o hi t ht => ?_, fun i o hi hlt => ?_, fun o ho => ?_⟩
  · by_cases h1 : i + 1 < N.length
    · rw [hL i (by omega), hold i h1] at hi
      exact (h.ins i o hi t ht).imp_right (hPB i t (by omega)).2
    by_cases h2 : i + 1 = N.length
    · obtain rfl : i = N.length - 1 := by omega
      rw [hL _ (by omega), hnew] at hi
      cases hi
      exact (h.ins _ oL hoL t ht).imp_right (hPB _ t (Nat.le_refl _)).2
    · have := (List.getElem?_eq_some_iff.1 hi).1
      obtain rfl : i = L.length := by simp at this; omega
      rw [List.getElem?_concat_length] at hi
      cases hi
      exact (hin t ht).imp_right fun ht =>
        ⟨N.length - 1, _, by omega, (hL _ (by omega)).trans hnew, by rw [ht]; simp⟩
  · rw [List.length_append, List.length_singleton, hlen] at hlt
    by_cases h1 : i + 1 < N.length
    · rw [hL i (by omega), hold i h1] at hi
      obtain ⟨f, hf, h3, h4, h5⟩ := h.mid i o hi h1
      refine ⟨f, hf, h3, by omega, fun j o' hj ho' hfo' => ?_⟩
      obtain ⟨j', o'', hj', ho'', hfo''⟩ := (hPB i f (by omega)).1 ⟨j, o', hj, ho', hfo'⟩
      exact h5 j' o'' hj' ho'' hfo''
    · obtain rfl : i = N.length - 1 := by omega
      rw [hL _ (by omega), hnew] at hi
      cases hi
      refine ⟨nT, rfl, hlo, Nat.lt_succ_self _, fun j o' hj ho' hfo' => ?_⟩
      obtain ⟨j', o'', hj', ho'', hfo''⟩ := (hPB _ _ (Nat.le_refl _)).1 ⟨j, o', hj, ho', hfo'⟩
      obtain ⟨f, hf, _, hfl, _⟩ := h.mid j' o'' ho'' (by omega)
      rw [hf, List.mem_singleton] at hfo''
      omega
  · rw [List.length_append, List.length_singleton, Nat.add_sub_cancel, List.getElem?_concat_length] at ho
    cases ho
    exact hout

/-- a `Chain` whose free operands are available replaces a single operator with the one result `y` -/
theorem Chain.segOK {m m' : Model} {sg sg' : Subgraph} {k lo : Nat} {fc : Op} {y : Int} {N : List Op}
    {A : Int → Prop} (hchain : Chain A lo sg'.tensors.length y N)
    (hfcout : fc.outputs = [y]) (hyv : ValidT sg y)
    (hlen : sg.tensors.length ≤ sg'.tensors.length) (hlo : sg.tensors.length ≤ lo)
    (hNcodes : ∀ o ∈ N, o.code < m'.opcodes.length)
    (hA : ∀ t, A t → (ValidT sg t ∧ Avail m sg k t) ∨ (ValidT sg' t ∧ isConst m' sg' t = true))
    (hact : ∀ f : Nat, lo ≤ f → f < sg'.tensors.length → isConst m' sg' (f : Int) = false) :
    SegOK m m' sg sg' k [fc] N := by
  have hfresh : ∀ f : Nat, lo ≤ f → ¬ ValidT sg (f : Int) := fun f hf ht => by have := ht.2; omega
  have hvnew : ∀ f : Nat, f < sg'.tensors.length → ValidT sg' (f : Int) := fun f hf => ⟨by omega, by omega⟩
  have hy : ProdBefore [fc] [fc].length y := ⟨0, fc, Nat.one_pos, rfl, by rw [hfcout]; simp⟩
  refine ⟨hNcodes, fun o ho => ?_, fun i o ho t ht => .inr ?_, fun i o ho t ht => .inr ?_, fun t _ ⟨j, o, hj, ho, ht⟩ => ?_⟩
  · obtain ⟨i, hi⟩ := List.mem_iff_getElem?.1 ho
    rcases hchain.out_cases hi with h | ⟨f, h, _⟩ <;> rw [h] <;> exact (List.pairwise_singleton _ _).filter _
  · rcases hchain.ins i o ho t ht with ha | ⟨i', o', hi', ho', hto'⟩
    · exact (hA t ha).imp_right fun ⟨h3, h4⟩ => ⟨h3, .inl h4⟩
    · obtain ⟨f, hf, _, hfT, _⟩ := hchain.mid i' o' ho' (by have := (List.getElem?_eq_some_iff.1 ho).1; omega)
      obtain rfl : t = f := by rwa [hf, List.mem_singleton] at hto'
      exact .inr ⟨hvnew f hfT, .inr ⟨i', o', hi', ho', by rw [hf]; simp⟩⟩
  · by_cases h3 : i + 1 < N.length
    · obtain ⟨f, hf, hflo, hfT, hfne⟩ := hchain.mid i o ho h3
      obtain rfl : t = f := by rwa [hf, List.mem_singleton] at ht
      exact ⟨hvnew f hfT, fun ⟨i', o', hi', ho', h⟩ => hfne i' o' hi' ho' h, .inr ⟨hfresh f hflo, hact f hflo hfT⟩⟩
    · obtain rfl : i = N.length - 1 := by have := (List.getElem?_eq_some_iff.1 ho).1; omega
      obtain rfl : t = y := by rwa [hchain.last o ho, List.mem_singleton] at ht
      refine ⟨⟨hyv.1, Int.lt_of_lt_of_le hyv.2 (by omega)⟩, fun ⟨i', o', hi', ho', h⟩ => ?_, .inl ⟨hyv, hy⟩⟩
      obtain ⟨f, hf, hflo, _⟩ := hchain.mid i' o' ho' (by omega)
      rw [hf, List.mem_singleton] at h
      exact hfresh f hflo (h ▸ hyv)
  · obtain rfl : j = 0 := by simpa using hj
    cases ho
    obtain rfl : t = y := by rwa [hfcout, List.mem_singleton] at ht
    obtain ⟨o, ho, hoy⟩ := hchain.last_get
    exact ⟨N.length - 1, o, Nat.sub_lt (List.length_pos_iff.2 hchain.ne) Nat.one_pos, ho, by rw [hoy]; simp⟩

section Add
variable (sg : Subgraph) (base : String) (shape : List Int)

@[simp] theorem addAct_ops : (addAct sg base shape).1.ops = sg.ops := rfl
@[simp] theorem addAct_inputs : (addAct sg base shape).1.inputs = sg.inputs := rfl
@[simp] theorem addAct_outputs : (addAct sg base shape).1.outputs = sg.outputs := rfl
@[simp] theorem addAct_id : (addAct sg base shape).2 = (sg.tensors.length : Int) := rfl
@[simp] theorem addAct_length : (addAct sg base shape).1.tensors.length = sg.tensors.length + 1 := by
  simp [addAct]
@[simp] theorem addAct_buffers :
    (addAct sg base shape).1.tensors.map (·.buffer) = sg.tensors.map (·.buffer) ++ [0] := by
  simp [addAct]
theorem addAct_tensors : ∃ t, (addAct sg base shape).1.tensors = sg.tensors ++ [t] ∧
    t.name = uniqueName (sg.tensors.map (·.name)) base ∧ t.buffer = 0 := ⟨_, rfl, rfl, rfl⟩

variable (bufs : List BufContent) (dtype : Nat) (content : Nat ⊕ PId)

@[simp] theorem addConst_ops : (addConst bufs sg base shape dtype content).2.1.ops = sg.ops := rfl
@[simp] theorem addConst_inputs : (addConst bufs sg base shape dtype content).2.1.inputs = sg.inputs := rfl
@[simp] theorem addConst_outputs : (addConst bufs sg base shape dtype content).2.1.outputs = sg.outputs := rfl
@[simp] theorem addConst_id : (addConst bufs sg base shape dtype content).2.2 = (sg.tensors.length : Int) := rfl
@[simp] theorem addConst_bufs : (addConst bufs sg base shape dtype content).1 = bufs ++ [some content] := rfl
@[simp] theorem addConst_length :
    (addConst bufs sg base shape dtype content).2.1.tensors.length = sg.tensors.length + 1 := by
  simp [addConst]
@[simp] theorem addConst_buffers :
    (addConst bufs sg base shape dtype content).2.1.tensors.map (·.buffer) =
      sg.tensors.map (·.buffer) ++ [bufs.length] := by
  simp [addConst]
theorem addConst_tensors : ∃ t, (addConst bufs sg base shape dtype content).2.1.tensors = sg.tensors ++ [t] ∧
    t.name = uniqueName (sg.tensors.map (·.name)) base ∧ t.buffer = bufs.length := ⟨_, rfl, rfl, rfl⟩
end Add

theorem addAct_prefix (sg : Subgraph) (base : String) (shape : List Int) : sg.tensors <+: (addAct sg base shape).1.tensors :=
  List.prefix_append _ _

theorem addConst_prefix (bufs : List BufContent) (sg : Subgraph) (base : String) (shape : List Int) (dtype : Nat)
    (content : Nat ⊕ PId) : sg.tensors <+: (addConst bufs sg base shape dtype content).2.1.tensors :=
  List.prefix_append _ _

theorem nodup_snoc (T : List Tensor) (t : Tensor) (base : String)
    (ht : t.name = uniqueName (T.map (·.name)) base) (h : (T.map (·.name)).Nodup) :
    ((T ++ [t]).map (·.name)).Nodup := by
  rw [List.map_append, List.nodup_append]
  refine ⟨h, by simp, ?_⟩
  intro a ha b hb
  simp only [List.map_cons, List.map_nil, List.mem_singleton] at hb
  subst hb
  intro hab
  subst hab
  rw [ht] at ha
  exact GraphBasics.uniqueName_fresh _ _ ha

theorem addAct_nodup (sg : Subgraph) (base : String) (shape : List Int)
    (h : (sg.tensors.map (·.name)).Nodup) : ((addAct sg base shape).1.tensors.map (·.name)).Nodup :=
  nodup_snoc _ _ base rfl h

theorem addConst_nodup (bufs : List BufContent) (sg : Subgraph) (base : String) (shape : List Int) (dtype : Nat)
    (content : Nat ⊕ PId) (h : (sg.tensors.map (·.name)).Nodup) :
    ((addConst bufs sg base shape dtype content).2.1.tensors.map (·.name)).Nodup :=
  nodup_snoc _ _ base rfl h

/-! The stages that can raise are chains of `if c then .error e else …` and `match x with | .error e => .error e | .ok a => …`; a successful
run is inverted guard by guard (`ite_err`) and scrutinee by scrutinee. -/

theorem ite_err {α} {c : Prop} [Decidable c] {e : PyErr} {r : PyM α} {b : α}
    (h : (if c then .error e else r) = .ok b) : ¬ c ∧ r = .ok b := by
  split at h
  · cases h
  · exact ⟨‹_›, h⟩

theorem head_spec (pt : PTable) (m : Model) (sg : Subgraph) (inp : TIn) (h : Head)
    (hh : head pt m sg inp = .ok h) : inp.consumers = [(h.k : Int)] ∧ sg.ops[h.k]? = some h.fc := by
  unfold head at hh
  obtain ⟨hlen, hh⟩ := ite_err hh
  rcases hpar : resolveParam pt inp.param with e | par
  · rw [hpar] at hh; cases hh
  simp only [hpar] at hh
  obtain ⟨-, hh⟩ := ite_err hh
  rcases hc0 : Py.index inp.consumers 0 with e | c0
  · rw [hc0] at hh; cases hh
  simp only [hc0] at hh
  obtain ⟨hneg, hh⟩ := ite_err hh
  rcases hfc : Py.index sg.ops c0 with e | fc
  · rw [hfc] at hh; cases hh
  simp only [hfc] at hh
  rcases hcode : Py.index m.opcodes (fc.code : Int) with e | code
  · rw [hcode] at hh; cases hh
  simp only [hcode] at hh
  obtain ⟨-, hh⟩ := ite_err hh
  obtain ⟨-, hh⟩ := ite_err hh
  cases hh
  have h0 : 0 ≤ c0 := by omega
  obtain ⟨rest, hr⟩ := index_zero _ _ hc0
  -- at most one consumer
  obtain rfl : rest = [] := List.eq_nil_of_length_eq_zero (by rw [hr] at hlen; simpa using hlen)
  exact ⟨by rw [hr, Int.toNat_of_nonneg h0], (Py.index_nonneg h0).1 hfc⟩

theorem weight_spec (env : EmuEnv) (m : Model) (sg : Subgraph) (inp : TIn) (par : Option (PId × PInfo))
    (wr : WRes) (h0 : 0 ≤ inp.tensor) (h : weight env m sg inp par = .ok wr) :
    ∃ ty, sg.tensors[inp.tensor.toNat]? = some wr.w ∧
      wr.bufs = m.buffers.set wr.w.buffer (some (.inr wr.p)) ∧
      wr.sg = { sg with tensors := (sg.tensors.set inp.tensor.toNat
        { wr.w with dtype := ty, shape := env.qshape, quant := some env.unitQ }) } := by
  unfold weight at h
  rcases hw : getTensor sg inp.tensor with e | w
  · rw [hw] at h; cases h
  simp only [hw] at h
  rcases par with _ | pp
  · cases h
  simp only at h
  rcases hty : dtypeOf pp.2 with e | ty
  · rw [hty] at h; cases h
  simp only [hty] at h
  obtain ⟨-, h⟩ := ite_err h
  obtain ⟨-, h⟩ := ite_err h
  obtain ⟨-, h⟩ := ite_err h
  obtain ⟨-, h⟩ := ite_err h
  cases h
  exact ⟨ty, (GraphBasics.getTensor_ok_iff h0).1 hw, rfl, GraphBasics.setTensor_nonneg sg _ h0⟩

theorem io_spec (env : EmuEnv) (fc : Op) (sg : Subgraph) (r : IORes) (h : io env fc sg = .ok r) :
    (∃ rest, fc.inputs = r.inId :: rest) ∧ (∃ rest, fc.outputs = r.outId :: rest) ∧
    (∃ inT, getTensor sg r.inId = .ok inT ∧ inT.shape.length = 3) ∧
    getTensor sg r.outId = .ok r.outT ∧ r.outPos = pos sg.tensors.length r.outId := by
  unfold io at h
  split at h
  · cases h
  rename_i inId hin
  split at h
  · cases h
  rename_i outId hout
  split at h
  · cases h
  rename_i inT hinT
  split at h
  · cases h
  rename_i outT houtT
  split at h
  · cases h
  rename_i hrank
  split at h
  · cases h
  split at h
  · cases h
  split at h
  · cases h
  split at h
  · cases h
  split at h
  · cases h
  cases h
  exact ⟨index_zero _ _ hin, index_zero _ _ hout, ⟨inT, hinT, by simpa using hrank⟩, houtT, rfl⟩

/-- the subgraph and buffer list on which `io` and the tail of the function run -/
def sg2 (env : EmuEnv) (wr : WRes) : Subgraph :=
  (addConst (addConst wr.bufs wr.sg (wr.w.name ++ "_scale") env.scaleShape Tables.ttFloat32 (.inr wr.p)).1
    (addConst wr.bufs wr.sg (wr.w.name ++ "_scale") env.scaleShape Tables.ttFloat32 (.inr wr.p)).2.1
    (wr.w.name ++ "_reduce_axes") [1] Tables.ttInt32 (.inl env.axesTok)).2.1

theorem plan_spec (pt : PTable) (env : EmuEnv) (m : Model) (sg : Subgraph) (inp : TIn) (pl : Plan)
    (h : plan pt env m sg inp = .ok pl) :
    ∃ hd wr, head pt m sg inp = .ok hd ∧ weight env m sg inp hd.par = .ok wr ∧
      io env hd.fc (sg2 env wr) = .ok pl.io ∧
      pl.sg = sg2 env wr ∧
      pl.bufs = wr.bufs ++ [some (.inr wr.p), some (.inl env.axesTok)] ∧
      pl.k = hd.k ∧
      pl.scaleId = (wr.sg.tensors.length : Int) ∧ pl.axesId = (wr.sg.tensors.length : Int) + 1 ∧
      pl.codes = (addOpCode (addOpCode (addOpCode (addOpCode m.opcodes opReshape).1 opBatchMatmul).1 opMul).1 opSum).1 ∧
      pl.ciReshape = (addOpCode m.opcodes opReshape).2 ∧
      pl.ciBmm = (addOpCode (addOpCode m.opcodes opReshape).1 opBatchMatmul).2 ∧
      pl.ciMul = (addOpCode (addOpCode (addOpCode m.opcodes opReshape).1 opBatchMatmul).1 opMul).2 ∧
      pl.ciSum = (addOpCode (addOpCode (addOpCode (addOpCode m.opcodes opReshape).1 opBatchMatmul).1 opMul).1 opSum).2 := by
  unfold plan at h
  split at h
  · cases h
  rename_i hd hhd
  simp only at h
  split at h
  · cases h
  split at h
  · cases h
  split at h
  · cases h
  rename_i wr hwr
  split at h
  · cases h
  rename_i r hr
  cases h
  exact ⟨hd, wr, hhd, hwr, hr, rfl, by simp, rfl, by simp, by simp, rfl, rfl, rfl, rfl, rfl⟩

end EmuSpec
