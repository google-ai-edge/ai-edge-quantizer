import QProofs.MatTotalGen
/-!
# `Mat.generate` is total up to the numeric sites (C08)

The two buffer-sharing checks pass on models without shared constants (`GenSite.sharing`, `unreadOwn`); no structural site fires under
`Hyp` and `Unshared`; `calibrate()` delivers the statistics hypothesis (C08 ∘ C10).
-/
open Graph Mat Pipe SharingGen SharingData

set_option autoImplicit false

namespace MatTotal

/-- **no constant is shared** -/
structure Unshared (m : Model) : Prop where
  /-- a constant buffer is read through at most one operand slot -/
  short : ∀ e ∈ bufferToTensors m, (∃ c, m.buffers[e.1]? = some (some c)) → e.2.length ≤ 1
  /-- a constant buffer is referenced by at most one tensor -/
  sole : ∀ b c, m.buffers[b]? = some (some c) → (m.subgraphs.flatMap (·.tensors)).countP (fun u => u.buffer == b) ≤ 1
  /-- a constant tensor has at most one reader (an operator, or the graph-output list) -/
  oneReader : ∀ sg ∈ m.subgraphs, ∀ i : Nat, isConst m sg (i : Int) = true →
    ∀ o o', ConsumedAt sg i o → ConsumedAt sg i o' → o = o'

theorem compatReq_self_const {m : Model} {res : List (String × CReq)} (C : Ctx m res) (U : Unshared m)
    (e : String × CReq) (he : e ∈ res) (s : Nat) (sg : Subgraph) (i : Nat) (hloc : Loc m e.1 s sg i)
    (hc : isConst m sg (i : Int) = true) : compatReq e.2 e.2 = .ok true := by
  have hE := C.entries e he
  have hnp := const_noProd C e he s sg i hloc hc
  refine (SharingProofs.compatReq_ok_iff e.2 e.2).2 ⟨.inl ⟨hnp, hnp⟩, ?_⟩
  cases hcs : e.2.consumers with
  | none => exact .inl ⟨rfl, rfl⟩
  | some cs =>
    have hne : ∃ c, c ∈ cs := by
      rcases hE.used with h | ⟨cs', c, h1, h2⟩
      · exact absurd hnp h
      · rw [hcs] at h1; cases h1; exact ⟨c, h2⟩
    obtain ⟨a0, ha0⟩ : ∃ a0, cs.head? = some a0 := by
      cases cs with
      | nil => obtain ⟨c, hc⟩ := hne; cases hc
      | cons a as => exact ⟨a, rfl⟩
    have ha0m : a0 ∈ cs := List.mem_of_head? ha0
    have hall : ∀ c ∈ cs, compatO2T c a0 = .ok true := by
      intro c hcm
      have h1 := (hE.cons cs c hcs hcm s sg i hloc).2
      have h2 := (hE.cons cs a0 hcs ha0m s sg i hloc).2
      have hid := U.oneReader sg (List.mem_of_getElem? hloc.1) i hc _ _ h1 h2
      obtain ⟨hx, hp⟩ := hE.coh cs c a0 hcs hcm ha0m hid
      exact (SharingProofs.compatO2T_ok_iff c a0).2 (.inl ⟨hx, (Pipe.optParamEq_iff _ _).2 (by rw [hp])⟩)
    exact .inr ⟨cs, cs, rfl, rfl, a0, a0, ha0, ha0, hall, hall, SharingProofs.compatO2T_self a0⟩

theorem checkBufferSharing_total {m : Model} {res : List (String × CReq)} (C : Ctx m res) (U : Unshared m) :
    checkBufferSharing m res = .ok () := by
  refine (SharingProofs.checkBufferSharing_ok_iff m res).2 ⟨?_, ?_⟩
  · rintro ⟨b, l⟩ he hdata
    have hlen : l.length ≤ 1 := U.short _ he hdata
    match l, he, hlen with
    | [], _, _ => trivial
    | [only], he, _ =>
      intro p hp
      have hmem : (only, p) ∈ res := Py.dictGet?_mem _ _ _ hp
      obtain ⟨sg, hsg, t, ht, htn, htb⟩ := b2t_sound m _ he only List.mem_cons_self
      obtain ⟨s, hs⟩ := List.mem_iff_getElem?.1 hsg
      obtain ⟨i, hi⟩ := List.mem_iff_getElem?.1 ht
      obtain ⟨c, hc⟩ := hdata
      exact compatReq_self_const C U (only, p) hmem s sg i ⟨hs, t, hi, htn⟩
        (isConst_of m sg i t c hi (by rw [htb]; exact hc))
    | _ :: _ :: _, _, hlen => exact absurd hlen (by simp)
  · intro sg hsg t ht hnot hdata n hn
    exfalso
    obtain ⟨c, hc⟩ := hdata
    cases hg : Py.dictGet? (bufferToTensors m) t.buffer with
    | none => rw [hg] at hn; cases hn
    | some l =>
      rw [hg] at hn
      simp only [Option.getD_some] at hn
      have hmem := Py.dictGet?_mem _ _ _ hg
      obtain ⟨sg', hsg', t', ht', htn', htb'⟩ := b2t_sound m _ hmem n hn
      have := sole_referent m t.buffer (U.sole t.buffer c hc) sg sg' hsg hsg' t t' ht ht' rfl htb'
      subst this
      exact hnot (List.mem_flatMap.2 ⟨_, hmem, htn' ▸ hn⟩)

theorem checkUnreadOwn_total {m : Model} (res : List (String × CReq)) (U : Unshared m) :
    checkUnreadOwn m res = .ok () := by
  refine (SharingProofs.checkUnreadOwn_ok_iff m res).2 ?_
  intro sg _ t _ _ hdata own _ _
  obtain ⟨c, hc⟩ := hdata
  exact U.sole t.buffer c hc

theorem genSite_struct_absurd (rx : String → String → Bool) (env : Env) (st : Recipe.State) (qsvs : Option Qsvs)
    (H : Hyp rx env st qsvs) (U : Unshared env.model) (e : PyErr) : ¬ GenSite rx env st qsvs false e := by
  intro hsite
  cases hsite with
  | notFloat h => rw [H.float] at h; cases h
  | dupNames h => exact h H.names
  | noStats h1 h2 =>
    have := H.statsGiven h1
    rw [h2] at this
    cases this
  | atOp num pre post sg sIdx q s e hl hreach hsite =>
    exact stepSite_struct_absurd rx env st qsvs H pre post sg sIdx q s e hl
      (reach_inv rx env st qsvs H pre _ s hl hreach) hsite
  | sharing s e hreach hc =>
    have hcore : generateLoop rx env st qsvs = .ok s := by rw [generateLoop_flat]; exact hreach
    obtain ⟨C, _⟩ := generateLoop_res rx env st qsvs H.nf.genHyp H.names s hcore
    rw [checkBufferSharing_total C U] at hc
    cases hc
  | unreadOwn s e hreach _ hc =>
    rw [checkUnreadOwn_total s.2 U] at hc
    cases hc

theorem generate_cases (rx : String → String → Bool) (env : Env) (st : Recipe.State) (qsvs : Option Qsvs)
    (H : Hyp rx env st qsvs) (U : Unshared env.model) :
    (∃ reqs, Mat.generate rx env st qsvs = .ok reqs) ∨
    ∃ e, Mat.generate rx env st qsvs = .error e ∧ GenSite rx env st qsvs true e := by
  cases hg : Mat.generate rx env st qsvs with
  | ok reqs => exact .inl ⟨reqs, rfl⟩
  | error e =>
    obtain ⟨num, hsite⟩ := generate_sited rx env st qsvs e hg
    cases num with
    | true => exact .inr ⟨e, rfl, hsite⟩
    | false => exact absurd hsite (genSite_struct_absurd rx env st qsvs H U e)

theorem isOp_of_selected (rx : String → String → Bool) (env : Env) (st : Recipe.State) (sg : Subgraph)
    (q : Op × Option String × Int) (hq : q ∈ allOps sg) (k scope fn : String) (ops : List (String × String))
    (S : Selected rx env st sg q k scope ops fn) : CalibProofs.IsOp env sg q.1 k := by
  rcases S.entry_cases hq with ⟨j, op, hop, rfl⟩ | ⟨rfl, rfl⟩ | ⟨rfl, rfl⟩
  · exact .real op k (List.mem_of_getElem? hop) S.hkey
  · exact .input
  · exact .output

section
open Calib

theorem stats_of_calibration (rx : String → String → Bool) (env : Env) (st : Recipe.State) (sg : Subgraph)
    (hone : env.model.subgraphs = [sg]) (hns : NoSkip st)
    (hpass : ∀ q ∈ allOps sg, ∀ k scope ops fn, Selected rx env st sg q k scope ops fn →
      (kindOf (Recipe.resolve rx st k scope).1 fn).isPass = true →
      ∀ a ∈ q.1.inputs ++ q.1.outputs, a ≠ -1 → ∀ t, tensorAt sg a = .ok t → constData env t = none)
    (previous : Option Qsvs) (samples : List Contents) (hne : samples ≠ []) (qs : Qsvs)
    (hneed : Recipe.needCalibration st = true)
    (h : calibrate rx env st 0 previous samples = .ok qs) : StatsComplete rx env st qs := by
  intro sg' hsg q hq k scope ops fn S hact a ha hane t hat _ hc
  obtain rfl : sg' = sg := by rw [hone] at hsg; simpa using hsg
  have hnc : constAny env t = none := hc.elim id (fun hc => hpass q hq k scope ops fn S hc a ha hane t hat)
  obtain ⟨mn, mx, hs⟩ := CalibProofs.stats_complete rx env st 0 sg' (by rw [hone]; rfl) previous samples hne qs hneed h q.1 k scope
    (isOp_of_selected rx env st sg' q hq k scope fn ops S) S.hscope (S.minmax_of_act hns hact) a ha hane t hat hnc
  exact ⟨(mn, mx), hs⟩

end

end MatTotal
