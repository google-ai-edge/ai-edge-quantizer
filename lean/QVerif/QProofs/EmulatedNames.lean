import QProofs.EmulatedWF
/-!
# The tensor list after `Emulated.apply`: frame and freshness of the new names
Before `reluStep` tensors are only appended (`core_prefix`, `bias_prefix`) and the names are distinct (`Inv.nodup`), so the appended
names are new (`fresh_of_prefix`).  The delicate point is the `<new name>_relu_input` tensor, created AFTER the result tensor lost its
original name: its name is longer than that original name (`uniqueName_length`). -/
open Graph Perform Emulated GraphStep EmuSpec EmuWF

namespace EmuNames

theorem uniqueNameAux_length (names : List String) (base : String) (fuel k : Nat) :
    base.length ≤ (uniqueNameAux names base fuel k).length := by
  induction fuel generalizing k with
  | zero => simp only [uniqueNameAux, longName, String.length_append]; omega
  | succ f ih =>
    unfold uniqueNameAux
    simp only
    split
    · exact ih _
    · simp only [String.length_append]; omega

theorem uniqueName_length (names : List String) (base : String) :
    base.length ≤ (uniqueName names base).length := by
  unfold uniqueName
  split
  · exact uniqueNameAux_length _ _ _ _
  · exact Nat.le_refl _

theorem fresh_of_prefix {T T' : List Tensor} (hp : T <+: T') (hn : (T'.map (·.name)).Nodup) :
    ∃ ext, T' = T ++ ext ∧ ∀ e ∈ ext, e.name ∉ T.map (·.name) := by
  obtain ⟨ext, rfl⟩ := hp
  rw [List.map_append, List.nodup_append] at hn
  exact ⟨ext, rfl, fun e he hm => hn.2.2 _ hm _ (List.mem_map_of_mem he) rfl⟩

theorem core_prefix (env : EmuEnv) (inp : TIn) (pl : Plan) : pl.sg.tensors <+: (core env inp pl).1.sg.tensors := by
  simp only [core]
  exact (addConst_prefix ..).trans <| (addConst_prefix ..).trans <| (addAct_prefix ..).trans <| (addAct_prefix ..).trans <|
    (addAct_prefix ..).trans (addAct_prefix ..)

theorem bias_prefix (pl : Plan) (st : St) : st.sg.tensors <+: (biasStep pl st).sg.tensors := by
  unfold biasStep
  simp only
  split
  · exact addAct_prefix ..
  · exact List.prefix_rfl

theorem relu_tensors (pl : Plan) (st : St) :
    (pl.fused ≠ actRelu ∧ (reluStep pl st).sg.tensors = st.sg.tensors) ∨
    (pl.fused = actRelu ∧ ∃ (nn : String) (e : Tensor),
      nn = uniqueName (st.sg.tensors.map (·.name)) (pl.io.outT.name ++ "_relu") ∧
      e.name = uniqueName ((st.sg.tensors.modify pl.io.outPos (fun t => { t with name := nn })).map (·.name))
        (nn ++ "_relu_input") ∧
      (reluStep pl st).sg.tensors = st.sg.tensors.modify pl.io.outPos (fun t => { t with name := nn }) ++ [e]) := by
  unfold reluStep
  by_cases hr : (pl.fused == actRelu) = true
  · rw [if_pos hr]
    exact .inr ⟨by simpa using hr, _, _, rfl, rfl, rfl⟩
  · rw [if_neg hr]
    exact .inl ⟨by simpa using hr, rfl⟩

/-- `hn`: `Inv.nodup` of the state before `reluStep` -/
theorem tensors_spec (pt : PTable) (env : EmuEnv) (m : Model) (sg : Subgraph) (inp : TIn) (pl : Plan)
    (hok : SgOK m sg) (hinp : EmuOK m sg inp) (h : plan pt env m sg inp = .ok pl)
    (hn : ((biasStep pl (core env inp pl).1).sg.tensors.map (·.name)).Nodup) :
    ∃ (wT : Tensor) (ty : Nat) (Told ext : List Tensor),
      sg.tensors[inp.tensor.toNat]? = some wT ∧
      (reluStep pl (biasStep pl (core env inp pl).1)).sg.tensors = Told ++ ext ∧
      Told.length = sg.tensors.length ∧
      (∀ e ∈ ext, e.name ∉ sg.tensors.map (·.name)) ∧
      (Told = sg.tensors.set inp.tensor.toNat { wT with dtype := ty, shape := env.qshape, quant := some env.unitQ } ∨
       ∃ nn, nn ∉ sg.tensors.map (·.name) ∧
         Told = (sg.tensors.set inp.tensor.toNat
            { wT with dtype := ty, shape := env.qshape, quant := some env.unitQ }).modify pl.io.outId.toNat
              (fun t => { t with name := nn })) := by
  obtain ⟨_, _, _, y, wT, _, _, _, _, _, hw, _, _, hp, hyv, ty, hg2, hpos, houtT⟩ := plan_ok pt env m sg inp pl hok hinp h
  obtain rfl := hp.outId
  obtain ⟨hy0, hyn⟩ := hyv
  refine ⟨wT, ty, ?_⟩
  generalize hT1 : sg.tensors.set inp.tensor.toNat
    { wT with dtype := ty, shape := env.qshape, quant := some env.unitQ } = T1 at hg2 ⊢
  have hT1len : T1.length = sg.tensors.length := by rw [← hT1]; simp
  have hT1names : T1.map (·.name) = sg.tensors.map (·.name) := by
    rw [← hT1]; exact map_set_same _ _ _ _ _ hw rfl
  obtain ⟨ext, hTb, hext⟩ := fresh_of_prefix ((hg2.trans (core_prefix env inp pl)).trans (bias_prefix pl _)) hn
  rw [hT1names] at hext
  have hypos : pl.io.outId.toNat < T1.length := by omega
  rcases relu_tensors pl (biasStep pl (core env inp pl).1) with ⟨_, hr⟩ | ⟨_, nn, e, hnn, he, hr⟩
  · exact ⟨T1, ext, hw, by rw [hr, hTb], hT1len, hext, .inl rfl⟩
  · -- fused RELU: the result tensor is renamed, one more tensor is appended
    rw [hTb] at hr hnn he
    rw [hpos] at hr he
    rw [modify_append_left _ _ _ _ hypos] at hr he
    have hnn_fresh : nn ∉ (T1 ++ ext).map (·.name) := by rw [hnn]; exact GraphBasics.uniqueName_fresh _ _
    have hnn0 : nn ∉ sg.tensors.map (·.name) := by
      intro hmem
      apply hnn_fresh
      rw [List.map_append, List.mem_append, hT1names]
      exact .inl hmem
    refine ⟨T1.modify pl.io.outId.toNat (fun t => { t with name := nn }), ext ++ [e], hw,
      by rw [hr, List.append_assoc], by simp [hT1len], ?_, .inr ⟨nn, hnn0, rfl⟩⟩
    intro x hx
    rcases List.mem_append.1 hx with hx | hx
    · exact hext x hx
    · rw [List.mem_singleton] at hx
      subst hx
      -- the name of the `_relu_input` tensor
      intro hmem
      rw [← hT1names] at hmem
      obtain ⟨t0, ht0, hname⟩ := List.mem_map.1 hmem
      obtain ⟨i, hi⟩ := List.mem_iff_getElem?.1 ht0
      have hfresh := GraphBasics.uniqueName_fresh
        ((T1.modify pl.io.outId.toNat (fun t => { t with name := nn }) ++ ext).map (·.name)) (nn ++ "_relu_input")
      rw [← he] at hfresh
      by_cases hiy : i = pl.io.outId.toNat
      · -- the original name of the result tensor: too short
        subst hiy
        have hout : pl.io.outT = t0 := by
          obtain ⟨e1, hpl⟩ := hg2
          rw [← hpl, List.getElem?_append_left hypos, hi] at houtT
          cases houtT
          rfl
        have h1 := uniqueName_length
          ((T1.modify pl.io.outId.toNat (fun t => { t with name := nn }) ++ ext).map (·.name)) (nn ++ "_relu_input")
        have h2 := uniqueName_length ((T1 ++ ext).map (·.name)) (pl.io.outT.name ++ "_relu")
        rw [← he] at h1
        rw [← hnn] at h2
        rw [String.length_append] at h1 h2
        rw [hout] at h2
        have hlen := congrArg String.length hname
        have h3 : ("_relu_input" : String).length = 11 := by decide +kernel
        have h4 : ("_relu" : String).length = 5 := by decide +kernel
        omega
      · -- another original tensor: still in the list when the name was chosen
        apply hfresh
        rw [List.map_append, List.mem_append]
        left
        refine List.mem_map.2 ⟨t0, ?_, hname⟩
        apply List.mem_of_getElem? (i := i)
        rw [List.getElem?_modify]
        have : ¬ pl.io.outId.toNat = i := fun h => hiy h.symm
        simp [this, hi]

end EmuNames
