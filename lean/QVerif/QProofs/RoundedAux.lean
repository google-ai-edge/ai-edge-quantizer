import QProofs.ArithLemmas
/-!
# One error model for `Prec.rn`

`Err pr u τ`: `pr` rounds with relative error `u` in the float32 normal range and absolute error `u·|x| + τ`
everywhere.  float32 and float64 satisfy it with `u32 = 2^-24`, `tiny = 2^-60`; ideal arithmetic with `0`, `0`, so the
ideal parameter law (`C17.cover_ideal`) is the rounded one at `u = 0`.  Rounding steps are chained with `u`, `τ` as variables (`rn_step`); what is
left at the end is polynomial in `u`, `τ` and closed from one-line facts about its monomials.
-/
open Num Arith PrecL ArithL

namespace ArithRounded

/-- the unit roundoff of float32 -/
def u32 : Rat := (2:Rat)^(-24:Int)

end ArithRounded

namespace RAux

open ArithRounded (u32)

/-- `2^-60` as a numeral: an upper bound of half the smallest sub-normal of float32 and float64 -/
def tiny : Rat := 1/1152921504606846976

theorem u32_pos : 0 < u32 := Rounding.two_zpow_pos _
theorem tiny_pos : 0 < tiny := by norm_num [tiny]
/-- as a numeral, for the linear steps -/
theorem u32_num : u32 = 1/16777216 := by norm_num [u32]

theorem pow_p_le (pr : Prec) (hpr : pr = .f32 ∨ pr = .f64) : (2:Rat)^(-(pr.p:Int)) ≤ u32 := by
  unfold u32
  exact zpow_le_zpow_right₀ (by norm_num) (by rcases hpr with rfl | rfl <;> decide)

theorem emin_le126 (pr : Prec) (hpr : pr = .f32 ∨ pr = .f64) : (2:Rat)^pr.emin ≤ (2:Rat)^(-126:Int) :=
  zpow_le_zpow_right₀ (by norm_num) (by rcases hpr with rfl | rfl <;> decide)

theorem ne_exact (pr : Prec) (hpr : pr = .f32 ∨ pr = .f64) : pr ≠ .exact := by
  rcases hpr with rfl | rfl <;> decide

theorem ne_f16 (pr : Prec) (hpr : pr = .f32 ∨ pr = .f64) : pr ≠ .f16 := by
  rcases hpr with rfl | rfl <;> decide

theorem wide_cases (pr : Prec) (hpr : pr ≠ .f16) : pr = .exact ∨ pr = .f32 ∨ pr = .f64 := by
  cases pr <;> simp_all

theorem rn_rel24 (pr : Prec) (hpr : pr ≠ .f16) (x : Rat)
    (hn : (2:Rat)^(-126:Int) ≤ |x|) : |pr.rn x - x| ≤ u32 * |x| := by
  rcases wide_cases pr hpr with rfl | h
  · rw [show Prec.exact.rn x = x from rfl, sub_self, abs_zero]
    exact mul_nonneg u32_pos.le (abs_nonneg _)
  · exact (PrecL.rn_relerr pr x (le_trans (emin_le126 pr h) hn)).trans
      (mul_le_mul_of_nonneg_right (pow_p_le pr h) (abs_nonneg _))

theorem rn_abs24 (pr : Prec) (hpr : pr ≠ .f16) (x : Rat) :
    |pr.rn x - x| ≤ u32 * |x| + tiny := by
  have hux : 0 ≤ u32 * |x| := mul_nonneg u32_pos.le (abs_nonneg _)
  rcases wide_cases pr hpr with rfl | h
  · rw [show Prec.exact.rn x = x from rfl, sub_self, abs_zero]
    linarith only [hux, tiny_pos]
  by_cases hn : (2:Rat)^pr.emin ≤ |x|
  · have h1 := PrecL.rn_relerr pr x hn
    have h2 := mul_le_mul_of_nonneg_right (pow_p_le pr h) (abs_nonneg x)
    linarith only [h1, h2, tiny_pos]
  · rw [rn_eq pr (ne_exact pr h)]
    have h1 := Rounding.rn_sub_err pr.p pr.emin x (not_le.mp hn)
    have ht : (1/2) * (2:Rat)^(pr.emin - ((pr.p:Int) - 1)) ≤ tiny := by
      have hle : (2:Rat)^(pr.emin - ((pr.p:Int) - 1)) ≤ (2:Rat)^(-60:Int) :=
        zpow_le_zpow_right₀ (by norm_num) (by rcases h with rfl | rfl <;> decide)
      have hpos := Rounding.two_zpow_pos (pr.emin - ((pr.p:Int) - 1))
      rw [show (2:Rat)^(-60:Int) = tiny by norm_num [tiny]] at hle
      linarith only [hle, hpos]
    linarith only [h1, ht, hux]

/-- `u64`, `τ64` are what the chains below need; `u32`, `tiny` leave room -/
structure Err (pr : Prec) (u τ : Rat) : Prop where
  ne16 : pr ≠ .f16
  u0 : 0 ≤ u
  u64 : u ≤ 1/64
  τ0 : 0 ≤ τ
  τ64 : 64 * τ ≤ u
  rel : ∀ x, (2:Rat)^(-126:Int) ≤ |x| → |pr.rn x - x| ≤ u * |x|
  abs : ∀ x, |pr.rn x - x| ≤ u * |x| + τ

theorem Err.wide (pr : Prec) (hpr : pr ≠ .f16) : Err pr u32 tiny :=
  ⟨hpr, u32_pos.le, by norm_num [u32_num], tiny_pos.le, by norm_num [u32_num, tiny], rn_rel24 pr hpr, rn_abs24 pr hpr⟩

theorem Err.exact : Err .exact 0 0 :=
  ⟨by decide, le_rfl, by norm_num, le_rfl, by norm_num, fun x _ => by simp [Prec.rn], fun x => by simp [Prec.rn]⟩

section
variable {pr : Prec} {u τ : Rat}

theorem Err.u8 (E : Err pr u τ) : u ≤ 1/8 := E.u64.trans (by norm_num)
theorem Err.τu (E : Err pr u τ) : τ ≤ u := by linarith only [E.τ64, E.τ0]

theorem rn_step (E : Err pr u τ) {x y e Y : Rat} (h : |x - y| ≤ e) (hY : |y| ≤ Y) :
    |pr.rn x - y| ≤ e + (u * (Y + e) + τ) := by
  have h1 := E.abs x
  have h2 : |x| ≤ Y + e := by
    have := abs_sub_abs_le_abs_sub x y
    linarith only [this, h, hY]
  have h3 := mul_le_mul_of_nonneg_left h2 E.u0
  have h4 := abs_sub_le (pr.rn x) x y
  linarith only [h1, h3, h4, h]

theorem rn_ge (E : Err pr u τ) {x : Rat} (hx : (2:Rat)^(-126:Int) ≤ x) : x * (1 - u) ≤ pr.rn x := by
  have h0 : 0 ≤ x := (Rounding.two_zpow_pos _).le.trans hx
  have h := E.rel x (by rwa [abs_of_nonneg h0])
  rw [abs_of_nonneg h0] at h
  linarith only [(abs_le.mp h).1]

/-- the bound `max(rn D, m)` of `tensor_zp_scale_from_min_max` dominates `D` up to one rounding
    (a sub-normal `D` is below `m`) -/
theorem le_maxR_rn (E : Err pr u τ) {D m : Rat} (hD : 0 ≤ D) (hm : (2:Rat)^(-126:Int) ≤ m) :
    D * (1 - u) ≤ maxR (pr.rn D) m := by
  rcases le_or_gt ((2:Rat)^(-126:Int)) D with hn | hs
  · exact (rn_ge E hn).trans (maxR_ge_left _ _)
  · have : 0 ≤ D * u := mul_nonneg hD E.u0
    have := maxR_ge_right (pr.rn D) m
    linarith

theorem rel_delta (E : Err pr u τ) (x : Rat) (hn : (2:Rat)^(-126:Int) ≤ |x|) :
    ∃ δ : Rat, |δ| ≤ u ∧ pr.rn x = x * (1 + δ) := by
  have hx : 0 < |x| := lt_of_lt_of_le (Rounding.two_zpow_pos _) hn
  have hx0 : x ≠ 0 := abs_pos.mp hx
  refine ⟨(pr.rn x - x) / x, ?_, by field_simp; ring⟩
  rw [abs_div, div_le_iff₀ hx]; exact E.rel x hn

theorem pow100_126 : (2:Rat)^(-126:Int) ≤ (2:Rat)^(-100:Int) :=
  zpow_le_zpow_right₀ (by norm_num) (by norm_num)

theorem inv_delta (s : Rat) (hs1 : (2:Rat)^(-100:Int) ≤ s) (hs2 : s ≤ (2:Rat)^(100:Int)) :
    ∃ δ : Rat, |δ| ≤ u32 ∧ Prec.f32.rn (1 / s) * s = 1 + δ := by
  have hp := Rounding.two_zpow_pos (-100)
  have hs0 : 0 < s := lt_of_lt_of_le hp hs1
  have hinv : (2:Rat)^(-100:Int) ≤ 1 / s := by
    rw [le_div_iff₀ hs0]
    calc (2:Rat)^(-100:Int) * s ≤ (2:Rat)^(-100:Int) * (2:Rat)^(100:Int) :=
          mul_le_mul_of_nonneg_left hs2 hp.le
      _ = 1 := by rw [← zpow_add₀ (by norm_num)]; norm_num
  obtain ⟨δ, hδ, e⟩ := rel_delta (Err.wide .f32 (by decide)) (1 / s)
    (by rw [abs_of_pos (hp.trans_le hinv)]; exact le_trans pow100_126 hinv)
  refine ⟨δ, hδ, ?_⟩
  rw [e]; field_simp

/-- an integer multiple of such a scale is zero or a normal number -/
theorem int_mul_delta (E : Err pr u τ) (k : Int) (s : Rat) (hs1 : (2:Rat)^(-100:Int) ≤ s) :
    ∃ δ : Rat, |δ| ≤ u ∧ pr.rn ((k:Rat) * s) = (k:Rat) * s * (1 + δ) := by
  have hs0 : 0 < s := lt_of_lt_of_le (Rounding.two_zpow_pos _) hs1
  by_cases hk : k = 0
  · subst hk
    refine ⟨0, by simpa using E.u0, ?_⟩
    simp [rn_zero]
  · apply rel_delta E
    have h1 : (1:Rat) ≤ |(k:Rat)| := by exact_mod_cast Int.one_le_abs hk
    rw [abs_mul, abs_of_pos hs0]
    calc (2:Rat)^(-126:Int) ≤ (2:Rat)^(-100:Int) := pow100_126
      _ ≤ s := hs1
      _ = 1 * s := (one_mul s).symm
      _ ≤ |(k:Rat)| * s := mul_le_mul_of_nonneg_right h1 hs0.le

theorem delta_mul {a b α β : Rat} (ha : |a| ≤ α) (hb : |b| ≤ β) :
    |(1 + a) * (1 + b) - 1| ≤ α + β + α * β := by
  have hab : |a * b| ≤ α * β := by
    rw [abs_mul]; exact mul_le_mul ha hb (abs_nonneg _) ((abs_nonneg a).trans ha)
  rw [show (1 + a) * (1 + b) - 1 = a + b + a * b by ring]
  exact (abs_add_three _ _ _).trans (add_le_add (add_le_add ha hb) hab)

theorem three_delta (d1 d2 d3 : Rat) (h1 : |d1| ≤ u32) (h2 : |d2| ≤ u32) (h3 : |d3| ≤ u32) :
    |(1 + d1) * (1 + d2) * (1 + d3) - 1| ≤ 4 * u32 := by
  have h12 := delta_mul h1 h2
  have h := delta_mul (a := (1 + d1) * (1 + d2) - 1) h12 h3
  rw [add_sub_cancel] at h
  exact h.trans (by norm_num [u32_num])

theorem dq_err (E : Err pr u τ) (s : Rat) (hs1 : (2:Rat)^(-100:Int) ≤ s) (k : Int) {K : Rat} (hk : |(k:Rat)| ≤ K)
    (w : Rat) : |pr.rn ((k:Rat) * s) - w * s| ≤ s * (K * u + |(k:Rat) - w|) := by
  have hs0 : 0 < s := lt_of_lt_of_le (Rounding.two_zpow_pos _) hs1
  obtain ⟨d, hd, e⟩ := int_mul_delta E k s hs1
  rw [e, show (k:Rat) * s * (1 + d) - w * s = s * ((k:Rat) * d + ((k:Rat) - w)) by ring, abs_mul,
    abs_of_pos hs0]
  refine mul_le_mul_of_nonneg_left ((abs_add_le _ _).trans (add_le_add ?_ le_rfl)) hs0.le
  rw [abs_mul]
  exact mul_le_mul hk hd (abs_nonneg _) ((abs_nonneg _).trans hk)

end

end RAux
