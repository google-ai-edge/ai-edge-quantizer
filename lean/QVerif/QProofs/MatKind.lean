import QModel.Materialize
/-!
# The dispatch `materializeOp` as data

`Kind` says what the registered materialize function `fn` of algorithm `alg` does; `materializeOp` is
`runKind` of that kind, so a statement about every operator is a case analysis over six constructors
instead of a walk through the string comparisons of the dispatch.  At the end the two operator tables of the registry by name
(`Pipe.minmaxOps`, `Pipe.floatOps`).
-/
open Graph Mat

namespace MatTotal

/-- what the registered materialize function `fn` of algorithm `alg` does -/
inductive Kind where
  /-- `materialize_standard_op` with this constraint and these operand positions ignored -/
  | std (con : Constraint) (gi : List Nat)
  /-- FULLY_CONNECTED / CONV_2D / DEPTHWISE_CONV_2D: standard op, then the bias -/
  | conv
  /-- CONV_2D_TRANSPOSE -/
  | convT
  /-- fixed output range (`true`: SOFTMAX / LOGISTIC, `false`: TANH) -/
  | fixed (softmaxLike : Bool)
  /-- float casting with these data / weight / bias positions -/
  | cast (iIn iW iB : Nat)
  /-- not modelled (the `unsupported` fall-through) -/
  | unknown
  deriving DecidableEq, Repr

def kindOf (alg fn : String) : Kind :=
  if alg == Tables.algFloatCasting then
    if fn == "materialize_fc_conv" || fn == "materialize_embedding_lookup" then .cast 0 1 2
    else if fn == "materialize_conv2d_transpose" then .cast 2 1 3
    else .unknown
  else if alg == Tables.algMinMax then
    if fn == "materialize_input" || fn == "materialize_output" || fn == "materialize_add" || fn == "materialize_sub"
        || fn == "materialize_mul" || fn == "materialize_batch_matmul" || fn == "materialize_gelu" || fn == "materialize_rsqrt" then
      .std .none []
    else if fn == "materialize_embedding_lookup" then .std .none [0]
    else if fn == "materialize_mean" then .std .none [1]
    else if fn == "materialize_reshape" || fn == "materialize_transpose" then .std .sameAsInput [1]
    else if fn == "materialize_average_pool_2d" then .std .sameAsInput []
    else if fn == "materialize_strided_slice" then .std .sameAsInput [1, 2, 3]
    else if fn == "materialize_split" then .std .sameAsInput [0]
    else if fn == "materialize_concatenation" then .std .sameAsOutput []
    else if fn == "materialize_fc_conv" then .conv
    else if fn == "materialize_conv2d_transpose" then .convT
    else if fn == "materialize_softmax_and_logistic" then .fixed true
    else if fn == "materialize_tanh" then .fixed false
    else .unknown
  else .unknown

def runKind (env : Env) (sg : Subgraph) (qs : Qsvs) (oi : OpInfo) : Kind → PyM (List CReq × Qsvs)
  | .std con gi => standardOp env sg qs oi con gi []
  | .conv => standardOp env sg qs oi .none [2] [] >>= fun rq =>
      biasFor env sg oi rq.1 0 1 2 >>= fun r' => pure (r', rq.2)
  | .convT => standardOp env sg qs oi .none [0, 3] [] >>= fun rq =>
      if rq.1.length < 2 then throw .valueError else
      biasFor env sg oi rq.1 2 1 3 >>= fun r' => pure (r', rq.2)
  | .fixed sl => fixedRangeOp env sg qs oi sl
  | .cast a b c => floatCastOp env sg oi a b c >>= fun r => pure (r, qs)
  | .unknown => throw .unsupported

def Kind.isUnknown : Kind → Bool
  | .unknown => true
  | _ => false

def Kind.isStdNone : Kind → Bool
  | .std .none [] => true
  | _ => false

def Kind.isPass : Kind → Bool
  | .std .sameAsInput _ => true
  | _ => false

def Kind.con : Kind → Constraint
  | .std con _ => con
  | _ => .none

theorem materializeOp_kind (env : Env) (sg : Subgraph) (qs : Qsvs) (oi : OpInfo) (alg fn : String) :
    materializeOp env sg qs oi alg fn = runKind env sg qs oi (kindOf alg fn) := by
  unfold kindOf
  simp only [apply_ite (runKind env sg qs oi)]
  unfold materializeOp
  rfl

/-- data / weight / bias positions of the convolution-like kinds: the LIST positions at which `biasFor` reads the requests of
    data operand and weight, the RAW position of the bias -/
def convSlots : Kind → Option (Nat × Nat × Nat)
  | .conv => some (0, 1, 2)
  | .convT => some (2, 1, 3)
  | _ => none

end MatTotal

namespace Pipe

def minmaxOps : List (String × String) := (Tables.registry.headD default).2
def floatOps : List (String × String) := ((Tables.registry.drop 1).headD default).2

theorem registry_minmax : Py.dictGet? Tables.registry Tables.algMinMax = some minmaxOps := rfl
theorem registry_float : Py.dictGet? Tables.registry Tables.algFloatCasting = some floatOps := rfl

end Pipe
