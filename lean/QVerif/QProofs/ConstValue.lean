import QProofs.ConstQuant
import QProofs.ArithRounded
import QProps.C04
/-!
# What the stored bytes of one parameter object decode to (C05, value half, per parameter object)
`weight_value`: codes within the C17 bound of the in-range elements; `bias_codes`: `round(bias/scale)` as evaluated in floating
point, saturating at the symmetric 32/64-bit range; `f16_bytes`: the round-to-nearest binary16 of the originals.  In front of them
(namespace `ConstF16`): every finite value of the model's float16 rounding is a binary16 number. -/
open Num BytesProofs

set_option autoImplicit false

namespace ConstF16

theorem exp_le_15 {e : Int} (h : (2:Rat)^e ≤ 65504) : e ≤ 15 := by
  by_contra hgt
  have h16 : (2:Rat)^(16:Int) ≤ (2:Rat)^e := zpow_le_zpow_right₀ (by norm_num) (by omega)
  norm_num at h16
  linarith

theorem rnPos_repr (x : Rat) (hx : 0 < x) (hfin : rnPos 11 (-14) x ≤ 65504) :
    F16Repr (rnPos 11 (-14) x) := by
  obtain ⟨hlo, hhi⟩ := Rounding.flog2_spec x hx
  unfold rnPos at hfin ⊢
  simp only [] at hfin ⊢
  -- the exponent `e` and the quantum `q = 2^(e-10)`
  obtain ⟨e, he, he14, hef, hfe⟩ : ∃ e, max (flog2 x) (-14) = e ∧ -14 ≤ e ∧ flog2 x ≤ e ∧
      (-14 < e → e = flog2 x) := ⟨_, rfl, le_max_right _ _, le_max_left _ _, fun h => by omega⟩
  rw [he, show (((11:Nat) : Int) - 1) = 10 by norm_num] at hfin ⊢
  have hqpos : (0:Rat) < (2:Rat)^(e - 10) := Rounding.two_zpow_pos _
  have h1024 : (2:Rat)^e = 1024 * (2:Rat)^(e - 10) := by
    rw [zpow_sub₀ (by norm_num)]; norm_num; ring
  have h2048 : (2:Rat)^(e + 1) = 2048 * (2:Rat)^(e - 10) := by
    rw [zpow_add₀ (by norm_num), h1024]; ring
  -- the significand `m = rhe (x / q)` is in `[0, 2048]`, and at least 1024 in the normal range
  have hM0 : 0 ≤ rhe (x / (2:Rat)^(e - 10)) :=
    Rounding.le_rhe (by have := div_pos hx hqpos; push_cast; linarith)
  have hM2 : rhe (x / (2:Rat)^(e - 10)) ≤ 2048 := by
    have : (2:Rat)^(flog2 x + 1) ≤ (2:Rat)^(e + 1) := zpow_le_zpow_right₀ (by norm_num) (by omega)
    have : x / (2:Rat)^(e - 10) ≤ 2048 := by rw [div_le_iff₀ hqpos]; linarith
    exact Rounding.rhe_le (by push_cast; linarith)
  have hnorm : -14 < e → 1024 ≤ rhe (x / (2:Rat)^(e - 10)) := by
    intro hgt
    have : (2:Rat)^e ≤ x := by rw [hfe hgt]; exact hlo
    have : 1024 ≤ x / (2:Rat)^(e - 10) := by rw [le_div_iff₀ hqpos]; linarith
    exact Rounding.le_rhe (by push_cast; linarith)
  obtain ⟨m, hm⟩ : ∃ m : Nat, rhe (x / (2:Rat)^(e - 10)) = (m : Int) := ⟨_, (Int.toNat_of_nonneg hM0).symm⟩
  rw [hm] at hfin hM2 hnorm ⊢
  rw [Int.cast_natCast] at hfin ⊢
  by_cases h0 : m = 0
  · subst h0
    exact .inl (by simp)
  by_cases h1 : m < 1024
  · -- sub-normal: then `e = -14`
    have he' : e = -14 := by
      by_contra hne
      have := hnorm (by omega)
      omega
    refine .inr (.inr ⟨false, m, by omega, h1, ?_⟩)
    rw [he']
    norm_num
  by_cases h2 : m < 2048
  · -- normal with exponent `e`: `2^e = 1024·q ≤ m·q`
    have hme : (2:Rat)^e ≤ (m : Rat) * (2:Rat)^(e - 10) := by
      rw [h1024]
      exact mul_le_mul_of_nonneg_right (by exact_mod_cast (by omega : 1024 ≤ m)) (le_of_lt hqpos)
    exact .inr (.inl ⟨false, m, e, by omega, h2, he14, exp_le_15 (le_trans hme hfin), by simp⟩)
  · -- carry into the next binade: `2048·q = 1024·2^(e+1-10) = 2^(e+1)`
    obtain rfl : m = 2048 := by omega
    have he15 : e + 1 ≤ 15 := exp_le_15 (by rw [h2048]; exact_mod_cast hfin)
    refine .inr (.inl ⟨false, 1024, e + 1, by omega, by omega, by omega, he15, ?_⟩)
    rw [show e + 1 - 10 = (e - 10) + 1 by ring, zpow_add₀ (by norm_num)]
    push_cast; ring

/-- every finite value of the model's float16 rounding is zero, normal `±m·2^(e-10)` (`1024 ≤ m < 2048`, `-14 ≤ e ≤ 15`) or
    sub-normal `±m·2^-24` (`0 < m < 1024`): `BytesProofs.F16Repr`, the hypothesis of the storage round trip `C05.f16Val_f16Bits` -/
theorem chk_repr (x r : Rat) (h : Prec.f16.chk x = .ok r) : r = Prec.f16.rn x ∧ F16Repr r := by
  obtain ⟨hfin, rfl⟩ := PrecL.chk_ok_iff.1 h
  refine ⟨rfl, ?_⟩
  have hf : Prec.f16.rn x ≤ 65504 ∧ -65504 ≤ Prec.f16.rn x := by
    have : (decide (Prec.f16.rn x ≤ Prec.f16.maxFinite) && decide (-Prec.f16.maxFinite ≤ Prec.f16.rn x)) = true := hfin
    rw [PrecL.maxFinite_f16] at this
    simpa using this
  have hrn : Prec.f16.rn x = Num.rn 11 (-14) x := rfl
  rw [hrn] at hf ⊢
  unfold Num.rn at hf ⊢
  rcases lt_trichotomy x 0 with hneg | rfl | hpos
  · rw [if_neg (ne_of_lt hneg), if_neg (not_lt.2 (le_of_lt hneg))] at hf ⊢
    exact (rnPos_repr (-x) (neg_pos.2 hneg) (by linarith [hf.2])).neg
  · rw [if_pos rfl]; exact .inl rfl
  · rw [if_neg (ne_of_gt hpos), if_pos hpos] at hf ⊢
    exact rnPos_repr x hpos hf.1

theorem mapM_chk_repr (d h : List Rat) (hh : d.mapM Prec.f16.chk = .ok h) :
    h.length = d.length ∧ ∀ (i : Nat) (hi : i < h.length) (hd : i < d.length),
      h[i] = Prec.f16.rn d[i] ∧ F16Repr h[i] :=
  ⟨PyM.mapM_ok_length hh, fun i hi hd =>
    chk_repr _ _ (PyM.mapM_ok_getElem? hh i _ _ (List.getElem?_eq_getElem hd) (List.getElem?_eq_getElem hi))⟩

end ConstF16

open Arith Nd Bytes ConstBytes ConstQuant


namespace ConstValue

/-- **element-wise value of the stored codes** of a float32 constant under fitting float32 parameters: an element in the
    representable range of its channel dequantizes (`uniform_dequantize`: 32-bit subtraction, float64 product) to within
    `s·(1/2 + 2^(bits+3)·2^-24)` of itself -/
theorem weight_value (d : Arr Rat) (qp : QParams) (q : IArr)
    (h : uniformQuantize ⟨d, .f32⟩ qp = .ok q)
    (hpr : qp.scale.pr = .f32) (hzw : qp.zp.w = 8 ∨ qp.zp.w = 16)
    (hb2 : 2 ≤ qp.bits) (hb16 : qp.bits ≤ 16)
    (hr : d.shape.length = qp.scale.arr.shape.length) (hi : Into qp.scale.arr.shape d.shape) :
    ∀ i < numel d.shape, ∀ (s : Rat) (z : Int),
      s = qp.scale.arr.data.getD (bindex d.shape qp.scale.arr.shape i) 0 →
      z = qp.zp.arr.data.getD (bindex d.shape qp.scale.arr.shape i) 0 →
      (2:Rat)^(-100:Int) ≤ s → s ≤ (2:Rat)^(100:Int) → qmin qp.bits ≤ z → z ≤ qmax qp.bits →
      ((qmin qp.bits + (if qp.symmetric then 1 else 0) - z : Int) : Rat) * s ≤ d.data.getD i 0 →
      d.data.getD i 0 ≤ ((qmax qp.bits - z : Int) : Rat) * s →
      |dqVal true (storageBits qp.bits) qp.zp.w .f32 (q.arr.data.getD i 0) z s - d.data.getD i 0|
        ≤ s * (1/2 + (2:Rat)^(qp.bits + 3) * ArithRounded.u32) := by
  intro i hilt s z hs hz hs1 hs2 hz1 hz2 hlo hhi
  rw [(uq_fit ⟨d, .f32⟩ qp q h hr hi).2 i hilt, ← hs, ← hz, hpr]
  exact ArithRounded.dq_q_rounded qp.bits hb2 hb16 qp.symmetric qp.zp.w hzw s hs1 hs2 z hz1 hz2 _ hlo hhi

/-- `roundClip` saturates: for 2..64 bits the cast to the storage type does not wrap -/
theorem roundClip_sat (bits : Nat) (hb2 : 2 ≤ bits) (hb : bits ≤ 64) (narrow : Bool) (v : Rat) :
    (qLoI bits narrow ≤ rhe v → rhe v ≤ qHiI bits → roundClip bits narrow v = rhe v) ∧
    (qHiI bits ≤ rhe v → roundClip bits narrow v = qHiI bits) ∧
    (rhe v ≤ qLoI bits narrow → roundClip bits narrow v = qLoI bits narrow) := by
  obtain ⟨_, hlh, _⟩ := ArithL.qLoHi bits hb2 narrow
  rw [ArithL.roundClip_eq_clip bits hb2 hb]
  refine ⟨ArithL.clipI_of_mem, ArithL.clipI_of_ge hlh, fun h => ?_⟩
  unfold clipI
  split_ifs <;> omega

theorem qSum_exact (zw : Nat) (x s : Rat) (z : Int) : qSum .exact .exact zw x s z = x / s + z :=
  ArithL.qSum_exact zw x s z

/-- **the codes of a quantized bias**: with `v` the floating-point evaluation of `bias/scale` (`qSum`, numpy's promotions),
    every code is the saturating `round(v)`: `round(v)` inside the bounds (`±(2^31 - 1)`; for 64 bits the nearest doubles
    inside the range, `±(2^63 - 1024)`), the bound of the same sign otherwise (no wrap-around) -/
theorem bias_codes (b : Arr Rat) (qi qw qp : QParams) (q : IArr)
    (h : quantizeBias ⟨b, .f32⟩ qi qw = .ok (qp, q)) :
    q.w = storageBits qp.bits ∧ q.arr.data.length = numel q.arr.shape ∧
    (qp.bits = 32 ∨ qp.bits = 64) ∧
    ∀ (i : Nat) (c : Int), q.arr.data[i]? = some c →
      ∃ (x s v : Rat), s ≠ 0 ∧ x ∈ (0 :: b.data) ∧ s ∈ (0 :: qp.scale.arr.data) ∧
        v = qSum .f32 qp.scale.pr 32 x s 0 ∧ c = roundClip qp.bits true v ∧
        (qmin qp.bits + 1 ≤ c ∧ c ≤ qmax qp.bits) ∧
        (qp.bits = 32 →
          (-(2:Int)^31 + 1 ≤ rhe v → rhe v ≤ (2:Int)^31 - 1 → c = rhe v) ∧
          ((2:Int)^31 - 1 ≤ rhe v → c = (2:Int)^31 - 1) ∧ (rhe v ≤ -(2:Int)^31 + 1 → c = -(2:Int)^31 + 1)) ∧
        (qp.bits = 64 →
          (-(2:Int)^63 + 1024 ≤ rhe v → rhe v ≤ (2:Int)^63 - 1024 → c = rhe v) ∧
          ((2:Int)^63 - 1024 ≤ rhe v → c = (2:Int)^63 - 1024) ∧
          (rhe v ≤ -(2:Int)^63 + 1024 → c = -(2:Int)^63 + 1024)) := by
  obtain ⟨hsym, hbits, hzw, hz0, _⟩ := C04.bias_params _ _ _ _ _ h
  have hq := C04.quantizeBias_uq _ _ _ _ _ h
  have hb : qp.bits = 32 ∨ qp.bits = 64 := by rw [hbits]; split_ifs <;> simp
  refine ⟨uq_w _ _ _ hq, uq_len _ _ _ hq, hb, ?_⟩
  intro i c hc
  obtain ⟨j, k, hs0, hcv⟩ := uq_code _ _ _ hq i c hc
  have hzero : qp.zp.arr.data.getD k 0 = 0 := (List.getD_mem_or _ k 0).elim (hz0 _) id
  rw [hzero, hsym, hzw] at hcv
  have hmem : ∀ (l : List Rat) (n : Nat), l.getD n 0 ∈ (0 :: l) := fun l n =>
    (List.getD_mem_or l n 0).elim (List.mem_cons_of_mem _) fun e => by rw [e]; exact List.mem_cons_self
  subst hcv
  refine ⟨_, _, _, hs0, hmem _ _, hmem _ _, rfl, rfl, ?_, fun h32 => ?_, fun h64 => ?_⟩
  · exact ArithL.roundClip_range qp.bits (by omega) (by omega) true _
  · rw [h32]; exact roundClip_sat 32 (by norm_num) (by norm_num) true _
  · rw [h64]; exact roundClip_sat 64 (by norm_num) (by norm_num) true _

/-- **float16-cast constants**: the stored bytes are the flattened output of the driver's `castF16` on the originals, two
    per element, and decode to exactly `Prec.f16.rn` of every element -/
theorem f16_bytes (shape : List Nat) (d h : List Rat) (bs : List Nat) (hh : d.mapM Prec.f16.chk = .ok h)
    (hbs : paramBytes (.nonlinear 16 (some ⟨shape, h⟩)) = some bs) :
    byteLen Tables.ttFloat16 d.length = some bs.length ∧
      (∃ bss, d.mapM castF16 = .ok bss ∧ bs = bss.flatten) ∧
      decodeF16 d.length bs = h ∧
      h.length = d.length ∧
      ∀ (i : Nat) (hi : i < d.length), h[i]? = some (Prec.f16.rn d[i]) := by
  obtain ⟨hl, hel⟩ := ConstF16.mapM_chk_repr d h hh
  obtain rfl : h.flatMap f16Bytes = bs := Option.some.inj hbs
  refine ⟨?_, ⟨_, mapM_castF16 d h hh, List.flatMap_def⟩, ?_, hl, ?_⟩
  · rw [flatMap_f16Bytes_length, hl]
    show some ((d.length * 16 + 7) / 8) = some (2 * d.length)
    congr 1; omega
  · rw [← hl]
    refine decodeF16_bytes h fun x hx => ?_
    obtain ⟨i, hi, rfl⟩ := List.getElem_of_mem hx
    exact C05.f16Val_f16Bits _ (hel i hi (hl ▸ hi)).2
  · intro i hi
    have hi' : i < h.length := hl ▸ hi
    rw [List.getElem?_eq_getElem hi', (hel i hi' hi).1]

end ConstValue
