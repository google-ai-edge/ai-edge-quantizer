import QProofs.Rounding
import QProofs.PyLemmas
/-!
# Properties of `Prec.rn` for every format (incl. `exact`)
-/
open Num

namespace PrecL

theorem chk_ok_iff {pr : Prec} {x r : Rat} : pr.chk x = .ok r ↔ pr.isFin (pr.rn x) = true ∧ r = pr.rn x :=
  PyM.guard_ok_iff

theorem p_pos (pr : Prec) : 1 ≤ pr.p := by cases pr <;> simp [Prec.p]
theorem emin_le (pr : Prec) : pr.emin ≤ (pr.p : Int) - 1 := by cases pr <;> simp [Prec.p, Prec.emin]

theorem maxFinite_f16 : Prec.f16.maxFinite = 65504 := by norm_num [Prec.maxFinite, Prec.p, Prec.emax]

theorem rn_eq (pr : Prec) (h : pr ≠ .exact) (x : Rat) : pr.rn x = Num.rn pr.p pr.emin x := by
  cases pr <;> simp_all [Prec.rn]

theorem rn_mono (pr : Prec) {x y : Rat} (h : x ≤ y) : pr.rn x ≤ pr.rn y := by
  by_cases he : pr = .exact
  · subst he; exact h
  · rw [rn_eq pr he, rn_eq pr he]; exact Rounding.rn_mono _ (p_pos pr) _ h

theorem rn_zero (pr : Prec) : pr.rn 0 = 0 := by
  cases pr <;> simp [Prec.rn, Num.rn]

theorem rn_nonneg (pr : Prec) {x : Rat} (h : 0 ≤ x) : 0 ≤ pr.rn x := by
  have := rn_mono pr h; rwa [rn_zero] at this

theorem rn_nonpos (pr : Prec) {x : Rat} (h : x ≤ 0) : pr.rn x ≤ 0 := by
  have := rn_mono pr h; rwa [rn_zero] at this

theorem rn_neg (pr : Prec) (x : Rat) : pr.rn (-x) = -pr.rn x := by
  by_cases he : pr = .exact
  · subst he; rfl
  · rw [rn_eq pr he, rn_eq pr he]; exact Rounding.rn_neg _ _ x

theorem rn_relerr (pr : Prec) (x : Rat) (hn : (2:Rat)^pr.emin ≤ |x|) :
    |pr.rn x - x| ≤ (2:Rat)^(-(pr.p:Int)) * |x| := by
  by_cases he : pr = .exact
  · subst he; simp [Prec.rn]
  · rw [rn_eq pr he]; exact Rounding.rn_relerr _ _ _ hn

/-- `exact` has no exponent range: hence the disjunction -/
theorem rn_two_zpow (pr : Prec) (k : Int) (hk : pr = .exact ∨ pr.emin ≤ k) :
    pr.rn ((2:Rat)^k) = (2:Rat)^k := by
  by_cases he : pr = .exact
  · subst he; rfl
  · rw [rn_eq pr he]
    exact Rounding.rn_two_zpow _ (p_pos pr) _ k (hk.resolve_left he)

theorem rn_le_pow (pr : Prec) (k : Int) (hk : pr = .exact ∨ pr.emin ≤ k) {x : Rat}
    (h : x ≤ (2:Rat)^k) : pr.rn x ≤ (2:Rat)^k := by
  have := rn_mono pr h; rwa [rn_two_zpow pr k hk] at this

theorem rn_ge_pow (pr : Prec) (k : Int) (hk : pr = .exact ∨ pr.emin ≤ k) {x : Rat}
    (h : (2:Rat)^k ≤ x) : (2:Rat)^k ≤ pr.rn x := by
  have := rn_mono pr h; rwa [rn_two_zpow pr k hk] at this

theorem rn_int_exact (pr : Prec) (z : Int) (hz : z.natAbs < 2^pr.p) : pr.rn (z : Rat) = z := by
  by_cases he : pr = .exact
  · subst he; rfl
  have key : ∀ n : Nat, n < 2^pr.p → pr.rn (n : Rat) = n := by
    intro n hn
    rcases Nat.eq_zero_or_pos n with rfl | h0
    · rw [Nat.cast_zero]; exact rn_zero pr
    · rw [rn_eq pr he, Rounding.rn_of_pos _ _ (by exact_mod_cast h0)]
      exact Rounding.rnPos_nat_exact _ _ (emin_le pr) n h0 hn
  obtain ⟨n, rfl | rfl⟩ := Int.eq_nat_or_neg z
  · rw [Int.natAbs_natCast] at hz; rw [Int.cast_natCast]; exact key n hz
  · rw [Int.natAbs_neg, Int.natAbs_natCast] at hz
    rw [Int.cast_neg, Int.cast_natCast, rn_neg, key n hz]

end PrecL
