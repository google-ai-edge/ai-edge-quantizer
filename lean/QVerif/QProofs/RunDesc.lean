import QProofs.Wiring
/-!
# The state of the performer as a function of the instructions performed so far
`Ran pt m0 l st`: the performer state after the insertion-type instructions `l`, in closed form over the ORIGINAL model (`slot`: which
appended tensor a reader holds; `retyped`: the record of an original tensor; `bufsAfter`).  One induction over `RunRule.Trace`
(`ran_trace`, `run_ran`); facts about a whole run are read off `Ran` (at the end, in namespace `Wiring`: `wired_core`, `typed_core` for C03c).
-/
open Graph Perform GraphStep GraphFrame GraphInv Skeleton SkeletonProof StepTypes Wiring RunRule IOStep TypingGraph

namespace RunDesc

/-- the instructions of `l` on subgraph `s`, in order -/
def on (s : Nat) (l : List (TInsts × Inst)) : List Inst := (l.filter (·.1.sg == s)).map (·.2)

theorem on_snoc (s : Nat) (l : List (TInsts × Inst)) (e : TInsts × Inst) :
    on s (l ++ [e]) = on s l ++ if e.1.sg = s then [e.2] else [] := by
  unfold on
  rw [List.filter_append, List.map_append]
  by_cases h : e.1.sg = s <;> simp [h]

theorem mem_on {s : Nat} {l : List (TInsts × Inst)} {x : Inst} :
    x ∈ on s l ↔ ∃ ti, (ti, x) ∈ l ∧ ti.sg = s := by
  simp only [on, List.mem_map, List.mem_filter, beq_iff_eq]
  constructor
  · rintro ⟨⟨ti, y⟩, ⟨h1, h2⟩, rfl⟩; exact ⟨ti, h1, h2⟩
  · rintro ⟨ti, h1, h2⟩; exact ⟨(ti, x), ⟨h1, h2⟩, rfl⟩

/-- the op-adding ones: the `n`-th of them appended tensor `n0 + n` -/
def adds (l : List Inst) : List Inst := l.filter (addsOp ·.xf)

theorem adds_snoc (l : List Inst) (e : Inst) :
    adds (l ++ [e]) = adds l ++ if addsOp e.xf = true then [e] else [] := by
  unfold adds
  rw [List.filter_append]
  by_cases h : addsOp e.xf = true <;> simp [h]

theorem getElem?_adds_snoc (l : List Inst) (ins e : Inst) (n : Nat) :
    (adds (l ++ [ins]))[n]? = some e ↔
      (adds l)[n]? = some e ∨ (addsOp ins.xf = true ∧ n = (adds l).length ∧ e = ins) := by
  rw [adds_snoc]
  by_cases hn : n < (adds l).length
  · rw [List.getElem?_append_left hn]
    exact ⟨.inl, fun h => h.resolve_right fun h' => by omega⟩
  · rw [List.getElem?_append_right (by omega), List.getElem?_eq_none (l := adds l) (by omega)]
    by_cases ha : addsOp ins.xf = true
    · rw [if_pos ha, List.getElem?_singleton]
      constructor
      · intro h
        split at h
        · exact .inr ⟨ha, by omega, (Option.some.inj h).symm⟩
        · cases h
      · rintro (h | ⟨-, rfl, rfl⟩)
        · cases h
        · rw [Nat.sub_self, if_pos rfl]
    · rw [if_neg ha]
      exact ⟨fun h => (nomatch h), fun h => h.elim (fun h => (nomatch h)) fun h => absurd h.1 ha⟩

/-- what a reader holds after `l` in a place that held `t` (`r e`: instruction `e` lists the reader):
    the tensor appended by the FIRST op-adding instruction on `t` that lists it, else `t` itself -/
def slot (n0 : Nat) (l : List Inst) (r : Inst → Bool) (t : Int) : Int :=
  match (adds l).findIdx? (fun e => e.tensor == t && r e) with
  | some n => ((n0 + n : Nat) : Int)
  | none => t

/-- the reader is the ORIGINAL operator `k` -/
def lists (k : Int) (e : Inst) : Bool := decide (k ∈ e.consumers)

theorem slot_cases (n0 : Nat) (l : List Inst) (r : Inst → Bool) (t : Int) :
    (slot n0 l r t = t ∧ ∀ e ∈ adds l, ¬ (e.tensor = t ∧ r e = true)) ∨
    ∃ (n : Nat) (e : Inst), slot n0 l r t = ((n0 + n : Nat) : Int) ∧ (adds l)[n]? = some e ∧ e.tensor = t ∧
      r e = true := by
  unfold slot
  cases hf : (adds l).findIdx? (fun e => e.tensor == t && r e) with
  | none =>
    refine .inl ⟨rfl, fun e he hc => ?_⟩
    have := List.findIdx?_eq_none_iff.1 hf e he
    simp [hc.1, hc.2] at this
  | some n =>
    obtain ⟨hn, hp, -⟩ := List.findIdx?_eq_some_iff_getElem.1 hf
    simp only [Bool.and_eq_true, beq_iff_eq] at hp
    exact .inr ⟨n, (adds l)[n], rfl, List.getElem?_eq_getElem hn, hp.1, hp.2⟩

theorem slot_snoc (n0 : Nat) (l : List Inst) (e : Inst) (r : Inst → Bool) (t : Int) (hv : e.tensor < n0) :
    slot n0 (l ++ [e]) r t =
      if (addsOp e.xf = true ∧ r e = true) ∧ slot n0 l r t = e.tensor
      then ((n0 + (adds l).length : Nat) : Int) else slot n0 l r t := by
  unfold slot
  rw [adds_snoc, List.findIdx?_append]
  cases hf : (adds l).findIdx? (fun e => e.tensor == t && r e) with
  | some n =>
    simp only [Option.some_or]
    rw [if_neg]
    intro h
    have := h.2
    omega
  | none =>
    simp only [Option.none_or]
    by_cases ha : addsOp e.xf = true
    · by_cases hk : r e = true
      · by_cases ht : e.tensor = t
        · simp [ha, hk, ht, List.findIdx?_cons]
        · simp [ha, hk, ht, List.findIdx?_cons, Ne.symm ht]
      · simp [ha, hk, List.findIdx?_cons]
    · simp [ha]

theorem slot_map (n0 : Nat) (l : List Inst) (e : Inst) (r : Inst → Bool) (ts : List Int) (hv : e.tensor < n0) :
    (if addsOp e.xf = true ∧ r e = true
      then (ts.map (slot n0 l r)).map fun y => if y == e.tensor then ((n0 + (adds l).length : Nat) : Int) else y
      else ts.map (slot n0 l r)) = ts.map (slot n0 (l ++ [e]) r) := by
  rw [show slot n0 (l ++ [e]) r = _ from funext fun t => slot_snoc n0 l e r t hv]
  split
  · rename_i hc
    simp only [List.map_map, hc, and_self, true_and, beq_iff_eq]
    rfl
  · rename_i hc
    simp only [hc, false_and, if_false]

theorem slot_step (n0 : Nat) (l : List Inst) (e : Inst) (k : Int) (o0 : Op) (hv : e.tensor < n0) :
    (if addsOp e.xf = true ∧ k ∈ e.consumers
      then rew e.tensor ((n0 + (adds l).length : Nat) : Int)
        { o0 with inputs := o0.inputs.map (slot n0 l (lists k)) }
      else { o0 with inputs := o0.inputs.map (slot n0 l (lists k)) }) =
    { o0 with inputs := o0.inputs.map (slot n0 (l ++ [e]) (lists k)) } := by
  rw [← slot_map n0 l e (lists k) o0.inputs hv]
  simp only [lists, decide_eq_true_eq]
  split <;> rfl

/-- the record that instruction `e` writes over `tn` -/
def retypeBy (pt : PTable) (e : Inst) (tn : Tensor) : Tensor :=
  match e.param with
  | some p =>
    match pinfo pt p with
    | some pi =>
      match dtypeOf pi with
      | .ok ty => retype pi p ty tn
      | .error _ => tn
    | none => tn
  | none => tn

theorem retypeBy_eq {pt : PTable} {e : Inst} {p : PId} {pi : PInfo} {ty : Nat} (h1 : e.param = some p)
    (h2 : pinfo pt p = some pi) (h3 : dtypeOf pi = .ok ty) (tn : Tensor) :
    retypeBy pt e tn = retype pi p ty tn := by
  simp only [retypeBy, h1, h2, h3]

theorem retypeBy_cases (pt : PTable) (e : Inst) (tn : Tensor) :
    retypeBy pt e tn = tn ∨ ∃ p pi ty, e.param = some p ∧ pinfo pt p = some pi ∧ dtypeOf pi = .ok ty ∧
      retypeBy pt e tn = retype pi p ty tn := by
  unfold retypeBy
  cases h1 : e.param with
  | none => exact .inl rfl
  | some p =>
    cases h2 : pinfo pt p with
    | none => exact .inl (by simp only [h2])
    | some pi =>
      cases h3 : dtypeOf pi with
      | error _ => exact .inl (by simp only [h2, h3])
      | ok ty => exact .inr ⟨p, pi, ty, rfl, h2, h3, by simp only [h2, h3]⟩

/-- the record of the ORIGINAL tensor `i` after `l`: the retyping instructions on `i`, in order -/
def retyped (pt : PTable) (l : List Inst) (i : Nat) (tn0 : Tensor) : Tensor :=
  l.foldl (fun tn e => if retypes e.xf = true ∧ i = e.tensor.toNat then retypeBy pt e tn else tn) tn0

theorem retyped_snoc (pt : PTable) (l : List Inst) (e : Inst) (i : Nat) (tn0 : Tensor) :
    retyped pt (l ++ [e]) i tn0 =
      if retypes e.xf = true ∧ i = e.tensor.toNat then retypeBy pt e (retyped pt l i tn0)
      else retyped pt l i tn0 := by
  simp only [retyped, List.foldl_append, List.foldl_cons, List.foldl_nil]

theorem retyped_ind (pt : PTable) (l : List Inst) (i : Nat) (tn0 : Tensor) (P : Tensor → Prop) (h0 : P tn0)
    (hP : ∀ e ∈ l, retypes e.xf = true → i = e.tensor.toNat → ∀ tn, P tn → P (retypeBy pt e tn)) :
    P (retyped pt l i tn0) := by
  induction l generalizing tn0 with
  | nil => exact h0
  | cons e l ih =>
    show P (retyped pt l i (if retypes e.xf = true ∧ i = e.tensor.toNat then retypeBy pt e tn0 else tn0))
    refine ih _ ?_ fun e' he' => hP e' (List.mem_cons_of_mem _ he')
    split
    · rename_i hc
      exact hP e List.mem_cons_self hc.1 hc.2 _ h0
    · exact h0

/-- name, shape and buffer index, which retyping keeps -/
def NSB (tn tn0 : Tensor) : Prop := tn.name = tn0.name ∧ tn.shape = tn0.shape ∧ tn.buffer = tn0.buffer

theorem retypeBy_nsb (pt : PTable) (e : Inst) (tn : Tensor) : NSB (retypeBy pt e tn) tn := by
  rcases retypeBy_cases pt e tn with h | ⟨p, pi, ty, -, -, -, h⟩ <;> rw [h]
  · exact ⟨rfl, rfl, rfl⟩
  · exact ⟨retype_name .., retype_shape .., retype_buffer ..⟩

/-- by `List.foldl_last`; that `e` is the last such instruction is not recorded (uniqueness comes from `OneRetype` at the use) -/
theorem retyped_cases (pt : PTable) (l : List Inst) (i : Nat) (tn0 : Tensor) :
    (retyped pt l i tn0 = tn0 ∧ ∀ e ∈ l, ¬ (retypes e.xf = true ∧ i = e.tensor.toNat)) ∨
    ∃ e ∈ l, (retypes e.xf = true ∧ i = e.tensor.toNat) ∧ ∃ tn, retyped pt l i tn0 = retypeBy pt e tn ∧
      NSB tn tn0 := by
  have hI : ∀ (tn : Tensor) (e : Inst), NSB tn tn0 →
      NSB (if retypes e.xf = true ∧ i = e.tensor.toNat then retypeBy pt e tn else tn) tn0 := fun tn e h => by
    split
    · obtain ⟨a, b, c⟩ := retypeBy_nsb pt e tn
      exact ⟨a.trans h.1, b.trans h.2.1, c.trans h.2.2⟩
    · exact h
  rcases List.foldl_last _ id (fun e : Inst => retypes e.xf = true ∧ i = e.tensor.toNat) (NSB · tn0)
      (fun tn e _ hc => if_neg hc) hI l tn0 ⟨rfl, rfl, rfl⟩ with h | ⟨e, he, hc, tn, hn, h⟩
  · exact .inl h
  · exact .inr ⟨e, he, hc, tn, h.trans (if_pos hc), hn⟩

theorem retyped_nsb (pt : PTable) (l : List Inst) (i : Nat) (tn0 : Tensor) : NSB (retyped pt l i tn0) tn0 := by
  rcases retyped_cases pt l i tn0 with ⟨h, -⟩ | ⟨e, -, -, tn, h, h2⟩ <;> rw [h]
  · exact ⟨rfl, rfl, rfl⟩
  · obtain ⟨a, b, c⟩ := retypeBy_nsb pt e tn
    exact ⟨a.trans h2.1, b.trans h2.2.1, c.trans h2.2.2⟩

/-- the buffer table after instruction `e`: a retyping instruction writes the buffer of its ORIGINAL
    tensor (retyping never changes the buffer index) -/
def bufWrite (pt : PTable) (m0 : Model) (bufs : List BufContent) (e : TInsts × Inst) : List BufContent :=
  match m0.subgraphs[e.1.sg]?.bind (·.tensors[e.2.tensor.toNat]?), e.2.param with
  | some tn0, some p =>
    match pinfo pt p with
    | some pi => if retypes e.2.xf = true then newBufs bufs tn0 pi p else bufs
    | none => bufs
  | _, _ => bufs

theorem bufWrite_cases (pt : PTable) (m0 : Model) (bufs : List BufContent) (e : TInsts × Inst) :
    bufWrite pt m0 bufs e = bufs ∨ ∃ sg0 tn0 p pi, m0.subgraphs[e.1.sg]? = some sg0 ∧
      sg0.tensors[e.2.tensor.toNat]? = some tn0 ∧ e.2.param = some p ∧ pinfo pt p = some pi ∧
      retypes e.2.xf = true ∧ bufWrite pt m0 bufs e = newBufs bufs tn0 pi p := by
  unfold bufWrite
  cases h0 : m0.subgraphs[e.1.sg]? with
  | none => exact .inl rfl
  | some sg0 =>
    rw [Option.bind_some]
    cases h1 : sg0.tensors[e.2.tensor.toNat]? with
    | none => exact .inl rfl
    | some tn0 =>
      cases h2 : e.2.param with
      | none => exact .inl rfl
      | some p =>
        cases h3 : pinfo pt p with
        | none => exact .inl (by simp only [h3])
        | some pi =>
          by_cases hr : retypes e.2.xf = true
          · exact .inr ⟨sg0, tn0, p, pi, rfl, h1, rfl, h3, hr, by simp only [h3, hr, if_true]⟩
          · exact .inl (by simp only [h3, hr]; rfl)

def bufsAfter (pt : PTable) (m0 : Model) (l : List (TInsts × Inst)) : List BufContent :=
  l.foldl (bufWrite pt m0) m0.buffers

theorem newBufs_congr (bufs : List BufContent) {tn tn' : Tensor} (pi : PInfo) (p : PId)
    (h : tn.buffer = tn'.buffer) : newBufs bufs tn pi p = newBufs bufs tn' pi p := by
  unfold newBufs; rw [h]

theorem bufWrite_eq {pt : PTable} {m0 : Model} {bufs : List BufContent} {e : TInsts × Inst} {sg0 : Subgraph}
    {tn0 : Tensor} {p : PId} {pi : PInfo} (h0 : m0.subgraphs[e.1.sg]? = some sg0)
    (h1 : sg0.tensors[e.2.tensor.toNat]? = some tn0) (h2 : e.2.param = some p) (h3 : pinfo pt p = some pi) :
    bufWrite pt m0 bufs e = if retypes e.2.xf = true then newBufs bufs tn0 pi p else bufs := by
  simp only [bufWrite, h0, h1, Option.bind_some, h2, h3]

theorem newBufs_get (bufs : List BufContent) (tn : Tensor) (pi : PInfo) (p : PId) (b : Nat) :
    (newBufs bufs tn pi p)[b]? =
      if tn.buffer ≠ 0 ∧ pi.hasData = true ∧ tn.buffer = b ∧ b < bufs.length
      then some (some (.inr p)) else bufs[b]? := by
  unfold newBufs
  by_cases h : tn.buffer ≠ 0 ∧ pi.hasData = true
  · rw [if_pos h, List.getElem?_set]
    by_cases hb : tn.buffer = b
    · subst hb
      by_cases hl : tn.buffer < bufs.length
      · simp [h, hl]
      · simp [hl]
    · simp [hb]
  · rw [if_neg h, if_neg (fun h' => h ⟨h'.1, h'.2.1⟩)]

theorem length_bufWrite (pt : PTable) (m0 : Model) (bufs : List BufContent) (e : TInsts × Inst) :
    (bufWrite pt m0 bufs e).length = bufs.length := by
  rcases bufWrite_cases pt m0 bufs e with h | ⟨_, _, _, _, _, _, _, _, _, h⟩ <;> rw [h]
  exact newBufs_length ..

/-- instruction `e` writes the data of parameter `p` into buffer `b`: it retypes a tensor that lies over
    `b ≠ 0` with a parameter that carries data -/
def Writes (pt : PTable) (m0 : Model) (e : TInsts × Inst) (b : Nat) (p : PId) : Prop :=
  ∃ sg0 tn0 pi, m0.subgraphs[e.1.sg]? = some sg0 ∧ sg0.tensors[e.2.tensor.toNat]? = some tn0 ∧
    e.2.param = some p ∧ pinfo pt p = some pi ∧ retypes e.2.xf = true ∧ tn0.buffer = b ∧ b ≠ 0 ∧
    b < m0.buffers.length ∧ pi.hasData = true

theorem bufWrite_get (pt : PTable) (m0 : Model) (bufs : List BufContent) (e : TInsts × Inst) (b : Nat)
    (hlen : bufs.length = m0.buffers.length) :
    (∃ p, Writes pt m0 e b p ∧ (bufWrite pt m0 bufs e)[b]? = some (some (.inr p))) ∨
    ((∀ p, ¬ Writes pt m0 e b p) ∧ (bufWrite pt m0 bufs e)[b]? = bufs[b]?) := by
  by_cases hW : ∃ p, Writes pt m0 e b p
  · obtain ⟨p, sg0, tn0, pi, h0, h1, h2, h3, hr, hb', hne, hb, hd⟩ := hW
    refine .inl ⟨p, ⟨sg0, tn0, pi, h0, h1, h2, h3, hr, hb', hne, hb, hd⟩, ?_⟩
    rw [bufWrite_eq h0 h1 h2 h3, if_pos hr, newBufs_get, if_pos ⟨hb' ▸ hne, hd, hb', hlen ▸ hb⟩]
  · refine .inr ⟨fun p h => hW ⟨p, h⟩, ?_⟩
    rcases bufWrite_cases pt m0 bufs e with h | ⟨sg0, tn0, p, pi, h0, h1, h2, h3, hr, h⟩ <;> rw [h]
    rw [newBufs_get, if_neg fun hc : tn0.buffer ≠ 0 ∧ pi.hasData = true ∧ tn0.buffer = b ∧ b < bufs.length =>
      hW ⟨p, sg0, tn0, pi, h0, h1, h2, h3, hr, hc.2.2.1, hc.2.2.1 ▸ hc.1, hlen ▸ hc.2.2.2, hc.2.1⟩]

/-- by `List.foldl_last`; that `e` is the last writer is not recorded -/
theorem bufsAfter_cases (pt : PTable) (m0 : Model) (l : List (TInsts × Inst)) (b : Nat) :
    ((bufsAfter pt m0 l)[b]? = m0.buffers[b]? ∧ ∀ e ∈ l, ∀ p, ¬ Writes pt m0 e b p) ∨
    ∃ e ∈ l, ∃ p, Writes pt m0 e b p ∧ (bufsAfter pt m0 l)[b]? = some (some (.inr p)) := by
  rcases List.foldl_last (bufWrite pt m0) (·[b]?) (fun e => ∃ p, Writes pt m0 e b p)
      (·.length = m0.buffers.length)
      (fun bufs e hl hc => ((bufWrite_get pt m0 bufs e b hl).resolve_left fun ⟨p, hw, _⟩ => hc ⟨p, hw⟩).2)
      (fun bufs e hl => (length_bufWrite pt m0 bufs e).trans hl) l m0.buffers rfl with
    ⟨h, hno⟩ | ⟨e, he, hc, bufs, hl, h⟩
  · exact .inl ⟨h, fun e he p hw => hno e he ⟨p, hw⟩⟩
  · obtain ⟨p, hw, hp⟩ := (bufWrite_get pt m0 bufs e b hl).resolve_right fun hno => hc.elim fun p hw => hno.1 p hw
    exact .inr ⟨e, he, p, hw, h.trans hp⟩

end RunDesc

namespace GraphInv.Applied
open RunDesc

variable {pt : PTable} {m0 : Model} {s : Nat} {ins : Inst} {st st' : PState}

theorem tensors_get (A : Applied pt m0 s ins st st') {i : Nat} (hi : i < A.sg.tensors.length) :
    A.sg'.tensors[i]? = (A.sg.tensors[i]?).map fun tn =>
      if retypes ins.xf = true ∧ i = ins.tensor.toNat then retypeBy pt ins tn else tn := by
  obtain ⟨x, hx⟩ : ∃ x, A.sg.tensors[i]? = some x := ⟨_, List.getElem?_eq_getElem hi⟩
  rw [A.exact.tensors, hx, Option.map_some]
  cases hr : retypes ins.xf
  · simp only [Bool.false_eq_true, if_false, false_and]
    rw [List.getElem?_append_left hi]; exact hx
  · simp only [if_true, true_and]
    rw [List.getElem?_append_left (by simpa using hi), List.getElem?_set]
    by_cases hit : i = ins.tensor.toNat
    · have hg : A.sg.tensors[i]? = some A.tn := hit ▸ A.exact.get
      rw [if_pos hit.symm, if_pos (hit ▸ hi), if_pos hit,
        retypeBy_eq A.exact.param A.exact.pinfo A.exact.dtype, Option.some.inj (hx.symm.trans hg)]
    · rw [if_neg (fun e => hit e.symm), if_neg hit]; exact hx

end GraphInv.Applied

namespace RunDesc

/-- tensor `n` of `sg` was appended by the op-adding instruction `e`: its record is the one written then
    (the name made unique against the tensors before it), and ONE inserted operator, `newOp ci e.tensor n`
    with `ci` resolving to QUANTIZE / DEQUANTIZE, produces it -/
structure Appended (pt : PTable) (codes : List Nat) (sg0 sg : Subgraph) (n : Nat) (e : Inst) : Prop where
  t0 : 0 ≤ e.tensor
  record : ∃ tn0 p pi ty, sg0.tensors[e.tensor.toNat]? = some tn0 ∧ e.param = some p ∧
    pinfo pt p = some pi ∧ dtypeOf pi = .ok ty ∧
    sg.tensors[n]? = some (newRecord pi p ty e.xf
      (uniqueName ((sg.tensors.take n).map (·.name)) (tn0.name ++ sfx e.xf)) tn0)
  op : ∃ ci, newOp ci e.tensor (n : Int) ∈ sg.ops ∧ codes[ci]? = some (insCode e.xf) ∧
    ∀ o ∈ sg.ops, o.orig = none → o.outputs = [(n : Int)] → o = newOp ci e.tensor (n : Int)

/-- the ORIGINAL subgraph `sg0` after the instructions `l` on it: its current form `sg`, op-id map `om`;
    `codes` is the current opcode table -/
structure SgRan (pt : PTable) (codes : List Nat) (l : List Inst) (sg0 sg : Subgraph) (om : List Int) : Prop where
  len : sg.tensors.length = sg0.tensors.length + (adds l).length
  ops : ∀ (k : Nat) (a : Int) (o0 : Op), om[k]? = some a → sg0.ops[k]? = some o0 →
    sg.ops[a.toNat]? = some { o0 with inputs := o0.inputs.map (slot sg0.tensors.length l (lists k)) }
  orig : ∀ (i : Nat) (tn0 : Tensor), sg0.tensors[i]? = some tn0 → sg.tensors[i]? = some (retyped pt l i tn0)
  outs : sg.outputs = sg0.outputs.map (slot sg0.tensors.length l listsOut)
  new : ∀ (n : Nat) (e : Inst), (adds l)[n]? = some e → Appended pt codes sg0 sg (sg0.tensors.length + n) e
  ins : ∀ o ∈ sg.ops, o.orig = none →
    ∃ n e ci, (adds l)[n]? = some e ∧ o = newOp ci e.tensor ((sg0.tensors.length + n : Nat) : Int)

theorem SgRan.codes_mono {pt : PTable} {codes codes' : List Nat} {l : List Inst} {sg0 sg : Subgraph}
    {om : List Int} (R : SgRan pt codes l sg0 sg om)
    (h : ∀ (i c : Nat), codes[i]? = some c → codes'[i]? = some c) : SgRan pt codes' l sg0 sg om :=
  { R with new := fun n e he =>
      have N := R.new n e he
      ⟨N.t0, N.record, N.op.imp fun _ g => ⟨g.1, h _ _ g.2.1, g.2.2⟩⟩ }

theorem slot_nil (n0 : Nat) (r : Inst → Bool) : slot n0 [] r = id := rfl

theorem SgRan.init (pt : PTable) (codes : List Nat) (sg0 : Subgraph) (om : List Int)
    (hom : ∀ (k : Nat) (a : Int), om[k]? = some a → a = k) (htag : ∀ o ∈ sg0.ops, o.orig ≠ none) :
    SgRan pt codes [] sg0 sg0 om where
  len := rfl
  ops k a o0 hk h := by cases hom k a hk; rw [Int.toNat_natCast, h, slot_nil, List.map_id]
  orig _ _ h := h
  outs := by rw [slot_nil, List.map_id]
  new _ _ he := nomatch he
  ins o ho hn := absurd hn (htag o ho)

section step
variable {pt : PTable} {m0 : Model} {s : Nat} {ins : Inst} {st st' : PState} {l : List Inst}
  (A : Applied pt m0 s ins st st') (R : SgRan pt st.model.opcodes l A.sg0 A.sg A.om)
include R

theorem SgRan.step_ops (k : Nat) (a' : Int) (o0 : Op)
    (hk' : (shiftMap A.om A.info.opId A.info.added)[k]? = some a') (h0 : A.sg0.ops[k]? = some o0) :
    A.sg'.ops[a'.toNat]? =
      some { o0 with inputs := o0.inputs.map (slot A.sg0.tensors.length (l ++ [ins]) (lists k)) } := by
  obtain ⟨a, hka⟩ : ∃ a, A.om[k]? = some a :=
    ⟨_, List.getElem?_eq_getElem (shiftMap_length A.om _ _ ▸ (List.getElem?_eq_some_iff.1 hk').1)⟩
  obtain ⟨a'', h1, h2⟩ := A.pos hka (R.ops k a o0 hka h0)
  cases hk'.symm.trans h1
  rw [h2, ← slot_step _ _ _ _ _ A.tvalid.2, ← R.len]
  simp only [A.cons_iff hka]

theorem SgRan.step_orig (i : Nat) (tn0 : Tensor) (hi : A.sg0.tensors[i]? = some tn0) :
    A.sg'.tensors[i]? = some (retyped pt (l ++ [ins]) i tn0) := by
  have hil : i < A.sg.tensors.length := by
    have := (List.getElem?_eq_some_iff.1 hi).1
    have := R.len
    omega
  rw [A.tensors_get hil, R.orig i tn0 hi, Option.map_some, retyped_snoc]

theorem SgRan.step_new (hwf0 : WF.modelOK m0 = true) (B : Base m0 st) (n : Nat) (e : Inst)
    (he : (adds (l ++ [ins]))[n]? = some e) :
    Appended pt st'.model.opcodes A.sg0 A.sg' (A.sg0.tensors.length + n) e := by
  have hlen := R.len
  have hv := A.tvalid
  obtain ⟨hkeep, hins⟩ := A.inserted hwf0 B
  rcases (getElem?_adds_snoc l ins e n).1 he with he | ⟨hadd, rfl, rfl⟩
  · -- a tensor appended earlier: the step keeps its record, the names before it and its operator
    have hn := (List.getElem?_eq_some_iff.1 he).1
    have N := R.new n e he
    obtain ⟨tn0, p, pi, ty, c2, c3, c4, c5, c6⟩ := N.record
    obtain ⟨ci, c7, c8, c9⟩ := N.op
    refine ⟨N.t0, ⟨tn0, p, pi, ty, c2, c3, c4, c5, ?_⟩, ci, hkeep _ c7 rfl, A.codes_mono _ _ c8,
      fun o ho hno hout => ?_⟩
    · rw [A.names_take (by omega), A.tensors_get (by omega), c6, Option.map_some,
        if_neg (fun h => by have := h.2; omega)]
    · split at hins
      · obtain ⟨ci', -, -, hsub⟩ := hins
        rcases hsub o ho hno with h | rfl
        · exact c9 o h hno hout
        · simp only [newOp, List.cons.injEq, and_true] at hout; omega
      · exact c9 o (hins ▸ ho) hno hout
  · -- the tensor appended by this step: name and shape of the operand's record are the original ones
    rw [← hlen]
    obtain ⟨tn0, ht0⟩ : ∃ tn0, A.sg0.tensors[e.tensor.toNat]? = some tn0 :=
      ⟨_, List.getElem?_eq_getElem (by omega)⟩
    have hrec := R.orig _ _ ht0
    rw [A.exact.get] at hrec
    obtain ⟨e1, e2, -⟩ := retyped_nsb pt l e.tensor.toNat tn0
    rw [← Option.some.inj hrec] at e1 e2
    rw [if_pos hadd] at hins
    obtain ⟨ci, hci1, hci2, hsub⟩ := hins
    refine ⟨hv.1, ⟨_, A.p, A.pi, A.ty, ht0, A.exact.param, A.exact.pinfo, A.exact.dtype, ?_⟩, ci, hci1, hci2,
      fun o ho hno hout => (hsub o ho hno).resolve_left fun h => ?_⟩
    · rw [A.new_get hadd, A.names_take (Nat.le_refl _), List.take_length, e1,
        newRecord_congr _ _ _ _ _ _ _ e2]
    · -- an operator inserted earlier produces an earlier tensor
      obtain ⟨n', e', ci', g1, rfl⟩ := R.ins o h hno
      have := (List.getElem?_eq_some_iff.1 g1).1
      simp only [newOp, List.cons.injEq, and_true] at hout; omega

theorem SgRan.step_ins (hwf0 : WF.modelOK m0 = true) (B : Base m0 st) (o : Op) (ho : o ∈ A.sg'.ops)
    (hn : o.orig = none) :
    ∃ n e ci, (adds (l ++ [ins]))[n]? = some e ∧
      o = newOp ci e.tensor ((A.sg0.tensors.length + n : Nat) : Int) := by
  have hold : o ∈ A.sg.ops → ∃ n e ci, (adds (l ++ [ins]))[n]? = some e ∧
      o = newOp ci e.tensor ((A.sg0.tensors.length + n : Nat) : Int) := fun h =>
    have ⟨n, e, ci, g1, g2⟩ := R.ins o h hn
    ⟨n, e, ci, (getElem?_adds_snoc l ins e n).2 (.inl g1), g2⟩
  have hins := (A.inserted hwf0 B).2
  split at hins
  · rename_i hadd
    obtain ⟨ci, -, -, hsub⟩ := hins
    rcases hsub o ho hn with h | rfl
    · exact hold h
    · exact ⟨_, ins, ci, (getElem?_adds_snoc l ins ins _).2 (.inr ⟨hadd, rfl, rfl⟩), by rw [R.len]⟩
  · exact hold (hins ▸ ho)

theorem SgRan.step (hwf0 : WF.modelOK m0 = true) (B : Base m0 st) :
    SgRan pt st'.model.opcodes (l ++ [ins]) A.sg0 A.sg' (shiftMap A.om A.info.opId A.info.added) where
  len := by
    rw [adds_snoc, List.length_append, A.exact.tlen, R.len, Nat.add_assoc]
    split <;> rfl
  ops := R.step_ops A
  orig := R.step_orig A
  outs := by rw [← slot_map _ _ _ _ _ A.tvalid.2, ← R.outs, ← R.len, A.outputs_eq]
  new := R.step_new A hwf0 B
  ins := R.step_ins A hwf0 B

end step

structure Ran (pt : PTable) (m0 : Model) (l : List (TInsts × Inst)) (st : PState) : Prop where
  sg : ∀ (s : Nat) (sg0 sg : Subgraph) (om : List Int), m0.subgraphs[s]? = some sg0 →
    st.model.subgraphs[s]? = some sg → st.origMap[s]? = some om →
    SgRan pt st.model.opcodes (on s l) sg0 sg om
  bufs : st.model.buffers = bufsAfter pt m0 l
  codes : ∀ (i c : Nat), m0.opcodes[i]? = some c → st.model.opcodes[i]? = some c
  params : ∀ e ∈ l, ∃ p pi ty, e.2.param = some p ∧ pinfo pt p = some pi ∧ dtypeOf pi = .ok ty
  /-- a signature entry whose tensor is not a graph output is never rewritten -/
  sigs : ∀ (i : Nat) (s0 s1 : Sig) (sg0 : Subgraph), m0.sigs[i]? = some s0 → st.model.sigs[i]? = some s1 →
    m0.subgraphs[s0.sg]? = some sg0 → ∀ (k : Nat) (e0 : String × Int), s0.outputs[k]? = some e0 →
    e0.2 ∉ sg0.outputs → s1.outputs[k]? = some e0

theorem ran_init (pt : PTable) (m : Model) (htag : origTagged m = true) : Ran pt m [] (initSt m) where
  sg s sg0 sg om h0 h1 h2 := by
    obtain rfl : sg0 = sg := Option.some.inj (h0.symm.trans h1)
    refine SgRan.init pt _ sg0 om (fun k a hk => (initSt_map m s sg0 om h0 h2 k a hk).2) fun o ho hn => ?_
    obtain ⟨k, hk⟩ := List.mem_iff_getElem?.1 ho
    rw [origTagged_get m htag s sg0 h0 k o hk] at hn
    cases hn
  bufs := rfl
  codes _ _ h := h
  params _ he := nomatch he
  sigs i s0 s1 sg0 h0 h1 _ k e0 hk _ := Option.some.inj (h0.symm.trans h1) ▸ hk

variable {pt : PTable} {m0 : Model}

theorem Ran.step_bufs {l : List (TInsts × Inst)} {ti : TInsts} {ins : Inst} {st st' : PState}
    (R : Ran pt m0 l st) (A : Applied pt m0 ti.sg ins st st') :
    st'.model.buffers = bufsAfter pt m0 (l ++ [(ti, ins)]) := by
  have hv := A.tvalid
  obtain ⟨tn0, ht0⟩ : ∃ tn0, A.sg0.tensors[ins.tensor.toNat]? = some tn0 :=
    ⟨_, List.getElem?_eq_getElem (by omega)⟩
  have hrec := (R.sg _ _ _ _ A.orig A.cur A.omap).orig _ _ ht0
  rw [A.exact.get] at hrec
  have hb : A.tn.buffer = tn0.buffer := by
    rw [Option.some.inj hrec]
    exact (retyped_nsb pt _ _ _).2.2
  have hm : st'.model.buffers = A.m'.buffers := by rw [A.model']
  rw [bufsAfter, List.foldl_append, ← bufsAfter, ← R.bufs, List.foldl_cons, List.foldl_nil,
    bufWrite_eq A.orig ht0 A.exact.param A.exact.pinfo, hm, ← newBufs_congr _ _ _ hb]
  exact A.exact.bufs

theorem updSig_keep (sgi : Nat) (before after : List Int) (s : Sig) (k : Nat) (e : String × Int)
    (hk : s.outputs[k]? = some e) (he : e.2 ∉ before) :
    (updSig sgi before after s).outputs[k]? = some e := by
  unfold updSig
  split
  · exact hk
  · rw [List.getElem?_map, hk, Option.map_some, (upd_cases before after e.2).resolve_right fun h => he h.1]

theorem Ran.step_sigs {l : List (TInsts × Inst)} {ti : TInsts} {ins : Inst} {st st' : PState}
    (hwf0 : WF.modelOK m0 = true) (R : Ran pt m0 l st) (B : Base m0 st) (A : Applied pt m0 ti.sg ins st st')
    (i : Nat) (s0 s1' : Sig) (sg0 : Subgraph) (h0 : m0.sigs[i]? = some s0) (h1' : st'.model.sigs[i]? = some s1')
    (h2 : m0.subgraphs[s0.sg]? = some sg0) (k : Nat) (e0 : String × Int) (hk : s0.outputs[k]? = some e0)
    (hne : e0.2 ∉ sg0.outputs) : s1'.outputs[k]? = some e0 := by
  rw [A.sigs, updateSigs_eq, List.getElem?_map] at h1'
  obtain ⟨s1, hsi, rfl⟩ := Option.map_eq_some_iff.1 h1'
  have hk1 := R.sigs i s0 s1 sg0 h0 hsi h2 k e0 hk hne
  by_cases hs : s0.sg = ti.sg
  · obtain rfl : A.sg0 = sg0 := Option.some.inj (A.orig.symm.trans (hs ▸ h2))
    -- the entry is not a CURRENT graph output either: those are original outputs or NEW tensors
    refine updSig_keep _ _ _ _ k e0 hk1 fun hmem => ?_
    rw [(R.sg _ _ _ _ A.orig A.cur A.omap).outs] at hmem
    obtain ⟨t, ht, hst⟩ := List.mem_map.1 hmem
    rcases slot_cases A.sg0.tensors.length (on ti.sg l) listsOut t with ⟨h, -⟩ | ⟨n, e, h, -⟩
    · exact hne (hst ▸ h.symm ▸ ht)
    · have hsigOK := ((modelOK_iff m0).1 hwf0).2.2 s0 (List.mem_of_getElem? h0)
      unfold WF.sigOK at hsigOK
      rw [hs, A.orig] at hsigOK
      simp only [Bool.and_eq_true, List.all_eq_true] at hsigOK
      have hv := (validT_iff _ _).1 (hsigOK.2 e0 (List.mem_of_getElem? hk))
      unfold ValidT at hv
      omega
  · obtain ⟨sgc, -, hsgc, -, -⟩ := B.cur s0.sg sg0 h2
    rw [updSig_other _ _ _ _ (by rw [(B.sk.sigs i s0 s1 sg0 sgc h0 hsi h2 hsgc).sgi]; exact hs)]
    exact hk1

theorem Ran.step {l : List (TInsts × Inst)} {ti : TInsts} {ins : Inst} {st st' : PState}
    (hwf0 : WF.modelOK m0 = true) (R : Ran pt m0 l st) (B : Base m0 st) (A : Applied pt m0 ti.sg ins st st') :
    Ran pt m0 (l ++ [(ti, ins)]) st' where
  sg s sg0 sg om h0 h1 h2 := by
    rw [on_snoc]
    by_cases hs : ti.sg = s
    · subst hs
      obtain rfl : A.sg0 = sg0 := Option.some.inj (A.orig.symm.trans h0)
      obtain rfl : A.sg' = sg := Option.some.inj (A.cur'.symm.trans h1)
      obtain rfl : _ = om := Option.some.inj (A.omap'.symm.trans h2)
      rw [if_pos rfl]
      exact (R.sg _ _ _ _ A.orig A.cur A.omap).step A hwf0 B
    · -- another subgraph: untouched, only the opcode table may have grown
      rw [if_neg hs, List.append_nil]
      rw [(A.others (Ne.symm hs)).1] at h1
      rw [(A.others (Ne.symm hs)).2] at h2
      exact (R.sg s sg0 sg om h0 h1 h2).codes_mono A.codes_mono
  bufs := R.step_bufs A
  codes i c h := A.codes_mono i c (R.codes i c h)
  params e he := (List.mem_append.1 he).elim (R.params e) fun h => by
    cases List.mem_singleton.1 h
    exact ⟨A.p, A.pi, A.ty, A.exact.param, A.exact.pinfo, A.exact.dtype⟩
  sigs := R.step_sigs hwf0 B A

theorem ran_trace (hwf0 : WF.modelOK m0 = true) {l pre : List (TInsts × Inst)} {s s' : PState}
    (T : Trace (BaseStep pt m0) l s s') (R : Ran pt m0 pre s) : Ran pt m0 (pre ++ l) s' := by
  induction T generalizing pre with
  | nil => rwa [List.append_nil]
  | @cons e l s s1 s2 r _ ih =>
    obtain ⟨B, ⟨A⟩⟩ := r
    have := ih (R.step hwf0 B A)
    rwa [List.append_assoc] at this

theorem run_ran (pt : PTable) (m : Model) (tis : List TInsts) (hwf : WF.modelOK m = true)
    (htag : origTagged m = true) (hok : ∀ ti ∈ tis, TInstsOK pt m ti) {st : PState}
    (hfold : tis.foldlM (applyAll pt) (initSt m) = .ok st) :
    Base m st ∧ Ran pt m (performed tis) st := by
  obtain ⟨hb, T⟩ := run_trace (sound_base pt m hwf) hok (base_init m hwf htag) hfold
  exact ⟨hb, by simpa using ran_trace hwf T (ran_init pt m htag)⟩

theorem mem_adds_on {tis : List TInsts} {ti : TInsts} {ins : Inst} (hti : ti ∈ tis) (hins : ins ∈ ti.insts)
    (hadd : addsOp ins.xf = true) : ins ∈ adds (on ti.sg (performed tis)) :=
  List.mem_filter.2 ⟨mem_on.2 ⟨ti, mem_performed.2 ⟨hti, hins, addsOp_insertion _ hadd⟩, rfl⟩, hadd⟩

end RunDesc

namespace Wiring
open RunDesc

theorem same_entry {tis : List TInsts} (hdisj : TensorsDisjoint tis) {ti ti' : TInsts} {ins e : Inst}
    (hti : ti ∈ tis) (hti' : ti' ∈ tis) (hs : ti'.sg = ti.sg) (hins : ins ∈ ti.insts) (he : e ∈ ti'.insts)
    (hx : isInsertion ins.xf = true) (hx' : isInsertion e.xf = true) (ht : e.tensor = ins.tensor) :
    ti' = ti := by
  obtain ⟨I, hI⟩ := List.mem_iff_getElem?.1 hti
  obtain ⟨I', hI'⟩ := List.mem_iff_getElem?.1 hti'
  by_cases hII : I' = I
  · subst hII
    exact Option.some.inj (hI'.symm.trans hI)
  · exact absurd ht (hdisj I' I ti' ti hII hI' hI hs e he ins hins hx' hx)

/-- two members of a list neither of which can stand before the other are one member: how "the FIRST lister / the LAST retyper
    found by the closed form" is identified with a given instruction (`NoChain`, `OneRetype` forbid both orders) -/
theorem eq_of_no_order {α} {l : List α} {a b : α} (ha : a ∈ l) (hb : b ∈ l)
    (h1 : ∀ i j : Nat, i < j → l[i]? = some a → l[j]? = some b → False)
    (h2 : ∀ i j : Nat, i < j → l[i]? = some b → l[j]? = some a → False) : a = b := by
  obtain ⟨i, hi⟩ := List.mem_iff_getElem?.1 ha
  obtain ⟨j, hj⟩ := List.mem_iff_getElem?.1 hb
  rcases Nat.lt_trichotomy i j with h | rfl | h
  · exact (h1 i j h hi hj).elim
  · exact Option.some.inj (hi.symm.trans hj)
  · exact (h2 j i h hj hi).elim

/-- common core of `addQuant_wired` / `addDequant_consumers`: after the whole run, every listed real
    consumer of an op-adding instruction reads, in the slots where it read the instruction's tensor,
    the tensor appended by that instruction, whose record is still the one written when it was
    created -/
theorem wired_core (pt : PTable) (m m' : Model) (tis : List TInsts)
    (hwf : WF.modelOK m = true) (htag : origTagged m = true)
    (hok : ∀ ti ∈ tis, TInstsOK pt m ti) (hdisj : TensorsDisjoint tis)
    (h : transformGraph pt m tis = .ok m')
    (ti : TInsts) (hti : ti ∈ tis) (ins : Inst) (hins : ins ∈ ti.insts) (hadd : addsOp ins.xf = true)
    (p : PId) (pi : PInfo) (ty : Nat) (hp : ins.param = some p) (hpi : pinfo pt p = some pi)
    (hty : dtypeOf pi = .ok ty)
    (sg sg' : Subgraph) (hsg : m.subgraphs[ti.sg]? = some sg) (hsg' : m'.subgraphs[ti.sg]? = some sg')
    (c : Int) (hc : c ∈ ins.consumers) (hc0 : 0 ≤ c) (o : Op) (ho : sg.ops[c.toNat]? = some o) :
    ∃ o' ∈ sg'.ops, o'.orig = some c.toNat ∧ o'.inputs.length = o.inputs.length ∧
      ∀ j : Nat, o.inputs[j]? = some ins.tensor →
        ∃ x tn, o'.inputs[j]? = some x ∧ sg'.tensors[x.toNat]? = some tn ∧ 0 ≤ x ∧
          (sg.tensors.length : Int) ≤ x ∧
          (∃ nm tn0, tn = if ins.xf = .addQuant then retype pi p ty (fresh nm tn0) else fresh nm tn0) ∧
          root sg' x = ins.tensor := by
  obtain ⟨st, hfold, rfl⟩ := (transformGraph_ok_iff pt m m' tis).1 h
  obtain ⟨B, R⟩ := run_ran pt m tis hwf htag hok hfold
  obtain ⟨om, a, o', g2, g3, g4, g5, g6⟩ := final_op m st B htag ti.sg sg sg' hsg hsg' c.toNat o ho
  have S := R.sg ti.sg sg sg' om hsg hsg' g2
  have ho' := Option.some.inj (g4.symm.trans (S.ops c.toNat a o g3 ho))
  have hkc : ((c.toNat : Nat) : Int) = c := by omega
  refine ⟨o', List.mem_of_getElem? g4, g5, by rw [ho']; exact List.length_map _, fun j hj => ?_⟩
  rcases slot_cases sg.tensors.length (on ti.sg (performed tis)) (lists ((c.toNat : Nat) : Int)) ins.tensor with
    ⟨-, hno⟩ | ⟨n, e, hs, g1, gt, gk⟩
  · exact absurd ⟨rfl, decide_eq_true (hkc.symm ▸ hc)⟩ (hno ins (mem_adds_on hti hins hadd))
  · -- the FIRST op-adding instruction on this tensor that lists `c` is `ins`: two of them in one entry
    -- would be a chain
    have gk' : c ∈ e.consumers := hkc ▸ of_decide_eq_true gk
    obtain ⟨hon, hadd'⟩ := List.mem_filter.1 (List.mem_of_getElem? g1)
    obtain ⟨ti', hmem, hs'⟩ := mem_on.1 hon
    obtain ⟨hti', hins', -⟩ := mem_performed.1 hmem
    cases same_entry hdisj hti hti' hs' hins hins' (addsOp_insertion _ hadd) (addsOp_insertion _ hadd') gt
    obtain rfl : e = ins := eq_of_no_order hins' hins
      (fun i j h hi hj => absurd gk' ((hok _ hti).noChain i j e ins h hi hj (addsOp_cases _ hadd') c hc))
      (fun i j h hi hj => absurd hc ((hok _ hti).noChain i j ins e h hi hj (addsOp_cases _ hadd) c gk'))
    obtain ⟨tn0, p', pi', ty', c2, c3, c4, c5, c6⟩ := (S.new n e g1).record
    cases hp.symm.trans c3
    cases hpi.symm.trans c4
    cases hty.symm.trans c5
    have hx : o'.inputs[j]? = some ((sg.tensors.length + n : Nat) : Int) := by
      rw [ho']
      show (o.inputs.map _)[j]? = _
      rw [List.getElem?_map, hj, Option.map_some, hs]
    refine ⟨_, _, hx, by rw [Int.toNat_natCast]; exact c6, by omega, by omega, ⟨_, tn0, rfl⟩, ?_⟩
    have := congrArg (·[j]?) g6
    simp only [List.getElem?_map, hx, hj, Option.map_some, Option.some.injEq] at this
    exact this

/-- common core of `quantTensor_typed` / `addDequant_wired`: after the whole run the tensor of a
    retyping instruction still has the record that instruction wrote -/
theorem typed_core (pt : PTable) (m m' : Model) (tis : List TInsts)
    (hwf : WF.modelOK m = true) (htag : origTagged m = true)
    (hok : ∀ ti ∈ tis, TInstsOK pt m ti) (hdisj : TensorsDisjoint tis)
    (h : transformGraph pt m tis = .ok m')
    (ti : TInsts) (hti : ti ∈ tis) (hret : OneRetype ti.insts)
    (ins : Inst) (hins : ins ∈ ti.insts) (hr : retypes ins.xf = true)
    (p : PId) (pi : PInfo) (ty : Nat) (hp : ins.param = some p) (hpi : pinfo pt p = some pi)
    (hty : dtypeOf pi = .ok ty)
    (sg sg' : Subgraph) (hsg : m.subgraphs[ti.sg]? = some sg) (hsg' : m'.subgraphs[ti.sg]? = some sg') :
    ∃ tn0 tn', sg.tensors[ins.tensor.toNat]? = some tn0 ∧ sg'.tensors[ins.tensor.toNat]? = some tn' ∧
      0 ≤ ins.tensor ∧ tn'.dtype = ty ∧ (pi.uniform = true → tn'.quant = some p) ∧
      tn'.name = tn0.name ∧ tn'.shape = tn0.shape ∧ tn'.buffer = tn0.buffer := by
  obtain ⟨st, hfold, rfl⟩ := (transformGraph_ok_iff pt m m' tis).1 h
  obtain ⟨B, R⟩ := run_ran pt m tis hwf htag hok hfold
  have valid : ∀ ti' ∈ tis, ti'.sg = ti.sg → ∀ e ∈ ti'.insts, 0 ≤ e.tensor ∧ e.tensor < sg.tensors.length := by
    intro ti' hti' hs e he
    obtain ⟨sgx, hx, hall⟩ := (hok ti' hti').insts
    cases (hs ▸ hx).symm.trans hsg
    exact (validT_iff _ _).1 (hall e he).tvalid
  have hv := valid ti hti rfl ins hins
  obtain ⟨tn0, ht0⟩ : ∃ tn0, sg.tensors[ins.tensor.toNat]? = some tn0 :=
    ⟨_, List.getElem?_eq_getElem (by omega)⟩
  obtain ⟨_, om, k1, k2, -⟩ := B.cur ti.sg sg hsg
  cases hsg'.symm.trans k1
  refine ⟨tn0, _, ht0, (R.sg ti.sg sg sg' om hsg hsg' k2).orig _ _ ht0, hv.1, ?_⟩
  rcases retyped_cases pt (on ti.sg (performed tis)) ins.tensor.toNat tn0 with ⟨-, hno⟩ | ⟨e, he, hc, tn, h1, h2⟩
  · exact absurd ⟨hr, rfl⟩ (hno ins (mem_on.2 ⟨ti, mem_performed.2 ⟨hti, hins, retypes_insertion _ hr⟩, rfl⟩))
  · -- the only retyping instruction on this tensor is `ins`
    obtain ⟨ti', hmem, hs⟩ := mem_on.1 he
    obtain ⟨hti', hins', -⟩ := mem_performed.1 hmem
    have hten : e.tensor = ins.tensor := by have := valid ti' hti' hs e hins'; have := hc.2; omega
    cases same_entry hdisj hti hti' hs hins hins' (retypes_insertion _ hr) (retypes_insertion _ hc.1) hten
    obtain rfl : e = ins := eq_of_no_order hins' hins
      (fun i j h hi hj => absurd hten (hret i j e ins h hi hj hc.1 hr))
      (fun i j h hi hj => absurd hten.symm (hret i j ins e h hi hj hr hc.1))
    rw [h1, retypeBy_eq hp hpi hty]
    exact ⟨retype_dtype .., fun hu => by rw [retype_quant, if_pos hu], (retype_name ..).trans h2.1,
      (retype_shape ..).trans h2.2.1, (retype_buffer ..).trans h2.2.2⟩

end Wiring
