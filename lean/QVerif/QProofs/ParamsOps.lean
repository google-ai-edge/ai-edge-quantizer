import QProofs.TypingModes
import QProofs.ParamsWF
/-!
# C04 end to end: the op-level rules of C04b read on the slots of ONE operator

`QProps/C04b.lean` states the rules of the same-as-input, same-as-output, fixed-range and convolution-like operators on the
request list; here they are read slot by slot under a static-range config, as membership of `MatParams.srqReq` requests,
the form in which `ParamsFwd.op_in_output` carries them to the tensors of the output.
-/
open Graph Mat Cfg MatParams Pipeline Pipe
open ParamsStats ParamsFwd

set_option autoImplicit false

namespace ParamsOps

theorem sameAsInput_dispatch (env : Env) (sg : Subgraph) (qs : Qsvs) (oi : OpInfo) (fn : String)
    (hfn : fn ∈ sameAsInputFns) :
    ∃ gIn, materializeOp env sg qs oi Tables.algMinMax fn = standardOp env sg qs oi .sameAsInput gIn [] := by
  simp only [sameAsInputFns, List.mem_cons, List.mem_nil_iff, or_false] at hfn
  rcases hfn with rfl | rfl | rfl | rfl | rfl
  · exact ⟨_, materializeOp_reshape ..⟩
  · exact ⟨_, materializeOp_transpose ..⟩
  · exact ⟨_, materializeOp_average_pool ..⟩
  · exact ⟨_, materializeOp_strided_slice ..⟩
  · exact ⟨_, materializeOp_split ..⟩

theorem sameAsInput_noWo : ∀ e ∈ minmaxOps, e.2 ∈ sameAsInputFns → TypingSrq.NoWo e.1 := by
  rintro ⟨nm, fn⟩ he h
  have T := minmaxOps_kindOK he
  have K := Pipe.kind_facts.2.1
  simp only [sameAsInputFns, List.mem_cons, List.mem_nil_iff, or_false] at h
  rcases h with rfl | rfl | rfl | rfl | rfl
  · rw [K.1] at T; exact T.2.2.1 (by decide)
  · rw [K.2.1] at T; exact T.2.2.1 (by decide)
  · rw [K.2.2.2.2.1] at T; exact T.2.2.1 (by decide)
  · rw [K.2.2.2.1] at T; exact T.2.2.1 (by decide)
  · rw [K.2.2.1] at T; exact T.2.2.1 (by decide)

theorem fixedRange_dispatch (env : Env) (sg : Subgraph) (qs : Qsvs) (oi : OpInfo) (fn : String)
    (hfn : fn ∈ fixedRangeFns) :
    materializeOp env sg qs oi Tables.algMinMax fn =
      fixedRangeOp env sg qs oi (fn == "materialize_softmax_and_logistic") := by
  simp only [fixedRangeFns, List.mem_cons, List.mem_nil_iff, or_false] at hfn
  rcases hfn with rfl | rfl
  · rw [beq_self_eq_true]
    exact materializeOp_softmax_logistic ..
  · rw [show ("materialize_tanh" == "materialize_softmax_and_logistic") = false by decide +kernel]
    exact materializeOp_tanh ..

/-- same-as-input under a static-range config: the request of a float32 runtime result carries the parameters of the object
    requested for THE data operand, without the quantized values -/
theorem same_as_input_slots (env : Env) (sg : Subgraph) (qs : Qsvs) (oi : OpInfo) (gIn : List Nat)
    (rs : List CReq) (qs' : Qsvs) (hsrq : isSRQ oi.cfg = true)
    (h : standardOp env sg qs oi .sameAsInput gIn [] = .ok (rs, qs'))
    (jo : Nat) (b : Int) (o : Tensor) (hjo : oi.op.outputs[jo]? = some b) (hb : b ≠ -1)
    (hto : tensorAt sg b = .ok o) (hdt : o.dtype = Tables.ttFloat32) (hnc : constData env o = none) :
    ∃ (ji : Nat) (a : Int) (t : Tensor) (ir : CReq), oi.op.inputs[ji]? = some a ∧ a ≠ -1 ∧
      tensorAt sg a = .ok t ∧ t.dtype = Tables.ttFloat32 ∧ wrapper env qs oi t true none = .ok ir ∧ ir ∈ rs ∧
      ∀ qp d, reqParam0 ir = .ok (some (.uniform qp d)) →
        srqReq o.name oi.opId false false (some (.uniform qp none)) ∈ rs := by
  obtain ⟨rin, rout, g, gO, rfl, hPin, hPout, hH⟩ := Mat.standardOp_slots h
  have hlo : Live sg oi.op.outputs [] (b, jo) o := ⟨(mem_cslots _ _).2 ⟨hjo, hb⟩, hto, hdt, by simp⟩
  obtain ⟨r, hr, hreq⟩ := Mat.slotOut_live hPout hlo
  cases hH with
  | idle _ _ hno => exact absurd hlo (hno _ _)
  | toResults q t ir p0 hl _ hw hp0 =>
    obtain ⟨ir', hir', hw'⟩ := Mat.slotOut_live hPin hl
    cases hw.symm.trans hw'
    obtain ⟨hslot, hane⟩ := (mem_cslots _ _).1 hl.1
    refine ⟨q.2, q.1, t, ir, hslot, hane, hl.2.1, hl.2.2.1, hw, List.mem_append_left _ hir', fun qp d hqp => ?_⟩
    cases hp0.symm.trans hqp
    rw [stripData_uniform] at hreq
    exact List.mem_append_right _ (wrapper_srq_runtime hsrq hnc hreq ▸ hr)

/-- same-as-output under a static-range config: the request of a float32 runtime operand carries the parameter object
    requested for THE result -/
theorem concat_slots (env : Env) (sg : Subgraph) (qs : Qsvs) (oi : OpInfo) (rs : List CReq) (qs' : Qsvs)
    (hsrq : isSRQ oi.cfg = true) (h : standardOp env sg qs oi .sameAsOutput [] [] = .ok (rs, qs'))
    (ji : Nat) (a : Int) (t : Tensor) (hji : oi.op.inputs[ji]? = some a) (ha : a ≠ -1)
    (hta : tensorAt sg a = .ok t) (hdt : t.dtype = Tables.ttFloat32) (hnc : constData env t = none) :
    ∃ (jo : Nat) (b : Int) (o : Tensor) (orq : CReq), oi.op.outputs[jo]? = some b ∧ b ≠ -1 ∧
      tensorAt sg b = .ok o ∧ o.dtype = Tables.ttFloat32 ∧ wrapper env qs oi o false none = .ok orq ∧ orq ∈ rs ∧
      ∀ P, orq = srqReq o.name oi.opId false false (some P) → srqReq t.name oi.opId true false (some P) ∈ rs := by
  obtain ⟨rin, rout, g, gO, rfl, hPin, hPout, hH⟩ := Mat.standardOp_slots h
  have hli : Live sg oi.op.inputs [] (a, ji) t := ⟨(mem_cslots _ _).2 ⟨hji, ha⟩, hta, hdt, by simp⟩
  obtain ⟨r, hr, hreq⟩ := Mat.slotOut_live hPin hli
  cases hH with
  | idle _ hno _ => exact absurd hli (hno _ _)
  | toOperands q o orq hl _ hw =>
    obtain ⟨orq', horq', hw'⟩ := Mat.slotOut_live hPout hl
    cases hw.symm.trans hw'
    obtain ⟨hslot, hbne⟩ := (mem_cslots _ _).1 hl.1
    refine ⟨q.2, q.1, o, orq, hslot, hbne, hl.2.1, hl.2.2.1, hw, List.mem_append_right _ horq', fun P hP => ?_⟩
    subst hP
    exact List.mem_append_left _ (wrapper_srq_runtime hsrq hnc hreq ▸ hr)

theorem fixed_range_slots (env : Env) (sg : Subgraph) (qs : Qsvs) (oi : OpInfo) (sl : Bool) (rs : List CReq)
    (qs' : Qsvs) (hsrq : isSRQ oi.cfg = true) (a : TCfg) (ha : oi.cfg.act = some a)
    (h : fixedRangeOp env sg qs oi sl = .ok (rs, qs'))
    (jo : Nat) (b : Int) (o : Tensor) (hjo : oi.op.outputs[jo]? = some b) (hb : b ≠ -1)
    (hto : tensorAt sg b = .ok o) (hdt : o.dtype = Tables.ttFloat32) :
    ∃ fp, fixedParams sl a.bits.toNat = some fp ∧
      srqReq o.name oi.opId false false (some (.uniform fp none)) ∈ rs := by
  obtain ⟨hlen, reqs, qsx, hstd, hcase⟩ := fixedRangeOp_spec env sg qs oi sl rs qs' h
  obtain ⟨rin, rout, g, gO, rfl, -, hPout, -⟩ := Mat.standardOp_slots hstd
  have hlo : Live sg oi.op.outputs [] (b, jo) o := ⟨(mem_cslots _ _).2 ⟨hjo, hb⟩, hto, hdt, by simp⟩
  obtain ⟨r, hr, hreq⟩ := Mat.slotOut_live hPout hlo
  obtain ⟨p, -, rfl⟩ := wrapper_srq hsrq hreq
  -- `b` is the only result, so its request is the last one
  have h1 : rout.length = 1 := by
    have := List.length_pos_of_mem hr
    have : (cslots oi.op.outputs).length ≤ oi.op.outputs.length := (List.length_filter_le _ _).trans (by simp)
    have := hPout.1
    omega
  obtain ⟨x, rfl⟩ := List.length_eq_one_iff.1 h1
  obtain rfl := List.mem_singleton.1 hr
  have hlast : ∀ x : CReq, (rin ++ [x]).getLast? = some x := fun x => by simp
  rcases hcase with ⟨-, -, h1 | h1 | ⟨l, h1, h2⟩⟩ | ⟨last, a', pr, fp, mm, hl, ha', hpr, hfp, -, hrs, -⟩
  · rw [hlast] at h1; cases h1
  · rw [ha] at h1; cases h1
  · rw [hlast] at h1; cases h1; cases h2
  · rw [hlast] at hl
    cases hl
    cases ha.symm.trans ha'
    cases hpr
    exact ⟨fp, hfp, by rw [hrs]; exact List.mem_append_right _ List.mem_cons_self⟩

/-- **one original operator resolved to the min/max algorithm**: its image in the output (`ParamsFwd.op_in_output`), and its
    requests as the result of the registered function `fn` under the statistics in force -/
theorem minmax_op_in_output (rx : String → String → Bool) (env : Env) (st : Recipe.State)
    (qsvs : Option Qsvs) (m' : Model) (tbl : List Param) (hnf : PipelineWF.NF env st)
    (h : quantizePure rx env st qsvs = .ok (m', tbl))
    (s : Nat) (sg sg' : Subgraph) (hsg : env.model.subgraphs[s]? = some sg) (hsg' : m'.subgraphs[s]? = some sg')
    (k : Nat) (op : Op) (hop : sg.ops[k]? = some op) (nm : String) (cfg : OpCfg)
    (hres : TypingE2E.ResolvesMinMax rx env st sg op nm cfg) (fn : String)
    (hfn : Py.dictGet? minmaxOps nm = some fn) :
    ∃ o' qs0 rs qs1, OpInOutput rx env st qsvs m' tbl s sg sg' k op o' qs0 rs qs1 ∧
      materializeOp env sg qs0 { sgIdx := s, op := op, opName := nm, opId := (k : Int), cfg := cfg } Tables.algMinMax fn =
        .ok (rs, qs1) := by
  obtain ⟨o', qs0, rs, qs1, M⟩ := op_in_output rx env st qsvs m' tbl hnf h s sg sg' hsg hsg' k op hop
  obtain ⟨fn', hfn', hmat⟩ := TypingE2E.opReqs_minmax rx env st s sg op k nm cfg hres qs0 qs1 rs M.reqs
  rw [hfn] at hfn'
  cases hfn'
  exact ⟨o', qs0, rs, qs1, M, hmat⟩

end ParamsOps
