import QProofs.EmulatedSpec
/-!
# The invariant of the non-raising tail of `Emulated.apply`
`Inv`: the state holds the operator list `pre ++ N ++ fc :: post` with `N` a `Chain` ending in the original result, distinct tensor
names, buffer indices `old ++ [B, B+1, B+2, B+3] ++ 0…0`.  `core` establishes it, `biasStep` and `reluStep` preserve it. -/
open Graph Perform Emulated GraphStep EmuSpec

namespace EmuInv

/-- the operands the inserted operators may read without producing them: real operands of the replaced
    operator, the weight, the four new constants -/
def Avl (fc : Op) (inp : TIn) (n0 : Nat) (t : Int) : Prop :=
  (t ∈ fc.inputs ∧ t ≠ -1) ∨ t = inp.tensor ∨ ∃ i : Nat, i < 4 ∧ t = ((n0 + i : Nat) : Int)

structure PlanOK (pl : Plan) (sg0 : Subgraph) (B : Nat) (pre post : List Op) (fc : Op) (y : Int) : Prop where
  ops : pl.sg.ops = pre ++ fc :: post
  k : pl.k = pre.length
  inputs : pl.sg.inputs = sg0.inputs
  outputs : pl.sg.outputs = sg0.outputs
  tbuf : pl.sg.tensors.map (·.buffer) = sg0.tensors.map (·.buffer) ++ [B, B + 1]
  nodup : (pl.sg.tensors.map (·.name)).Nodup
  blen : pl.bufs.length = B + 2
  scaleId : pl.scaleId = ((sg0.tensors.length : Nat) : Int)
  axesId : pl.axesId = ((sg0.tensors.length + 1 : Nat) : Int)
  outId : pl.io.outId = y
  inId : pl.io.inId ∈ fc.inputs ∧ pl.io.inId ≠ -1
  ciR : pl.ciReshape < pl.codes.length
  ciB : pl.ciBmm < pl.codes.length
  ciM : pl.ciMul < pl.codes.length
  ciS : pl.ciSum < pl.codes.length

theorem PlanOK.tlen {pl : Plan} {sg0 : Subgraph} {B : Nat} {pre post : List Op} {fc : Op} {y : Int}
    (hp : PlanOK pl sg0 B pre post fc y) : pl.sg.tensors.length = sg0.tensors.length + 2 := by
  have := congrArg List.length hp.tbuf
  simpa using this

structure Inv (pl : Plan) (sg0 : Subgraph) (B : Nat) (pre post : List Op) (fc : Op) (inp : TIn) (y : Int)
    (st : St) (N : List Op) : Prop where
  ops : st.sg.ops = pre ++ N ++ fc :: post
  added : st.added = N.length
  inputs : st.sg.inputs = sg0.inputs
  outputs : st.sg.outputs = sg0.outputs
  chain : Chain (Avl fc inp sg0.tensors.length) (sg0.tensors.length + 4) st.sg.tensors.length y N
  codes : ∀ o ∈ N, o.code < st.codes.length
  codesExt : ∃ ext, st.codes = pl.codes ++ ext
  nodup : (st.sg.tensors.map (·.name)).Nodup
  tbuf : ∃ j, 4 ≤ j ∧ st.sg.tensors.map (·.buffer) =
    sg0.tensors.map (·.buffer) ++ [B, B + 1, B + 2, B + 3] ++ List.replicate j 0
  orig : ∀ o ∈ N, o.orig = none

section InvAPI
variable {pl : Plan} {sg0 : Subgraph} {B : Nat} {pre post : List Op} {fc : Op} {inp : TIn} {y : Int} {st : St}
  {N : List Op}

theorem Inv.tlen (h : Inv pl sg0 B pre post fc inp y st N) : sg0.tensors.length + 8 ≤ st.sg.tensors.length := by
  obtain ⟨j, hj, hb⟩ := h.tbuf
  have := congrArg List.length hb
  simp at this
  omega

end InvAPI

/-- the five operators inserted by `core` -/
def N0 (inp : TIn) (pl : Plan) : List Op :=
  [ { code := pl.ciReshape, inputs := [pl.io.inId, ((pl.sg.tensors.length : Nat) : Int)],
      outputs := [((pl.sg.tensors.length + 2 : Nat) : Int)] },
    { code := pl.ciBmm, inputs := [((pl.sg.tensors.length + 2 : Nat) : Int), inp.tensor],
      outputs := [((pl.sg.tensors.length + 3 : Nat) : Int)] },
    { code := pl.ciMul, inputs := [((pl.sg.tensors.length + 3 : Nat) : Int), pl.scaleId],
      outputs := [((pl.sg.tensors.length + 4 : Nat) : Int)] },
    { code := pl.ciSum, inputs := [((pl.sg.tensors.length + 4 : Nat) : Int), pl.axesId],
      outputs := [((pl.sg.tensors.length + 5 : Nat) : Int)] },
    { code := pl.ciReshape, inputs := [((pl.sg.tensors.length + 5 : Nat) : Int), ((pl.sg.tensors.length + 1 : Nat) : Int)],
      outputs := [pl.io.outId] } ]

/-- the chain `core` inserts is built the way the tail of the function extends it: one operator producing `y`,
    then four times "retarget the last result to a new tensor, append an operator that reads it" -/
theorem chain0 (A : Int → Prop) (n : Nat) (y x w s a : Int) (c1 c2 c3 c4 : Nat)
    (hx : A x) (hw : A w) (hs : A s) (ha : A a) (hn : A ((n : Nat) : Int)) (hn1 : A ((n + 1 : Nat) : Int)) :
    Chain A (n + 2) (n + 6) y
      [ ({ code := c1, inputs := [x, ((n : Nat) : Int)], outputs := [((n + 2 : Nat) : Int)] } : Op),
        { code := c2, inputs := [((n + 2 : Nat) : Int), w], outputs := [((n + 3 : Nat) : Int)] },
        { code := c3, inputs := [((n + 3 : Nat) : Int), s], outputs := [((n + 4 : Nat) : Int)] },
        { code := c4, inputs := [((n + 4 : Nat) : Int), a], outputs := [((n + 5 : Nat) : Int)] },
        { code := c1, inputs := [((n + 5 : Nat) : Int), ((n + 1 : Nat) : Int)], outputs := [y] } ] := by
  have h := ((((Chain.single (n + 2) (op := { code := c1, inputs := [x, (n : Int)], outputs := [y] })
            (forall_mem_pair hx hn) rfl).extend
          { code := c2, inputs := [((n + 2 : Nat) : Int), w], outputs := [y] } (Nat.le_refl _)
          (forall_mem_pair (.inr rfl) (.inl hw)) rfl).extend
        { code := c3, inputs := [((n + 3 : Nat) : Int), s], outputs := [y] } (by omega)
        (forall_mem_pair (.inr rfl) (.inl hs)) rfl).extend
      { code := c4, inputs := [((n + 4 : Nat) : Int), a], outputs := [y] } (by omega)
      (forall_mem_pair (.inr rfl) (.inl ha)) rfl).extend
    { code := c1, inputs := [((n + 5 : Nat) : Int), ((n + 1 : Nat) : Int)], outputs := [y] } (by omega)
    (forall_mem_pair (.inr rfl) (.inl hn1)) rfl
  simpa [setLastOut, Nat.add_assoc] using h

theorem core_bufs (env : EmuEnv) (inp : TIn) (pl : Plan) :
    (core env inp pl).2 = pl.bufs ++ [some (.inl env.shape1Tok), some (.inl env.shape2Tok)] := by
  simp [core]

theorem core_ops (env : EmuEnv) (inp : TIn) (pl : Plan) (pre post : List Op) (fc : Op)
    (hops : pl.sg.ops = pre ++ fc :: post) (hk : pl.k = pre.length) :
    (core env inp pl).1.sg.ops = pre ++ N0 inp pl ++ fc :: post := by
  simp only [core, addAct_ops, addConst_ops, addAct_id, addConst_id, addAct_length, addConst_length, hops]
  rw [show pre ++ fc :: post = pre ++ ([] : List Op) ++ fc :: post by simp]
  rw [pyInsert_mid _ _ _ _ _ (by simp [hk])]
  rw [pyInsert_mid _ _ _ _ _ (by simp [hk])]
  rw [pyInsert_mid _ _ _ _ _ (by simp [hk])]
  rw [pyInsert_mid _ _ _ _ _ (by simp [hk])]
  rw [pyInsert_mid _ _ _ _ _ (by simp [hk])]
  simp [N0, Nat.add_assoc]

theorem core_inv (env : EmuEnv) (inp : TIn) (pl : Plan) (sg0 : Subgraph) (B : Nat) (pre post : List Op)
    (fc : Op) (y : Int) (hp : PlanOK pl sg0 B pre post fc y) :
    Inv pl sg0 B pre post fc inp y (core env inp pl).1 (N0 inp pl) := by
  have htl := hp.tlen
  refine ⟨core_ops env inp pl pre post fc hp.ops hp.k, rfl, hp.inputs, hp.outputs, ?_, ?_,
    ⟨[], (List.append_nil _).symm⟩, ?_, ?_, ?_⟩
  · have hlen : (core env inp pl).1.sg.tensors.length = (sg0.tensors.length + 2) + 6 := by
      simp [core, htl]
    rw [hlen]
    have := chain0 (Avl fc inp sg0.tensors.length) (sg0.tensors.length + 2) y pl.io.inId inp.tensor pl.scaleId
      pl.axesId pl.ciReshape pl.ciBmm pl.ciMul pl.ciSum (.inl hp.inId) (.inr (.inl rfl))
      (.inr (.inr ⟨0, by omega, by rw [hp.scaleId]; rfl⟩)) (.inr (.inr ⟨1, by omega, by rw [hp.axesId]⟩))
      (.inr (.inr ⟨2, by omega, rfl⟩)) (.inr (.inr ⟨3, by omega, rfl⟩))
    simpa [N0, htl, hp.outId, Nat.add_assoc] using this
  · intro o ho
    simp only [N0, List.mem_cons, List.not_mem_nil, or_false] at ho
    show o.code < pl.codes.length
    rcases ho with rfl | rfl | rfl | rfl | rfl
    · exact hp.ciR
    · exact hp.ciB
    · exact hp.ciM
    · exact hp.ciS
    · exact hp.ciR
  · simp only [core]
    exact addAct_nodup _ _ _ (addAct_nodup _ _ _ (addAct_nodup _ _ _ (addAct_nodup _ _ _
      (addConst_nodup _ _ _ _ _ _ (addConst_nodup _ _ _ _ _ _ hp.nodup)))))
  · refine ⟨4, Nat.le_refl _, ?_⟩
    simp [core, hp.tbuf, hp.blen, List.replicate]
  · intro o ho
    simp only [N0, List.mem_cons, List.not_mem_nil, or_false] at ho
    rcases ho with rfl | rfl | rfl | rfl | rfl <;> rfl

theorem mem_setLastOut (N : List Op) (i : Nat) (v : Int) (o : Op) (h : o ∈ setLastOut N i v) :
    ∃ o0 ∈ N, o.code = o0.code ∧ o.orig = o0.orig := by
  obtain ⟨j, hj⟩ := List.mem_iff_getElem?.1 h
  unfold setLastOut at hj
  rw [List.getElem?_modify] at hj
  cases hN : N[j]? with
  | none => rw [hN] at hj; simp at hj
  | some o0 =>
    rw [hN] at hj
    simp at hj
    refine ⟨o0, List.mem_of_getElem? hN, ?_, ?_⟩ <;>
    · rw [← hj]
      split <;> rfl

/-- the common step of the two branches: one new activation tensor (after an optional renaming that keeps
    buffers and distinctness), the last operator of the chain retargeted to it, one operator appended -/
theorem step_inv (pl : Plan) (sg0 : Subgraph) (B : Nat) (pre post : List Op) (fc : Op) (inp : TIn) (y : Int)
    (st : St) (N : List Op) (hk : pl.k = pre.length) (houtId : pl.io.outId = y)
    (h : Inv pl sg0 B pre post fc inp y st N)
    (T1 : List Tensor) (base : String) (shape : List Int) (code : Nat) (extra : List Int)
    (hT1len : T1.length = st.sg.tensors.length)
    (hT1buf : T1.map (·.buffer) = st.sg.tensors.map (·.buffer))
    (hT1nodup : (T1.map (·.name)).Nodup)
    (hextra : ∀ t ∈ extra, Avl fc inp sg0.tensors.length t) :
    ∃ N', Inv pl sg0 B pre post fc inp y
      { sg := { (addAct { st.sg with tensors := T1 } base shape).1 with
                ops := pyInsert (setLastOut (addAct { st.sg with tensors := T1 } base shape).1.ops
                          (pl.k + st.added - 1) (addAct { st.sg with tensors := T1 } base shape).2)
                        ((pl.k : Int) + st.added)
                        { code := (addOpCode st.codes code).2,
                          inputs := (addAct { st.sg with tensors := T1 } base shape).2 :: extra,
                          outputs := [pl.io.outId] } },
        codes := (addOpCode st.codes code).1, added := st.added + 1 } N' := by
  refine ⟨setLastOut N (N.length - 1) (st.sg.tensors.length : Int) ++
    [{ code := (addOpCode st.codes code).2, inputs := (st.sg.tensors.length : Int) :: extra,
       outputs := [pl.io.outId] }], ?_⟩
  have hc1 := GraphBasics.addOpCode_lt st.codes code
  have hc2 := GraphBasics.addOpCode_le st.codes code
  obtain ⟨ext, hext⟩ := (GraphBasics.addOpCode_spec st.codes code).2
  constructor
  · simp only [addAct_ops, addAct_id, hT1len]
    rw [h.ops, h.added, hk, setLastOut_mid _ _ _ _ h.chain.ne,
      pyInsert_mid _ _ _ _ _ (by simp [length_setLastOut])]
  · show st.added + 1 = _
    simp [length_setLastOut, h.added]
  · exact h.inputs
  · exact h.outputs
  · show Chain _ _ (T1 ++ [_]).length y _
    rw [List.length_append, hT1len]
    refine h.chain.extend _ (by have := h.tlen; omega) ?_ (by rw [houtId])
    intro t ht
    rcases List.mem_cons.1 ht with rfl | ht
    · exact .inr rfl
    · exact .inl (hextra t ht)
  · intro o ho
    show o.code < (addOpCode st.codes code).1.length
    rcases List.mem_append.1 ho with ho | ho
    · obtain ⟨o0, ho0, hco, _⟩ := mem_setLastOut _ _ _ _ ho
      rw [hco]
      exact Nat.lt_of_lt_of_le (h.codes o0 ho0) hc2
    · rw [List.mem_singleton] at ho
      subst ho
      exact hc1
  · obtain ⟨e0, he0⟩ := h.codesExt
    exact ⟨e0 ++ ext, by show (addOpCode st.codes code).1 = _; rw [hext, he0, List.append_assoc]⟩
  · exact nodup_snoc T1 _ base rfl hT1nodup
  · obtain ⟨j, hj, hb⟩ := h.tbuf
    refine ⟨j + 1, by omega, ?_⟩
    show (T1 ++ [_]).map (fun t : Tensor => t.buffer) = _
    rw [List.map_append, hT1buf, hb, List.replicate_succ', ← List.append_assoc]
    rfl
  · intro o ho
    rcases List.mem_append.1 ho with ho | ho
    · obtain ⟨o0, ho0, _, hor⟩ := mem_setLastOut _ _ _ _ ho
      rw [hor]
      exact h.orig o0 ho0
    · rw [List.mem_singleton] at ho
      subst ho
      rfl

def hasBias (fc : Op) : Bool := decide (fc.inputs.length > 2) && fc.inputs.getD 2 0 != -1

theorem bias_inv (pl : Plan) (sg0 : Subgraph) (B : Nat) (pre post : List Op) (fc : Op) (inp : TIn) (y : Int)
    (st : St) (N : List Op) (hk : pl.k = pre.length) (houtId : pl.io.outId = y)
    (h : Inv pl sg0 B pre post fc inp y st N) :
    ∃ N', Inv pl sg0 B pre post fc inp y (biasStep pl st) N' := by
  have hcur : (st.sg.ops[pl.k + st.added]?).getD default = fc := by
    rw [h.ops, h.added, hk, ← Nat.add_zero (_ + _), getElem?_splice_post]; rfl
  unfold biasStep
  simp only [hcur]
  by_cases hb : (decide (fc.inputs.length > 2) && fc.inputs.getD 2 0 != -1) = true
  · rw [if_pos hb]
    have := step_inv pl sg0 B pre post fc inp y st N hk houtId h st.sg.tensors
      (pl.io.outT.name ++ "_reshape_op2_output") pl.io.outT.shape opAdd [fc.inputs.getD 2 0] rfl rfl h.nodup (by
        intro t ht
        rw [List.mem_singleton] at ht
        subst ht
        simp only [Bool.and_eq_true, decide_eq_true_eq, bne_iff_ne, ne_eq] at hb
        refine .inl ⟨?_, hb.2⟩
        rw [List.getD_eq_getElem?_getD, List.getElem?_eq_getElem hb.1]
        simp)
    exact this
  · rw [if_neg hb]
    exact ⟨N, h⟩

theorem nodup_rename (T : List Tensor) (i : Nat) (nn : String)
    (h : (T.map (·.name)).Nodup) (hn : nn ∉ T.map (·.name)) :
    ((T.modify i (fun t => { t with name := nn })).map (·.name)).Nodup ∧
    ∀ x ∈ (T.modify i (fun t => { t with name := nn })).map (·.name), x = nn ∨ x ∈ T.map (·.name) := by
  induction T generalizing i with
  | nil => simp
  | cons t ts ih =>
    simp only [List.map_cons, List.nodup_cons, List.mem_cons, not_or] at h hn
    cases i with
    | zero =>
      simp only [List.modify_zero_cons, List.map_cons, List.nodup_cons, List.mem_cons]
      exact ⟨⟨hn.2, h.2⟩, fun x hx => by rcases hx with rfl | hx <;> simp [*]⟩
    | succ i =>
      obtain ⟨ih1, ih2⟩ := ih i h.2 hn.2
      simp only [List.modify_succ_cons, List.map_cons, List.nodup_cons, List.mem_cons]
      refine ⟨⟨?_, ih1⟩, ?_⟩
      · intro hmem
        rcases ih2 _ hmem with h1 | h1
        · exact hn.1 h1.symm
        · exact h.1 h1
      · intro x hx
        rcases hx with rfl | hx
        · exact .inr (.inl rfl)
        · rcases ih2 x hx with h1 | h1
          · exact .inl h1
          · exact .inr (.inr h1)

theorem map_buffer_rename (T : List Tensor) (i : Nat) (nn : String) :
    (T.modify i (fun t => { t with name := nn })).map (·.buffer) = T.map (·.buffer) := by
  induction T generalizing i with
  | nil => simp
  | cons t ts ih =>
    cases i with
    | zero => simp
    | succ i => simp [ih]

theorem relu_inv (pl : Plan) (sg0 : Subgraph) (B : Nat) (pre post : List Op) (fc : Op) (inp : TIn) (y : Int)
    (st : St) (N : List Op) (hk : pl.k = pre.length) (houtId : pl.io.outId = y)
    (h : Inv pl sg0 B pre post fc inp y st N) :
    ∃ N', Inv pl sg0 B pre post fc inp y (reluStep pl st) N' := by
  unfold reluStep
  by_cases hr : (pl.fused == actRelu) = true
  · rw [if_pos hr]
    have hfresh := GraphBasics.uniqueName_fresh (st.sg.tensors.map (·.name)) (pl.io.outT.name ++ "_relu")
    generalize uniqueName (st.sg.tensors.map (·.name)) (pl.io.outT.name ++ "_relu") = nn at hfresh ⊢
    exact step_inv pl sg0 B pre post fc inp y st N hk houtId h
      (st.sg.tensors.modify pl.io.outPos (fun t => { t with name := nn }))
      (nn ++ "_relu_input") pl.io.outT.shape opRelu []
      (by simp) (map_buffer_rename _ _ _) (nodup_rename _ _ _ h.nodup hfresh).1 (by simp)
  · rw [if_neg hr]
    exact ⟨N, h⟩

end EmuInv
