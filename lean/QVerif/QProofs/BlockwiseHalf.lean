import QProofs.NumericScalar
import QProofs.ArithRounded
/-!
# Symmetric quantization of one channel: every element of the channel's range is in the integer range
In float32 the rounded scale may be one ulp too small, so the extreme element may exceed `qmax · s` by a relative `2^-23`: far
less than half a step, where `ArithRounded.dq_q_near` gives the half-step law with the float32 slack of C17b. -/
open Arith ArithL RAux

set_option autoImplicit false

namespace BlockwiseL

theorem one_le_qmax (bits : Nat) (hb2 : 2 ≤ bits) : (1:Rat) ≤ ((qmax bits : Int) : Rat) := by
  have h : (1:Int) ≤ qmax bits := by
    have := two_le_pow_pred bits hb2
    unfold qmax; omega
  exact_mod_cast h

theorem sym_exact (bits : Nat) (hb2 : 2 ≤ bits) (hb : bits ≤ 53) (mn mx : Rat) (z : Int) (s : Rat)
    (h : zpScale1 .exact bits true mn mx = .ok (z, s)) :
    z = 0 ∧ s = maxR (maxR (absR mn) (absR mx)) (1/10000) / ((qmax bits : Int) : Rat) ∧ 0 < s ∧
    ∀ x, mn ≤ x → x ≤ mx → -(((qmax bits : Int) : Rat) * s) ≤ x ∧ x ≤ ((qmax bits : Int) : Rat) * s := by
  obtain ⟨rfl, rfl⟩ := zpScale1_sym_ok h
  have hQ : (0:Rat) < ((qmax bits : Int) : Rat) := lt_of_lt_of_le one_pos (one_le_qmax bits hb2)
  have hb0 : 0 < symBound .exact mn mx :=
    (Rounding.two_zpow_pos _).trans_le ((minBound_ge14 .exact (by decide)).trans (maxR_ge_right _ _))
  have hs : symScale .exact bits mn mx = symBound .exact mn mx / ((qmax bits : Int) : Rat) := by
    unfold symScale qmaxF; rw [if_pos hb]; rfl
  refine ⟨rfl, hs, hs ▸ div_pos hb0 hQ, fun x h1 h2 => ?_⟩
  rw [hs, mul_comm, div_mul_cancel₀ _ hQ.ne']
  exact abs_le.mp (abs_le_symBound .exact h1 h2)

theorem dq_q_sym_f32 (bits : Nat) (hb2 : 2 ≤ bits) (hb16 : bits ≤ 16) (mn mx x : Rat)
    (hmn : |mn| ≤ NumT.B) (hmx : |mx| ≤ NumT.B) (h1 : mn ≤ x) (h2 : x ≤ mx) (z : Int) (s : Rat)
    (h : zpScale1 .f32 bits true mn mx = .ok (z, s)) :
    z = 0 ∧ 0 < s ∧
    |dqVal true (storageBits bits) (storageBits bits) .f32
        (roundClip bits true (qSum .f32 .f32 (storageBits bits) x s 0)) 0 s - x|
      ≤ s * (1/2 + (2:Rat)^(bits + 3) * ArithRounded.u32) := by
  have h99 : NumT.B ≤ (2:Rat)^(99:Int) := NumT.pow_le_pow (by decide)
  obtain ⟨z1, z2, hs1, hs2, -⟩ := ConstCover.cover bits hb2 hb16 true mn mx z s h
    (hmn.trans h99) (hmx.trans h99)
  obtain ⟨rfl, rfl⟩ := zpScale1_sym_ok h
  have hs0 := (Rounding.two_zpow_pos _).trans_le hs1
  obtain ⟨x1, x2⟩ := abs_le.mp (ConstCover.sym_cover_f32 bits hb2 hb16 h1 h2)
  have hp1 := (pow_bounds bits hb2 hb16).1
  have eL : ((qmin bits + (if true then 1 else 0) - 0 : Int) : Rat) = -((qmax bits : Int) : Rat) := by
    rw [if_pos rfl, sub_zero, Int.cast_add, Int.cast_one, qmin_cast, qmax_cast]; ring
  -- half a step of slack and no more: `ε = 0`
  refine ⟨rfl, hs0, (ArithRounded.dq_q_near bits hb2 hb16 true _ (storageBits_le16 bits hb16) _ hs1 hs2 0 z1 z2
    0 le_rfl one_half_pos.le x ?_ ?_).trans (mul_le_mul_of_nonneg_left ?_ hs0.le)⟩
  · rw [eL]; linarith only [x1]
  · rw [sub_zero]; linarith only [x2]
  · rw [ArithRounded.pow_bits_add bits 3 (by omega), u32_num]
    linarith only [hp1]

end BlockwiseL
