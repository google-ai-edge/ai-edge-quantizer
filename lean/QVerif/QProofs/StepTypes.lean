import QProofs.GraphStep
/-!
# What one graph transformation produces
`runXf_exact`: the result of a successful registered transformation in closed form (`Exact`), uniformly in its kind (`insertQuant` /
`insertDequant` are one `insertOp`).  `runXf_ok` is `Exact` fed to `SgOK.splice`.  `GraphFrame`: what `GraphInv` needs of a step (`Frame`)
and the op-id map update (`shiftMap_get`).  The file opens with definitions that later files own by name (`GraphStep.InpOK`, `Wiring.retypes` /
`addsOp` / `fresh`, `GraphInv.runXf`, the `TypingE2E` closed forms of `Perform.dtypeOf`).
-/
open Graph Perform GraphBasics GraphStep

namespace GraphStep

/-- the transformation input is consistent with the graph (`producer = -1` for graph inputs / constants; data-carrying
    parameters only on tensors that already hold constant data) -/
structure InpOK (pt : PTable) (m : Model) (sg : Subgraph) (inp : TIn) : Prop where
  tvalid : WF.validT sg inp.tensor = true
  prodRange : -1 ≤ inp.producer ∧ inp.producer < sg.ops.length
  tavail : WF.avail m sg (inp.producer + 1).toNat inp.tensor = true
  consAfter : ∀ c ∈ inp.consumers, c < 0 ∨ (inp.producer < c ∧ c < sg.ops.length)
  dataConst : ∀ p pi, inp.param = some p → pinfo pt p = some pi → pi.hasData = true → isConst m sg inp.tensor = true

section
variable {pt : PTable} {m : Model} {sg : Subgraph} {inp : TIn}

theorem InpOK.valid (h : InpOK pt m sg inp) : ValidT sg inp.tensor := (validT_iff _ _).1 h.tvalid

theorem InpOK.tpos (h : InpOK pt m sg inp) : 0 ≤ inp.tensor := h.valid.1

theorem InpOK.tlt (h : InpOK pt m sg inp) : inp.tensor.toNat < sg.tensors.length := h.valid.lt

theorem InpOK.avail (h : InpOK pt m sg inp) : Avail m sg (inp.producer + 1).toNat inp.tensor :=
  (avail_iff _ _ _ _).1 h.tavail

theorem InpOK.consRange (h : InpOK pt m sg inp) : ∀ c ∈ inp.consumers, c < 0 ∨ c.toNat < sg.ops.length :=
  fun c hc => (h.consAfter c hc).imp_right fun hc => by have := h.prodRange; omega

theorem InpOK.dataConst_get (hinp : InpOK pt m sg inp) {p : PId} {pi : PInfo} {tn : Tensor}
    (hp : inp.param = some p) (hpi : pinfo pt p = some pi) (hd : pi.hasData = true)
    (hget : sg.tensors[inp.tensor.toNat]? = some tn) : constAt m.buffers tn.buffer = true := by
  rw [← isConst_of_get m sg inp.tensor tn hinp.tpos hget]
  exact hinp.dataConst p pi hp hpi hd
end

end GraphStep

namespace Wiring

/-- the transformation writes type / parameters into the record of ITS tensor -/
def retypes : Xf → Bool
  | .quantTensor => true
  | .addDequant => true
  | _ => false

/-- each inserted operator comes with one appended tensor -/
def addsOp : Xf → Bool
  | .addQuant => true
  | .addDequant => true
  | _ => false

/-- the float32 record appended for the new tensor (before it is possibly retyped) -/
def fresh (nm : String) (tn : Tensor) : Tensor :=
  { name := nm, dtype := Tables.ttFloat32, shape := tn.shape, buffer := 0 }

theorem addsOp_cases (x : Xf) (h : addsOp x = true) : x = .addQuant ∨ x = .addDequant := by
  cases x <;> simp [addsOp] at h ⊢

theorem addsOp_insertion (x : Xf) (h : addsOp x = true) : isInsertion x = true := by
  cases x <;> simp [addsOp] at h <;> rfl

theorem retypes_insertion (x : Xf) (h : retypes x = true) : isInsertion x = true := by
  cases x <;> simp [retypes] at h <;> rfl

end Wiring

namespace GraphInv

/-- the dispatch in `applySingle` (`_transformation_registration[...]`), named: `NO_QUANTIZE` is no key (KeyError),
    `EMULATED_SUBCHANNEL` is not modelled -/
def runXf (pt : PTable) (m : Model) (sgi : Nat) (x : Xf) (inp : TIn) : PyM (Model × TInfoOut) :=
  match x with
  | .addDequant => insertDequant pt m sgi inp
  | .quantTensor => quantizeOnly pt m sgi inp
  | .addQuant => insertQuant pt m sgi inp
  | .emulated => throw .unsupported
  | .noQuant => throw .keyError

end GraphInv

namespace TypingE2E

/-- `quant_params_to_tflite_type` where it succeeds (`b ≤ 64`) -/
def intOfBits (b : Nat) : Nat :=
  if b ≤ 4 then Tables.ttInt4 else if b ≤ 8 then Tables.ttInt8 else if b ≤ 16 then Tables.ttInt16
  else if b ≤ 32 then Tables.ttInt32 else Tables.ttInt64

theorem dtypeOf_uniform_eq (b : Nat) (d : Bool) :
    dtypeOf ⟨true, b, d⟩ = if b ≤ 64 then .ok (intOfBits b) else .error .valueError := by
  unfold dtypeOf intOfBits
  by_cases h : b ≤ 64
  · simp only [if_true, if_pos h, apply_ite (Except.ok (ε := PyErr))]
  · simp only [if_true, if_neg h, if_neg (show ¬ b ≤ 4 by omega), if_neg (show ¬ b ≤ 8 by omega),
      if_neg (show ¬ b ≤ 16 by omega), if_neg (show ¬ b ≤ 32 by omega)]

theorem dtypeOf_intOfBits (b : Nat) (d : Bool) (ty : Nat) (h : dtypeOf ⟨true, b, d⟩ = .ok ty) : ty = intOfBits b := by
  rw [dtypeOf_uniform_eq] at h
  split at h
  · cases h; rfl
  · cases h

def IsIntType (ty : Nat) : Prop :=
  ty = Tables.ttInt4 ∨ ty = Tables.ttInt8 ∨ ty = Tables.ttInt16 ∨ ty = Tables.ttInt32 ∨ ty = Tables.ttInt64

theorem isIntType_intOfBits (b : Nat) : IsIntType (intOfBits b) := by
  unfold intOfBits
  split
  · exact .inl rfl
  · split
    · exact .inr (.inl rfl)
    · split
      · exact .inr (.inr (.inl rfl))
      · split
        · exact .inr (.inr (.inr (.inl rfl)))
        · exact .inr (.inr (.inr (.inr rfl)))

theorem dtypeOf_uniform (pi : PInfo) (ty : Nat) (hu : pi.uniform = true) (h : dtypeOf pi = .ok ty) :
    IsIntType ty := by
  obtain ⟨u, b, d⟩ := pi
  cases hu
  rw [dtypeOf_intOfBits b d ty h]
  exact isIntType_intOfBits b

theorem dtypeOf_f16 (pi : PInfo) (ty : Nat) (hu : pi.uniform = false) (hb : pi.bits = 16)
    (h : dtypeOf pi = .ok ty) : ty = Tables.ttFloat16 := by
  unfold dtypeOf at h
  simp only [hu, Bool.false_eq_true, if_false, hb, if_true, Except.ok.injEq] at h
  exact h.symm

end TypingE2E

namespace StepTypes
open Wiring GraphInv

/-- the tensor record written by `quantize_tensor` for parameter `p` (of kind `pi`, type `ty`) -/
def retype (pi : PInfo) (p : PId) (ty : Nat) (tn : Tensor) : Tensor :=
  if pi.uniform then { tn with quant := some p, dtype := ty } else { tn with dtype := ty }

theorem retype_dtype (pi : PInfo) (p : PId) (ty : Nat) (tn : Tensor) : (retype pi p ty tn).dtype = ty := by
  unfold retype; split <;> rfl

theorem retype_quant (pi : PInfo) (p : PId) (ty : Nat) (tn : Tensor) :
    (retype pi p ty tn).quant = if pi.uniform then some p else tn.quant := by
  unfold retype; split <;> rfl

theorem retype_name (pi : PInfo) (p : PId) (ty : Nat) (tn : Tensor) : (retype pi p ty tn).name = tn.name := by
  unfold retype; split <;> rfl

theorem retype_shape (pi : PInfo) (p : PId) (ty : Nat) (tn : Tensor) : (retype pi p ty tn).shape = tn.shape := by
  unfold retype; split <;> rfl

theorem retype_buffer (pi : PInfo) (p : PId) (ty : Nat) (tn : Tensor) :
    (retype pi p ty tn).buffer = tn.buffer := by
  unfold retype; split <;> rfl

/-- the buffer table after `quantize_tensor` on a tensor with record `tn` -/
def newBufs (bufs : List BufContent) (tn : Tensor) (pi : PInfo) (p : PId) : List BufContent :=
  if tn.buffer ≠ 0 ∧ pi.hasData = true then bufs.set tn.buffer (some (.inr p)) else bufs

theorem newBufs_fresh (bufs : List BufContent) (nm : String) (tn : Tensor) (pi : PInfo) (p : PId) :
    newBufs bufs (fresh nm tn) pi p = bufs :=
  if_neg fun h => h.1 rfl

theorem newBufs_length (bufs : List BufContent) (tn : Tensor) (pi : PInfo) (p : PId) :
    (newBufs bufs tn pi p).length = bufs.length := by
  unfold newBufs
  split
  · exact List.length_set
  · rfl

theorem newBufs_spec (bufs : List BufContent) (tn : Tensor) (pi : PInfo) (p : PId)
    (h : tn.buffer ≠ 0 → pi.hasData = true → constAt bufs tn.buffer = true) :
    (newBufs bufs tn pi p)[0]? = bufs[0]? ∧ (newBufs bufs tn pi p).length = bufs.length ∧
    ∀ i, constAt (newBufs bufs tn pi p) i = constAt bufs i := by
  unfold newBufs
  split
  · rename_i hc
    exact ⟨by rw [List.getElem?_set, if_neg hc.1], List.length_set,
      fun i => constAt_set _ _ _ _ (h hc.1 hc.2)⟩
  · exact ⟨rfl, rfl, fun _ => rfl⟩

theorem writeBuf_ok_iff (bufs b : List BufContent) (tn : Tensor) (pi : PInfo) (p : PId) :
    (if (tn.buffer ≠ 0 && pi.hasData) = true then
        (if tn.buffer < bufs.length then pure (bufs.set tn.buffer (some (.inr p))) else throw .indexError)
      else pure bufs : PyM (List BufContent)) = .ok b ↔
    (tn.buffer ≠ 0 → pi.hasData = true → tn.buffer < bufs.length) ∧ b = newBufs bufs tn pi p := by
  unfold newBufs
  simp only [Bool.and_eq_true, decide_eq_true_eq]
  by_cases hc : tn.buffer ≠ 0 ∧ pi.hasData = true
  · rw [if_pos hc, if_pos hc]
    by_cases hlt : tn.buffer < bufs.length
    · rw [if_pos hlt, PyM.pure_eq_ok_iff]
      exact ⟨fun h => ⟨fun _ _ => hlt, h.symm⟩, fun h => h.2.symm⟩
    · rw [if_neg hlt]
      exact ⟨fun h => (by cases h), fun h => (hlt (h.1 hc.1 hc.2)).elim⟩
  · rw [if_neg hc, if_neg hc, PyM.pure_eq_ok_iff]
    exact ⟨fun h => ⟨fun h1 h2 => (hc ⟨h1, h2⟩).elim, h.symm⟩, fun h => h.2.symm⟩

theorem ite_bind_eq {α β} (c : Prop) [Decidable c] (x y : PyM α) (k : α → PyM β) :
    (if c then x >>= k else y >>= k) = (if c then x else y) >>= k := by
  split <;> rfl

theorem quantizeTensor_ok_iff {pt : PTable} {bufs : List BufContent} {sg : Subgraph} {t : Int}
    {param : Option PId} {r : List BufContent × Subgraph} :
    quantizeTensor pt bufs sg t param = .ok r ↔
      ∃ p pi ty tn, param = some p ∧ pinfo pt p = some pi ∧ dtypeOf pi = .ok ty ∧
        getTensor sg t = .ok tn ∧
        (tn.buffer ≠ 0 → pi.hasData = true → tn.buffer < bufs.length) ∧
        r = (newBufs bufs tn pi p, setTensor sg t (retype pi p ty tn)) := by
  unfold quantizeTensor
  rw [PyM.bind_eq_ok_iff]
  cases param with
  | none => exact ⟨fun ⟨_, _, h⟩ => (by cases h), fun ⟨_, _, _, _, h, _⟩ => (by cases h)⟩
  | some p =>
    dsimp only
    cases hpi : pinfo pt p with
    | none =>
      exact ⟨fun ⟨_, _, h⟩ => (by cases h),
        fun ⟨_, _, _, _, h, h', _⟩ => (by cases h; rw [hpi] at h'; cases h')⟩
    | some pi =>
      simp only [ite_bind_eq, PyM.bind_eq_ok_iff, PyM.pure_eq_ok_iff, writeBuf_ok_iff]
      constructor
      · rintro ⟨tn, htn, b, ⟨hlt, rfl⟩, ty, hty, rfl⟩
        exact ⟨p, pi, ty, tn, rfl, hpi, hty, htn, hlt, rfl⟩
      · rintro ⟨_, _, ty, tn, ⟨rfl⟩, hpi', hty, htn, hlt, rfl⟩
        cases hpi.symm.trans hpi'
        exact ⟨tn, htn, _, ⟨hlt, rfl⟩, ty, hty, rfl⟩

/-- the graph outputs after an insertion: rewired iff `-1` (graph output) is a listed consumer -/
def newOutputs (sg : Subgraph) (inp : TIn) : List Int :=
  if memI (-1) inp.consumers
  then sg.outputs.map (fun o => if o == inp.tensor then (sg.tensors.length : Int) else o)
  else sg.outputs

theorem mem_newOutputs {sg : Subgraph} {inp : TIn} {x : Int} (h : x ∈ newOutputs sg inp) :
    x ∈ sg.outputs ∨ x = (sg.tensors.length : Int) := by
  unfold newOutputs at h
  split at h
  · obtain ⟨o, ho, rfl⟩ := List.mem_map.1 h
    split
    · exact .inr rfl
    · exact .inl ho
  · exact .inl h

theorem wireNewOp_ok_iff {sg : Subgraph} {inp : TIn} {newT : Int} {op : Op} {r : Subgraph × TInfoOut} :
    wireNewOp sg inp newT op = .ok r ↔
      ∃ first, minCons inp.consumers = .ok first ∧
        (∀ c ∈ inp.consumers, c < 0 ∨ c.toNat < sg.ops.length) ∧
        r = ({ sg with
                ops := pyInsert (rewired inp.consumers inp.tensor newT sg.ops) (max (inp.producer + 1) first) op,
                outputs := if memI (-1) inp.consumers
                  then sg.outputs.map (fun o => if o == inp.tensor then newT else o) else sg.outputs },
             ⟨max (inp.producer + 1) first, 1, newT⟩) := by
  unfold wireNewOp
  simp only [PyM.bind_eq_ok_iff, PyM.pure_eq_ok_iff, rewire_ok_iff]
  constructor
  · rintro ⟨first, hf, ops2, ⟨hr, rfl⟩, rfl⟩
    exact ⟨first, hf, hr, rfl⟩
  · rintro ⟨first, hf, hr, rfl⟩
    exact ⟨first, hf, _, ⟨hr, rfl⟩, rfl⟩

theorem insertPos_spec {sg : Subgraph} {pt : PTable} {m : Model} {inp : TIn} {first : Int}
    (hinp : InpOK pt m sg inp) (hmin : minCons inp.consumers = .ok first) :
    0 ≤ max (inp.producer + 1) first ∧ max (inp.producer + 1) first ≤ sg.ops.length ∧
    inp.producer < max (inp.producer + 1) first ∧
    ∀ c ∈ inp.consumers, 0 ≤ c → max (inp.producer + 1) first ≤ c := by
  obtain ⟨hfm, hfle⟩ := GraphBasics.minCons_spec _ _ hmin
  have hpr := hinp.prodRange
  have hf := hinp.consAfter first hfm
  have hK : inp.producer + 1 ≤ max (inp.producer + 1) first ∧ max (inp.producer + 1) first ≤ sg.ops.length := by
    omega
  refine ⟨by omega, hK.2, by omega, fun c hc h0 => ?_⟩
  have h1 := hinp.consAfter c hc
  have h2 := hfle c hc
  omega

/-- `insertQuant` (`onNew = true`: the NEW tensor is retyped) and `insertDequant` (`onNew = false`:
    the tensor itself is retyped) on subgraph `sg = m.subgraphs[sgi]` -/
def insertOp (pt : PTable) (m : Model) (sgi : Nat) (sg : Subgraph) (inp : TIn) (code : Nat) (suffix : String)
    (onNew : Bool) : PyM (Model × TInfoOut) := do
  let tn ← getTensor sg inp.tensor
  let r ← quantizeTensor pt m.buffers
    { sg with tensors := sg.tensors ++ [fresh (uniqueName (sg.tensors.map (·.name)) (tn.name ++ suffix)) tn] }
    (if onNew then (sg.tensors.length : Int) else inp.tensor) inp.param
  let w ← wireNewOp r.2 inp (sg.tensors.length : Int)
    { code := (addOpCode m.opcodes code).2, inputs := [inp.tensor], outputs := [(sg.tensors.length : Int)] }
  pure ({ m with subgraphs := m.subgraphs.set sgi w.1, buffers := r.1, opcodes := (addOpCode m.opcodes code).1 }, w.2)

theorem insertQuant_eq {pt : PTable} {m : Model} {sgi : Nat} {sg : Subgraph} (inp : TIn)
    (hsg : m.subgraphs[sgi]? = some sg) :
    insertQuant pt m sgi inp = insertOp pt m sgi sg inp Tables.opQuantize "_quantized" true := by
  unfold insertQuant; rw [hsg]; rfl

theorem insertDequant_eq {pt : PTable} {m : Model} {sgi : Nat} {sg : Subgraph} (inp : TIn)
    (hsg : m.subgraphs[sgi]? = some sg) :
    insertDequant pt m sgi inp = insertOp pt m sgi sg inp Tables.opDequantize "_dequant" false := by
  unfold insertDequant; rw [hsg]; rfl

theorem insertOp_ok_iff {pt : PTable} {m : Model} {sgi : Nat} {sg : Subgraph} {inp : TIn} {code : Nat}
    {suffix : String} {onNew : Bool} {res : Model × TInfoOut} :
    insertOp pt m sgi sg inp code suffix onNew = .ok res ↔
      ∃ tn r w, getTensor sg inp.tensor = .ok tn ∧
        quantizeTensor pt m.buffers
          { sg with tensors := sg.tensors ++ [fresh (uniqueName (sg.tensors.map (·.name)) (tn.name ++ suffix)) tn] }
          (if onNew then (sg.tensors.length : Int) else inp.tensor) inp.param = .ok r ∧
        wireNewOp r.2 inp (sg.tensors.length : Int)
          { code := (addOpCode m.opcodes code).2, inputs := [inp.tensor],
            outputs := [(sg.tensors.length : Int)] } = .ok w ∧
        res = ({ m with subgraphs := m.subgraphs.set sgi w.1, buffers := r.1,
                        opcodes := (addOpCode m.opcodes code).1 }, w.2) := by
  unfold insertOp
  simp only [PyM.bind_eq_ok_iff, PyM.pure_eq_ok_iff]
  constructor
  · rintro ⟨tn, htn, r, hq, w, hw, rfl⟩
    exact ⟨tn, r, w, htn, hq, hw, rfl⟩
  · rintro ⟨tn, r, w, htn, hq, hw, rfl⟩
    exact ⟨tn, htn, r, hq, w, hw, rfl⟩

theorem quantizeOnly_eq {pt : PTable} {m : Model} {sgi : Nat} {sg : Subgraph} (inp : TIn)
    (hsg : m.subgraphs[sgi]? = some sg) :
    quantizeOnly pt m sgi inp =
      quantizeTensor pt m.buffers sg inp.tensor inp.param >>= fun q =>
        pure ({ m with subgraphs := m.subgraphs.set sgi q.2, buffers := q.1 }, ⟨0, 0, inp.tensor⟩) := by
  unfold quantizeOnly; rw [hsg]; rfl

theorem spliced_get (cons : List Int) (t n : Int) (ops : List Op) (k : Nat) (op : Op) (hk : k ≤ ops.length) :
    ((rewired cons t n ops).insertIdx k op).length = ops.length + 1 ∧
    ((rewired cons t n ops).insertIdx k op)[k]? = some op ∧
    ∀ (j : Nat) o, ops[j]? = some o →
      ((rewired cons t n ops).insertIdx k op)[if j < k then j else j + 1]? =
        some (if (j : Int) ∈ cons then rew t n o else o) := by
  have hl := rewired_length cons t n ops
  refine ⟨by rw [List.length_insertIdx_of_le_length (by omega), hl],
    by rw [List.getElem?_insertIdx_self, if_pos (by omega)], fun j o hj => ?_⟩
  have h2 : (rewired cons t n ops)[j]? = some (if (j : Int) ∈ cons then rew t n o else o) := by
    rw [rewired_get, hj]; rfl
  by_cases hlt : j < k
  · rw [if_pos hlt, List.getElem?_insertIdx_of_lt hlt]; exact h2
  · rw [if_neg hlt, List.getElem?_insertIdx_of_gt (by omega)]; exact h2

/-- where the operator at position `a` sits once `added` operators have been inserted at `opId` -/
def shift (opId : Int) (added : Nat) (a : Int) : Int := if a ≥ opId then a + (added : Int) else a

theorem shift_zero (opId a : Int) : shift opId 0 a = a := by
  unfold shift; split
  · exact Int.add_zero a
  · rfl

theorem shift_lt (opId : Int) (added : Nat) {a b : Int} (h : a < b) : shift opId added a < shift opId added b := by
  unfold shift
  split <;> split <;> omega

theorem le_shift (opId : Int) (added : Nat) (a : Int) : a ≤ shift opId added a := by
  unfold shift
  split <;> omega

/-- on positions of a list: the index `List.insertIdx` gives the old element `j` -/
theorem shift_one_toNat (opId : Int) (j : Nat) :
    (shift opId 1 (j : Int)).toNat = if (j : Int) < opId then j else j + 1 := by
  unfold shift
  by_cases h : (j : Int) < opId
  · rw [if_pos h, if_neg (by omega), Int.toNat_natCast]
  · rw [if_neg h, if_pos (by omega)]; omega

/-- closed form of a successful `runXf`; one statement for the three kinds, `retypes` / `addsOp` select the branches -/
structure Exact (pt : PTable) (m : Model) (sgi : Nat) (sg : Subgraph) (x : Xf) (inp : TIn)
    (m' : Model) (info : TInfoOut) (p : PId) (pi : PInfo) (ty : Nat) (tn : Tensor) (sg' : Subgraph) : Prop where
  param : inp.param = some p
  pinfo : pinfo pt p = some pi
  dtype : dtypeOf pi = .ok ty
  get : sg.tensors[inp.tensor.toNat]? = some tn
  subs : m'.subgraphs = m.subgraphs.set sgi sg'
  sigs : m'.sigs = m.sigs
  bufs : m'.buffers = if retypes x then newBufs m.buffers tn pi p else m.buffers
  codes : m'.opcodes =
    if addsOp x then (addOpCode m.opcodes (if x = .addQuant then Tables.opQuantize else Tables.opDequantize)).1
    else m.opcodes
  tensors : sg'.tensors =
    (if retypes x then sg.tensors.set inp.tensor.toNat (retype pi p ty tn) else sg.tensors) ++
    (if addsOp x then
      [if x = .addQuant
       then retype pi p ty (fresh (uniqueName (sg.tensors.map (·.name)) (tn.name ++ "_quantized")) tn)
       else fresh (uniqueName (sg.tensors.map (·.name)) (tn.name ++ "_dequant")) tn]
     else [])
  ops : sg'.ops =
    if addsOp x then
      (rewired inp.consumers inp.tensor (sg.tensors.length : Int) sg.ops).insertIdx info.opId.toNat
        { code := (addOpCode m.opcodes (if x = .addQuant then Tables.opQuantize else Tables.opDequantize)).2,
          inputs := [inp.tensor], outputs := [(sg.tensors.length : Int)] }
    else sg.ops
  inputs : sg'.inputs = sg.inputs
  outputs : sg'.outputs = if addsOp x then newOutputs sg inp else sg.outputs
  added : info.added = if addsOp x then 1 else 0
  outTensor : info.outTensor = if addsOp x then (sg.tensors.length : Int) else inp.tensor
  opId : 0 ≤ info.opId ∧ info.opId ≤ sg.ops.length ∧ (addsOp x = false → info.opId = 0)
  afterProd : addsOp x = true → inp.producer < info.opId
  beforeCons : addsOp x = true → ∀ c ∈ inp.consumers, 0 ≤ c → info.opId ≤ c

theorem quantizeOnly_ok_iff {pt : PTable} {m : Model} {sgi : Nat} {sg : Subgraph} {inp : TIn}
    {r : Model × TInfoOut} (hsg : m.subgraphs[sgi]? = some sg) (h0 : 0 ≤ inp.tensor) :
    quantizeOnly pt m sgi inp = .ok r ↔
      ∃ p pi ty tn, inp.param = some p ∧ pinfo pt p = some pi ∧ dtypeOf pi = .ok ty ∧
        sg.tensors[inp.tensor.toNat]? = some tn ∧
        (tn.buffer ≠ 0 → pi.hasData = true → tn.buffer < m.buffers.length) ∧
        r = ({ m with
                subgraphs := m.subgraphs.set sgi
                  { sg with tensors := sg.tensors.set inp.tensor.toNat (retype pi p ty tn) },
                buffers := newBufs m.buffers tn pi p }, ⟨0, 0, inp.tensor⟩) := by
  rw [quantizeOnly_eq inp hsg]
  simp only [PyM.bind_eq_ok_iff, PyM.pure_eq_ok_iff, quantizeTensor_ok_iff,
    getTensor_ok_iff h0, setTensor_nonneg _ _ h0]
  constructor
  · rintro ⟨_, ⟨p, pi, ty, tn, hp, hpi, hty, hget, hlt, rfl⟩, rfl⟩
    exact ⟨p, pi, ty, tn, hp, hpi, hty, hget, hlt, rfl⟩
  · rintro ⟨p, pi, ty, tn, hp, hpi, hty, hget, hlt, rfl⟩
    exact ⟨_, ⟨p, pi, ty, tn, hp, hpi, hty, hget, hlt, rfl⟩, rfl⟩

theorem insertOp_exact {pt : PTable} {m m' : Model} {sgi : Nat} {sg : Subgraph} {inp : TIn} {x : Xf}
    {code : Nat} {suffix : String} {onNew : Bool} {info : TInfoOut}
    (hx : (x = .addQuant ∧ code = Tables.opQuantize ∧ suffix = "_quantized" ∧ onNew = true) ∨
          (x = .addDequant ∧ code = Tables.opDequantize ∧ suffix = "_dequant" ∧ onNew = false))
    (hinp : InpOK pt m sg inp) (h : insertOp pt m sgi sg inp code suffix onNew = .ok (m', info)) :
    ∃ p pi ty tn sg', Exact pt m sgi sg x inp m' info p pi ty tn sg' := by
  obtain ⟨tn, r, w, htn, hq, hw, h⟩ := insertOp_ok_iff.1 h
  obtain ⟨rfl, rfl⟩ := Prod.mk.inj h
  have hget := (getTensor_ok_iff hinp.tpos).1 htn
  have hlt := hinp.tlt
  obtain ⟨p, pi, ty, tq, hp, hpi, hty, htq, -, rfl⟩ := quantizeTensor_ok_iff.1 hq
  obtain ⟨first, hmin, -, rfl⟩ := wireNewOp_ok_iff.1 hw
  obtain ⟨k0, k1, k2, k3⟩ := insertPos_spec hinp hmin
  have h0 : (0 : Int) ≤ (sg.tensors.length : Int) := Int.natCast_nonneg _
  rw [GraphBasics.pyInsert_eq _ _ _ k0 (by rw [rewired_length]; exact Int.toNat_le.2 k1)]
  rcases hx with ⟨rfl, rfl, rfl, rfl⟩ | ⟨rfl, rfl, rfl, rfl⟩
  · -- ADD_QUANTIZE retypes the new tensor, whose buffer is 0
    rw [if_pos rfl, getTensor_ok_iff h0, Int.toNat_natCast, List.getElem?_concat_length] at htq
    cases htq
    rw [if_pos rfl, setTensor_nonneg _ _ h0, Int.toNat_natCast, List.set_append_right _ _ (Nat.le_refl _),
      Nat.sub_self, List.set_cons_zero, newBufs_fresh]
    -- `Exact` field by field: after the rewrites the list equations are `rfl`; left are the tensor list `?_` and the
    -- position facts `k0 … k3`
    refine ⟨p, pi, ty, tn, _, hp, hpi, hty, hget, rfl, rfl, rfl, rfl, ?_, rfl, rfl, rfl, rfl, rfl,
      ⟨k0, k1, nofun⟩, fun _ => k2, fun _ => k3⟩
    rw [if_neg (show ¬ retypes Xf.addQuant = true from Bool.false_ne_true),
      if_pos (show addsOp Xf.addQuant = true from rfl), if_pos rfl]
  · -- ADD_DEQUANTIZE retypes the tensor itself
    rw [if_neg Bool.false_ne_true, getTensor_ok_iff hinp.tpos, List.getElem?_append_left hlt, hget] at htq
    cases htq
    rw [if_neg Bool.false_ne_true, setTensor_nonneg _ _ hinp.tpos, List.set_append_left _ _ hlt]
    refine ⟨p, pi, ty, tn, _, hp, hpi, hty, hget, rfl, rfl, rfl, rfl, ?_, rfl, rfl, rfl, rfl, rfl,
      ⟨k0, k1, nofun⟩, fun _ => k2, fun _ => k3⟩
    rw [if_pos (show retypes Xf.addDequant = true from rfl),
      if_pos (show addsOp Xf.addDequant = true from rfl),
      if_neg (show ¬ Xf.addDequant = Xf.addQuant from nofun)]

theorem runXf_exact {pt : PTable} {m m' : Model} {sgi : Nat} {sg : Subgraph} {x : Xf} {inp : TIn}
    {info : TInfoOut} (hsg : m.subgraphs[sgi]? = some sg) (hinp : InpOK pt m sg inp)
    (h : runXf pt m sgi x inp = .ok (m', info)) :
    ∃ p pi ty tn sg', Exact pt m sgi sg x inp m' info p pi ty tn sg' := by
  cases x with
  | noQuant => cases h
  | emulated => cases h
  | quantTensor =>
    obtain ⟨p, pi, ty, tn, hp, hpi, hty, hget, -, hr⟩ := (quantizeOnly_ok_iff hsg hinp.tpos).1 h
    obtain ⟨rfl, rfl⟩ := Prod.mk.inj hr
    exact ⟨p, pi, ty, tn, _, hp, hpi, hty, hget, rfl, rfl, rfl, rfl,
      (List.append_nil _).symm, rfl, rfl, rfl, rfl, rfl, ⟨Int.le_refl _, Int.natCast_nonneg _, fun _ => rfl⟩,
      nofun, nofun⟩
  | addQuant =>
    exact insertOp_exact (.inl ⟨rfl, rfl, rfl, rfl⟩) hinp ((insertQuant_eq inp hsg).symm.trans h)
  | addDequant =>
    exact insertOp_exact (.inr ⟨rfl, rfl, rfl, rfl⟩) hinp ((insertDequant_eq inp hsg).symm.trans h)

section
variable {pt : PTable} {m m' : Model} {sgi : Nat} {sg sg' : Subgraph} {x : Xf} {inp : TIn}
  {info : TInfoOut} {p : PId} {pi : PInfo} {ty : Nat} {tn : Tensor}

theorem Exact.sub (E : Exact pt m sgi sg x inp m' info p pi ty tn sg') (hsg : m.subgraphs[sgi]? = some sg) :
    m'.subgraphs[sgi]? = some sg' := by
  rw [E.subs, List.getElem?_set_self (List.getElem?_eq_some_iff.1 hsg).1]

theorem Exact.map_tensors {β} (E : Exact pt m sgi sg x inp m' info p pi ty tn sg') (f : Tensor → β)
    (hf : ∀ t, f (retype pi p ty t) = f t) :
    sg'.tensors.map f = sg.tensors.map f ++
      (if addsOp x then
        [f (fresh (uniqueName (sg.tensors.map (·.name))
              (tn.name ++ if x = .addQuant then "_quantized" else "_dequant")) tn)]
       else []) := by
  rw [E.tensors, List.map_append]
  congr 1
  · split
    · exact map_set_same f _ _ _ _ E.get (hf tn)
    · rfl
  · split
    · by_cases hq : x = .addQuant
      · simp only [hq, if_true, List.map_cons, List.map_nil, hf]
      · simp only [hq, if_false, List.map_cons, List.map_nil]
    · rfl

theorem Exact.tensors_addQuant (E : Exact pt m sgi sg .addQuant inp m' info p pi ty tn sg') :
    sg'.tensors = sg.tensors ++
      [retype pi p ty (fresh (uniqueName (sg.tensors.map (·.name)) (tn.name ++ "_quantized")) tn)] := by
  have := E.tensors
  rwa [if_neg (show ¬ retypes Xf.addQuant = true from Bool.false_ne_true),
    if_pos (show addsOp Xf.addQuant = true from rfl), if_pos rfl] at this

theorem Exact.tensors_addDequant (E : Exact pt m sgi sg .addDequant inp m' info p pi ty tn sg') :
    sg'.tensors = sg.tensors.set inp.tensor.toNat (retype pi p ty tn) ++
      [fresh (uniqueName (sg.tensors.map (·.name)) (tn.name ++ "_dequant")) tn] := by
  have := E.tensors
  rwa [if_pos (show retypes Xf.addDequant = true from rfl),
    if_pos (show addsOp Xf.addDequant = true from rfl),
    if_neg (show ¬ Xf.addDequant = Xf.addQuant from nofun)] at this

theorem Exact.tlen (E : Exact pt m sgi sg x inp m' info p pi ty tn sg') :
    sg'.tensors.length = sg.tensors.length + if addsOp x then 1 else 0 := by
  have := congrArg List.length (E.map_tensors (·.name) (retype_name pi p ty))
  rw [List.length_map, List.length_append, List.length_map] at this
  rw [this]
  split <;> rfl

theorem Exact.bufs_spec (E : Exact pt m sgi sg x inp m' info p pi ty tn sg') (hinp : InpOK pt m sg inp) :
    m'.buffers[0]? = m.buffers[0]? ∧ m'.buffers.length = m.buffers.length ∧
    ∀ i, constAt m'.buffers i = constAt m.buffers i := by
  rw [E.bufs]
  split
  · exact newBufs_spec _ _ _ _ fun _ hd => hinp.dataConst_get E.param E.pinfo hd E.get
  · exact ⟨rfl, rfl, fun _ => rfl⟩

theorem Exact.codes_le (E : Exact pt m sgi sg x inp m' info p pi ty tn sg') :
    m.opcodes.length ≤ m'.opcodes.length := by
  rw [E.codes]
  split
  · exact addOpCode_le _ _
  · exact Nat.le_refl _

theorem Exact.ops_get (E : Exact pt m sgi sg x inp m' info p pi ty tn sg') {j : Nat} {o : Op}
    (hj : sg.ops[j]? = some o) :
    sg'.ops[(shift info.opId info.added (j : Int)).toNat]? =
      some (if addsOp x = true ∧ (j : Int) ∈ inp.consumers
            then rew inp.tensor (sg.tensors.length : Int) o else o) := by
  rw [E.ops, E.added]
  by_cases ha : addsOp x = true
  · have h := (spliced_get inp.consumers inp.tensor (sg.tensors.length : Int) sg.ops info.opId.toNat
      { code := (addOpCode m.opcodes (if x = .addQuant then Tables.opQuantize else Tables.opDequantize)).2,
        inputs := [inp.tensor], outputs := [(sg.tensors.length : Int)] } (Int.toNat_le.2 E.opId.2.1)).2.2 j o hj
    have h0 := E.opId.1
    have hidx : (if (j : Int) < info.opId then j else j + 1) = if j < info.opId.toNat then j else j + 1 := by
      by_cases hlt : (j : Int) < info.opId
      · rw [if_pos hlt, if_pos (by omega)]
      · rw [if_neg hlt, if_neg (by omega)]
    simp only [ha, if_true, true_and]
    rw [shift_one_toNat, hidx]
    exact h
  · simp only [ha, Bool.false_eq_true, if_false, false_and, shift_zero, Int.toNat_natCast]
    exact hj
end

theorem runXf_ok {pt : PTable} {m m' : Model} {sgi : Nat} {sg : Subgraph} {x : Xf} {inp : TIn}
    {info : TInfoOut} (hsg : m.subgraphs[sgi]? = some sg) (hwf : WF.modelOK m = true)
    (hinp : InpOK pt m sg inp) (h : runXf pt m sgi x inp = .ok (m', info)) : WF.modelOK m' = true := by
  obtain ⟨p, pi, ty, tn, sg', E⟩ := runXf_exact hsg hinp h
  obtain ⟨hb0, hsgs, -⟩ := (modelOK_iff m).1 hwf
  have hok : SgOK m sg := hsgs sg (List.mem_of_getElem? hsg)
  obtain ⟨hB0, hBl, hBc⟩ := E.bufs_spec hinp
  have hnames := E.map_tensors (·.name) (retype_name pi p ty)
  have hbufs := E.map_tensors (·.buffer) (retype_buffer pi p ty)
  have hlen := E.tlen
  refine modelOK_of_step m m' sgi sg sg' hsg hwf E.subs E.sigs hB0 hBl hBc E.codes_le (by omega) ?_
  by_cases ha : addsOp x = true
  · simp only [ha, if_true] at hnames hbufs hlen
    obtain ⟨k0, k1, -⟩ := E.opId
    have h0lt : 0 < m'.buffers.length := hBl ▸ (List.getElem?_eq_some_iff.1 hb0).1
    obtain ⟨-, hbufr, hcold, hcnew⟩ := appended_tensors hbufs hok.bufr (Nat.le_of_eq hBl.symm) (fun i _ => hBc i)
      (fun b hb => List.mem_singleton.1 hb ▸ h0lt)
    refine hok.splice (cons := inp.consumers) (t := inp.tensor) (k := info.opId.toNat) hlen ?_ hbufr hcold ?_
      E.codes_le ?_ rfl rfl hinp.valid
      (avail_mono _ _ _ _ _ (by have := E.afterProd ha; omega) hinp.avail) (by omega)
      (fun c hc h0 => by have := E.beforeCons ha c hc h0; omega)
      (by rw [E.ops, if_pos ha]) E.inputs
      (fun y hy => mem_newOutputs (by rwa [E.outputs, if_pos ha] at hy))
    · rw [hnames, List.nodup_append]
      refine ⟨hok.names, List.nodup_cons.2 ⟨List.not_mem_nil, List.nodup_nil⟩, fun a ha' b hb hab => ?_⟩
      rw [hab, List.mem_singleton.1 hb] at ha'
      exact GraphBasics.uniqueName_fresh _ _ ha'
    · -- the appended tensor lies over buffer 0, which holds no data
      rw [← Nat.add_zero sg.tensors.length, hcnew 0 0 rfl, hBc]
      unfold constAt
      rw [hb0]
    · rw [E.codes, if_pos ha]
      exact addOpCode_lt _ _
  · simp only [ha, Bool.false_eq_true, if_false, List.append_nil] at hnames hbufs
    exact hok.congr hBl hBc E.codes_le hnames hbufs (by rw [E.ops, if_neg ha]) E.inputs
      (by rw [E.outputs, if_neg ha])

/-- `Exact` for the parameter, kind and type one already knows, and the subgraph one already has -/
theorem runXf_exact' {pt : PTable} {m m' : Model} {sgi : Nat} {sg sg' : Subgraph} {x : Xf} {inp : TIn}
    {info : TInfoOut} {p : PId} {pi : PInfo} {ty : Nat}
    (hsg : m.subgraphs[sgi]? = some sg) (hsg' : m'.subgraphs[sgi]? = some sg') (hinp : InpOK pt m sg inp)
    (hp : inp.param = some p) (hpi : pinfo pt p = some pi) (hty : dtypeOf pi = .ok ty)
    (h : runXf pt m sgi x inp = .ok (m', info)) : ∃ tn, Exact pt m sgi sg x inp m' info p pi ty tn sg' := by
  obtain ⟨p', pi', ty', tn, sg'', E⟩ := runXf_exact hsg hinp h
  cases hp.symm.trans E.param
  cases hpi.symm.trans E.pinfo
  cases hty.symm.trans E.dtype
  cases hsg'.symm.trans (E.sub hsg)
  exact ⟨tn, E⟩

/-- what a successful step does around subgraph `k` without `InpOK` (cf. `Exact`, which needs it) -/
structure StepOut (m m' : Model) (k : Nat) (sg' : Subgraph) : Prop where
  lt : k < m.subgraphs.length
  subs : m'.subgraphs = m.subgraphs.set k sg'
  sigs : m'.sigs = m.sigs
  bufs : m'.buffers.length = m.buffers.length
  codes : ∃ e, m'.opcodes = m.opcodes ++ e

theorem quantizeTensor_bufs {pt : PTable} {bufs : List BufContent} {sg : Subgraph} {t : Int}
    {param : Option PId} {r : List BufContent × Subgraph} (h : quantizeTensor pt bufs sg t param = .ok r) :
    r.1.length = bufs.length := by
  obtain ⟨p, pi, ty, tn, -, -, -, -, -, rfl⟩ := quantizeTensor_ok_iff.1 h
  exact newBufs_length ..

theorem runXf_out {pt : PTable} {m m' : Model} {k : Nat} {sg : Subgraph} {x : Xf} {inp : TIn}
    {info : TInfoOut} (hsg : m.subgraphs[k]? = some sg) (h : runXf pt m k x inp = .ok (m', info)) :
    ∃ sg', StepOut m m' k sg' := by
  have hlt : k < m.subgraphs.length := (List.getElem?_eq_some_iff.1 hsg).1
  have ins : ∀ {code : Nat} {suffix : String} {onNew : Bool},
      insertOp pt m k sg inp code suffix onNew = .ok (m', info) → ∃ sg', StepOut m m' k sg' := fun h' => by
    obtain ⟨tn, r, w, -, hq, -, h'⟩ := insertOp_ok_iff.1 h'
    obtain ⟨rfl, rfl⟩ := Prod.mk.inj h'
    exact ⟨w.1, hlt, rfl, rfl, quantizeTensor_bufs hq, (addOpCode_spec m.opcodes _).2⟩
  cases x with
  | noQuant => cases h
  | emulated => cases h
  | addQuant => exact ins ((insertQuant_eq inp hsg).symm.trans h)
  | addDequant => exact ins ((insertDequant_eq inp hsg).symm.trans h)
  | quantTensor =>
    obtain ⟨q, hq, h'⟩ := PyM.bind_eq_ok_iff.1 ((quantizeOnly_eq inp hsg).symm.trans h)
    obtain ⟨rfl, rfl⟩ := Prod.mk.inj (PyM.pure_eq_ok_iff.1 h')
    exact ⟨q.2, hlt, rfl, rfl, quantizeTensor_bufs hq, [], (List.append_nil _).symm⟩

end StepTypes

namespace GraphFrame

/-- the map update computed at the end of `applySingle` -/
def shiftMap (om : List Int) (opId : Int) (added : Nat) : List Int :=
  let first := (om.findIdx? (fun cur => decide (cur ≥ opId))).getD om.length
  om.zipIdx.map fun (p : Int × Nat) => if p.2 ≥ first then p.1 + (added : Int) else p.1

def Mono (om : List Int) : Prop :=
  ∀ (i j : Nat) (a b : Int), i < j → om[i]? = some a → om[j]? = some b → a < b

theorem shiftMap_length (om : List Int) (opId : Int) (added : Nat) :
    (shiftMap om opId added).length = om.length := by
  simp [shiftMap]

/-- because the map is increasing, "index at or after the first entry `≥ opId`" is the same as
    "entry `≥ opId`" -/
theorem shiftMap_get (om : List Int) (opId : Int) (added : Nat) (hm : Mono om) (j : Nat) (a : Int)
    (h : om[j]? = some a) :
    (shiftMap om opId added)[j]? = some (StepTypes.shift opId added a) := by
  have hjl : j < om.length := (List.getElem?_eq_some_iff.1 h).1
  unfold shiftMap StepTypes.shift
  simp only [List.getElem?_map, List.getElem?_zipIdx, h, Option.map_some, Nat.zero_add]
  congr 1
  cases hf : om.findIdx? (fun cur => decide (cur ≥ opId)) with
  | none =>
    have hall := List.findIdx?_eq_none_iff.1 hf a (List.mem_of_getElem? h)
    simp only [decide_eq_false_iff_not] at hall
    simp only [Option.getD_none]
    rw [if_neg (by omega), if_neg hall]
  | some i =>
    obtain ⟨hi, hp, hlt⟩ := List.findIdx?_eq_some_iff_getElem.1 hf
    simp only [decide_eq_true_eq] at hp
    simp only [Option.getD_some]
    by_cases hji : j ≥ i
    · rw [if_pos hji]
      have : a ≥ opId := by
        by_cases heq : i = j
        · subst heq
          have : om[i]? = some om[i] := List.getElem?_eq_getElem hi
          rw [h] at this; cases this; exact hp
        · have := hm i j om[i] a (by omega) (List.getElem?_eq_getElem hi) h
          omega
      rw [if_pos this]
    · rw [if_neg hji]
      have := hlt j (by omega)
      simp only [decide_eq_true_eq] at this
      have hja : om[j] = a := by
        have : om[j]? = some om[j] := List.getElem?_eq_getElem hjl
        rw [h] at this; cases this; rfl
      rw [hja] at this
      rw [if_neg this]

/-- only `outputs` is kept: the inputs of listed consumers are rewired -/
def OpsShift (ops ops' : List Op) (info : TInfoOut) : Prop :=
  (info.added = 0 ∧ ops' = ops) ∨
  (info.added = 1 ∧ 0 ≤ info.opId ∧ ops'.length = ops.length + 1 ∧
    ∀ (j : Nat) o, ops[j]? = some o →
      ∃ o', ops'[if (j : Int) < info.opId then j else j + 1]? = some o' ∧ o'.outputs = o.outputs)

/-- what `GraphInv.SgInv` needs of a step -/
structure Frame (m m' : Model) (sgi : Nat) (sg sg' : Subgraph) (info : TInfoOut) : Prop where
  subs : m'.subgraphs = m.subgraphs.set sgi sg'
  sigs : m'.sigs = m.sigs
  cst : ∀ i, constAt m'.buffers i = constAt m.buffers i
  inputs : sg'.inputs = sg.inputs
  tlen : sg.tensors.length ≤ sg'.tensors.length
  tbuf : ∀ i, i < sg.tensors.length → (sg'.tensors[i]?).map (·.buffer) = (sg.tensors[i]?).map (·.buffer)
  ops : OpsShift sg.ops sg'.ops info

open StepTypes Wiring GraphInv in
theorem _root_.StepTypes.Exact.frame {pt : PTable} {m m' : Model} {sgi : Nat} {sg sg' : Subgraph} {x : Xf} {inp : TIn}
    {info : TInfoOut} {p : PId} {pi : PInfo} {ty : Nat} {tn : Tensor}
    (E : Exact pt m sgi sg x inp m' info p pi ty tn sg') (hinp : InpOK pt m sg inp) :
    Frame m m' sgi sg sg' info := by
  refine ⟨E.subs, E.sigs, (E.bufs_spec hinp).2.2, E.inputs, by rw [E.tlen]; omega, fun i hi => ?_, ?_⟩
  · rw [← List.getElem?_map, E.map_tensors (·.buffer) (retype_buffer pi p ty),
      List.getElem?_append_left (by rwa [List.length_map]), List.getElem?_map]
  · by_cases ha : addsOp x = true
    · obtain ⟨k0, k1, -⟩ := E.opId
      refine .inr ⟨by rw [E.added, if_pos ha], k0, ?_, fun j o hj => ?_⟩
      · rw [E.ops, if_pos ha, (spliced_get _ _ _ _ _ _ (Int.toNat_le.2 k1)).1]
      · have := E.ops_get hj
        rw [E.added, if_pos ha, shift_one_toNat] at this
        exact ⟨_, this, by split <;> rfl⟩
    · exact .inl ⟨by rw [E.added, if_neg ha], by rw [E.ops, if_neg ha]⟩

end GraphFrame
