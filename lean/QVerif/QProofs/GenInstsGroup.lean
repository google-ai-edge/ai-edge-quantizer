import QProofs.GenInstsInfo
import QProofs.ListLemmas
/-!
# Shape of `groupConsumers` when every consumer request has exactly one transformation
Depth ≤ 2, `vertUnavail` empty; the depth-1 groups are non-empty lists of valid indices, homogeneous in `(param, xfs)`, different
groups having different `(param, xfs)`, and every index lies in some group (`groups_spec`). -/
open Graph InstGen

namespace GenInstsGroup

/-- the grouping key of consumer `i` -/
def K (cs : List O2T) (i : Nat) : Option PId × List Xf :=
  ((cs.getD i default).param, (cs.getD i default).xfs)

structure GInv (cs : List O2T) (G : List (List Nat)) : Prop where
  ne : ∀ g ∈ G, g ≠ []
  lt : ∀ g ∈ G, ∀ i ∈ g, i < cs.length
  same : ∀ g ∈ G, ∀ i ∈ g, ∀ j ∈ g, K cs i = K cs j
  diff : G.Pairwise (fun g1 g2 => ∀ i ∈ g1, ∀ j ∈ g2, K cs i ≠ K cs j)

theorem horiz_iff (cs : List O2T) (hlen : ∀ c ∈ cs, c.xfs.length = 1) (i j : Nat)
    (hi : i < cs.length) (hj : j < cs.length) :
    horiz (cs.getD i default) (cs.getD j default) 0 = true ↔ K cs i = K cs j := by
  obtain ⟨x, hx⟩ := List.length_eq_one_iff.1 (hlen _ (List.getD_mem cs i default hi))
  obtain ⟨y, hy⟩ := List.length_eq_one_iff.1 (hlen _ (List.getD_mem cs j default hj))
  unfold horiz K
  rw [hx, hy]
  simp

theorem GInv.nil (cs : List O2T) : GInv cs [] :=
  ⟨by simp, by simp, by simp, List.Pairwise.nil⟩

theorem GInv.cons_iff {cs : List O2T} {g : List Nat} {G : List (List Nat)} :
    GInv cs (g :: G) ↔
      (g ≠ [] ∧ (∀ i ∈ g, i < cs.length) ∧ (∀ i ∈ g, ∀ j ∈ g, K cs i = K cs j) ∧
        ∀ g2 ∈ G, ∀ i ∈ g, ∀ j ∈ g2, K cs i ≠ K cs j) ∧ GInv cs G := by
  constructor
  · rintro ⟨ne, lt, same, diff⟩
    obtain ⟨ne1, ne2⟩ := List.forall_mem_cons.1 ne
    obtain ⟨lt1, lt2⟩ := List.forall_mem_cons.1 lt
    obtain ⟨same1, same2⟩ := List.forall_mem_cons.1 same
    obtain ⟨diff1, diff2⟩ := List.pairwise_cons.1 diff
    exact ⟨⟨ne1, lt1, same1, diff1⟩, ne2, lt2, same2, diff2⟩
  · rintro ⟨⟨ne1, lt1, same1, diff1⟩, ne2, lt2, same2, diff2⟩
    exact ⟨List.forall_mem_cons.2 ⟨ne1, ne2⟩, List.forall_mem_cons.2 ⟨lt1, lt2⟩,
      List.forall_mem_cons.2 ⟨same1, same2⟩, List.pairwise_cons.2 ⟨diff1, diff2⟩⟩

theorem placeInto_perm (cs : List O2T) (d : Nat) (cur : List Nat) (ci : Nat) (G : List (List Nat)) :
    (placeInto cs d cur ci G).flatten.Perm (ci :: G.flatten) := by
  induction G with
  | nil => exact .refl _
  | cons ng rest ih =>
    have skip : (ng :: placeInto cs d cur ci rest).flatten.Perm (ci :: (ng :: rest).flatten) := by
      simp only [List.flatten_cons]
      exact (List.Perm.append_left ng ih).trans List.perm_middle
    simp only [placeInto]
    split
    · split
      · simp only [List.flatten_cons, List.append_assoc, List.singleton_append]
        exact List.perm_middle
      · exact skip
    · exact skip

theorem placeInto_spec (cs : List O2T) (hlen : ∀ c ∈ cs, c.xfs.length = 1) (ci : Nat)
    (hci : ci < cs.length) (G : List (List Nat)) (h : GInv cs G) :
    GInv cs (placeInto cs 0 (List.range cs.length) ci G) := by
  induction G with
  | nil =>
    refine GInv.cons_iff.2 ⟨⟨by simp, ?_, ?_, by simp⟩, GInv.nil cs⟩
    · intro i hi
      rw [List.mem_singleton.1 hi]; exact hci
    · intro i hi j hj
      rw [List.mem_singleton.1 hi, List.mem_singleton.1 hj]
  | cons ng rest ih =>
    obtain ⟨⟨hne, hlt, hsame, hdiff⟩, hrest⟩ := GInv.cons_iff.1 h
    obtain ⟨idx, tl, rfl⟩ := List.exists_cons_of_ne_nil hne
    have hidx : idx < cs.length := hlt idx List.mem_cons_self
    have hcont : (List.range cs.length).contains idx = true := by
      rw [List.contains_iff_mem]; exact List.mem_range.2 hidx
    by_cases hk : K cs idx = K cs ci
    · -- `ci` joins the group of `idx`
      have hh : horiz (cs.getD idx default) (cs.getD ci default) 0 = true :=
        (horiz_iff cs hlen idx ci hidx hci).2 hk
      have hEq : placeInto cs 0 (List.range cs.length) ci ((idx :: tl) :: rest) =
          ((idx :: tl) ++ [ci]) :: rest := by
        simp only [placeInto, List.head?_cons, hcont, hh, Bool.and_self, if_true]
      have hK : ∀ j ∈ (idx :: tl) ++ [ci], K cs j = K cs idx := by
        intro j hj
        rcases List.mem_append.1 hj with hj | hj
        · exact hsame j hj idx List.mem_cons_self
        · rw [List.mem_singleton.1 hj]; exact hk.symm
      rw [hEq]
      refine GInv.cons_iff.2 ⟨⟨by simp, ?_, fun i hi j hj => (hK i hi).trans (hK j hj).symm, ?_⟩, hrest⟩
      · intro i hi
        rcases List.mem_append.1 hi with hi | hi
        · exact hlt i hi
        · rw [List.mem_singleton.1 hi]; exact hci
      · intro g2 hg2 i hi j hj
        rw [hK i hi]
        exact hdiff g2 hg2 idx List.mem_cons_self j hj
    · -- `ci` is placed further on; what is grouped there is `ci` or was grouped in `rest`
      have hh : horiz (cs.getD idx default) (cs.getD ci default) 0 = false := by
        rw [Bool.eq_false_iff]
        exact fun hh => hk ((horiz_iff cs hlen idx ci hidx hci).1 hh)
      have hEq : placeInto cs 0 (List.range cs.length) ci ((idx :: tl) :: rest) =
          (idx :: tl) :: placeInto cs 0 (List.range cs.length) ci rest := by
        simp only [placeInto, List.head?_cons, hcont, hh, Bool.and_false, Bool.false_eq_true, if_false]
      rw [hEq]
      refine GInv.cons_iff.2 ⟨⟨hne, hlt, hsame, ?_⟩, ih hrest⟩
      intro g2 hg2 i hi j hj
      rcases List.mem_cons.1 ((placeInto_perm cs 0 _ ci rest).mem_iff.1 (List.mem_flatten.2 ⟨g2, hg2, hj⟩))
        with rfl | hj'
      · rw [hsame i hi idx List.mem_cons_self]; exact hk
      · obtain ⟨g, hg, hjg⟩ := List.mem_flatten.1 hj'
        exact hdiff g hg i hi j hjg

theorem nextDepth_eq (cs : List O2T) (hlen : ∀ c ∈ cs, c.xfs.length = 1) :
    nextDepth cs 0 [List.range cs.length] =
      (List.range cs.length).foldl (fun next ci => placeInto cs 0 (List.range cs.length) ci next) [] := by
  unfold nextDepth
  refine List.foldl_ext _ _ _ ?_
  intro next ci hci
  have hlt : ci < cs.length := List.mem_range.1 hci
  have h0 : 0 < (cs.getD ci default).xfs.length := by
    rw [hlen _ (List.getD_mem cs ci default hlt)]; exact Nat.one_pos
  have hcont : (List.range cs.length).contains ci = true := by
    rw [List.contains_iff_mem]; exact hci
  simp only [List.foldl_cons, List.foldl_nil, h0, hcont, if_true]

theorem foldl_placeInto (cs : List O2T) (hlen : ∀ c ∈ cs, c.xfs.length = 1) :
    ∀ (l : List Nat) (acc : List (List Nat)), (∀ ci ∈ l, ci < cs.length) → GInv cs acc →
      GInv cs (l.foldl (fun next ci => placeInto cs 0 (List.range cs.length) ci next) acc) ∧
      (l.foldl (fun next ci => placeInto cs 0 (List.range cs.length) ci next) acc).flatten.Perm
        (l ++ acc.flatten) := by
  intro l
  induction l with
  | nil => exact fun acc _ h => ⟨h, .refl _⟩
  | cons c l ih =>
    intro acc hl h
    obtain ⟨h1, h2⟩ := ih _ (fun ci hci => hl ci (List.mem_cons_of_mem _ hci))
      (placeInto_spec cs hlen c (hl c List.mem_cons_self) acc h)
    exact ⟨h1, h2.trans ((List.Perm.append_left l (placeInto_perm cs 0 _ c acc)).trans List.perm_middle)⟩

theorem longest_one (cs : List O2T) (hlen : ∀ c ∈ cs, c.xfs.length = 1) :
    cs.foldl (fun a c => max a c.xfs.length) 1 = 1 := by
  induction cs with
  | nil => rfl
  | cons c cs ih =>
    simp only [List.foldl_cons, hlen c List.mem_cons_self, Nat.max_self]
    exact ih (fun c hc => hlen c (List.mem_cons_of_mem _ hc))

theorem groupConsumers_cons (c : O2T) (cs' : List O2T) (hlen : ∀ x ∈ c :: cs', x.xfs.length = 1) :
    groupConsumers (some (c :: cs')) =
      [[List.range (c :: cs').length], nextDepth (c :: cs') 0 [List.range (c :: cs').length]] := by
  have hl : (c :: cs').foldl (fun a c => max a c.xfs.length) 0 = 1 := by
    simp only [List.foldl_cons, hlen c List.mem_cons_self, Nat.zero_max]
    exact longest_one cs' (fun x hx => hlen x (List.mem_cons_of_mem _ hx))
  simp only [groupConsumers, hl]
  rfl

theorem groups_spec (cons : Option (List O2T)) (info : TInfo)
    (hlen : ∀ c ∈ cons.getD [], c.xfs.length = 1) :
    vertUnavail (groupConsumers cons) (cons.getD []) info = [] ∧
    ∃ G, GInv (cons.getD []) G ∧ (∀ i < (cons.getD []).length, ∃ g ∈ G, i ∈ g) ∧
      vertAvail (groupConsumers cons) (cons.getD []) info = G.map (instOfGroup (cons.getD []) info 0) := by
  cases cons with
  | none => exact ⟨rfl, [], GInv.nil _, fun i h => absurd h (Nat.not_lt_zero i), rfl⟩
  | some cs =>
    cases cs with
    | nil => exact ⟨rfl, [], GInv.nil _, fun i h => absurd h (Nat.not_lt_zero i), rfl⟩
    | cons c cs' =>
      have hlen' : ∀ x ∈ c :: cs', x.xfs.length = 1 := hlen
      rw [groupConsumers_cons c cs' hlen', nextDepth_eq (c :: cs') hlen']
      obtain ⟨hinv, hperm⟩ := foldl_placeInto (c :: cs') hlen' _ [] (fun ci h => List.mem_range.1 h) (GInv.nil _)
      exact ⟨rfl, _, hinv, fun i hi => List.mem_flatten.1 (hperm.mem_iff.2 (List.mem_append_left _ (List.mem_range.2 hi))),
        rfl⟩

/-- the consumer-side rules of a request: one instruction per group -/
def rulesOf (info : TInfo) (cons : Option (List O2T)) : List Inst :=
  vertAvail (groupConsumers cons) (cons.getD []) info

/-- `r` is one group of the consumer sides `os`, as an instruction -/
structure IsRule (os : List O2T) (info : TInfo) (r : Inst) : Prop where
  tensor : r.tensor = info.tensorId
  producer : r.producer = info.producer
  ne : r.consumers ≠ []
  side : ∀ c ∈ r.consumers, ∃ o ∈ os, o.opId = c ∧ o.xfs = [r.xf] ∧ o.param = r.param

theorem IsRule.exists_side {os : List O2T} {info : TInfo} {r : Inst} (hr : IsRule os info r) :
    ∃ o ∈ os, o.opId ∈ r.consumers ∧ o.xfs = [r.xf] ∧ o.param = r.param := by
  obtain ⟨c, hc⟩ := List.exists_mem_of_ne_nil _ hr.ne
  obtain ⟨o, ho, rfl, hx, hp⟩ := hr.side c hc
  exact ⟨o, ho, hc, hx, hp⟩

theorem instOfGroup_side (os : List O2T) (hlen : ∀ c ∈ os, c.xfs.length = 1) (info : TInfo)
    (G : List (List Nat)) (hG : GInv os G) (g : List Nat) (hg : g ∈ G) (i : Nat) (hi : i ∈ g) :
    os.getD i default ∈ os ∧ (os.getD i default).opId ∈ (instOfGroup os info 0 g).consumers ∧
    (os.getD i default).xfs = [(instOfGroup os info 0 g).xf] ∧
    (os.getD i default).param = (instOfGroup os info 0 g).param := by
  have hmem := List.getD_mem os i default (hG.lt g hg i hi)
  obtain ⟨h, tl, rfl⟩ := List.exists_cons_of_ne_nil (hG.ne g hg)
  have hk := hG.same _ hg i hi h List.mem_cons_self
  unfold K at hk
  obtain ⟨hp, hx⟩ := Prod.mk.inj hk
  obtain ⟨x, hx1⟩ := List.length_eq_one_iff.1 (hlen _ hmem)
  refine ⟨hmem, List.mem_map.2 ⟨i, hi, rfl⟩, ?_, hp⟩
  show _ = [(os.getD h default).xfs.getD 0 .noQuant]
  rw [← hx, hx1]
  rfl

/-- the consumer-side instructions when every consumer side carries one transformation: nothing beyond depth 1, one rule per
    `(param, xf)` -/
theorem rules_spec (cons : Option (List O2T)) (info : TInfo)
    (hlen : ∀ c ∈ cons.getD [], c.xfs.length = 1) :
    vertUnavail (groupConsumers cons) (cons.getD []) info = [] ∧
    (∀ r ∈ rulesOf info cons, IsRule (cons.getD []) info r) ∧
    (∀ o ∈ cons.getD [], ∃ r ∈ rulesOf info cons, o.opId ∈ r.consumers ∧ o.xfs = [r.xf] ∧ o.param = r.param) ∧
    (rulesOf info cons).Pairwise (fun r1 r2 => (r1.param, r1.xf) ≠ (r2.param, r2.xf)) := by
  obtain ⟨hun, G, hG, hcov, hav⟩ := groups_spec cons info hlen
  unfold rulesOf
  rw [hav]
  have hside := instOfGroup_side _ hlen info G hG
  refine ⟨hun, ?_, ?_, ?_⟩
  · intro r hr
    obtain ⟨g, hg, rfl⟩ := List.mem_map.1 hr
    refine ⟨rfl, rfl, ?_, ?_⟩
    · exact fun h => hG.ne g hg (List.map_eq_nil_iff.1 h)
    · intro c hc
      obtain ⟨i, hi, rfl⟩ := List.mem_map.1 hc
      obtain ⟨h1, -, h3, h4⟩ := hside g hg i hi
      exact ⟨_, h1, rfl, h3, h4⟩
  · intro o ho
    obtain ⟨i, hi⟩ := List.mem_iff_getElem?.1 ho
    have hgi : (cons.getD []).getD i default = o := by rw [List.getD_eq_getElem?_getD, hi]; rfl
    obtain ⟨g, hg, hig⟩ := hcov i (List.getElem?_eq_some_iff.1 hi).1
    obtain ⟨-, h2, h3, h4⟩ := hside g hg i hig
    rw [hgi] at h2 h3 h4
    exact ⟨_, List.mem_map.2 ⟨g, hg, rfl⟩, h2, h3, h4⟩
  · rw [List.pairwise_map]
    refine hG.diff.imp_of_mem ?_
    intro g1 g2 hg1 hg2 hd heq
    obtain ⟨i, tl1, rfl⟩ := List.exists_cons_of_ne_nil (hG.ne g1 hg1)
    obtain ⟨j, tl2, rfl⟩ := List.exists_cons_of_ne_nil (hG.ne g2 hg2)
    obtain ⟨-, -, hx1, hp1⟩ := hside _ hg1 i List.mem_cons_self
    obtain ⟨-, -, hx2, hp2⟩ := hside _ hg2 j List.mem_cons_self
    obtain ⟨hp, hx⟩ := Prod.mk.inj heq
    refine hd i List.mem_cons_self j List.mem_cons_self ?_
    unfold K
    rw [hx1, hx2, hp1, hp2, hp, hx]

end GenInstsGroup
