import QModel.Eval
/-!
# Abstract evaluation: erasing the inserted operators preserves the computed values (C06)
`Inv e e'` relates the reference environment `e` and the rewritten `e'`.  An inserted operator moves the rewritten side only (`step_ins`); an
original operator and its erased version read the same arguments once the inserted results among its operands have values, so they fail
together or succeed with related environments (`step_orig`).  The two directions differ only in where those values come from: the rewritten
operator ran (`run_sim`), or `useOK` and the values of `avail` (`run_sim_conv`). -/
open Graph Eval Skeleton

namespace EvalProofs

structure InsFacts (sg' : Subgraph) (o : Op) (c n : Int) : Prop where
  inp : o.inputs = [c]
  out : o.outputs = [n]
  cNotProd : ∀ p ∈ sg'.ops, c ∉ p.outputs
  cNotRead : ∀ p ∈ sg'.ops, p.orig.isSome = true → c ∉ p.inputs
  uniq : (sg'.ops.filter (fun p => p.outputs.contains n)).length = 1
  c1 : c ≠ -1
  n1 : n ≠ -1

theorem mem_insOps {sg' : Subgraph} {o : Op} : o ∈ insOps sg' ↔ o ∈ sg'.ops ∧ o.orig = none := by
  simp [insOps, List.mem_filter, Option.isNone_iff_eq_none]

theorem insFacts_of {sg' : Subgraph} (hd : deqOnConst sg' = true) {o : Op} (ho : o ∈ sg'.ops)
    (hn : o.orig = none) : ∃ c n, InsFacts sg' o c n := by
  unfold deqOnConst at hd
  rw [List.all_eq_true] at hd
  have h := hd o (mem_insOps.2 ⟨ho, hn⟩)
  split at h
  · rename_i c n hi hout
    simp only [Bool.and_eq_true, List.all_eq_true, Bool.or_eq_true, Bool.not_eq_true',
      List.contains_eq_mem, decide_eq_false_iff_not, bne_iff_ne, ne_eq, beq_iff_eq] at h
    obtain ⟨⟨⟨⟨⟨h1, h2⟩, h3⟩, h4⟩, h5⟩, h6⟩ := h
    refine ⟨c, n, hi, hout, h1, ?_, ?_, h5, h6⟩
    · intro p hp hs
      rcases h2 p hp with h | h
      · simp [Option.isNone_iff_eq_none] at h
        simp [h] at hs
      · exact h
    · simpa [List.contains_eq_mem] using h3
  · exact absurd h (by simp)

theorem producer_unique {sg' : Subgraph} {o : Op} {c n : Int} (hf : InsFacts sg' o c n)
    {p q : Op} (hp : p ∈ sg'.ops) (hq : q ∈ sg'.ops) (hpn : n ∈ p.outputs) (hqn : n ∈ q.outputs) :
    p = q := by
  have h := hf.uniq
  rw [List.length_eq_one_iff] at h
  obtain ⟨x, hx⟩ := h
  have hp' : p ∈ sg'.ops.filter (fun p => p.outputs.contains n) := by
    simp [List.mem_filter, hp, hpn]
  have hq' : q ∈ sg'.ops.filter (fun p => p.outputs.contains n) := by
    simp [List.mem_filter, hq, hqn]
  rw [hx] at hp' hq'
  simp at hp' hq'
  rw [hp', hq']

theorem mem_insOutputs {sg' : Subgraph} {x : Int} :
    x ∈ insOutputs sg' ↔ ∃ o ∈ sg'.ops, o.orig = none ∧ x ∈ o.outputs := by
  simp only [insOutputs, List.mem_flatMap, mem_insOps]
  constructor
  · rintro ⟨o, ⟨h1, h2⟩, h3⟩; exact ⟨o, h1, h2, h3⟩
  · rintro ⟨o, h1, h2, h3⟩; exact ⟨o, ⟨h1, h2⟩, h3⟩

theorem mem_insInputs {sg' : Subgraph} {x : Int} :
    x ∈ insInputs sg' ↔ ∃ o ∈ sg'.ops, o.orig = none ∧ x ∈ o.inputs := by
  simp only [insInputs, List.mem_flatMap, mem_insOps]
  constructor
  · rintro ⟨o, ⟨h1, h2⟩, h3⟩; exact ⟨o, h1, h2, h3⟩
  · rintro ⟨o, h1, h2, h3⟩; exact ⟨o, ⟨h1, h2⟩, h3⟩

theorem insOutputs_facts {sg' : Subgraph} (hd : deqOnConst sg' = true) {x : Int}
    (hx : x ∈ insOutputs sg') : ∃ o ∈ sg'.ops, o.orig = none ∧ ∃ c, InsFacts sg' o c x := by
  obtain ⟨o, ho, hn, hxo⟩ := mem_insOutputs.1 hx
  obtain ⟨c, n, hf⟩ := insFacts_of hd ho hn
  have : x = n := by simpa [hf.out] using hxo
  subst this
  exact ⟨o, ho, hn, c, hf⟩

theorem insInputs_facts {sg' : Subgraph} (hd : deqOnConst sg' = true) {x : Int}
    (hx : x ∈ insInputs sg') : ∃ o ∈ sg'.ops, o.orig = none ∧ ∃ n, InsFacts sg' o x n := by
  obtain ⟨o, ho, hn, hxo⟩ := mem_insInputs.1 hx
  obtain ⟨c, n, hf⟩ := insFacts_of hd ho hn
  have : x = c := by simpa [hf.inp] using hxo
  subst this
  exact ⟨o, ho, hn, n, hf⟩

theorem insInput_not_output {sg' : Subgraph} {o : Op} {c n : Int} (hf : InsFacts sg' o c n) :
    c ∉ insOutputs sg' := by
  intro h
  obtain ⟨p, hp, _, hc⟩ := mem_insOutputs.1 h
  exact hf.cNotProd p hp hc

theorem orig_in_notIns {sg' : Subgraph} (hd : deqOnConst sg' = true) {p : Op} (hp : p ∈ sg'.ops)
    (hs : p.orig.isSome = true) {x : Int} (hx : x ∈ p.inputs) : x ∉ insInputs sg' := by
  intro h
  obtain ⟨o, _, _, n, hf⟩ := insInputs_facts hd h
  exact hf.cNotRead p hp hs hx

theorem out_notInsIn {sg' : Subgraph} (hd : deqOnConst sg' = true) {p : Op} (hp : p ∈ sg'.ops)
    {x : Int} (hx : x ∈ p.outputs) : x ∉ insInputs sg' := by
  intro h
  obtain ⟨o, _, _, n, hf⟩ := insInputs_facts hd h
  exact hf.cNotProd p hp hx

theorem orig_out_notInsOut {sg' : Subgraph} (hd : deqOnConst sg' = true) {p : Op} (hp : p ∈ sg'.ops)
    (hs : p.orig.isSome = true) {x : Int} (hx : x ∈ p.outputs) : x ∉ insOutputs sg' := by
  intro h
  obtain ⟨o, ho, hn, c, hf⟩ := insOutputs_facts hd h
  have : p = o := producer_unique hf hp ho hx (by simp [hf.out])
  subst this
  simp [hn] at hs

theorem insertedProducer_none {sg' : Subgraph} {x : Int} (hx : x ∉ insOutputs sg') :
    insertedProducer sg' x = none := by
  unfold insertedProducer
  rw [List.find?_eq_none]
  intro p hp hc
  simp only [Bool.and_eq_true, Option.isNone_iff_eq_none, beq_iff_eq] at hc
  exact hx (mem_insOutputs.2 ⟨p, hp, hc.1, by simp [hc.2]⟩)

theorem rootOf_fix {sg' : Subgraph} {x : Int} (hx : x ∉ insOutputs sg') (fuel : Nat) :
    rootOf sg' fuel x = x := by
  cases fuel with
  | zero => rfl
  | succ f => simp [rootOf, insertedProducer_none hx]

theorem root_fix {sg' : Subgraph} {x : Int} (hx : x ∉ insOutputs sg') : root sg' x = x :=
  rootOf_fix hx _

theorem insertedProducer_ins {sg' : Subgraph} {o : Op} {c n : Int} (ho : o ∈ sg'.ops)
    (hn : o.orig = none) (hf : InsFacts sg' o c n) : insertedProducer sg' n = some o := by
  unfold insertedProducer
  cases h : sg'.ops.find? (fun o => o.orig.isNone && o.outputs == [n]) with
  | none =>
    rw [List.find?_eq_none] at h
    have := h o ho
    simp [hn, hf.out] at this
  | some p =>
    have hp := List.mem_of_find?_eq_some h
    have hc := List.find?_some h
    simp only [Bool.and_eq_true, beq_iff_eq] at hc
    have : p = o := producer_unique hf hp ho (by simp [hc.2]) (by simp [hf.out])
    rw [this]

theorem root_ins {sg' : Subgraph} {o : Op} {c n : Int} (ho : o ∈ sg'.ops)
    (hn : o.orig = none) (hf : InsFacts sg' o c n) : root sg' n = c := by
  unfold root
  have hl : sg'.ops.length ≠ 0 := by
    intro h
    rw [List.length_eq_zero_iff] at h
    rw [h] at ho
    simp at ho
  obtain ⟨f, hf'⟩ := Nat.exists_eq_succ_of_ne_zero hl
  rw [hf']
  simp only [rootOf, insertedProducer_ins ho hn hf, hf.inp]
  exact rootOf_fix (insInput_not_output hf) f

theorem set_ne {V : Type} (e : Env V) {t x : Int} (v : V) (h : x ≠ t) : (e.set t v) x = e x := by
  simp [Env.set, h]

theorem set_eq {V : Type} (e : Env V) (t : Int) (v : V) : (e.set t v) t = some v := by
  simp [Env.set]

def Both {α β : Type} (R : α → β → Prop) : Option α → Option β → Prop
  | some a, some b => R a b
  | none, none => True
  | _, _ => False

theorem Both.of_right {α β : Type} {R : α → β → Prop} {x : Option α} {b : β} (h : Both R x (some b)) :
    ∃ a, x = some a ∧ R a b := by
  cases x with
  | none => exact h.elim
  | some a => exact ⟨a, rfl, h⟩

theorem Both.of_left {α β : Type} {R : α → β → Prop} {a : α} {y : Option β} (h : Both R (some a) y) :
    ∃ b, y = some b ∧ R a b := by
  cases y with
  | none => exact h.elim
  | some b => exact ⟨b, rfl, h⟩

theorem bindOuts_both {V : Type} (R : Env V → Env V → Prop) :
    ∀ (outs : List Int) (vs : List V) (e e' : Env V),
      (∀ x ∈ outs, ∀ v a b, R a b → R (a.set x v) (b.set x v)) → R e e' →
      Both R (bindOuts e outs vs) (bindOuts e' outs vs)
  | [], [], _, _, _, h => h
  | [], _ :: _, _, _, _, _ => trivial
  | _ :: _, [], _, _, _, _ => trivial
  | o :: os, v :: vs, e, e', hset, h =>
    bindOuts_both R os vs _ _ (fun x hx => hset x (List.mem_cons_of_mem _ hx)) (hset o List.mem_cons_self v e e' h)

def InsEdge (sg' : Subgraph) (c n : Int) : Prop :=
  ∃ o ∈ sg'.ops, o.orig = none ∧ o.inputs = [c] ∧ o.outputs = [n]

theorem InsEdge.mem_in {sg' : Subgraph} {c n : Int} (h : InsEdge sg' c n) : c ∈ insInputs sg' :=
  let ⟨o, ho, hn, hi, _⟩ := h
  mem_insInputs.2 ⟨o, ho, hn, hi ▸ List.mem_singleton_self c⟩

theorem InsEdge.mem_out {sg' : Subgraph} {c n : Int} (h : InsEdge sg' c n) : n ∈ insOutputs sg' :=
  let ⟨o, ho, hn, _, hout⟩ := h
  mem_insOutputs.2 ⟨o, ho, hn, hout ▸ List.mem_singleton_self n⟩

theorem insEdge_of_op {sg' : Subgraph} (hd : deqOnConst sg' = true) {o : Op} (ho : o ∈ sg'.ops)
    (hn : o.orig = none) : ∃ c n, o.inputs = [c] ∧ o.outputs = [n] ∧ InsEdge sg' c n :=
  let ⟨c, n, hf⟩ := insFacts_of hd ho hn
  ⟨c, n, hf.inp, hf.out, o, ho, hn, hf.inp, hf.out⟩

theorem insEdge_of_out {sg' : Subgraph} (hd : deqOnConst sg' = true) {x : Int}
    (hx : x ∈ insOutputs sg') :
    ∃ c, InsEdge sg' c x ∧ root sg' x = c ∧ c ≠ -1 ∧ ∀ c2, InsEdge sg' c2 x → c2 = c := by
  obtain ⟨o, ho, hn, c, hf⟩ := insOutputs_facts hd hx
  refine ⟨c, ⟨o, ho, hn, hf.inp, hf.out⟩, root_ins ho hn hf, hf.c1, ?_⟩
  rintro c2 ⟨o2, ho2, _, hi2, hout2⟩
  have : o2 = o := producer_unique hf ho2 ho (hout2 ▸ List.mem_singleton_self x)
    (hf.out ▸ List.mem_singleton_self x)
  subst this
  exact (List.cons.inj (hi2.symm.trans hf.inp)).1

theorem root_neg1 {sg' : Subgraph} (hd : deqOnConst sg' = true) : root sg' (-1) = -1 :=
  root_fix fun h => let ⟨_, _, _, _, hf⟩ := insOutputs_facts hd h; hf.n1 rfl

theorem root_ne_neg1 {sg' : Subgraph} (hd : deqOnConst sg' = true) {x : Int} (hx : x ≠ -1) :
    root sg' x ≠ -1 := by
  by_cases hxo : x ∈ insOutputs sg'
  · obtain ⟨c, _, hr, hc, _⟩ := insEdge_of_out hd hxo
    rw [hr]; exact hc
  · rw [root_fix hxo]; exact hx

theorem map_root_fix {sg' : Subgraph} :
    ∀ (xs : List Int), (∀ x ∈ xs, x ∉ insOutputs sg') → xs.map (root sg') = xs := by
  intro xs h
  conv => rhs; rw [← List.map_id xs]
  exact List.map_congr_left fun x hx => root_fix (h x hx)

/-- `e` is the reference environment, `e'` the rewritten one -/
structure Inv {V : Type} (S : Sem V) (sg' : Subgraph) (e e' : Env V) : Prop where
  a : ∀ t, t ∉ insInputs sg' → t ∉ insOutputs sg' → e t = e' t
  b : ∀ c n, InsEdge sg' c n → e c = (e' c).map (S.ins n)
  c : ∀ c n, InsEdge sg' c n → e' n ≠ none → e' n = e c

theorem inv_init {V : Type} {S : Sem V} {sg' : Subgraph} {e0 e0' : Env V}
    (href : RefEnv S sg' e0' e0) : Inv S sg' e0 e0' := by
  obtain ⟨h1, h2, h3⟩ := href
  refine ⟨fun t ht _ => h1 t ht, ?_, fun c n h hne => absurd (h3 n h.mem_out) hne⟩
  rintro c n ⟨o, ho, hn, hi, hout⟩
  exact h2 o (mem_insOps.2 ⟨ho, hn⟩) c n hi hout

theorem inv_set {V : Type} {S : Sem V} {sg' : Subgraph} {x : Int}
    (hxi : x ∉ insInputs sg') (hxo : x ∉ insOutputs sg') (v : V) (e e' : Env V)
    (h : Inv S sg' e e') : Inv S sg' (e.set x v) (e'.set x v) := by
  refine ⟨fun t hti hto => ?_, fun c n hcn => ?_, fun c n hcn => ?_⟩
  · by_cases htx : t = x
    · subst htx; rw [set_eq, set_eq]
    · rw [set_ne _ _ htx, set_ne _ _ htx]; exact h.a t hti hto
  · have hc : c ≠ x := fun hcx => hxi (hcx ▸ hcn.mem_in)
    rw [set_ne _ _ hc, set_ne _ _ hc]; exact h.b c n hcn
  · have hc : c ≠ x := fun hcx => hxi (hcx ▸ hcn.mem_in)
    have hn : n ≠ x := fun hnx => hxo (hnx ▸ hcn.mem_out)
    rw [set_ne _ _ hc, set_ne _ _ hn]; exact h.c c n hcn

theorem step_ins {V : Type} {S : Sem V} {sg' : Subgraph} (hd : deqOnConst sg' = true)
    {o : Op} (ho : o ∈ sg'.ops) (hn : o.orig = none) {e e' e2' : Env V}
    (hinv : Inv S sg' e e') (hstep : stepOp S e' o = some e2') : Inv S sg' e e2' := by
  obtain ⟨c, n, hi, hout, hcn⟩ := insEdge_of_op hd ho hn
  unfold stepOp at hstep
  simp only [hn, hi, hout, Option.map_eq_some_iff] at hstep
  obtain ⟨v, hv, rfl⟩ := hstep
  refine ⟨fun t _ hto => ?_, fun c2 n2 h2 => ?_, fun c2 n2 h2 => ?_⟩
  · rw [set_ne _ _ fun h => hto (by rw [h]; exact hcn.mem_out)]; exact hinv.a t ‹_› hto
  · have : c2 ≠ n := fun h =>
      out_notInsIn hd ho (x := n) (hout ▸ List.mem_singleton_self n) (h ▸ h2.mem_in)
    rw [set_ne _ _ this]; exact hinv.b c2 n2 h2
  · by_cases hnn : n2 = n
    · subst hnn
      obtain ⟨_, _, _, _, huniq⟩ := insEdge_of_out hd h2.mem_out
      obtain rfl : c2 = c := (huniq c2 h2).trans (huniq c hcn).symm
      intro _; rw [set_eq, hinv.b c2 n2 h2, hv]; rfl
    · rw [set_ne _ _ hnn]; exact hinv.c c2 n2 h2

theorem readArgs_ne_none {V : Type} {e : Env V} : ∀ (xs : List Int) (args : List (Option V)),
    readArgs e xs = some args → ∀ x ∈ xs, x ≠ -1 → e x ≠ none := by
  intro xs
  induction xs with
  | nil => intro _ _ x hx; cases hx
  | cons y ys ih =>
    intro args h x hx hx1
    unfold readArgs at h
    split at h
    · obtain ⟨r, hr, _⟩ := Option.map_eq_some_iff.1 h
      rcases List.mem_cons.1 hx with rfl | hx
      · exact absurd ‹x = -1› hx1
      · exact ih r hr x hx hx1
    · split at h
      · rename_i v r hv hr
        rcases List.mem_cons.1 hx with rfl | hx
        · rw [hv]; exact nofun
        · exact ih r hr x hx hx1
      · cases h

theorem stepOp_reads {V : Type} {S : Sem V} {e e2 : Env V} {o : Op} {tag : Nat} (hn : o.orig = some tag)
    (hstep : stepOp S e o = some e2) : ∀ x ∈ o.inputs, x ≠ -1 → e x ≠ none := by
  unfold stepOp at hstep
  simp only [hn] at hstep
  cases hr : readArgs e o.inputs with
  | none => rw [hr] at hstep; cases hstep
  | some args => exact readArgs_ne_none _ args hr

theorem readArgs_congr {V : Type} {e e' : Env V} (f : Int → Int) (hf1 : f (-1) = -1)
    (hf : ∀ x, x ≠ -1 → f x ≠ -1) : ∀ (xs : List Int), (∀ x ∈ xs, x ≠ -1 → e (f x) = e' x) →
      readArgs e (xs.map f) = readArgs e' xs := by
  intro xs
  induction xs with
  | nil => intro _; rfl
  | cons x xs ih =>
    intro h
    have ih' := ih fun y hy => h y (List.mem_cons_of_mem _ hy)
    rw [List.map_cons]
    by_cases hx : x = -1
    · subst hx
      rw [hf1]
      unfold readArgs
      rw [if_pos rfl, if_pos rfl, ih']
    · unfold readArgs
      rw [if_neg hx, if_neg (hf x hx), ih', h x List.mem_cons_self hx]

theorem read_root {V : Type} {S : Sem V} {sg' : Subgraph} (hd : deqOnConst sg' = true)
    {e e' : Env V} (hinv : Inv S sg' e e') {x : Int}
    (hxi : x ∉ insInputs sg') (hx : x ∈ insOutputs sg' → e' x ≠ none) :
    e (root sg' x) = e' x := by
  by_cases hxo : x ∈ insOutputs sg'
  · obtain ⟨c, hcx, hr, _, _⟩ := insEdge_of_out hd hxo
    rw [hr]; exact (hinv.c c x hcx (hx hxo)).symm
  · rw [root_fix hxo, hinv.a x hxi hxo]

def eraseOp (sg' : Subgraph) (o : Op) : Op :=
  { o with inputs := o.inputs.map (root sg'), outputs := o.outputs.map (root sg') }

theorem eraseOp_outputs {sg' : Subgraph} (hd : deqOnConst sg' = true) {o : Op} (ho : o ∈ sg'.ops)
    (hs : o.orig.isSome = true) : (eraseOp sg' o).outputs = o.outputs :=
  map_root_fix _ fun _ hx => orig_out_notInsOut hd ho hs hx

def Has {V : Type} (xs : List Int) (e : Env V) : Prop := ∀ x ∈ xs, e x ≠ none

theorem Has.set {V : Type} {xs : List Int} {e : Env V} (h : Has xs e) (x : Int) (v : V) : Has xs (e.set x v) := by
  intro y hy
  by_cases hyx : y = x
  · rw [hyx, set_eq]; exact nofun
  · rw [set_ne _ _ hyx]; exact h y hy

/-- `xs` is carried along for the converse (`avail` and the constants of inserted operators keep their values) -/
theorem step_orig {V : Type} {S : Sem V} {sg' : Subgraph} (hd : deqOnConst sg' = true) {o : Op} {tag : Nat}
    (ho : o ∈ sg'.ops) (hn : o.orig = some tag) (xs : List Int) {e e' : Env V} (hinv : Inv S sg' e e') (hxs : Has xs e')
    (hx : ∀ x ∈ o.inputs, x ≠ -1 → x ∈ insOutputs sg' → e' x ≠ none) :
    Both (fun a b => Inv S sg' a b ∧ Has xs b) (stepOp S e (eraseOp sg' o)) (stepOp S e' o) := by
  have hs : o.orig.isSome = true := by rw [hn]; rfl
  have hargs : readArgs e (o.inputs.map (root sg')) = readArgs e' o.inputs :=
    readArgs_congr (root sg') (root_neg1 hd) (fun _ => root_ne_neg1 hd) o.inputs
      fun x hxs hx1 => read_root hd hinv (orig_in_notIns hd ho hs hxs) (hx x hxs hx1)
  unfold stepOp
  simp only [show (eraseOp sg' o).orig = some tag from hn, hn, eraseOp_outputs hd ho hs,
    show (eraseOp sg' o).inputs = o.inputs.map (root sg') from rfl, hargs]
  cases readArgs e' o.inputs with
  | none => trivial
  | some args =>
    simp only []
    cases S.op tag args with
    | none => trivial
    | some outs =>
      exact bindOuts_both (fun a b => Inv S sg' a b ∧ Has xs b) o.outputs outs e e' (fun x hx v a b hab =>
        ⟨inv_set (out_notInsIn hd ho hx) (orig_out_notInsOut hd ho hs hx) v a b hab.1, hab.2.set x v⟩) ⟨hinv, hxs⟩

/-- erasing a list of operators (as in `Skeleton.eraseOps`, with `root` of the whole subgraph) -/
def eraseList (sg' : Subgraph) (ops : List Op) : List Op :=
  (ops.filter (·.orig.isSome)).map (eraseOp sg')

theorem eraseList_cons_none {sg' : Subgraph} {o : Op} (os : List Op) (hn : o.orig = none) :
    eraseList sg' (o :: os) = eraseList sg' os := by
  unfold eraseList
  rw [List.filter_cons_of_neg (by rw [hn]; exact Bool.false_ne_true)]

theorem eraseList_cons_some {sg' : Subgraph} {o : Op} (os : List Op) {tag : Nat} (hn : o.orig = some tag) :
    eraseList sg' (o :: os) = eraseOp sg' o :: eraseList sg' os := by
  unfold eraseList
  rw [List.filter_cons_of_pos (p := fun x : Op => x.orig.isSome) (a := o) (by rw [hn]; rfl), List.map_cons]

theorem run_cons {V : Type} (S : Sem V) (o : Op) (os : List Op) (e : Env V) :
    run S (o :: os) e = (stepOp S e o).bind (run S os) := by
  unfold run
  cases stepOp S e o <;> rfl

theorem run_sim {V : Type} {S : Sem V} {sg' : Subgraph} (hd : deqOnConst sg' = true) :
    ∀ (ops : List Op), (∀ o ∈ ops, o ∈ sg'.ops) → ∀ (e e' e1' : Env V),
      Inv S sg' e e' → run S ops e' = some e1' →
      ∃ e1, run S (eraseList sg' ops) e = some e1 ∧ Inv S sg' e1 e1' := by
  intro ops
  induction ops with
  | nil => intro _ e e' e1' hinv h; cases h; exact ⟨e, rfl, hinv⟩
  | cons o os ih =>
    intro hmem e e' e1' hinv h
    have ho : o ∈ sg'.ops := hmem o List.mem_cons_self
    have hos : ∀ p ∈ os, p ∈ sg'.ops := fun p hp => hmem p (List.mem_cons_of_mem _ hp)
    rw [run_cons] at h
    obtain ⟨e2', hstep, h⟩ := Option.bind_eq_some_iff.1 h
    cases hn : o.orig with
    | none =>
      rw [eraseList_cons_none os hn]
      exact ih hos e e2' e1' (step_ins hd ho hn hinv hstep) h
    | some tag =>
      have hb := step_orig hd ho hn [] hinv nofun fun x hx hx1 _ => stepOp_reads hn hstep x hx hx1
      rw [hstep] at hb
      obtain ⟨e2, h2, hinv2, -⟩ := hb.of_right
      rw [eraseList_cons_some os hn, run_cons, h2]
      exact ih hos e2 e2' e1' hinv2 h

theorem eraseOps_of_sameSkeleton {sg sg' : Subgraph} (hsk : sameSkeleton sg sg' = true) :
    eraseOps sg' = sg.ops ∧ eraseOutputs sg' = sg.outputs := by
  unfold sameSkeleton at hsk
  simp only [Bool.and_eq_true, beq_iff_eq] at hsk
  exact ⟨hsk.1.1.1.1, hsk.1.1.1.2⟩

theorem weight_only_equiv {V : Type} (S : Sem V) (sg sg' : Subgraph)
    (hsk : Skeleton.sameSkeleton sg sg' = true) (hd : deqOnConst sg' = true)
    (e0 e0' : Env V) (href : RefEnv S sg' e0' e0) (e' : Env V)
    (hrun : run S sg'.ops e0' = some e') :
    ∃ e, run S sg.ops e0 = some e ∧ AgreeOff sg' e e' := by
  rw [← (eraseOps_of_sameSkeleton hsk).1]
  obtain ⟨e, h1, hinv⟩ := run_sim hd sg'.ops (fun _ h => h) e0 e0' e' (inv_init href) hrun
  exact ⟨e, h1, hinv.a⟩

theorem outputs_eq {sg sg' : Subgraph} (hsk : Skeleton.sameSkeleton sg sg' = true)
    (hout : outputsClean sg' = true) :
    sg'.outputs = sg.outputs ∧ ∀ t ∈ sg.outputs, t ∉ insInputs sg' ∧ t ∉ insOutputs sg' := by
  unfold outputsClean at hout
  have hall : ∀ t ∈ sg'.outputs, t ∉ insInputs sg' ∧ t ∉ insOutputs sg' := by
    rw [List.all_eq_true] at hout
    intro t ht
    simpa [List.contains_eq_mem] using hout t ht
  have heq : sg'.outputs = sg.outputs := by
    rw [← (eraseOps_of_sameSkeleton hsk).2]
    unfold eraseOutputs
    exact (map_root_fix _ (fun x hx => (hall x hx).2)).symm
  exact ⟨heq, fun t ht => hall t (heq ▸ ht)⟩

/-- `avail` lists the computed results of inserted operators, as `useOK` counts them -/
theorem run_sim_conv {V : Type} {S : Sem V} {sg' : Subgraph} (hd : deqOnConst sg' = true) :
    ∀ (ops : List Op), (∀ o ∈ ops, o ∈ sg'.ops) → ∀ (avail : List Int) (e e' e1 : Env V),
      Inv S sg' e e' → Has (avail ++ insInputs sg') e' → useOK (insOutputs sg') avail ops = true →
      run S (eraseList sg' ops) e = some e1 →
      ∃ e1', run S ops e' = some e1' ∧ Inv S sg' e1 e1' := by
  intro ops
  induction ops with
  | nil => intro _ avail e e' e1 hinv _ _ h; cases h; exact ⟨e', rfl, hinv⟩
  | cons o os ih =>
    intro hmem avail e e' e1 hinv hk huse h
    have ho : o ∈ sg'.ops := hmem o List.mem_cons_self
    have hos : ∀ p ∈ os, p ∈ sg'.ops := fun p hp => hmem p (List.mem_cons_of_mem _ hp)
    simp only [useOK, Bool.and_eq_true, List.all_eq_true, Bool.or_eq_true, Bool.not_eq_true',
      List.contains_eq_mem, decide_eq_false_iff_not, decide_eq_true_eq] at huse
    obtain ⟨hav, huse'⟩ := huse
    rw [run_cons]
    cases hn : o.orig with
    | none =>
      rw [eraseList_cons_none os hn] at h
      obtain ⟨c, n, hi, hout, hcn⟩ := insEdge_of_op hd ho hn
      obtain ⟨v, hv⟩ := Option.ne_none_iff_exists'.1 (hk c (List.mem_append_right _ hcn.mem_in))
      have hstep : stepOp S e' o = some (e'.set n (S.ins n v)) := by
        unfold stepOp
        simp only [hn, hi, hout, hv, Option.map_some]
      rw [hn, hout] at huse'
      rw [hstep]
      refine ih hos (n :: avail) e _ e1 (step_ins hd ho hn hinv hstep) (fun x hx => ?_) huse' h
      rcases List.mem_cons.1 hx with rfl | hx
      · rw [set_eq]; exact nofun
      · exact hk.set n _ x hx
    | some tag =>
      rw [eraseList_cons_some os hn, run_cons] at h
      obtain ⟨e2, hstep, h⟩ := Option.bind_eq_some_iff.1 h
      rw [hn] at huse'
      have hb := step_orig hd ho hn _ hinv hk fun x hx _ hxo =>
        hk x (List.mem_append_left _ ((hav x hx).resolve_left fun hne => hne hxo))
      rw [hstep] at hb
      obtain ⟨e2', h2, hinv2, hk2⟩ := hb.of_left
      rw [h2]
      exact ih hos avail e2 e2' e1 hinv2 hk2 huse' h

end EvalProofs
