import QModel.Py
/-!
# `Py.dictGet?` / `Py.dictSet` on association lists
Parts: `dictGet?` (look-up); `dictSet` (update: look-up after it, keys, members, distinct keys); a function applied to the values and `pop` as a
filter; `Locality.keep` (the entries whose key is selected).
-/

namespace Py
variable {κ : Type _} {ν : Type _} [BEq κ] [LawfulBEq κ]

omit [LawfulBEq κ] in
theorem dictGet?_nil (n : κ) : dictGet? ([] : List (κ × ν)) n = none := rfl

theorem dictGet?_cons_self (n : κ) (v : ν) (d : List (κ × ν)) : dictGet? ((n, v) :: d) n = some v := by
  simp only [dictGet?, List.find?_cons, beq_self_eq_true, Option.map_some]

theorem dictGet?_cons_ne {e : κ × ν} {n : κ} (h : e.1 ≠ n) (d : List (κ × ν)) :
    dictGet? (e :: d) n = dictGet? d n := by
  simp only [dictGet?, List.find?_cons, beq_false_of_ne h]

theorem dictGet?_cons [DecidableEq κ] (e : κ × ν) (d : List (κ × ν)) (n : κ) :
    dictGet? (e :: d) n = if e.1 = n then some e.2 else dictGet? d n := by
  by_cases h : e.1 = n
  · rw [if_pos h, ← h]; exact dictGet?_cons_self e.1 e.2 d
  · rw [if_neg h, dictGet?_cons_ne h]

omit [LawfulBEq κ] in
theorem dictGet?_append (d l : List (κ × ν)) (n : κ) :
    dictGet? (d ++ l) n = (dictGet? d n).or (dictGet? l n) := by
  unfold dictGet?
  rw [List.find?_append]
  cases d.find? (·.1 == n) <;> rfl

theorem dictGet?_mem (d : List (κ × ν)) (n : κ) (v : ν) (h : dictGet? d n = some v) : (n, v) ∈ d := by
  induction d with
  | nil => cases h
  | cons e d ih =>
    by_cases hk : e.1 = n
    · obtain ⟨k, w⟩ := e
      cases hk
      rw [dictGet?_cons_self] at h
      cases h
      exact List.mem_cons_self
    · rw [dictGet?_cons_ne hk] at h
      exact List.mem_cons_of_mem _ (ih h)

theorem dictGet?_eq_none_iff (d : List (κ × ν)) (n : κ) :
    dictGet? d n = none ↔ n ∉ d.map (·.1) := by
  induction d with
  | nil => exact ⟨fun _ h => (nomatch h), fun _ => rfl⟩
  | cons e d ih =>
    rw [List.map_cons, List.mem_cons, not_or]
    by_cases hk : e.1 = n
    · obtain ⟨k, w⟩ := e
      cases hk
      rw [dictGet?_cons_self]
      exact ⟨fun h => (nomatch h), fun h => absurd rfl h.1⟩
    · rw [dictGet?_cons_ne hk, ih]
      exact ⟨fun h => ⟨fun h' => hk h'.symm, h⟩, fun h => h.2⟩

theorem dictGet?_of_key (d : List (κ × ν)) (n : κ) (h : n ∈ d.map (·.1)) : ∃ v, dictGet? d n = some v := by
  cases hg : dictGet? d n with
  | none => exact absurd h ((dictGet?_eq_none_iff d n).1 hg)
  | some v => exact ⟨v, rfl⟩

theorem mem_iff_dictGet? (d : List (κ × ν)) (hnd : (d.map (·.1)).Nodup) (n : κ) (v : ν) :
    (n, v) ∈ d ↔ dictGet? d n = some v := by
  refine ⟨fun hm => ?_, dictGet?_mem d n v⟩
  induction d with
  | nil => cases hm
  | cons e d ih =>
    rw [List.map_cons, List.nodup_cons] at hnd
    rcases List.mem_cons.1 hm with rfl | hm
    · exact dictGet?_cons_self n v d
    · have hne : e.1 ≠ n := fun hh => hnd.1 (hh ▸ List.mem_map_of_mem (f := (·.1)) hm)
      rw [dictGet?_cons_ne hne]
      exact ih hnd.2 hm

omit [LawfulBEq κ] in
theorem dictSet_nil (k : κ) (v : ν) : dictSet ([] : List (κ × ν)) k v = [(k, v)] := rfl

theorem dictSet_cons_self (k : κ) (w : ν) (d : List (κ × ν)) (v : ν) :
    dictSet ((k, w) :: d) k v = (k, v) :: d := by
  simp only [dictSet, beq_self_eq_true, if_true]

theorem dictSet_cons_ne {e : κ × ν} {k : κ} (h : e.1 ≠ k) (d : List (κ × ν)) (v : ν) :
    dictSet (e :: d) k v = e :: dictSet d k v := by
  obtain ⟨k', w⟩ := e
  have hb : (k' == k) = false := beq_false_of_ne h
  simp only [dictSet, hb, Bool.false_eq_true, if_false]

theorem dictGet?_dictSet [DecidableEq κ] (d : List (κ × ν)) (k n : κ) (v : ν) :
    dictGet? (dictSet d k v) n = if k = n then some v else dictGet? d n := by
  induction d with
  | nil => rw [dictSet_nil, dictGet?_cons, dictGet?_nil]
  | cons e d ih =>
    by_cases hk : e.1 = k
    · obtain ⟨k', w⟩ := e
      cases hk
      rw [dictSet_cons_self, dictGet?_cons, dictGet?_cons]
      by_cases hn : k' = n
      · rw [if_pos hn, if_pos hn]
      · rw [if_neg hn, if_neg hn, if_neg hn]
    · rw [dictSet_cons_ne hk, dictGet?_cons, dictGet?_cons, ih]
      by_cases hn : k = n
      · subst hn
        rw [if_neg hk, if_pos rfl, if_pos rfl]
      · rw [if_neg hn, if_neg hn]

theorem keys_dictSet (d : List (κ × ν)) (k : κ) (v : ν) :
    (dictSet d k v).map (·.1) = if k ∈ d.map (·.1) then d.map (·.1) else d.map (·.1) ++ [k] := by
  induction d with
  | nil => rfl
  | cons e d ih =>
    by_cases hk : e.1 = k
    · obtain ⟨k', w⟩ := e
      cases hk
      rw [dictSet_cons_self, List.map_cons, List.map_cons]
      exact (if_pos List.mem_cons_self).symm
    · rw [dictSet_cons_ne hk, List.map_cons, List.map_cons, ih]
      by_cases hm : k ∈ d.map (·.1)
      · rw [if_pos hm, if_pos (List.mem_cons_of_mem _ hm)]
      · rw [if_neg hm, if_neg (fun h => (List.mem_cons.1 h).elim (fun h => hk h.symm) hm),
          List.cons_append]

theorem mem_keys_dictSet (d : List (κ × ν)) (k : κ) (v : ν) (n : κ) :
    n ∈ (dictSet d k v).map (·.1) ↔ n ∈ d.map (·.1) ∨ n = k := by
  rw [keys_dictSet]
  split
  · exact ⟨.inl, fun h => h.elim id fun h => h ▸ ‹_›⟩
  · rw [List.mem_append, List.mem_singleton]

theorem mem_dictSet (d : List (κ × ν)) (k : κ) (v : ν) (e : κ × ν) (h : e ∈ dictSet d k v) :
    e ∈ d ∨ e = (k, v) := by
  induction d with
  | nil => exact .inr (List.mem_singleton.1 h)
  | cons e' d ih =>
    by_cases hk : e'.1 = k
    · obtain ⟨k', w⟩ := e'
      cases hk
      rw [dictSet_cons_self] at h
      exact (List.mem_cons.1 h).elim .inr fun h => .inl (List.mem_cons_of_mem _ h)
    · rw [dictSet_cons_ne hk] at h
      rcases List.mem_cons.1 h with h | h
      · exact .inl (h ▸ List.mem_cons_self)
      · exact (ih h).imp (List.mem_cons_of_mem _) id

theorem dictSet_of_not_mem (d : List (κ × ν)) (k : κ) (v : ν) (h : k ∉ d.map (·.1)) :
    dictSet d k v = d ++ [(k, v)] := by
  induction d with
  | nil => rfl
  | cons e d ih =>
    rw [List.map_cons, List.mem_cons, not_or] at h
    rw [dictSet_cons_ne (fun h' => h.1 h'.symm), ih h.2, List.cons_append]

theorem nodup_dictSet (d : List (κ × ν)) (k : κ) (v : ν) (h : (d.map (·.1)).Nodup) :
    ((dictSet d k v).map (·.1)).Nodup := by
  induction d with
  | nil => exact List.nodup_cons.2 ⟨fun h => (nomatch h), List.nodup_nil⟩
  | cons e d ih =>
    rw [List.map_cons, List.nodup_cons] at h
    by_cases hk : e.1 = k
    · obtain ⟨k', w⟩ := e
      cases hk
      rw [dictSet_cons_self]
      exact List.nodup_cons.2 h
    · rw [dictSet_cons_ne hk, List.map_cons, List.nodup_cons]
      exact ⟨fun hm => ((mem_keys_dictSet d k v e.1).1 hm).elim h.1 hk, ih h.2⟩

theorem dictGet?_append_cons (d1 d2 : List (κ × ν)) (k : κ) (v : ν)
    (h : k ∉ d1.map (·.1)) : dictGet? (d1 ++ (k, v) :: d2) k = some v := by
  rw [dictGet?_append, (dictGet?_eq_none_iff d1 k).2 h, dictGet?_cons_self]
  rfl

theorem dictSet_append_cons (d1 d2 : List (κ × ν)) (k : κ) (v v' : ν)
    (h : k ∉ d1.map (·.1)) : dictSet (d1 ++ (k, v) :: d2) k v' = d1 ++ (k, v') :: d2 := by
  induction d1 with
  | nil => exact dictSet_cons_self k v d2 v'
  | cons e d ih =>
    rw [List.map_cons, List.mem_cons, not_or] at h
    rw [List.cons_append, dictSet_cons_ne (fun h' => h.1 h'.symm), ih h.2, List.cons_append]

theorem mem_dictSet_iff [DecidableEq κ] (d : List (κ × ν)) (hnd : (d.map (·.1)).Nodup) (k : κ) (v : ν)
    (e : κ × ν) : e ∈ dictSet d k v ↔ e = (k, v) ∨ (e ∈ d ∧ e.1 ≠ k) := by
  obtain ⟨n, w⟩ := e
  rw [mem_iff_dictGet? _ (nodup_dictSet d k v hnd), dictGet?_dictSet, mem_iff_dictGet? d hnd]
  by_cases hk : k = n
  · subst hk
    rw [if_pos rfl]
    exact ⟨fun h => .inl (by rw [Option.some.inj h]), fun h => h.elim (fun h => by rw [(Prod.mk.inj h).2])
      fun h => absurd rfl h.2⟩
  · rw [if_neg hk]
    exact ⟨fun h => .inr ⟨h, fun h' => hk h'.symm⟩, fun h => h.elim (fun h => absurd (Prod.mk.inj h).1.symm hk)
      fun h => h.1⟩


theorem dictGet?_map [DecidableEq κ] {μ : Type _} (f : ν → μ) (d : List (κ × ν)) (n : κ) :
    dictGet? (d.map fun e => (e.1, f e.2)) n = (dictGet? d n).map f := by
  induction d with
  | nil => rfl
  | cons e t ih =>
    rw [List.map_cons, dictGet?_cons, dictGet?_cons, ih]
    split <;> rfl

omit [BEq κ] [LawfulBEq κ] in
theorem keys_map {μ : Type _} (f : ν → μ) (d : List (κ × ν)) :
    (d.map fun e => (e.1, f e.2)).map (·.1) = d.map (·.1) := by
  rw [List.map_map]; rfl

theorem keys_filter_ne (d : List (κ × ν)) (n m : κ) :
    m ∈ (d.filter (·.1 != n)).map (·.1) ↔ m ∈ d.map (·.1) ∧ m ≠ n := by
  simp only [List.mem_map, List.mem_filter, bne_iff_ne, ne_eq]
  constructor
  · rintro ⟨e, ⟨he, hen⟩, rfl⟩; exact ⟨⟨e, he, rfl⟩, hen⟩
  · rintro ⟨⟨e, he, rfl⟩, hen⟩; exact ⟨e, ⟨he, hen⟩, rfl⟩

theorem filter_ne_of_not_mem (d : List (κ × ν)) (n : κ) (h : n ∉ d.map (·.1)) :
    d.filter (·.1 != n) = d :=
  List.filter_eq_self.2 fun _ he => bne_iff_ne.2 fun hen => h (hen ▸ List.mem_map_of_mem (f := (·.1)) he)

/-- popping a present key of a dictionary with distinct keys removes exactly its entry -/
theorem perm_cons_filter (d : List (κ × ν)) (n : κ) (v : ν) (hnd : (d.map (·.1)).Nodup)
    (hg : dictGet? d n = some v) :
    List.Perm d ((n, v) :: d.filter (·.1 != n)) := by
  induction d with
  | nil => cases hg
  | cons e t ih =>
    obtain ⟨k, w⟩ := e
    rw [List.map_cons, List.nodup_cons] at hnd
    by_cases hk : k = n
    · subst hk
      rw [dictGet?_cons_self] at hg
      cases hg
      have : ((k, v) :: t).filter (fun x => x.1 != k) = t := by
        rw [List.filter_cons_of_neg (by simp), filter_ne_of_not_mem t k hnd.1]
      rw [this]
    · rw [dictGet?_cons_ne hk] at hg
      have : ((k, w) :: t).filter (fun x => x.1 != n) = (k, w) :: t.filter (fun x => x.1 != n) :=
        List.filter_cons_of_pos (by simpa using hk)
      rw [this]
      exact ((ih hnd.2 hg).cons (k, w)).trans (List.Perm.swap _ _ _)

end Py

namespace Locality
variable {ν : Type} (N : String → Bool)

def keep (d : List (String × ν)) : List (String × ν) := d.filter fun e => N e.1

theorem keep_cons_in (e : String × ν) (d : List (String × ν)) (he : N e.1 = true) : keep N (e :: d) = e :: keep N d :=
  List.filter_cons_of_pos (by exact he)

theorem keep_cons_out (e : String × ν) (d : List (String × ν)) (he : N e.1 = false) : keep N (e :: d) = keep N d :=
  List.filter_cons_of_neg (by rw [he]; exact Bool.false_ne_true)

theorem dictGet?_keep (d : List (String × ν)) (n : String) (hn : N n = true) :
    Py.dictGet? (keep N d) n = Py.dictGet? d n := by
  induction d with
  | nil => rfl
  | cons e d ih =>
    cases he : N e.1 with
    | true => rw [keep_cons_in N e d he, Py.dictGet?_cons, Py.dictGet?_cons, ih]
    | false =>
      rw [keep_cons_out N e d he, ih, Py.dictGet?_cons_ne fun h => by rw [h, hn] at he; cases he]

theorem keep_dictSet_in (d : List (String × ν)) (k : String) (v : ν) (hk : N k = true) :
    keep N (Py.dictSet d k v) = Py.dictSet (keep N d) k v := by
  induction d with
  | nil => exact keep_cons_in N (k, v) [] hk
  | cons e d ih =>
    by_cases hek : e.1 = k
    · obtain ⟨k', w⟩ := e
      cases hek
      rw [Py.dictSet_cons_self, keep_cons_in N (k', v) d hk, keep_cons_in N (k', w) d hk, Py.dictSet_cons_self]
    · rw [Py.dictSet_cons_ne hek]
      cases he : N e.1 with
      | true => rw [keep_cons_in N e _ he, keep_cons_in N e d he, Py.dictSet_cons_ne hek, ih]
      | false => rw [keep_cons_out N e _ he, keep_cons_out N e d he, ih]

theorem keep_dictSet_out (d : List (String × ν)) (k : String) (v : ν) (hk : N k = false) :
    keep N (Py.dictSet d k v) = keep N d := by
  induction d with
  | nil => exact keep_cons_out N (k, v) [] hk
  | cons e d ih =>
    by_cases hek : e.1 = k
    · obtain ⟨k', w⟩ := e
      cases hek
      rw [Py.dictSet_cons_self, keep_cons_out N (k', v) d hk, keep_cons_out N (k', w) d hk]
    · rw [Py.dictSet_cons_ne hek]
      cases he : N e.1 with
      | true => rw [keep_cons_in N e _ he, keep_cons_in N e d he, ih]
      | false => rw [keep_cons_out N e _ he, keep_cons_out N e d he, ih]

theorem keep_append_in (d : List (String × ν)) (e : String × ν) (he : N e.1 = true) :
    keep N (d ++ [e]) = keep N d ++ [e] := by
  rw [keep, List.filter_append]
  exact congrArg _ (keep_cons_in N e [] he)

theorem keep_append_out (d : List (String × ν)) (e : String × ν) (he : N e.1 = false) :
    keep N (d ++ [e]) = keep N d := by
  rw [keep, List.filter_append]
  exact (congrArg _ (keep_cons_out N e [] he)).trans (List.append_nil _)

end Locality
