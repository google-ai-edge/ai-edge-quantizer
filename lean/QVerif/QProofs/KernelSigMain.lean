import QProofs.KernelSigIns
/-!
# Kernel signatures (C01b): every operator of the output model
Assembly of the per-mode theorems of `KernelSigOps` over the three situations of `KernelSig.op_mode`, and
the inserted operators.  The hypotheses (`FloatModel`, `DataRuntime`, `WeightConst16`) are documented in `QProps/C01b.lean`. -/
open Graph Mat Pipeline GraphStep

set_option autoImplicit false

namespace KernelSig

/-- **the data operand of an operator with weights that the recipe selects for integer compute (dynamic or
    static range) is a runtime tensor.**  (The materialisation quantizes a CONSTANT data operand of
    FULLY_CONNECTED / CONV_2D / DEPTHWISE_CONV_2D / CONV_2D_TRANSPOSE / BATCH_MATMUL with the WEIGHT config;
    see `C01.E2E.const_data_drq_violates`.) -/
def DataRuntime (rx : String → String → Bool) (env : Env) (st : Recipe.State) : Prop :=
  ∀ sg ∈ env.model.subgraphs, ∀ op ∈ sg.ops, ∀ nm cfg, TypingE2E.ResolvesMinMax rx env st sg op nm cfg →
    cfg.cp = .integer → weightOp nm = true → nm ≠ "EMBEDDING_LOOKUP" →
    ∀ t, op.inputs[PipeNF.dataSlot nm]? = some t → isConst env.model sg t = false

/-- **the weight (operand 1) of a CONV_2D / DEPTHWISE_CONV_2D / CONV_2D_TRANSPOSE that the recipe selects for
    static-range quantization with 16-bit activations is a constant.**  (A RUNTIME weight becomes an int16
    tensor, and the int16 convolution kernels read int8 weights; see `C01.E2E.runtime_weight_srq16_violates`.
    FULLY_CONNECTED and BATCH_MATMUL have int16 × int16 kernels: `KernelSig.weightActOps`.) -/
def WeightConst16 (rx : String → String → Bool) (env : Env) (st : Recipe.State) : Prop :=
  ∀ sg ∈ env.model.subgraphs, ∀ op ∈ sg.ops, ∀ nm cfg a, TypingE2E.ResolvesMinMax rx env st sg op nm cfg →
    cfg.cp = .integer → cfg.act = some a → a.bits = 16 → weightOp nm = true → weightActOps.contains nm = false →
    ∀ t, op.inputs[1]? = some t → isConst env.model sg t = true

def dataRuntimeB (m : Model) : Bool :=
  NFCheck.allNamedOps m fun sg op nm => !weightOp nm || nm == "EMBEDDING_LOOKUP" ||
    (match op.inputs[PipeNF.dataSlot nm]? with
     | some t => !isConst m sg t
     | none => true)

theorem dataRuntime_of_B (rx : String → String → Bool) (env : Env) (st : Recipe.State)
    (h : dataRuntimeB env.model = true) : DataRuntime rx env st := by
  intro sg hsg op hop nm cfg hres _ hw hne t ht
  have h2 := NFCheckProofs.allNamedOps_sound _ _ h sg hsg op hop nm (let ⟨code, _, h1, h2, _⟩ := hres; ⟨code, h1, h2⟩)
  simp only [hw, Bool.not_true, Bool.false_or, ht, Bool.or_eq_true, beq_iff_eq, Bool.not_eq_true'] at h2
  rcases h2 with h2 | h2
  · exact absurd h2 hne
  · exact h2

def weightConstB (m : Model) : Bool :=
  NFCheck.allNamedOps m fun sg op nm => !weightOp nm || weightActOps.contains nm ||
    (match op.inputs[1]? with
     | some t => isConst m sg t
     | none => true)

theorem weightConst16_of_B (rx : String → String → Bool) (env : Env) (st : Recipe.State)
    (h : weightConstB env.model = true) : WeightConst16 rx env st := by
  intro sg hsg op hop nm cfg a hres _ _ _ hw hne t ht
  have h2 := NFCheckProofs.allNamedOps_sound _ _ h sg hsg op hop nm (let ⟨code, _, h1, h2, _⟩ := hres; ⟨code, h1, h2⟩)
  simp only [hw, Bool.not_true, Bool.false_or, ht, Bool.or_eq_true] at h2
  rcases h2 with h2 | h2
  · rw [hne] at h2; cases h2
  · exact h2

instance (m' : Model) : Decidable (InsertedWidths m') := by
  unfold InsertedWidths
  infer_instance

theorem accepts_float (nm : String) (hq : nm ≠ "QUANTIZE") (hd : nm ≠ "DEQUANTIZE") (ins outs : List DT)
    (h : floatSig nm ins outs = true) : accepts nm ins outs = true := by
  unfold accepts
  rw [if_neg hq, if_neg hd, h]
  rfl

theorem accepts_hybrid (nm : String) (hq : nm ≠ "QUANTIZE") (hd : nm ≠ "DEQUANTIZE") (ins outs : List DT)
    (hh : hybridOps.contains nm = true) (h : sig (hybridRow nm) Tables.ttFloat32 nm ins outs = true) :
    accepts nm ins outs = true := by
  unfold accepts
  rw [if_neg hq, if_neg hd, hh, h]
  simp

theorem accepts_int (nm : String) (hq : nm ≠ "QUANTIZE") (hd : nm ≠ "DEQUANTIZE") (ins outs : List DT)
    (hh : intOps.contains nm = true) (b : Int) (hb : b = 8 ∨ b = 16)
    (h : sig (intRow (actType b) (biasType b) nm) (actType b) nm ins outs = true) :
    accepts nm ins outs = true := by
  unfold accepts
  rw [if_neg hq, if_neg hd, hh]
  rcases hb with rfl | rfl
  · have h1 : actType 8 = Tables.ttInt8 := rfl
    have h2 : biasType 8 = Tables.ttInt32 := rfl
    rw [h1, h2] at h
    rw [h]
    simp
  · have h1 : actType 16 = Tables.ttInt16 := rfl
    have h2 : biasType 16 = Tables.ttInt64 := rfl
    rw [h1, h2] at h
    rw [h]
    simp

/-- **every ORIGINAL operator of the output has a signature of the table**: unquantized, it keeps its signature (and an operator
    outside the table is not judged); under min/max it is in the row of its mode (`srq_sig`, `drq_sig`, `wo_sig`), under float
    casting in the float row (`f16_sig`) -/
theorem orig_ok (rx : String → String → Bool) (env : Env) (st : Recipe.State)
    (qsvs : Option Qsvs) (m' : Model) (tbl : List Param) (hnf : PipelineWF.NF env st)
    (hns : MatTotal.NoSkip st) (h : quantizePure rx env st qsvs = .ok (m', tbl))
    (hfl : FloatModel env.model) (hdr : DataRuntime rx env st) (hwc : WeightConst16 rx env st)
    (s : Nat) (sg' : Subgraph) (hsg' : m'.subgraphs[s]? = some sg') (o : Op) (ho : o ∈ sg'.ops)
    (k : Nat) (hk : o.orig = some k) :
    opOK m' sg' o = true ∧
    ∃ sg op code, env.model.subgraphs[s]? = some sg ∧ sg.ops[k]? = some op ∧
      env.model.opcodes[op.code]? = some code ∧
      (nameOfCode code = none → opSig m' sg' o = opSig env.model sg op) := by
  have R := run_of rx env st qsvs m' tbl hnf h
  obtain ⟨sg, hsg⟩ := R.source s sg' hsg'
  obtain ⟨op, hop⟩ := orig_source R hnf.tagged s sg sg' hsg hsg' o ho k hk
  have hsgm : sg ∈ env.model.subgraphs := List.mem_of_getElem? hsg
  have hopm : op ∈ sg.ops := List.mem_of_getElem? hop
  have hsgOK := SgOK.of_wf hnf.wf hsgm
  have hO := hsgOK.ops k op hop
  obtain ⟨code, hcode⟩ : ∃ code, env.model.opcodes[op.code]? = some code :=
    ⟨_, List.getElem?_eq_getElem hO.code⟩
  have L : Loc env m' s sg sg' k op code := ⟨R, hsg, hsg', hop, hcode, hO⟩
  obtain ⟨hflN, hflU⟩ := hfl.get sg hsgm op hopm code hcode
  -- a named operator whose output twin has a row of the table
  have named : ∀ nm, opNameOfCode code = some nm → (∃ o', Same sg' k op o' ∧
      accepts nm (o'.inputs.map (dtypeAt sg')) (o'.outputs.map (dtypeAt sg')) = true) →
      opOK m' sg' o = true ∧
      ∃ sg op code, env.model.subgraphs[s]? = some sg ∧ sg.ops[k]? = some op ∧
        env.model.opcodes[op.code]? = some code ∧
        (nameOfCode code = none → opSig m' sg' o = opSig env.model sg op) := by
    rintro nm hnm ⟨o', S, hacc⟩
    have : o = o' := S.uniq o ho hk
    subst this
    obtain ⟨hn1, -, -⟩ := nameOfCode_named code nm hnm
    refine ⟨opOK_of m' sg' o code nm (L.code' S) hn1 hacc, sg, op, code, hsg, hop, hcode, ?_⟩
    intro hnone
    rw [hn1] at hnone
    cases hnone
  rcases op_mode rx env st hns hnf.wf sg hsgm k op hop with hnq | ⟨nm, cfg, hres, hmode⟩ | ⟨nm, hres, hfc⟩
  · -- unquantized: same signature
    obtain ⟨o', S, hsig⟩ := noquant_sig rx env st qsvs m' tbl hnf h s sg sg' k op code L hnq
    have : o = o' := S.uniq o ho hk
    subst this
    refine ⟨?_, sg, op, code, hsg, hop, hcode, fun _ => hsig⟩
    unfold opOK
    rw [hsig]
    unfold opSig
    rw [hcode]
    simp only [Option.map_some, sigOK]
    cases hnm : opNameOfCode code with
    | none =>
      obtain ⟨c1, c2⟩ := hflU hnm
      rw [nameOfCode_none code hnm c1 c2]
    | some nm =>
      obtain ⟨hn1, hn2, hn3⟩ := nameOfCode_named code nm hnm
      rw [hn1]
      exact accepts_float nm hn2 hn3 _ _ (hflN nm hnm)
  · -- the min/max algorithm
    have hnm : opNameOfCode code = some nm := by
      obtain ⟨code', scope, c1, c2, -⟩ := hres
      rw [hcode] at c1
      cases c1
      exact c2
    obtain ⟨-, hn2, hn3⟩ := nameOfCode_named code nm hnm
    have fl := hflN nm hnm
    have hmemn := name_mem code nm hnm
    apply named nm hnm
    obtain ⟨w, hw, hwb, hcases⟩ := sigMode_cases nm cfg hmode
    rcases hcases with ⟨hcp, a, ha, hab, hio⟩ | ⟨hcp, hact, hdrq, hhy, h4⟩ | ⟨hcp, hact, hed, hwo⟩
    · -- static range
      rcases hio with e | e | ⟨hint, h4⟩
      · exact absurd e (names_not_io nm hmemn).1
      · exact absurd e (names_not_io nm hmemn).2
      · obtain ⟨o', S, hs⟩ := srq_sig rx env st qsvs m' tbl hnf h hfl s sg sg' k op code L nm hnm fl cfg hres hcp a ha
          hab w hw hwb h4 (fun hwop hne => hdr sg hsgm op hopm nm cfg hres hcp hwop hne)
          (fun h16 hwop hne => hwc sg hsgm op hopm nm cfg a hres hcp ha h16 hwop hne)
        exact ⟨o', S, accepts_int nm hn2 hn3 _ _ hint a.bits hab hs⟩
    · obtain ⟨o', S, hs⟩ := drq_sig rx env st qsvs m' tbl hnf h hfl s sg sg' k op code L nm hnm fl cfg hres hcp hact
        hdrq w hw hwb h4
        (fun hne => hdr sg hsgm op hopm nm cfg hres hcp (by unfold weightOp; rw [← MatTotal.drq_eq_wo]; exact hdrq) hne)
      refine ⟨o', S, ?_⟩
      rcases hs with hs | hs
      · exact accepts_float nm hn2 hn3 _ _ hs
      · exact accepts_hybrid nm hn2 hn3 _ _ hhy hs
    · obtain ⟨o', S, hs⟩ := wo_sig rx env st qsvs m' tbl hnf h hfl s sg sg' k op code L nm hnm fl cfg hres hcp hed hact
        hwo w hw
      exact ⟨o', S, accepts_float nm hn2 hn3 _ _ hs⟩
  · -- float casting
    have hnm : opNameOfCode code = some nm := by
      obtain ⟨code', scope, cfg, c1, c2, -⟩ := hres
      rw [hcode] at c1
      cases c1
      exact c2
    obtain ⟨-, hn2, hn3⟩ := nameOfCode_named code nm hnm
    apply named nm hnm
    obtain ⟨o', S, hs⟩ := f16_sig rx env st qsvs m' tbl hnf h hfl s sg sg' k op code L nm hnm (hflN nm hnm) hres hfc
    exact ⟨o', S, accepts_float nm hn2 hn3 _ _ hs⟩

end KernelSig
