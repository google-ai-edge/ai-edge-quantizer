import QModel.Materialize
import QProofs.PyLemmas
/-!
# What `Arith.quantizeBias` and `Mat.fixedParams` return
-/
open Arith Nd

set_option autoImplicit false

namespace Arith

theorem quantizeBias_ok_iff {bias : FArr} {inp w qp : QParams} {q : IArr} :
    quantizeBias bias inp w = .ok (qp, q) ↔
      ∃ prod, zipB (fun a b => (inp.scale.pr.join w.scale.pr).chk (a * b)) inp.scale.arr w.scale.arr = .ok prod ∧
        qp = { bits := if inp.bits = 16 then 64 else 32,
               qdim := if (squeeze1 prod).shape.head? = some 1 then none else some 0,
               scale := ⟨squeeze1 prod, inp.scale.pr.join w.scale.pr⟩,
               zp := ⟨(squeeze1 prod).map (fun _ => 0), 32⟩, symmetric := true } ∧
        uniformQuantize bias qp = .ok q := by
  unfold quantizeBias
  constructor
  · intro h
    obtain ⟨prod, hprod, h⟩ := PyM.bind_eq_ok_iff.1 h
    obtain ⟨q', hq, h⟩ := PyM.bind_eq_ok_iff.1 h
    obtain ⟨rfl, rfl⟩ := Prod.mk.inj (PyM.pure_eq_ok_iff.1 h)
    exact ⟨prod, hprod, rfl, hq⟩
  · rintro ⟨prod, hprod, rfl, hq⟩
    exact PyM.bind_eq_ok_iff.2 ⟨prod, hprod, PyM.bind_eq_ok_iff.2 ⟨q, hq, rfl⟩⟩

theorem quantizeBias_bits (bias : FArr) (qi qw qp : QParams) (q : IArr) (h : quantizeBias bias qi qw = .ok (qp, q)) :
    qp.bits = if qi.bits = 16 then 64 else 32 := by
  obtain ⟨prod, -, rfl, -⟩ := quantizeBias_ok_iff.1 h
  rfl

theorem quantizeBias_qdim (bias : FArr) (qi qw qp : QParams) (q : IArr) (h : quantizeBias bias qi qw = .ok (qp, q)) :
    qp.qdim = none ∨ qp.qdim = some 0 := by
  obtain ⟨prod, -, rfl, -⟩ := quantizeBias_ok_iff.1 h
  by_cases hc : (squeeze1 prod).shape.head? = some 1
  · exact .inl (if_pos hc)
  · exact .inr (if_neg hc)

end Arith

namespace Mat

theorem fixedParams_some {sl : Bool} {bits : Nat} {fp : QParams} (h : fixedParams sl bits = some fp) :
    (bits = 8 ∨ bits = 16) ∧ ∃ (s : Rat) (z : Int) (sym : Bool),
      fp = { bits := bits, qdim := none, scale := ⟨⟨[], [s]⟩, .f64⟩, zp := ⟨⟨[], [z]⟩, 64⟩, symmetric := sym } := by
  unfold fixedParams at h
  by_cases h8 : bits = 8
  · refine ⟨.inl h8, ?_⟩
    cases sl
    · rw [if_neg Bool.false_ne_true, if_pos h8] at h
      exact ⟨_, _, _, (Option.some.inj h).symm⟩
    · rw [if_pos rfl, if_pos h8] at h
      exact ⟨_, _, _, (Option.some.inj h).symm⟩
  · by_cases h16 : bits = 16
    · refine ⟨.inr h16, ?_⟩
      cases sl
      · rw [if_neg Bool.false_ne_true, if_neg h8, if_pos h16] at h
        exact ⟨_, _, _, (Option.some.inj h).symm⟩
      · rw [if_pos rfl, if_neg h8, if_pos h16] at h
        exact ⟨_, _, _, (Option.some.inj h).symm⟩
    · cases sl
      · rw [if_neg Bool.false_ne_true, if_neg h8, if_neg h16] at h
        cases h
      · rw [if_pos rfl, if_neg h8, if_neg h16] at h
        cases h

theorem fixedParams_bits (sl : Bool) (bits : Nat) (fp : QParams) (h : fixedParams sl bits = some fp) : fp.bits = bits := by
  obtain ⟨-, s, z, sym, rfl⟩ := fixedParams_some h
  rfl

end Mat
