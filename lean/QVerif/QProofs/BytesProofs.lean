import QModel.Bytes
import QProofs.Rounding
/-!
# Little-endian integer storage: the number read back from the stored bytes, `wrapInt`;
# float16 storage: the decoder `f16Val` on the bit patterns of normal and sub-normal numbers
-/
open Bytes Num

namespace BytesProofs

theorem foldl_add_sum (l : List Nat) (a : Nat) : l.foldl (· + ·) a = a + l.sum := by
  induction l generalizing a with
  | nil => simp
  | cons x xs ih => simp [List.foldl_cons, ih, Nat.add_assoc]

theorem zipIdx_range_map (f : Nat → Nat) (k : Nat) :
    (((List.range k).map f).zipIdx.map fun (b, i) => b * 2^(8*i))
      = (List.range k).map fun i => f i * 2^(8*i) := by
  induction k with
  | zero => rfl
  | succ k ih =>
    rw [List.range_succ, List.map_append, List.zipIdx_append, List.map_append, ih, List.map_append]
    simp

theorem digits_sum (u k : Nat) :
    ((List.range k).map fun i => (u / 2^(8*i)) % 256 * 2^(8*i)).sum = u % 2^(8*k) := by
  induction k with
  | zero => simp [Nat.mod_one]
  | succ k ih =>
    rw [List.range_succ, List.map_append, List.sum_append, ih]
    have e : 2^(8*(k+1)) = 2^(8*k) * 256 := by
      rw [Nat.mul_succ, Nat.pow_add]
    rw [e, Nat.mod_mul]
    simp [Nat.mul_comm]

theorem decode_sum (k : Nat) (z : Int) :
    (((encodeLE (8*k) z).zipIdx.map fun (b, i) => b * 2^(8*i)).foldl (· + ·) 0 : Nat)
      = (z % (2:Int)^(8*k)).toNat := by
  unfold encodeLE
  simp only [Nat.mul_div_cancel_left k (by decide : 0 < 8)]
  rw [zipIdx_range_map, foldl_add_sum, Nat.zero_add, digits_sum]
  apply Nat.mod_eq_of_lt
  have hpos : (0:Int) < (2:Int)^(8*k) := Int.pow_pos (by decide)
  have h1 : (0:Int) ≤ z % (2:Int)^(8*k) := Int.emod_nonneg _ (ne_of_gt hpos)
  have h2 : z % (2:Int)^(8*k) < (2:Int)^(8*k) := Int.emod_lt_of_pos _ hpos
  have h3 : (((z % (2:Int)^(8*k)).toNat : Nat) : Int) = z % (2:Int)^(8*k) := Int.toNat_of_nonneg h1
  have h4 : (((2:Nat)^(8*k) : Nat) : Int) = (2:Int)^(8*k) := by push_cast; rfl
  omega

theorem wrapInt_emod (w : Nat) (z : Int) : wrapInt w (z % (2:Int)^w) = wrapInt w z := by
  unfold wrapInt
  simp only
  rw [Int.add_emod, Int.emod_emod, ← Int.add_emod]

theorem two_pow_pred (w : Nat) (hw : 1 ≤ w) : (2:Int)^w = 2 * (2:Int)^(w-1) := by
  obtain ⟨n, rfl⟩ : ∃ n, w = n + 1 := ⟨w - 1, by omega⟩
  simp [Int.pow_succ, Int.mul_comm]

theorem wrapInt_id (w : Nat) (hw : 1 ≤ w) (z : Int) (h1 : -(2:Int)^(w-1) ≤ z) (h2 : z < (2:Int)^(w-1)) :
    wrapInt w z = z := by
  unfold wrapInt
  simp only
  rw [two_pow_pred w hw, Int.emod_eq_of_lt (by omega) (by omega)]
  omega

theorem wrapInt_range (w : Nat) (hw : 1 ≤ w) (z : Int) :
    -(2:Int)^(w-1) ≤ wrapInt w z ∧ wrapInt w z < (2:Int)^(w-1) := by
  unfold wrapInt
  simp only
  have e := two_pow_pred w hw
  have hpos : (0:Int) < (2:Int)^(w-1) := Int.pow_pos (by decide)
  have h1 := Int.emod_nonneg (z + (2:Int)^(w-1)) (show (2:Int)^w ≠ 0 by omega)
  have h2 := Int.emod_lt_of_pos (z + (2:Int)^(w-1)) (show (0:Int) < (2:Int)^w by omega)
  omega

/-- decoder for the binary16 bit pattern (finite values) -/
def f16Val (b : Nat) : Rat :=
  let s : Rat := if b / 32768 = 0 then 1 else -1
  let ef : Nat := (b / 1024) % 32
  let m : Nat := b % 1024
  if ef = 0 then s * (m : Rat) * (2:Rat)^(-24 : Int)
  else s * ((1024 + m : Nat) : Rat) * (2:Rat)^((ef : Int) - 25)

/-- `x` is a finite IEEE binary16 number: zero, normal or sub-normal -/
def F16Repr (x : Rat) : Prop :=
  x = 0 ∨
  (∃ (s : Bool) (m : Nat) (e : Int), 1024 ≤ m ∧ m < 2048 ∧ -14 ≤ e ∧ e ≤ 15 ∧
    x = (if s then -1 else 1) * (m : Rat) * (2:Rat)^(e - 10)) ∨
  (∃ (s : Bool) (m : Nat), 0 < m ∧ m < 1024 ∧
    x = (if s then -1 else 1) * (m : Rat) * (2:Rat)^(-24 : Int))

theorem F16Repr.neg {x : Rat} (h : F16Repr x) : F16Repr (-x) := by
  rcases h with rfl | ⟨s, m, e, h1, h2, h3, h4, rfl⟩ | ⟨s, m, h1, h2, rfl⟩
  · exact .inl (by simp)
  · refine .inr (.inl ⟨!s, m, e, h1, h2, h3, h4, ?_⟩)
    cases s <;> simp
  · refine .inr (.inr ⟨!s, m, h1, h2, ?_⟩)
    cases s <;> simp

/-- magnitude part of the bit pattern -/
def f16Mag (a : Rat) : Nat :=
  if flog2 a < -14 then (a * (2:Rat)^(24:Int)).floor.toNat
  else ((flog2 a + 15).toNat) * 1024 + ((a * (2:Rat)^(10 - flog2 a)).floor.toNat - 1024)

theorem f16Bits_pos (a : Rat) (ha : 0 < a) : f16Bits a = f16Mag a := by
  unfold f16Bits f16Mag
  have h0 : a ≠ 0 := ne_of_gt ha
  have h1 : ¬ a < 0 := not_lt.mpr (le_of_lt ha)
  simp [h0, h1]

theorem f16Bits_neg (a : Rat) (ha : 0 < a) : f16Bits (-a) = 32768 + f16Mag a := by
  unfold f16Bits f16Mag
  have h0 : a ≠ 0 := ne_of_gt ha
  simp [h0, ha]
  split <;> omega

theorem floor_nat (m : Nat) : (Rat.floor (m : Rat)).toNat = m := by
  have : Rat.floor (m : Rat) = (m : Int) := by
    show ⌊(m : Rat)⌋ = (m : Int)
    exact Int.floor_natCast m
  rw [this]; rfl

theorem f16Mag_normal (m : Nat) (e : Int) (hm1 : 1024 ≤ m) (hm2 : m < 2048) (he1 : -14 ≤ e) (he2 : e ≤ 15) :
    f16Mag ((m : Rat) * (2:Rat)^(e - 10)) = (e + 15).toNat * 1024 + (m - 1024) := by
  have hp : (0:Rat) < (2:Rat)^(e-10) := zpow_pos (by norm_num) _
  have hmpos : (0:Rat) < (m:Rat) := by exact_mod_cast (by omega : 0 < m)
  have e1 : (2:Rat)^e = 1024 * (2:Rat)^(e-10) := by
    rw [zpow_sub₀ (by norm_num)]; norm_num; ring
  have e2 : (2:Rat)^(e+1) = 2048 * (2:Rat)^(e-10) := by
    rw [zpow_sub₀ (by norm_num), zpow_add₀ (by norm_num)]; norm_num; ring
  have hf : flog2 ((m : Rat) * (2:Rat)^(e - 10)) = e := by
    have h1 := Rounding.le_flog2 (mul_pos hmpos hp) (e := e)
      (by rw [e1]; exact mul_le_mul_of_nonneg_right (by exact_mod_cast hm1) (le_of_lt hp))
    have h2 := Rounding.flog2_lt (mul_pos hmpos hp) (e := e + 1)
      (by rw [e2]; exact mul_lt_mul_of_pos_right (by exact_mod_cast hm2) hp)
    omega
  unfold f16Mag
  rw [hf, if_neg (by omega)]
  have : (m : Rat) * (2:Rat)^(e - 10) * (2:Rat)^(10 - e) = m := by
    rw [mul_assoc, ← zpow_add₀ (by norm_num)]; simp
  rw [this, floor_nat]

theorem f16Mag_sub (m : Nat) (hm1 : 0 < m) (hm2 : m < 1024) :
    f16Mag ((m : Rat) * (2:Rat)^(-24 : Int)) = m := by
  have hp : (0:Rat) < (2:Rat)^(-24:Int) := zpow_pos (by norm_num) _
  have hmpos : (0:Rat) < (m:Rat) := by exact_mod_cast hm1
  have hf : flog2 ((m : Rat) * (2:Rat)^(-24:Int)) < -14 := by
    refine Rounding.flog2_lt (mul_pos hmpos hp) ?_
    rw [show (2:Rat)^(-14:Int) = 1024 * (2:Rat)^(-24:Int) by norm_num]
    exact mul_lt_mul_of_pos_right (by exact_mod_cast hm2) hp
  unfold f16Mag
  rw [if_pos hf]
  have : (m : Rat) * (2:Rat)^(-24:Int) * (2:Rat)^(24:Int) = m := by
    rw [mul_assoc, ← zpow_add₀ (by norm_num)]; simp
  rw [this, floor_nat]

theorem f16_fields (s t r : Nat) (ht : t < 32) (hr : r < 1024) :
    (s * 32768 + t * 1024 + r) / 32768 = s ∧ (s * 32768 + t * 1024 + r) / 1024 % 32 = t ∧
    (s * 32768 + t * 1024 + r) % 1024 = r := by
  refine ⟨?_, ?_, ?_⟩ <;> omega

theorem f16Val_fields (s t r : Nat) (ht : t < 32) (hr : r < 1024) :
    f16Val (s * 32768 + t * 1024 + r) =
      if t = 0 then (if s = 0 then 1 else -1) * (r : Rat) * (2:Rat)^(-24 : Int)
      else (if s = 0 then 1 else -1) * ((1024 + r : Nat) : Rat) * (2:Rat)^((t : Int) - 25) := by
  obtain ⟨a1, a2, a3⟩ := f16_fields s t r ht hr
  unfold f16Val
  simp only [a1, a2, a3]

theorem f16Val_normal (m : Nat) (e : Int) (hm1 : 1024 ≤ m) (hm2 : m < 2048) (he1 : -14 ≤ e) (he2 : e ≤ 15) :
    f16Val ((e + 15).toNat * 1024 + (m - 1024)) = (m : Rat) * (2:Rat)^(e - 10) := by
  obtain ⟨t, ht, ht1, ht2⟩ : ∃ t : Nat, (e + 15).toNat = t ∧ 1 ≤ t ∧ t ≤ 30 := ⟨_, rfl, by omega, by omega⟩
  have := f16Val_fields 0 t (m - 1024) (by omega) (by omega)
  rw [Nat.zero_mul, Nat.zero_add, if_neg (by omega), if_pos rfl, one_mul, show 1024 + (m - 1024) = m by omega,
    show (t : Int) - 25 = e - 10 by omega] at this
  rw [ht, this]

theorem f16Val_sub (m : Nat) (hm2 : m < 1024) : f16Val m = (m : Rat) * (2:Rat)^(-24 : Int) := by
  have := f16Val_fields 0 0 m (by decide) hm2
  rwa [Nat.zero_mul, Nat.zero_add, if_pos rfl, if_pos rfl, one_mul] at this

theorem f16Val_sign (b : Nat) (hb : b < 32768) : f16Val (32768 + b) = -f16Val b := by
  have e0 : b = 0 * 32768 + b / 1024 * 1024 + b % 1024 := by omega
  have e1 : 32768 + b = 1 * 32768 + b / 1024 * 1024 + b % 1024 := by omega
  have ht : b / 1024 < 32 := by omega
  have hr : b % 1024 < 1024 := Nat.mod_lt _ (by decide)
  rw [e1, f16Val_fields 1 _ _ ht hr]
  conv_rhs => rw [e0, f16Val_fields 0 _ _ ht hr]
  simp only [one_ne_zero, ↓reduceIte, one_mul, neg_mul]
  split <;> rfl

theorem f16Val_f16Bits_signed (s : Bool) (a : Rat) (ha : 0 < a) (hlt : f16Mag a < 32768)
    (hv : f16Val (f16Mag a) = a) :
    f16Val (f16Bits ((if s then -1 else 1) * a)) = (if s then -1 else 1) * a := by
  cases s
  · simp only [Bool.false_eq_true, ↓reduceIte, one_mul]
    rw [f16Bits_pos a ha, hv]
  · simp only [↓reduceIte, neg_one_mul]
    rw [f16Bits_neg a ha, f16Val_sign _ hlt, hv]

end BytesProofs
