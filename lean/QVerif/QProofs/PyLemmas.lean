import QModel.Py
/-!
# `PyM` (`Except PyErr`) and `Py.index`: the rules by which a model function is inverted, a loop is given an invariant,
and a `do` block is identified with a normal form (the note at `forIn_eq_foldlM`)
-/

namespace PyM

/-! ## Inversion of `>>=`, `pure`, `map` -/

theorem bind_eq_ok_iff {α β} {x : PyM α} {f : α → PyM β} {b : β} :
    (x >>= f) = .ok b ↔ ∃ a, x = .ok a ∧ f a = .ok b := by
  cases x with
  | error e => exact ⟨fun h => (by cases h), fun ⟨_, h, _⟩ => (by cases h)⟩
  | ok a => exact ⟨fun h => ⟨a, rfl, h⟩, fun ⟨_, h, hf⟩ => (by cases h; exact hf)⟩

theorem bind_ok {α β} (x : PyM α) (f : α → PyM β) (b : β) (h : (x >>= f) = .ok b) :
    ∃ a, x = .ok a ∧ f a = .ok b :=
  bind_eq_ok_iff.1 h

theorem bind_eq_error_iff {α β} {x : PyM α} {f : α → PyM β} {e : PyErr} :
    (x >>= f) = .error e ↔ x = .error e ∨ ∃ a, x = .ok a ∧ f a = .error e := by
  cases x with
  | error e' =>
    exact ⟨fun h => .inl (by cases h; rfl),
      fun h => h.elim (fun h => (by cases h; rfl)) fun ⟨_, h, _⟩ => (by cases h)⟩
  | ok a =>
    exact ⟨fun h => .inr ⟨a, rfl, h⟩,
      fun h => h.elim (fun h => (by cases h)) fun ⟨_, h, hf⟩ => (by cases h; exact hf)⟩

theorem pure_eq_ok_iff {α} {a b : α} : (pure a : PyM α) = .ok b ↔ a = b :=
  ⟨fun h => Except.ok.inj h, fun h => h ▸ rfl⟩

theorem map_eq_ok_iff {α β} {f : α → β} {x : PyM α} {b : β} :
    x.map f = .ok b ↔ ∃ a, x = .ok a ∧ f a = b := by
  cases x with
  | error e => exact ⟨fun h => (by cases h), fun ⟨_, h, _⟩ => (by cases h)⟩
  | ok a =>
    exact ⟨fun h => ⟨a, rfl, Except.ok.inj h⟩,
      fun ⟨_, h, hf⟩ => (by cases h; exact congrArg Except.ok hf)⟩

theorem run_of_map {α β} {x : PyM (α × β)} {a : α} (h : x.map (·.1) = .ok a) : ∃ b, x = .ok (a, b) :=
  have ⟨r, hr, e⟩ := map_eq_ok_iff.1 h
  ⟨r.2, by rw [hr, ← e]⟩

/-! ## One test -/

theorem ite_ok_eq_ok_iff {α} {c : Prop} [Decidable c] {a b : α} {e : PyErr} :
    (if c then .ok a else .error e : PyM α) = .ok b ↔ c ∧ b = a := by
  split
  · exact ⟨fun h => ⟨‹c›, (Except.ok.inj h).symm⟩, fun h => congrArg _ h.2.symm⟩
  · exact ⟨nofun, fun h => absurd h.1 ‹¬ c›⟩

theorem ite_ok_eq_error_iff {α} {c : Prop} [Decidable c] {a : α} {e e' : PyErr} :
    (if c then .ok a else .error e : PyM α) = .error e' ↔ ¬ c ∧ e' = e := by
  split
  · exact ⟨nofun, fun h => absurd ‹c› h.1⟩
  · exact ⟨fun h => ⟨‹¬ c›, (Except.error.inj h).symm⟩, fun h => congrArg _ h.2.symm⟩

theorem guard_ok_iff {α} {c : Bool} {a b : α} {e : PyErr} :
    (if c then .ok a else .error e : PyM α) = .ok b ↔ c = true ∧ b = a :=
  ite_ok_eq_ok_iff

/-! ## `foldlM`: equations -/

theorem foldlM_cons_ok_iff {α β} {f : β → α → PyM β} {a : α} {l : List α} {i r : β} :
    (a :: l).foldlM f i = .ok r ↔ ∃ s, f i a = .ok s ∧ l.foldlM f s = .ok r := by
  rw [List.foldlM_cons]; exact bind_eq_ok_iff

theorem foldlM_append_ok_iff {α β} {f : β → α → PyM β} {l1 l2 : List α} {i r : β} :
    (l1 ++ l2).foldlM f i = .ok r ↔ ∃ s, l1.foldlM f i = .ok s ∧ l2.foldlM f s = .ok r := by
  rw [List.foldlM_append]; exact bind_eq_ok_iff

theorem foldlM_append_cons_ok_iff {α β} {f : β → α → PyM β} {l1 l2 : List α} {x : α} {i r : β} :
    (l1 ++ x :: l2).foldlM f i = .ok r ↔
      ∃ s1 s2, l1.foldlM f i = .ok s1 ∧ f s1 x = .ok s2 ∧ l2.foldlM f s2 = .ok r := by
  rw [foldlM_append_ok_iff]
  exact ⟨fun ⟨s1, h1, h⟩ => let ⟨s2, h2, h3⟩ := foldlM_cons_ok_iff.1 h; ⟨s1, s2, h1, h2, h3⟩,
    fun ⟨s1, s2, h1, h2, h3⟩ => ⟨s1, h1, foldlM_cons_ok_iff.2 ⟨s2, h2, h3⟩⟩⟩

theorem foldlM_flatMap {α β γ} (g : α → List β) (f : γ → β → PyM γ) : ∀ (l : List α) (init : γ),
    (l.flatMap g).foldlM f init = l.foldlM (fun acc a => (g a).foldlM f acc) init := by
  intro l
  induction l with
  | nil => intro init; rfl
  | cons a as ih =>
    intro init
    rw [List.flatMap_cons, List.foldlM_append, List.foldlM_cons]
    cases (g a).foldlM f init with
    | error e => rfl
    | ok s => exact ih s

theorem foldlM_eq_mapM {α β γ} (f : α → PyM β) (g : γ → β → γ) : ∀ (l : List α) (init : γ),
    l.foldlM (fun acc a => do let v ← f a; pure (g acc v)) init
      = (do let vs ← l.mapM f; pure (vs.foldl g init)) := by
  intro l
  induction l with
  | nil => intro init; rfl
  | cons a as ih =>
    intro init
    rw [List.foldlM_cons, List.mapM_cons]
    cases hf : f a with
    | error e => rfl
    | ok v =>
      simp only [bind, Except.bind, pure, Except.pure]
      have := ih (g init v)
      simp only [bind, Except.bind, pure, Except.pure] at this
      rw [this]
      cases as.mapM f with
      | error e => rfl
      | ok vs => rfl

theorem foldlM_error_split {α β} (f : β → α → PyM β) : ∀ (l : List α) (init : β) (e : PyErr),
    l.foldlM f init = .error e →
    ∃ pre x post s, l = pre ++ x :: post ∧ pre.foldlM f init = .ok s ∧ f s x = .error e := by
  intro l
  induction l with
  | nil => intro init e h; cases h
  | cons a as ih =>
    intro init e h
    rw [List.foldlM_cons] at h
    rcases bind_eq_error_iff.1 h with hf | ⟨s', hf, h⟩
    · exact ⟨[], a, as, init, rfl, rfl, hf⟩
    · obtain ⟨pre, x, post, s, hl, hpre, hx⟩ := ih s' e h
      exact ⟨a :: pre, x, post, s, by rw [hl]; rfl, foldlM_cons_ok_iff.2 ⟨s', hf, hpre⟩, hx⟩

/-! ## `foldlM`: invariant and simulation rules -/

theorem foldlM_inv_idx {α β} (f : β → α → PyM β) : ∀ (l : List α) (P : Nat → β → Prop) (init r : β),
    P 0 init → (∀ (j : Nat) x s s', l[j]? = some x → P j s → f s x = .ok s' → P (j + 1) s') →
    l.foldlM f init = .ok r → P l.length r := by
  intro l
  induction l with
  | nil => intro P init r h0 _ h; exact pure_eq_ok_iff.1 h ▸ h0
  | cons a as ih =>
    intro P init r h0 hstep h
    obtain ⟨s, hs, h⟩ := foldlM_cons_ok_iff.1 h
    exact ih (fun j s => P (j + 1) s) s r (hstep 0 a init s rfl h0 hs)
      (fun j x t t' hj => hstep (j + 1) x t t' hj) h

theorem foldlM_inv {α β} (f : β → α → PyM β) (P : β → Prop) (l : List α) (init r : β) (h0 : P init)
    (hstep : ∀ x ∈ l, ∀ s s', P s → f s x = .ok s' → P s') (h : l.foldlM f init = .ok r) : P r :=
  foldlM_inv_idx f l (fun _ => P) init r h0 (fun _ x s s' hj => hstep x (List.mem_of_getElem? hj) s s') h

theorem foldlM_at {α β} (f : β → α → PyM β) (Pn Q : β → Prop) (l1 l2 : List α) (x : α) (init r : β)
    (hinit : Pn init) (hpre : ∀ y ∈ l1, ∀ s s', Pn s → f s y = .ok s' → Pn s')
    (hat : ∀ s s', Pn s → f s x = .ok s' → Q s') (hpost : ∀ y ∈ l2, ∀ s s', Q s → f s y = .ok s' → Q s')
    (h : (l1 ++ x :: l2).foldlM f init = .ok r) : Q r := by
  obtain ⟨s1, s2, h1, h2, h3⟩ := foldlM_append_cons_ok_iff.1 h
  exact foldlM_inv f Q l2 s2 r (hat s1 s2 (foldlM_inv f Pn l1 init s1 hinit hpre h1) h2) hpost h3

theorem foldlM_reach {α β} (f : β → α → PyM β) (Q : β → Prop) (l : List α) (init r : β)
    (hkeep : ∀ x ∈ l, ∀ s s', Q s → f s x = .ok s' → Q s')
    (x0 : α) (hx0 : x0 ∈ l) (hat : ∀ s s', f s x0 = .ok s' → Q s') (h : l.foldlM f init = .ok r) : Q r := by
  obtain ⟨l1, l2, rfl⟩ := List.append_of_mem hx0
  exact foldlM_at f (fun _ => True) Q l1 l2 x0 init r trivial (fun _ _ _ _ _ _ => trivial) (fun s s' _ => hat s s')
    (fun y hy => hkeep y (List.mem_append_right _ (List.mem_cons_of_mem _ hy))) h

/-- `foldlM_inv` with `(l.take j).foldlM f init = .ok s` known at step `j` -/
theorem foldlM_inv_prefix {α β} (f : β → α → PyM β) (P : β → Prop) (init : β) (h0 : P init) (l : List α) (r : β)
    (hstep : ∀ (j : Nat) (x : α) (s s' : β), l[j]? = some x → (l.take j).foldlM f init = .ok s → P s →
      f s x = .ok s' → P s')
    (h : l.foldlM f init = .ok r) : P r := by
  refine (foldlM_inv_idx f l (fun j s => (l.take j).foldlM f init = .ok s ∧ P s) init r ⟨rfl, h0⟩ ?_ h).2
  intro j x s s' hj hs hf
  refine ⟨?_, hstep j x s s' hj hs.1 hs.2 hf⟩
  rw [List.take_add_one, hj]
  exact foldlM_append_ok_iff.2 ⟨s, hs.1, foldlM_cons_ok_iff.2 ⟨s', hf, rfl⟩⟩

theorem foldlM_inv_pre {α β} (f : β → α → PyM β) (J : List α → β → Prop) (l acc : List α) (s0 s : β) (h0 : J acc s0)
    (hstep : ∀ pre x s s', x ∈ l → J pre s → f s x = .ok s' → J (pre ++ [x]) s') (h : l.foldlM f s0 = .ok s) :
    J (acc ++ l) s := by
  have := foldlM_inv_idx f l (fun j t => J (acc ++ l.take j) t) s0 s
    (by rw [List.take_zero, List.append_nil]; exact h0)
    (fun j x t t' hj ht hf => by
      rw [List.take_add_one, hj, ← List.append_assoc]
      exact hstep _ x t t' (List.mem_of_getElem? hj) ht hf) h
  rwa [List.take_length] at this

theorem foldlM_total {α β} (f : β → α → PyM β) (P : β → Prop) :
    ∀ (l : List α) (init : β), P init →
      (∀ x ∈ l, ∀ s, P s → ∃ s', f s x = .ok s' ∧ P s') →
      ∃ r, l.foldlM f init = .ok r ∧ P r := by
  intro l
  induction l with
  | nil =>
    intro init hP _
    exact ⟨init, rfl, hP⟩
  | cons a as ih =>
    intro init hP hstep
    obtain ⟨s', hf, hs⟩ := hstep a List.mem_cons_self init hP
    obtain ⟨r, hr, hPr⟩ := ih s' hs (fun x hx => hstep x (List.mem_cons_of_mem _ hx))
    exact ⟨r, foldlM_cons_ok_iff.2 ⟨s', hf, hr⟩, hPr⟩

theorem foldlM_bracket {α β} (f : β → α → PyM β) (R : β → β → Prop) (hrefl : ∀ s, R s s)
    (htrans : ∀ a b c, R a b → R b c → R a c) (hR : ∀ s x s', f s x = .ok s' → R s s') :
    ∀ (l : List α) (init r : β), l.foldlM f init = .ok r →
      R init r ∧ ∀ x ∈ l, ∃ s s', f s x = .ok s' ∧ R init s ∧ R s' r := by
  intro l
  induction l with
  | nil =>
    intro init r h
    obtain rfl := pure_eq_ok_iff.1 h
    exact ⟨hrefl _, fun x hx => (by cases hx)⟩
  | cons a as ih =>
    intro init r h
    rw [List.foldlM_cons] at h
    obtain ⟨s1, h1, h⟩ := bind_ok _ _ _ h
    obtain ⟨g1, g2⟩ := ih s1 r h
    have h01 := hR _ _ _ h1
    refine ⟨htrans _ _ _ h01 g1, ?_⟩
    intro x hx
    rcases List.mem_cons.1 hx with rfl | hx
    · exact ⟨init, s1, h1, hrefl _, g1⟩
    · obtain ⟨s, s', e1, e2, e3⟩ := g2 x hx
      exact ⟨s, s', e1, htrans _ _ _ h01 e2, e3⟩

theorem foldlM_sim_filter {α α' σ σ'} (f : σ → α → PyM σ) (g : σ' → α' → PyM σ') (sel : α → Bool)
    (F : α' → α) (R : σ → σ' → Prop) :
    ∀ (l : List α) (l1 : List α'), l.filter sel = l1.map F →
      (∀ x1 ∈ l1, ∀ s s1 s', R s s1 → f s (F x1) = .ok s' → ∃ s1', g s1 x1 = .ok s1' ∧ R s' s1') →
      (∀ x ∈ l, sel x = false → ∀ s s1 s', R s s1 → f s x = .ok s' → R s' s1) →
      ∀ s s1 s', R s s1 → l.foldlM f s = .ok s' → ∃ s1', l1.foldlM g s1 = .ok s1' ∧ R s' s1' := by
  intro l
  induction l with
  | nil =>
    intro l1 hl _ _ s s1 s' hR h
    cases pure_eq_ok_iff.1 h
    cases l1 with
    | nil => exact ⟨s1, rfl, hR⟩
    | cons _ _ => cases hl
  | cons x l ih =>
    intro l1 hl same other s s1 s' hR h
    obtain ⟨s2, hf, h2⟩ := foldlM_cons_ok_iff.1 h
    have other' := fun y hy => other y (List.mem_cons_of_mem _ hy)
    cases hx : sel x with
    | false =>
      rw [List.filter_cons_of_neg (by rw [hx]; exact Bool.false_ne_true)] at hl
      exact ih l1 hl same other' s2 s1 s' (other x List.mem_cons_self hx s s1 s2 hR hf) h2
    | true =>
      rw [List.filter_cons_of_pos hx] at hl
      cases l1 with
      | nil => cases hl
      | cons x1 l1 =>
        rw [List.map_cons] at hl
        obtain ⟨rfl, hl'⟩ := List.cons.inj hl
        obtain ⟨s2', hg, hR'⟩ := same x1 List.mem_cons_self s s1 s2 hR hf
        obtain ⟨r1, h1, hr⟩ := ih l1 hl' (fun y hy => same y (List.mem_cons_of_mem _ hy)) other' s2 s2' s' hR' h2
        exact ⟨r1, foldlM_cons_ok_iff.2 ⟨s2', hg, h1⟩, hr⟩

/-! ## `mapM` -/

theorem mapM_nil_ok_iff {α β} {f : α → PyM β} {r : List β} :
    ([] : List α).mapM f = .ok r ↔ r = [] := by
  rw [List.mapM_nil]; exact pure_eq_ok_iff.trans eq_comm

theorem mapM_cons_ok_iff {α β} {f : α → PyM β} {a : α} {l : List α} {r : List β} :
    (a :: l).mapM f = .ok r ↔ ∃ b bs, f a = .ok b ∧ l.mapM f = .ok bs ∧ r = b :: bs := by
  rw [List.mapM_cons]
  constructor
  · intro h
    obtain ⟨b, hb, h⟩ := bind_eq_ok_iff.1 h
    obtain ⟨bs, hbs, h⟩ := bind_eq_ok_iff.1 h
    exact ⟨b, bs, hb, hbs, (pure_eq_ok_iff.1 h).symm⟩
  · rintro ⟨b, bs, hb, hbs, rfl⟩
    exact bind_eq_ok_iff.2 ⟨b, hb, bind_eq_ok_iff.2 ⟨bs, hbs, rfl⟩⟩

theorem mapM_ok_length {α β} {f : α → PyM β} : ∀ {l : List α} {r : List β},
    l.mapM f = .ok r → r.length = l.length := by
  intro l
  induction l with
  | nil => intro r h; rw [mapM_nil_ok_iff.1 h]; rfl
  | cons a as ih =>
    intro r h
    obtain ⟨b, bs, _, hbs, rfl⟩ := mapM_cons_ok_iff.1 h
    rw [List.length_cons, List.length_cons, ih hbs]

theorem mapM_ok_getElem? {α β} {f : α → PyM β} : ∀ {l : List α} {r : List β}, l.mapM f = .ok r →
    ∀ (i : Nat) (a : α) (b : β), l[i]? = some a → r[i]? = some b → f a = .ok b := by
  intro l
  induction l with
  | nil => intro r _ i a b ha; cases ha
  | cons x xs ih =>
    intro r h i a b ha hb
    obtain ⟨y, ys, hy, hys, rfl⟩ := mapM_cons_ok_iff.1 h
    cases i with
    | zero => cases ha; cases hb; exact hy
    | succ i => exact ih hys i a b ha hb

theorem mapM_ok {α β} (f : α → PyM β) : ∀ (l : List α) (r : List β), l.mapM f = .ok r →
    ∀ y ∈ r, ∃ x ∈ l, f x = .ok y := by
  intro l r h y hy
  obtain ⟨i, hi⟩ := List.mem_iff_getElem?.1 hy
  have hlt : i < l.length := mapM_ok_length h ▸ (List.getElem?_eq_some_iff.1 hi).1
  exact ⟨l[i], List.getElem_mem hlt, mapM_ok_getElem? h i _ y (List.getElem?_eq_getElem hlt) hi⟩

theorem mapM_ok' {α β} (f : α → PyM β) : ∀ (l : List α) (r : List β), l.mapM f = .ok r →
    ∀ x ∈ l, ∃ y ∈ r, f x = .ok y := by
  intro l r h x hx
  obtain ⟨i, hi⟩ := List.mem_iff_getElem?.1 hx
  have hlt : i < r.length := (mapM_ok_length h).symm ▸ (List.getElem?_eq_some_iff.1 hi).1
  exact ⟨r[i], List.getElem_mem hlt, mapM_ok_getElem? h i x _ hi (List.getElem?_eq_getElem hlt)⟩

theorem mapM_ok_all_iff {α β} (f : α → PyM β) (l : List α) :
    (∃ vs, l.mapM f = .ok vs) ↔ ∀ a ∈ l, ∃ v, f a = .ok v := by
  refine ⟨fun ⟨vs, h⟩ a ha => let ⟨v, _, hv⟩ := mapM_ok' f l vs h a ha; ⟨v, hv⟩, ?_⟩
  induction l with
  | nil => intro _; exact ⟨[], rfl⟩
  | cons a as ih =>
    intro h
    obtain ⟨b, hb⟩ := h a List.mem_cons_self
    obtain ⟨bs, hbs⟩ := ih (fun x hx => h x (List.mem_cons_of_mem _ hx))
    exact ⟨b :: bs, mapM_cons_ok_iff.2 ⟨b, bs, hb, hbs, rfl⟩⟩

theorem mapM_total {α β} (f : α → PyM β) (l : List α) (h : ∀ x ∈ l, ∃ y, f x = .ok y) :
    ∃ r, l.mapM f = .ok r :=
  (mapM_ok_all_iff f l).2 h

theorem mapM_ok_total {α β} (f : α → PyM β) (Q : β → Prop) : ∀ (l : List α),
    (∀ x ∈ l, ∃ y, f x = .ok y ∧ Q y) → ∃ r, l.mapM f = .ok r ∧ ∀ y ∈ r, Q y := by
  intro l h
  obtain ⟨r, hr⟩ := mapM_total f l (fun x hx => Exists.imp (fun _ h => h.1) (h x hx))
  refine ⟨r, hr, ?_⟩
  intro y hy
  obtain ⟨x, hx, hfx⟩ := mapM_ok f l r hr y hy
  obtain ⟨y', hy', hQ⟩ := h x hx
  rw [hfx] at hy'
  cases hy'
  exact hQ

theorem mapM_error_iff {α β} (f : α → PyM β) : ∀ (l : List α) (e : PyErr),
    l.mapM f = .error e ↔
      ∃ l1 a l2, l = l1 ++ a :: l2 ∧ (∀ b ∈ l1, ∃ v, f b = .ok v) ∧ f a = .error e := by
  intro l e
  constructor
  · induction l with
    | nil => intro h; cases h
    | cons a as ih =>
      intro h
      rw [List.mapM_cons] at h
      rcases bind_eq_error_iff.1 h with h | ⟨b, hb, h⟩
      · exact ⟨[], a, as, rfl, fun _ hb => (by cases hb), h⟩
      · rcases bind_eq_error_iff.1 h with h | ⟨_, _, h⟩
        · obtain ⟨l1, a', l2, rfl, hok, ha'⟩ := ih h
          refine ⟨a :: l1, a', l2, rfl, fun c hc => ?_, ha'⟩
          rcases List.mem_cons.1 hc with rfl | hc
          · exact ⟨b, hb⟩
          · exact hok c hc
        · cases h
  · rintro ⟨l1, a, l2, rfl, hok, ha⟩
    obtain ⟨r1, h1⟩ := mapM_total f l1 hok
    rw [List.mapM_append, h1, List.mapM_cons, ha]
    rfl

theorem mapM_filter {α β β'} (f : α → PyM β) (g : α → PyM β') (p : α → Bool) (q : β → Bool) (G : β → β') :
    ∀ (l : List α) (vs : List β),
      (∀ a ∈ l, ∀ v, f a = .ok v → q v = p a ∧ (p a = true → g a = .ok (G v))) →
      l.mapM f = .ok vs → (l.filter p).mapM g = .ok ((vs.filter q).map G) := by
  intro l
  induction l with
  | nil => intro vs _ h; cases mapM_nil_ok_iff.1 h; rfl
  | cons a l ih =>
    intro vs H h
    obtain ⟨v, vs', hv, hvs, rfl⟩ := mapM_cons_ok_iff.1 h
    obtain ⟨hq, hg⟩ := H a List.mem_cons_self v hv
    have ih' := ih vs' (fun b hb => H b (List.mem_cons_of_mem _ hb)) hvs
    rw [List.filter_cons, List.filter_cons, hq]
    cases hp : p a with
    | true => exact mapM_cons_ok_iff.2 ⟨_, _, hg hp, ih', rfl⟩
    | false => exact ih'

/-! ## `for` loops: `forIn` as a fold; loops of checks -/

/-! **Model text = normal form.**  A lemma `f … = <named pieces>` has up to two parts; only the first is by `rfl`.
(1) Naming.  A right side with the SAME tree of branches as the `do` block (the same `match`/`if` at the same places, the
continuation standing in every branch where the block's join points put it), only with subterms named, is equal to the
model's text by `rfl`, provided `set_option smartUnfolding false in` stands before the lemma: `isDefEq` does not unfold a
stuck matcher under smart unfolding, and the matchers of the two sides are different constants (those of `f`, those of
the named pieces, those of core `Except.bind`), although all unfold to the same `casesOn`.  Write the branches in
reduced form (`k a` for `pure a >>= k`, the raise alone for `throw e >>= k`): otherwise the unifier compares the
continuation once per branch, which doubles the work at every level (`GraphInv.applySingle_text`);
and keep library recursions (`mapM`) literally as in the model.  A piece that takes its continuation as
an argument (`GraphInv.getK`, `Mat.tqpDim`) serves every place of that shape.  Instances:
`SharingProofs.checkBufferSharing_eq`, `Pipe.generate_text`, `Mat.tensorQuantParams_text`, `GraphInv.applySingle_text`.
A loop whose body is such a named piece becomes a `foldlM` by `forIn_eq_foldlM`.
(2) Moving a continuation out of the branches (`match o with | some a => k a | none => throw e` against
`(match o with | some a => pure a | none => throw e) >>= k`, `if c then x >>= k else y >>= k` against
`(if c then x else y) >>= k`): the two sides are NOT definitionally equal while the discriminant is a variable, whatever
is unfolded; it takes one `cases` per branching node.  Prove it per named piece and for an arbitrary continuation
(`GraphInv.getK_eq`, `prodK_eq`, `xfK_eq`, `Mat.tqpDim_eq`, `Pipe.opBody_eq`), not on the whole function and not over
the product of all conditions; the lemma about `f` is then a rewrite with these. -/
theorem forIn_eq_foldlM {α β} (f : α → β → PyM (ForInStep β)) (g : β → α → PyM β)
    (hfg : ∀ a b, f a b = (g b a >>= fun c => pure (ForInStep.yield c))) :
    ∀ (l : List α) (init : β), forIn l init f = l.foldlM g init := by
  intro l
  induction l with
  | nil => intro init; rfl
  | cons a as ih =>
    intro init
    simp only [List.forIn_cons, List.foldlM_cons, hfg, bind, Except.bind, pure, Except.pure]
    cases g init a with
    | error e => rfl
    | ok c => exact ih c

/-! A `for` loop without state whose body only tests (it raises or goes on): the bodies are written in the combinators of
`Body`, and `Chk Q x` says when `x` goes on; one rule per combinator, so the closed form of a loop is read off its text. -/

/-- the type of the body of a `for` loop without state, as the `do` notation builds it -/
abbrev Body := PyM (ForInStep PUnit)

namespace Body

/-- `pure ()` -/
def skip : Body := pure (ForInStep.yield PUnit.unit)
/-- `if c then throw e` -/
def raiseIf (c : Bool) (e : PyErr) : Body := if c then (do throw e; pure (ForInStep.yield PUnit.unit)) else skip
/-- `if !(← g) then throw e` -/
def check (g : PyM Bool) (e : PyErr) : Body := do let r ← g; raiseIf (!r) e
def orRaise {α} (o : Option α) (e : PyErr) : PyM α := match o with | some a => pure a | none => throw e
/-- `match o with | some a => f a | none => pure ()` -/
def whenSome {α} (o : Option α) (f : α → Body) : Body := match o with | some a => f a | none => skip
/-- a nested `for` loop -/
def each {α} (l : List α) (f : α → Body) : Body := do forIn l PUnit.unit (fun a _ => f a); skip

end Body

def Chk (Q : Prop) (x : Body) : Prop := ∀ s, x = .ok s ↔ s = .yield PUnit.unit ∧ Q

namespace Chk
variable {P Q : Prop} {x : Body}

theorem iff (h : Chk P x) (hpq : P ↔ Q) : Chk Q x := fun s => (h s).trans (and_congr_right fun _ => hpq)

theorem skip : Chk True Body.skip := fun _ => pure_eq_ok_iff.trans ⟨fun h => ⟨h.symm, trivial⟩, fun h => h.1.symm⟩

theorem raiseIf {c : Bool} {e : PyErr} : Chk (c = false) (Body.raiseIf c e) := by
  cases c
  · exact skip.iff (iff_of_true trivial rfl)
  · exact fun _ => ⟨nofun, fun h => nomatch h.2⟩

theorem bind {α} {a : PyM α} {f : α → Body} {Q : α → Prop} (hf : ∀ v, Chk (Q v) (f v)) :
    Chk (∃ v, a = .ok v ∧ Q v) (a >>= f) := fun s =>
  bind_eq_ok_iff.trans ⟨fun ⟨v, hv, h⟩ => ⟨((hf v s).1 h).1, v, hv, ((hf v s).1 h).2⟩,
    fun ⟨hs, v, hv, hq⟩ => ⟨v, hv, (hf v s).2 ⟨hs, hq⟩⟩⟩

theorem check {g : PyM Bool} {e : PyErr} : Chk (g = .ok true) (Body.check g e) :=
  (bind fun _ => raiseIf).iff
    ⟨fun ⟨r, hr, h⟩ => by cases r with | false => cases h | true => exact hr, fun h => ⟨true, h, rfl⟩⟩

theorem bindGet {α} {o : Option α} {e : PyErr} {f : α → Body} {Q : α → Prop} (hf : ∀ v, Chk (Q v) (f v)) :
    Chk (∃ v, o = some v ∧ Q v) (Body.orRaise o e >>= f) :=
  (bind hf).iff (by
    cases o with
    | none => exact ⟨fun ⟨_, h, _⟩ => (nomatch h), fun ⟨_, h, _⟩ => (nomatch h)⟩
    | some a =>
      exact ⟨fun ⟨v, h, q⟩ => ⟨v, congrArg some (Except.ok.inj h), q⟩,
        fun ⟨v, h, q⟩ => ⟨v, congrArg Except.ok (Option.some.inj h), q⟩⟩)

theorem whenSome {α} {o : Option α} {f : α → Body} {Q : α → Prop} (hf : ∀ v, Chk (Q v) (f v)) :
    Chk (∀ v, o = some v → Q v) (Body.whenSome o f) := by
  cases o with
  | none => exact skip.iff (iff_of_true trivial fun _ h => nomatch h)
  | some v => exact (hf v).iff ⟨fun h _ e => Option.some.inj e ▸ h, fun h => h v rfl⟩

theorem loop {α} {f : α → PUnit → Body} {Q : α → Prop} (hf : ∀ a u, Chk (Q a) (f a u)) :
    ∀ (l : List α) (u : PUnit), forIn l PUnit.unit f = .ok u ↔ ∀ a ∈ l, Q a
  | [], _ => ⟨fun _ _ ha => (nomatch ha), fun _ => rfl⟩
  | a :: l, u => by
    rw [List.forIn_cons, bind_eq_ok_iff, List.forall_mem_cons]
    exact ⟨fun ⟨s, h1, h2⟩ => by obtain ⟨rfl, hq⟩ := (hf a _ s).1 h1; exact ⟨hq, (loop hf l u).1 h2⟩,
      fun ⟨hq, h⟩ => ⟨_, (hf a _ _).2 ⟨rfl, hq⟩, (loop hf l u).2 h⟩⟩

theorem each {α} {l : List α} {f : α → Body} {Q : α → Prop} (hf : ∀ a, Chk (Q a) (f a)) :
    Chk (∀ a ∈ l, Q a) (Body.each l f) :=
  (bind fun _ => skip).iff
    ⟨fun ⟨u, h, _⟩ => (loop (fun a _ => hf a) l u).1 h, fun h => ⟨PUnit.unit, (loop (fun a _ => hf a) l _).2 h, trivial⟩⟩

end Chk

/-! ## `Run` -/

/-- one walk through the code of `f` proves `Run (closed form of the result) (its raise sites) (f …)`; the inversion lemma
    of the successful runs and the inventory of the errors are `Run.of_ok`, `Run.of_error` -/
def Run {α} (P : α → Prop) (S : PyErr → Prop) : PyM α → Prop
  | .ok a => P a
  | .error e => S e

theorem Run.intro {α} {P : α → Prop} {S : PyErr → Prop} {x : PyM α} (hok : ∀ a, x = .ok a → P a)
    (herr : ∀ e, x = .error e → S e) : Run P S x := by
  cases x with
  | error e => exact herr e rfl
  | ok a => exact hok a rfl

theorem Run.ok {α} {P : α → Prop} {S : PyErr → Prop} {a : α} (h : P a) : Run P S (.ok a) := h

theorem Run.error {α} {P : α → Prop} {S : PyErr → Prop} {e : PyErr} (h : S e) : Run P S (.error e : PyM α) := h

theorem Run.of_ok {α} {P : α → Prop} {S : PyErr → Prop} {x : PyM α} {a : α} (h : Run P S x) (hx : x = .ok a) : P a := by
  subst hx; exact h

theorem Run.of_error {α} {P : α → Prop} {S : PyErr → Prop} {x : PyM α} {e : PyErr} (h : Run P S x)
    (hx : x = .error e) : S e := by
  subst hx; exact h

theorem Run.bind {α β} {P : α → Prop} {Q : β → Prop} {S : PyErr → Prop} {x : PyM α} {f : α → PyM β}
    (hx : Run P S x) (hf : ∀ a, x = .ok a → P a → Run Q S (f a)) : Run Q S (x >>= f) := by
  cases x with
  | error e => exact hx
  | ok a => exact hf a rfl hx

/-- `Run.bind` for a step of which only the errors are described (its value is known through `x = .ok a`) -/
theorem Run.bind_err {α β} {Q : β → Prop} {S : PyErr → Prop} {x : PyM α} {f : α → PyM β}
    (hx : ∀ e, x = .error e → S e) (hf : ∀ a, x = .ok a → Run Q S (f a)) : Run Q S (x >>= f) := by
  cases x with
  | error e => exact hx e rfl
  | ok a => exact hf a rfl

theorem Run.ite {α} {P : α → Prop} {S : PyErr → Prop} (c : Prop) [Decidable c] {a b : PyM α}
    (ha : c → Run P S a) (hb : ¬ c → Run P S b) : Run P S (if c then a else b) := by
  by_cases h : c
  · rw [if_pos h]; exact ha h
  · rw [if_neg h]; exact hb h

end PyM

namespace Py

/-! ## `Py.index` -/

theorem index_mem {α} (l : List α) (i : Int) (a : α) (h : Py.index l i = .ok a) : a ∈ l := by
  unfold Py.index at h
  simp only at h
  generalize (if i < 0 then i + (l.length : Int) else i) = j at h
  split at h
  · cases h
  · split at h
    · rename_i hj
      cases h
      exact List.mem_of_getElem? hj
    · cases h

theorem index_nonneg {α} {l : List α} {i : Int} {a : α} (h0 : 0 ≤ i) :
    Py.index l i = .ok a ↔ l[i.toNat]? = some a := by
  unfold Py.index
  simp only [show ¬ i < 0 by omega, if_false, false_or]
  by_cases hc : i ≥ (l.length : Int)
  · rw [if_pos hc, List.getElem?_eq_none (by omega)]
    exact ⟨fun h => (by cases h), fun h => (by cases h)⟩
  · rw [if_neg hc]
    cases l[i.toNat]? <;> simp

end Py
