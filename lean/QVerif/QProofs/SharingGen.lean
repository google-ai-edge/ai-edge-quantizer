import QProofs.SharingE2E
import QProofs.SharingHub
import QProofs.ReqTrace
/-!
# From the two sharing checks to `SharersAgree` (C15, request / instruction-generation stage)

A retyping instruction on a constant tensor comes from a consumer request whose transformation is
QUANTIZE_TENSOR / ADD_DEQUANTIZE, and conversely (`retyped_req`, `req_retyped`: a constant has no producer
request, so its instruction list is one instruction per consumer group).  The two checks decide,
per data buffer, one thing that every consumer side of every tensor over it asks of the buffer (`verdict`, in the
terms of `want`); `sharersAgree_of_check` reads that through the two lemmas above.
-/
open Graph Mat InstGen GenInstsOK Pipe

namespace SharingGen

theorem quantSrc_retypes (x : Xf) : quantSrc x = Wiring.retypes x := by
  cases x <;> rfl

theorem b2t_sound (m : Model) : ∀ e ∈ bufferToTensors m, ∀ n ∈ e.2,
    ∃ sg ∈ m.subgraphs, ∃ t ∈ sg.tensors, t.name = n ∧ t.buffer = e.1 := by
  rintro ⟨b, l⟩ he n hn
  obtain ⟨rfl, -⟩ := (SharingProofs.b2t_entry m b l).1 he
  obtain ⟨sg, hsg, ho⟩ := List.mem_flatMap.1 ((SharingProofs.mem_namesAt _ _ _).1 hn)
  obtain ⟨t, ht, hb, hnm⟩ := SharingProofs.occSg_name sg _ ho
  exact ⟨sg, hsg, t, ht, hnm, hb⟩

theorem occ_complete (m : Model) (sg : Subgraph) (hsg : sg ∈ m.subgraphs) (op : Op) (hop : op ∈ sg.ops)
    (i : Nat) (hi : (i : Int) ∈ op.outputs ++ op.inputs) (t : Tensor) (ht : sg.tensors[i]? = some t) :
    (t.buffer, t.name) ∈ SharingProofs.occ m := by
  refine List.mem_flatMap.2 ⟨sg, hsg, ?_⟩
  refine List.mem_flatMap.2 ⟨op, hop, List.mem_filterMap.2 ⟨(i : Int), List.mem_filter.2 ⟨hi, by simp⟩, ?_⟩⟩
  rw [Int.toNat_natCast, ht]
  rfl

/-- **retyping instruction ⇒ rewriting request**: the instruction comes from a consumer request of that constant tensor
    whose transformation is QUANTIZE_TENSOR / ADD_DEQUANTIZE and whose parameter object has the id `p` -/
theorem retyped_req {m : Model} {res : List (String × CReq)} (C : Ctx m res) (tis : List TInsts)
    (hgen : genInsts m (areqsOf res) = .ok tis)
    (s i : Nat) (p : PId) (sg : Subgraph) (tn : Tensor) (hsg : m.subgraphs[s]? = some sg)
    (htn : sg.tensors[i]? = some tn) (hc : isConst m sg i = true)
    (hR : SharingE2E.Retyped tis s i p) :
    ∃ e ∈ res, e.1 = tn.name ∧ ∃ cs c x P, e.2.consumers = some cs ∧ c ∈ cs ∧ c.xfs = [x] ∧
      quantSrc x = true ∧ c.param = some P ∧ (tblOf res).findIdx? (fun q => q.eqv P) = some p := by
  obtain ⟨ti, hti, ins, hins, rfl, e2, e3, e4⟩ := hR
  obtain ⟨i', tn', e, c, P, I⟩ :=
    ReqTrace.inst_side C hgen ti hti ins hins (Wiring.retypes_insertion _ e3) p e4 sg hsg
  obtain rfl : i' = i := by have := I.tensor; omega
  obtain rfl : tn = tn' := Option.some.inj (htn.symm.trans I.record)
  obtain ⟨cs, hcs, hcm, hcx, -⟩ := I.carries.of_const C hsg htn I.entry hc
  exact ⟨_, I.entry, rfl, cs, c, ins.xf, P, hcs, hcm, hcx, by rw [quantSrc_retypes]; exact e3, I.param, I.pid⟩

/-- **rewriting requests ⇒ retyping instruction**: a constant tensor all of whose (at least one)
    consumer requests are QUANTIZE_TENSOR / ADD_DEQUANTIZE with a parameter gets a retyping instruction -/
theorem req_retyped {m : Model} {res : List (String × CReq)} (C : Ctx m res) (tis : List TInsts)
    (hgen : genInsts m (areqsOf res) = .ok tis)
    (e : String × CReq) (he : e ∈ res) (s : Nat) (sg : Subgraph) (i : Nat) (hloc : Loc m e.1 s sg i)
    (hc : isConst m sg i = true) (cs : List CO2T) (hcs : e.2.consumers = some cs) (hne : cs ≠ [])
    (hall : ∀ c ∈ cs, ∃ x P, c.xfs = [x] ∧ quantSrc x = true ∧ c.param = some P) :
    ∃ p, SharingE2E.Retyped tis s i p := by
  obtain ⟨hreq, -, -, hti⟩ := ReqTrace.ti_of_entry C hgen he hloc
  have hprod := ReqTrace.absR_producer (tbl := tblOf res) (const_noProd C e he s sg i hloc hc)
  have hos := ReqTrace.absR_consumers (tbl := tblOf res) hcs
  obtain ⟨c, hcm⟩ := List.exists_mem_of_ne_nil cs hne
  -- the rule that lists the side is a retyping instruction with the side's parameter
  obtain ⟨-, hrule, hcov, -⟩ := GenInstsGroup.rules_spec (absR (tblOf res) e.2).consumers (tensorInfo s sg i) hreq.consLen
  obtain ⟨r, hr, -, hrx, hrp⟩ := hcov (absO (tblOf res) c) (by rw [hos]; exact List.mem_map_of_mem hcm)
  obtain ⟨x, P, hx, hq, hP⟩ := hall c hcm
  obtain ⟨p, hp, -⟩ := ReqTrace.side_pid he (mem_sides.2 (.inr ⟨cs, hcs, hcm⟩)) hP
  refine ⟨p, _, hti, r, ?_, rfl, (hrule r hr).tensor, ?_, hrp ▸ hp⟩
  · show r ∈ Locality.instsList (tensorInfo s sg i) _
    rw [instsList_none _ _ hreq.consLen hprod]; exact hr
  · rw [show (absO (tblOf res) c).xfs = c.xfs from rfl, hx] at hrx
    rw [← (List.cons.inj hrx).1, ← quantSrc_retypes]; exact hq

/-- **what the first loop delivers for one data buffer**: if one reader's request has consumer sides, every
    reader has a request with consumer sides, and all these sides ask the same of the buffer -/
theorem family_want (m : Model) (res : List (String × CReq)) (hchk : checkBufferSharing m res = .ok ())
    (b : Nat) (hdata : ∃ c, m.buffers[b]? = some (some c))
    (n : String) (hn : n ∈ SharingProofs.readers m b) (r : CReq) (hr : Py.dictGet? res n = some r)
    (hne : r.consumers.getD [] ≠ []) :
    ∃ w, ∀ n' ∈ SharingProofs.readers m b, ∃ r', Py.dictGet? res n' = some r' ∧ Asks r' w := by
  have hR := ((SharingProofs.checkBufferSharing_readers m res).1 hchk b hdata).1
  generalize SharingProofs.readers m b = l at hn hR ⊢
  cases l with
  | nil => cases hn
  | cons first rest =>
    obtain ⟨hex, hub⟩ := hR.hub
    -- with one reader that is `n`; with several the check has looked all of them up
    have hall : ∀ n' ∈ first :: rest, ∃ r', Py.dictGet? res n' = some r' := by
      by_cases hrest : rest = []
      · subst hrest
        intro n' hn'
        rw [List.mem_singleton.1 hn', ← List.mem_singleton.1 hn]
        exact ⟨r, hr⟩
      · exact hex hrest
    obtain ⟨fp, hfp⟩ := hall first List.mem_cons_self
    have hc := hub fp hfp n hn r hr
    obtain ⟨w, hw⟩ : ∃ w, Asks r w := by
      rcases compatReq_asks hc with ⟨-, h0⟩ | ⟨w, -, hw⟩
      · rw [h0] at hne; exact absurd rfl hne
      · exact ⟨w, hw⟩
    have hfw : Asks fp w := (Asks.of_compat hc).2 hw
    refine ⟨w, fun n' hn' => ?_⟩
    obtain ⟨r', hr'⟩ := hall n' hn'
    exact ⟨r', hr', (Asks.of_compat (hub fp hfp n' hn' r' hr')).1 hfw⟩

theorem unreadOwn_sound (m : Model) (res : List (String × CReq)) (h : checkUnreadOwn m res = .ok ()) :
    ∀ sg ∈ m.subgraphs, ∀ t ∈ sg.tensors, UnreadOwnOK m res t :=
  (SharingProofs.checkUnreadOwn_ok_iff m res).1 h

theorem sole_referent (m : Model) (b : Nat)
    (hcnt : (m.subgraphs.flatMap (·.tensors)).countP (fun u => u.buffer == b) ≤ 1)
    (sg sg' : Subgraph) (hsg : sg ∈ m.subgraphs) (hsg' : sg' ∈ m.subgraphs) (t t' : Tensor)
    (ht : t ∈ sg.tensors) (ht' : t' ∈ sg'.tensors) (hb : t.buffer = b) (hb' : t'.buffer = b) : t = t' := by
  by_contra hne
  rw [List.countP_eq_length_filter] at hcnt
  have h1 : t ∈ (m.subgraphs.flatMap (·.tensors)).filter (fun u => u.buffer == b) :=
    List.mem_filter.2 ⟨List.mem_flatMap.2 ⟨sg, hsg, ht⟩, by simp [hb]⟩
  have h2 : t' ∈ (m.subgraphs.flatMap (·.tensors)).filter (fun u => u.buffer == b) :=
    List.mem_filter.2 ⟨List.mem_flatMap.2 ⟨sg', hsg', ht'⟩, by simp [hb']⟩
  generalize (m.subgraphs.flatMap (·.tensors)).filter (fun u => u.buffer == b) = l at hcnt h1 h2
  match l, hcnt, h1, h2 with
  | [], _, h1, _ => cases h1
  | [x], _, h1, h2 => exact hne ((List.mem_singleton.1 h1).trans (List.mem_singleton.1 h2).symm)
  | _ :: _ :: _, hcnt, _, _ => exact absurd hcnt (by simp)

theorem isConst_of (m : Model) (sg : Subgraph) (i : Nat) (tn : Tensor) (c : Nat ⊕ PId)
    (htn : sg.tensors[i]? = some tn) (hb : m.buffers[tn.buffer]? = some (some c)) :
    isConst m sg (i : Int) = true := by
  unfold isConst
  simp [htn, hb]

theorem Ctx.lookup {m : Model} {res : List (String × CReq)} (C : Ctx m res) {e : String × CReq}
    (he : e ∈ res) : Py.dictGet? res e.1 = some e.2 :=
  (Py.mem_iff_dictGet? res C.keys e.1 e.2).1 he

theorem shape_of_lookup {m : Model} {res : List (String × CReq)} (C : Ctx m res) (n : String) (r : CReq)
    (hr : Py.dictGet? res n = some r) (cs : List CO2T) (c : CO2T) (hcs : r.consumers = some cs)
    (hc : c ∈ cs) : ∃ x, c.xfs = [x] := by
  have hE := C.entries (n, r) (Py.dictGet?_mem _ _ _ hr)
  obtain ⟨s, sg, i, hloc⟩ := hE.loc
  obtain ⟨x, hx, -⟩ := (hE.cons cs c hcs hc s sg i hloc).1.xf
  exact ⟨x, hx⟩

theorem reader_of_occ {m : Model} {res : List (String × CReq)} (C : Ctx m res) (s : Nat) (sg : Subgraph)
    (i : Nat) (tn : Tensor) (hsg : m.subgraphs[s]? = some sg) (htn : sg.tensors[i]? = some tn)
    (b0 : Nat) (hocc : (b0, tn.name) ∈ SharingProofs.occ m) : tn.name ∈ SharingProofs.readers m tn.buffer := by
  obtain ⟨sg', hsg', ho⟩ := List.mem_flatMap.1 hocc
  obtain ⟨t', ht', hbuf, hname⟩ := SharingProofs.occSg_name sg' _ ho
  obtain ⟨rfl, rfl⟩ := ReqTrace.named_at_mem C.nu hsg htn hsg' ht' hname
  cases hbuf
  exact (SharingProofs.mem_namesAt _ _ _).2 hocc

/-- a consumer request of a tensor comes from a real operator (then the tensor is an operand occurrence)
    or from the OUTPUT pseudo-operator (id `-1`) -/
theorem listed_or_output {m : Model} {res : List (String × CReq)} (C : Ctx m res)
    (e : String × CReq) (he : e ∈ res) (s : Nat) (sg : Subgraph) (i : Nat) (tn : Tensor)
    (hsg : m.subgraphs[s]? = some sg) (htn : sg.tensors[i]? = some tn) (hname : e.1 = tn.name)
    (cs : List CO2T) (c : CO2T) (hcs : e.2.consumers = some cs) (hcm : c ∈ cs) :
    (∃ b, (b, tn.name) ∈ SharingProofs.occ m) ∨ c.opId = -1 := by
  have hloc : Loc m e.1 s sg i := ⟨hsg, tn, htn, hname.symm⟩
  have hsgm : sg ∈ m.subgraphs := List.mem_of_getElem? hsg
  rcases ((C.entries e he).cons cs c hcs hcm s sg i hloc).2 with ⟨_, op, hop, hmem⟩ | ⟨h1, _⟩
  · exact .inl ⟨_, occ_complete m sg hsgm op (List.mem_of_getElem? hop) i (List.mem_append_right _ hmem) tn htn⟩
  · exact .inr h1

/-- **the verdict**: the two checks decide, for every data buffer `b`, ONE thing `w` that all consumer sides of all
    requests of all tensors over `b` ask of it: leave the float data (`none`) or store the packed data of
    key `k` (`some k`); in the second case every tensor over `b` has a request with consumer sides. -/
theorem verdict {m : Model} {res : List (String × CReq)} (C : Ctx m res)
    (hchk : checkBufferSharing m res = .ok ()) (hown : checkUnreadOwn m res = .ok ())
    {b : Nat} {c0 : Nat ⊕ PId} (hb : m.buffers[b]? = some (some c0)) :
    ∃ w, ∀ (s : Nat) (sg : Subgraph) (i : Nat) (tn : Tensor), m.subgraphs[s]? = some sg →
      sg.tensors[i]? = some tn → tn.buffer = b →
      (∀ r, Py.dictGet? res tn.name = some r → ∀ c ∈ r.consumers.getD [], want c = w) ∧
      (w ≠ none → ∃ r, Py.dictGet? res tn.name = some r ∧ r.consumers.getD [] ≠ []) := by
  by_cases hrw : ∃ (s : Nat) (sg : Subgraph) (i : Nat) (tn : Tensor) (r : CReq) (c : CO2T), m.subgraphs[s]? = some sg ∧ sg.tensors[i]? = some tn ∧ tn.buffer = b ∧
      Py.dictGet? res tn.name = some r ∧ c ∈ r.consumers.getD [] ∧ want c ≠ none
  swap
  · -- no side of any tensor over `b` asks for packed data
    refine ⟨none, fun s sg i tn hsg htn hbuf => ⟨fun r hr c hc => ?_, fun h => absurd rfl h⟩⟩
    exact Classical.not_not.1 fun hne => hrw ⟨s, sg, i, tn, r, c, hsg, htn, hbuf, hr, hc, hne⟩
  obtain ⟨s, sg, i, tn, r, c, hsg, htn, hbuf, hr, hc, hw⟩ := hrw
  obtain ⟨x, hx, hq⟩ := want_ne_none hw
  refine ⟨want c, ?_⟩
  by_cases hfl : ∃ b0, (b0, tn.name) ∈ SharingProofs.occ m
  · -- `tn` is read by an operator: all readers agree (first loop), and every tensor over `b` is read (second loop)
    obtain ⟨b0, hocc⟩ := hfl
    have hnl := reader_of_occ C s sg i tn hsg htn b0 hocc
    rw [hbuf] at hnl
    obtain ⟨w, hfam⟩ := family_want m res hchk b ⟨c0, hb⟩ tn.name hnl r hr (List.ne_nil_of_mem hc)
    have hw0 : want c = w := by
      obtain ⟨r1, hr1, -, h1⟩ := hfam _ hnl
      rw [hr] at hr1; cases hr1
      exact h1 c hc
    intro s' sg' i' tn' hsg' htn' hbuf'
    by_cases hfl' : ∃ b0, (b0, tn'.name) ∈ SharingProofs.occ m
    · obtain ⟨b0', hocc'⟩ := hfl'
      have hnl' := reader_of_occ C s' sg' i' tn' hsg' htn' b0' hocc'
      rw [hbuf'] at hnl'
      obtain ⟨r', hr', hne', h'⟩ := hfam _ hnl'
      exact ⟨fun r2 hr2 c2 hc2 => by rw [hr'] at hr2; cases hr2; rw [hw0]; exact h' c2 hc2,
        fun _ => ⟨r', hr', hne'⟩⟩
    · exfalso
      have hun := ((SharingProofs.checkBufferSharing_readers m res).1 hchk b ⟨c0, hb⟩).2 sg' (List.mem_of_getElem? hsg') tn'
        (List.mem_of_getElem? htn') hbuf' hfl' tn.name hnl r hr
      rw [(SharingProofs.rewrites_iff r).2 ⟨c, hc, x, hx, quantSrc_cases x hq⟩] at hun
      cases hun
  · -- `tn` is read by no operator: it is the only tensor over `b` (`checkUnreadOwn`), and all its sides come from OUTPUT
    have hcnt := unreadOwn_sound m res hown sg (List.mem_of_getElem? hsg) tn (List.mem_of_getElem? htn)
      ((SharingProofs.unread_iff m _).2 hfl) ⟨c0, by rw [hbuf]; exact hb⟩ r hr ⟨c, hc, x, hx, quantSrc_cases x hq⟩
    have he : (tn.name, r) ∈ res := Py.dictGet?_mem _ _ _ hr
    intro s' sg' i' tn' hsg' htn' hbuf'
    obtain rfl : tn = tn' := sole_referent m tn.buffer hcnt sg sg' (List.mem_of_getElem? hsg)
      (List.mem_of_getElem? hsg') tn tn' (List.mem_of_getElem? htn) (List.mem_of_getElem? htn') rfl
      (by rw [hbuf', hbuf])
    refine ⟨fun r2 hr2 c2 hc2 => ?_, fun _ => ⟨r, hr, List.ne_nil_of_mem hc⟩⟩
    rw [hr] at hr2; cases hr2
    obtain ⟨cs, hcs, hcm⟩ := List.mem_getD_nil hc
    obtain ⟨cs2, hcs2, hcm2⟩ := List.mem_getD_nil hc2
    rw [hcs] at hcs2; cases hcs2
    have out : ∀ c ∈ cs, c.opId = -1 := fun c hc =>
      (listed_or_output C (tn.name, r) he _ _ _ _ hsg htn rfl cs c hcs hc).resolve_left hfl
    obtain ⟨e1, e2⟩ := (C.entries _ he).coh cs c2 c hcs hcm2 hcm ((out _ hcm2).trans (out _ hcm).symm)
    unfold want
    rw [e1, e2]

/-- **soundness of the two sharing checks for the generated instructions**; no hypothesis on the model beyond `Ctx` -/
theorem sharersAgree_of_check {m : Model} {res : List (String × CReq)} (C : Ctx m res)
    (hchk : checkBufferSharing m res = .ok ()) (hown : checkUnreadOwn m res = .ok ()) (tis : List TInsts)
    (hgen : genInsts m (areqsOf res) = .ok tis) : SharingE2E.SharersAgree m tis := by
  -- a retyping instruction on a tensor over `b`, read as a side of that tensor's request
  have side : ∀ {b c0 s i p}, m.buffers[b]? = some (some c0) → SharingE2E.Referent m b s i →
      SharingE2E.Retyped tis s i p → ∃ sg tn r c P, m.subgraphs[s]? = some sg ∧ sg.tensors[i]? = some tn ∧
        tn.buffer = b ∧ Py.dictGet? res tn.name = some r ∧ c ∈ r.consumers.getD [] ∧
        want c = some (some (pkey P)) ∧ (tblOf res).findIdx? (fun q => q.eqv P) = some p := by
    rintro b c0 s i p hb ⟨sg, tn, h1, h2, h3⟩ hT
    obtain ⟨e, he, hname, cs, c, x, P, g1, g2, g3, g4, g5, g6⟩ := retyped_req C tis hgen s i p sg tn h1 h2
      (isConst_of m sg i tn c0 h2 (by rw [h3]; exact hb)) hT
    refine ⟨sg, tn, e.2, c, P, h1, h2, h3, by rw [← hname]; exact C.lookup he, by rw [g1]; exact g2, ?_, g6⟩
    rw [want_single g3, if_pos g4, g5]; rfl
  constructor
  · intro b c0 hb s i p s' i' p' hR hR' hT hT'
    obtain ⟨w, hv⟩ := verdict C hchk hown hb
    obtain ⟨sg, tn, r, c, P, h1, h2, h3, hr, hc, hw, hidx⟩ := side hb hR hT
    obtain ⟨sg', tn', r', c', P', h1', h2', h3', hr', hc', hw', hidx'⟩ := side hb hR' hT'
    have hk : pkey P = pkey P' := by
      have := (hw.symm.trans ((hv s sg i tn h1 h2 h3).1 r hr c hc)).trans
        (((hv s' sg' i' tn' h1' h2' h3').1 r' hr' c' hc').symm.trans hw')
      exact Option.some.inj (Option.some.inj this)
    rw [findIdx_eqv_congr _ P P' hk, hidx'] at hidx
    exact (Option.some.inj hidx).symm
  · intro b c0 hb s i p s' i' hR hR' hT
    obtain ⟨w, hv⟩ := verdict C hchk hown hb
    obtain ⟨sg, tn, r, c, P, h1, h2, h3, hr, hc, hw, -⟩ := side hb hR hT
    have hw0 : w = some (some (pkey P)) := ((hv s sg i tn h1 h2 h3).1 r hr c hc).symm.trans hw
    obtain ⟨sg', tn', h1', h2', h3'⟩ := hR'
    obtain ⟨hall, hex⟩ := hv s' sg' i' tn' h1' h2' h3'
    obtain ⟨r2, hr2, hne2⟩ := hex (by rw [hw0]; exact fun h => nomatch h)
    cases hcs2 : r2.consumers with
    | none => rw [hcs2] at hne2; exact absurd rfl hne2
    | some cs2 =>
      rw [hcs2] at hne2
      refine req_retyped C tis hgen (tn'.name, r2) (Py.dictGet?_mem _ _ _ hr2) s' sg' i' ⟨h1', tn', h2', rfl⟩
        (isConst_of m sg' i' tn' c0 h2' (by rw [h3']; exact hb)) cs2 hcs2 hne2 fun c2 hc2 => ?_
      obtain ⟨x2, hx2⟩ := shape_of_lookup C _ r2 hr2 cs2 c2 hcs2 hc2
      have h2w := hall r2 hr2 c2 (by rw [hcs2]; exact hc2)
      rw [hw0, want_single hx2] at h2w
      by_cases hq2 : quantSrc x2 = true
      · rw [if_pos hq2] at h2w
        cases hP2 : c2.param with
        | none => rw [hP2] at h2w; cases h2w
        | some P2 => exact ⟨x2, P2, hx2, hq2, rfl⟩
      · rw [if_neg hq2] at h2w; cases h2w

/-! The first loop once more, per entry of `bufferToTensors` and in the relation `S`; nothing in the development uses what follows. -/

/-- same source class, and `==`-equal parameters when rewriting -/
def S (a b : CO2T) : Prop :=
  ∀ xa xb, a.xfs = [xa] → b.xfs = [xb] →
    quantSrc xa = quantSrc xb ∧ (quantSrc xa = true → optParamEq a.param b.param = true)

theorem S_of_want {a b : CO2T} (h : want a = want b) : S a b := by
  intro xa xb ha hb
  rw [want_single ha, want_single hb] at h
  by_cases hqa : quantSrc xa = true
  · by_cases hqb : quantSrc xb = true
    · rw [if_pos hqa, if_pos hqb] at h
      exact ⟨hqa.trans hqb.symm, fun _ => (optParamEq_iff _ _).2 (Option.some.inj h)⟩
    · rw [if_pos hqa, if_neg hqb] at h; cases h
  · by_cases hqb : quantSrc xb = true
    · rw [if_neg hqa, if_pos hqb] at h; cases h
    · exact ⟨(Bool.eq_false_iff.2 hqa).trans (Bool.eq_false_iff.2 hqb).symm, fun hq => absurd hq hqa⟩

/-- `family_want` per entry of `bufferToTensors`, with the agreement of the sides spelt out as the relation `S` to
    one of them -/
theorem family (m : Model) (res : List (String × CReq)) (hchk : checkBufferSharing m res = .ok ())
    (b : Nat) (l : List String) (hb : (b, l) ∈ bufferToTensors m)
    (hdata : ∃ c, m.buffers[b]? = some (some c))
    (hshape : ∀ n ∈ l, ∀ r, Py.dictGet? res n = some r → ∀ cs c, r.consumers = some cs → c ∈ cs →
      ∃ x, c.xfs = [x])
    (n : String) (hn : n ∈ l) (r : CReq) (hr : Py.dictGet? res n = some r) (cs : List CO2T)
    (hcs : r.consumers = some cs) (hne : cs ≠ []) :
    ∃ hub : CO2T, (∃ y, hub.xfs = [y]) ∧ ∀ n' ∈ l, ∃ r', Py.dictGet? res n' = some r' ∧
      ∃ cs', r'.consumers = some cs' ∧ cs' ≠ [] ∧ ∀ c' ∈ cs', S c' hub := by
  obtain ⟨rfl, -⟩ := (SharingProofs.b2t_entry m b l).1 hb
  obtain ⟨w, hfam⟩ := family_want m res hchk b hdata n hn r hr (by rw [hcs]; exact hne)
  obtain ⟨hub, hhub⟩ := List.exists_mem_of_ne_nil cs hne
  have hw : want hub = w := by
    obtain ⟨r1, hr1, -, h1⟩ := hfam n hn
    rw [hr] at hr1; cases hr1
    exact h1 hub (by rw [hcs]; exact hhub)
  refine ⟨hub, hshape n hn r hr cs hub hcs hhub, fun n' hn' => ?_⟩
  obtain ⟨r', hr', hne', h'⟩ := hfam n' hn'
  cases hcs' : r'.consumers with
  | none => rw [hcs'] at hne'; exact absurd rfl hne'
  | some cs' =>
    rw [hcs'] at hne' h'
    exact ⟨r', hr', cs', hcs', hne', fun c' hc' => S_of_want ((h' c' hc').trans hw.symm)⟩

theorem optParamEq_some' (a b : Option Param) (q : Param) (h : optParamEq a b = true) (hb : b = some q) :
    ∃ p, a = some p ∧ p.eqv q = true := by
  subst hb
  cases a with
  | none => simp [optParamEq, optEq] at h
  | some p => exact ⟨p, rfl, by simpa [optParamEq, optEq] using h⟩

end SharingGen
