import QProofs.NFCheckProofs
/-!
# `PipelineWF.NF`: a witness, and why the fields beyond well-formedness are needed

* `nfA`: a FULLY_CONNECTED-with-bias model and a weight-only recipe satisfy `NF`; `quantizePure` succeeds on
  it (evaluated below).
* C, D, F (evaluated with `#eval`, outputs fixed by `#guard_msgs`): inputs that satisfy `wf`, `tagged` and
  `noBlockwise` but violate one further field, and on which a field of `GenInstsOK.ReqOK` fails.
* B: RESHAPE of a constant.  `NF` has no field about it: `Mat.standardOp` hands the operand's parameters to
  the result without the quantized values, and the run yields a well-formed graph.
These evaluations are illustrations (compiled evaluation), not part of any proof.
-/
open Graph Mat Cfg Pipeline

namespace PipelineWFExample
def T (n : String) (dt : Nat) (sh : List Int) (b : Nat) : Tensor := { name := n, dtype := dt, shape := sh, buffer := b }
def cfgWO : OpCfg := { act := none, weight := some { bits := 8, symmetric := true, gran := .channelwise }, cp := .integer, skipChecks := true }
def stA : Recipe.State := [(".*", [⟨".*", "*", Tables.algMinMax, cfgWO⟩])]
def opA : Op := { code := 0, inputs := [0,1,2], outputs := [3], orig := some 0 }
def sgA : Subgraph := { tensors := [T "x" 0 [1,2] 0, T "w" 0 [2,2] 1, T "b" 0 [2] 2, T "y" 0 [1,2] 0], ops := [opA], inputs := [0], outputs := [3] }
def mA : Model := { subgraphs := [sgA], buffers := [none, some (.inl 0), some (.inl 1)], opcodes := [9], sigs := [] }
def envA : Env := { model := mA, consts := [(1, [1,2,3,4]), (2, [1,1])], adjY := [] }

theorem nfA : PipelineWF.NF envA stA := NFCheckProofs.nf_envA

def f32 (sh : List Nat) (l : List Rat) : Arith.FArr := ⟨⟨sh, l⟩, .f32⟩
def rxAll : String → String → Bool := fun _ _ => true
def cfgSRQ : OpCfg := { act := some { bits := 8, symmetric := false }, weight := some { bits := 8, symmetric := true, gran := .tensorwise }, cp := .integer, skipChecks := true }
def cfgFC : OpCfg := { act := none, weight := some { bits := 16, dtype := .float }, cp := .float, explicitDeq := true, skipChecks := true }
def stOf (alg : String) (c : OpCfg) (op : String := "*") : Recipe.State := [(".*", [⟨".*", op, alg, c⟩])]
def okOf {α β} (x : PyM α) (f : α → β) : Option β := match x with | .ok a => some (f a) | .error _ => none

-- A: the run on the `NF` witness succeeds with a well-formed result of the same skeleton
/-- info: some (true, true) -/
#guard_msgs in
#eval okOf (quantizePure rxAll envA stA none) fun r => (WF.modelOK r.1, Skeleton.sameModelSkeleton mA r.1)

/-! ### B (no `NF` field): RESHAPE of a float constant under static-range quantization, the result tensor
having its own (empty) buffer.  If the result's producer request carried the operand's quantized data,
`quantize_tensor` would write it into the result's buffer (turning an operator result into a constant) and
the returned graph would not be well formed.  `Mat.standardOp` hands the results the operand's parameters
without the quantized values: the run returns a well-formed graph of the same skeleton, no producer request
carries data, and the constant operand's consumer request still does. -/
def mB : Model :=
  { subgraphs := [{ tensors := [T "c" 0 [2,2] 1, T "s" 2 [1] 2, T "y" 0 [4] 3],
                    ops := [{ code := 0, inputs := [0,1], outputs := [2], orig := some 0 }],
                    inputs := [], outputs := [2] }],
    buffers := [none, some (.inl 0), some (.inl 1), none], opcodes := [22], sigs := [] }
def envB : Env := { model := mB, consts := [(1, [1,2,3,4])], adjY := [] }
def qsB : Qsvs := [("c", some (f32 [1,1] [1], f32 [1,1] [4])), ("y", some (f32 [1] [1], f32 [1] [4]))]

/-- info: (true, true, some (true, true)) -/
#guard_msgs in
#eval (WF.modelOK mB, Skeleton.origTagged mB,
  okOf (quantizePure rxAll envB (stOf Tables.algMinMax cfgSRQ) (some qsB)) fun r =>
    (WF.modelOK r.1, Skeleton.sameModelSkeleton mB r.1))

/-- info: some (true, true) -/
#guard_msgs in
#eval okOf (generate rxAll envB (stOf Tables.algMinMax cfgSRQ) (some qsB)) fun rs =>
  (rs.all fun r => r.producer.all fun p => p.param.all fun q => !Pipe.hasData q,
   rs.any fun r => r.name == "c" && (r.consumers.getD []).any fun c => c.param.any Pipe.hasData)

/-! ### C (`inputsNotConst`): a constant graph input: producer request `[addDequant]` (INPUT
pseudo-operator) but consumer request `[quantTensor]`: `ReqOK.prodCons` fails. -/
def mC : Model :=
  { subgraphs := [{ tensors := [T "x" 0 [1,2] 1, T "w" 0 [2,2] 2, T "y" 0 [1,2] 0],
                    ops := [{ code := 0, inputs := [0,1,-1], outputs := [2], orig := some 0 }],
                    inputs := [0], outputs := [2] }],
    buffers := [none, some (.inl 0), some (.inl 1)], opcodes := [9], sigs := [] }
def envC : Env := { model := mC, consts := [(1, [1,2]), (2, [1,2,3,4])], adjY := [] }
def qsC : Qsvs := [("x", some (f32 [1,1] [1], f32 [1,1] [2])), ("w", some (f32 [1,1] [1], f32 [1,1] [4])),
  ("y", some (f32 [1,1] [1], f32 [1,1] [4]))]

/-- info: (true, true, some true) -/
#guard_msgs in
#eval (WF.modelOK mC, Skeleton.origTagged mC,
  okOf (generate rxAll envC (stOf Tables.algMinMax cfgSRQ) (some qsC)) fun rs => rs.any fun r =>
    r.producer.any (fun p => p.xfs == [.addDequant]) && (r.consumers.getD []).any (fun c => c.xfs == [.quantTensor]))

/-! ### D (`mandatory`): float casting of a FULLY_CONNECTED whose data operand is `-1`: Python
indexing reads the *last* tensor `z`, which gets a consumer request of operator 0 although operator
0 does not consume it: `ReqOK.consReal` fails. -/
def mD : Model :=
  { subgraphs := [{ tensors := [T "w" 0 [2,2] 1, T "y" 0 [1,2] 0, T "z" 0 [1,2] 0],
                    ops := [{ code := 0, inputs := [-1,0], outputs := [1], orig := some 0 }],
                    inputs := [2], outputs := [1] }],
    buffers := [none, some (.inl 0)], opcodes := [9], sigs := [] }
def envD : Env := { model := mD, consts := [(1, [1,2,3,4])], adjY := [] }

/-- info: (true, true, some true) -/
#guard_msgs in
#eval (WF.modelOK mD, Skeleton.origTagged mD,
  okOf (generate rxAll envD (stOf Tables.algFloatCasting cfgFC "FULLY_CONNECTED") none) fun rs => rs.any fun r =>
    r.name == "z" && (r.consumers.getD []).any (fun c => c.opId == 0))

/-! ### F (`slotRoles`): a RESHAPE whose shape operand is its (float, non-constant) data operand: two
different consumer requests of operator 0 for one tensor: `ReqOK.consSameOp` fails. -/
def mF : Model :=
  { subgraphs := [{ tensors := [T "x" 0 [2] 0, T "y" 0 [2] 0],
                    ops := [{ code := 0, inputs := [0,0], outputs := [1], orig := some 0 }],
                    inputs := [0], outputs := [1] }],
    buffers := [none], opcodes := [22], sigs := [] }
def envF : Env := { model := mF, consts := [], adjY := [] }
def qsF : Qsvs := [("x", some (f32 [1] [1], f32 [1] [2])), ("y", some (f32 [1] [1], f32 [1] [4]))]

/-- info: (true, true, some true) -/
#guard_msgs in
#eval (WF.modelOK mF, Skeleton.origTagged mF,
  okOf (generate rxAll envF (stOf Tables.algMinMax cfgSRQ) (some qsF)) fun rs => rs.any fun r =>
    r.name == "x" && (r.consumers.getD []).any (fun c => c.opId == 0 && c.xfs == [.addQuant]) &&
      (r.consumers.getD []).any (fun c => c.opId == 0 && c.xfs == [.noQuant]))

end PipelineWFExample
