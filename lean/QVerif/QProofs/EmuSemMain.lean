import QProofs.EmuSemProofs
import Mathlib.Algebra.Order.Ring.Abs
/-!
# The EMULATED_SUBCHANNEL pattern equals FULLY_CONNECTED on the dequantized weight (proofs of C06c)
`pattern_eq_fc`: the whole pattern (with the optional ADD and RELU) against the reference operator;
`fc_perturb`, `pattern_close_to_fc`: the perturbation bound that follows from a value law of the stored codes. -/

namespace EmuSemProofs
open EmuSem

theorem fcOut_numel (keep : Bool) (d0 d1 c : Nat) : Nd.numel (fcOutShape keep d0 d1 c) = d0 * d1 * c := by
  cases keep <;> simp [fcOutShape, Nd.numel]

theorem fcOut_last (keep : Bool) (d0 d1 c : Nat) : (fcOutShape keep d0 d1 c).getLast? = some c := by
  cases keep <;> simp [fcOutShape]

theorem biasOK_some {b : T} {c : Nat} (h : biasOK (some b) c = true) : b.shape = [c] := by
  simpa [biasOK] using h

/-- the whole pattern = the reference operator on the dequantized weight (`e = 1`: one scale per output channel; `e = B`: one per
    block and channel) -/
theorem pattern_eq_fc (keep r : Bool) {x q scale : T} {bias : Option T} {d0 d1 B S C e : Nat}
    (hx : x.shape = [d0, d1, B * S]) (hq : q.shape = [1, B, S, C]) (hs : scale.shape = [1, e, 1, C])
    (he : e = 1 ∨ e = B) (hb : biasOK bias C = true) :
    ∃ wq y : T, dequantBlock q scale = some wq ∧ wq.shape = [C, B * S] ∧
      fullyConnected keep x wq bias = some y ∧
      pattern (fcOutShape keep d0 d1 C) x q scale bias r = some (if r then relu y else y) := by
  obtain ⟨wq, ew, shw, _, gw⟩ := dequantBlock_spec hq hs he
  obtain ⟨y, ey, shy, ly, gy⟩ := fullyConnected_spec (bias := bias) keep hx shw hb
  obtain ⟨t1, t2, t3, t4, ⟨e1, _, e2, _, e3, _, e4, sh4⟩, l4, g4⟩ := pattern_core hx hq hs he
  refine ⟨wq, y, ew, shw, ey, ?_⟩
  have h5 : reshape t4 (fcOutShape keep d0 d1 C) = some ⟨fcOutShape keep d0 d1 C, t4.data⟩ :=
    reshape_spec (by rw [sh4, numel4, fcOut_numel]; ring)
  have core : ∀ n c, n < d0 * d1 → c < C → get t4 (n * C + c) + biasAt bias c = get y (n * C + c) := by
    intro n c hn hc
    rw [g4 n c hn hc, gy n c hn hc]
    congr 1
    exact block_algebra B S (fun b k => get x (n * (B * S) + (b * S + k)))
      (fun b k => get q (flat4 B S C 0 b k c)) (fun b => get scale (flat4 e 1 C 0 (bi e b) 0 c))
      (fun f => get x (n * (B * S) + f)) (fun f => get wq (c * (B * S) + f))
      (fun _ _ _ _ => rfl) (fun b k hb hk => gw c b k hc hb hk)
  have h6 : addBiasOpt ⟨fcOutShape keep d0 d1 C, t4.data⟩ bias = some y := by
    cases bias with
    | none =>
      show some _ = some _
      congr 1
      apply ext2 (a := ⟨fcOutShape keep d0 d1 C, t4.data⟩) (b := y) (n := d0 * d1) (c := C) shy.symm l4 ly
      intro n c hn hc
      have := core n c hn hc
      simpa [biasAt, get_data] using this
    | some bv =>
      obtain ⟨t6, e6, sh6, l6, g6⟩ := addBias_spec (y := ⟨fcOutShape keep d0 d1 C, t4.data⟩) (b := bv)
        (biasOK_some hb) (fcOut_last keep d0 d1 C)
      show addBias _ bv = some y
      rw [e6]
      congr 1
      apply ext2 (n := d0 * d1) (c := C) (sh6.trans shy.symm) (l6.trans (fcOut_numel keep d0 d1 C)) ly
      intro n c hn hc
      rw [g6 _ (lt_of_lt_of_eq (mul_add_lt hn hc) (fcOut_numel keep d0 d1 C).symm), mul_add_mod hc, get_data]
      exact core n c hn hc
  simp only [pattern, hx, hq, e1, e2, e3, e4, h5, Option.bind_some, h6]

theorem biasOK_of {bias : Option T} {c : Nat} (h : ∀ b, bias = some b → b.shape = [c]) : biasOK bias c = true := by
  cases bias with
  | none => rfl
  | some b => simp [biasOK, h b rfl]

theorem pattern_eq_fcAct (keep r : Bool) {x q scale : T} {bias : Option T} {d0 d1 B S C e : Nat}
    (hx : x.shape = [d0, d1, B * S]) (hq : q.shape = [1, B, S, C]) (hs : scale.shape = [1, e, 1, C])
    (he : e = 1 ∨ e = B) (hb : biasOK bias C = true) :
    ∃ wq y : T, dequantBlock q scale = some wq ∧ wq.shape = [C, B * S] ∧
      fullyConnectedAct keep x wq bias r = some y ∧
      pattern (fcOutShape keep d0 d1 C) x q scale bias r = some y := by
  obtain ⟨wq, y, ew, shw, ey, ep⟩ := pattern_eq_fc keep r (bias := bias) hx hq hs he hb
  exact ⟨wq, _, ew, shw, by simp [fullyConnectedAct, ey], ep⟩

theorem relu1_lipschitz (a b : Rat) : |(if a < 0 then 0 else a) - (if b < 0 then 0 else b)| ≤ |a - b| := by
  by_cases ha : a < 0
  · by_cases hb : b < 0
    · rw [if_pos ha, if_pos hb, sub_self, abs_zero]
      exact abs_nonneg _
    · rw [if_pos ha, if_neg hb, zero_sub, abs_neg, abs_of_nonneg (not_lt.1 hb), abs_sub_comm]
      exact le_trans (by linarith) (le_abs_self _)
  · by_cases hb : b < 0
    · rw [if_neg ha, if_pos hb, sub_zero, abs_of_nonneg (not_lt.1 ha)]
      exact le_trans (by linarith) (le_abs_self _)
    · rw [if_neg ha, if_neg hb]

theorem fc_perturb (keep r : Bool) {x w w' : T} {bias : Option T} {d0 d1 F C : Nat}
    (hx : x.shape = [d0, d1, F]) (hw : w.shape = [C, F]) (hw' : w'.shape = [C, F]) (hb : biasOK bias C = true)
    (err : Nat → Rat) (h : ∀ c f, c < C → f < F → |get w (c * F + f) - get w' (c * F + f)| ≤ err c) :
    ∃ y y' : T, fullyConnectedAct keep x w bias r = some y ∧ fullyConnectedAct keep x w' bias r = some y' ∧
      y.shape = fcOutShape keep d0 d1 C ∧ y'.shape = fcOutShape keep d0 d1 C ∧
      ∀ n c, n < d0 * d1 → c < C →
        |get y (n * C + c) - get y' (n * C + c)| ≤ sumN F (fun f => |get x (n * F + f)|) * err c := by
  obtain ⟨y, ey, shy, _, gy⟩ := fullyConnected_spec (bias := bias) keep hx hw hb
  obtain ⟨y', ey', shy', _, gy'⟩ := fullyConnected_spec (bias := bias) keep hx hw' hb
  have core : ∀ n c, n < d0 * d1 → c < C →
      |get y (n * C + c) - get y' (n * C + c)| ≤ sumN F (fun f => |get x (n * F + f)|) * err c := by
    intro n c hn hc
    rw [gy n c hn hc, gy' n c hn hc]
    have e1 : ∀ (A B b : Rat), (A + b) - (B + b) = A - B := by intros; ring
    rw [e1, sumN_sub, sumN_mul_right]
    refine le_trans (abs_sumN_le _ _) (sumN_le_sumN ?_)
    intro f hf
    have := h c f hc hf
    rw [← mul_sub, abs_mul]
    exact mul_le_mul_of_nonneg_left this (abs_nonneg _)
  refine ⟨if r then relu y else y, if r then relu y' else y', by simp [fullyConnectedAct, ey],
    by simp [fullyConnectedAct, ey'], ?_, ?_, ?_⟩
  · cases r
    · exact shy
    · exact shy
  · cases r
    · exact shy'
    · exact shy'
  · intro n c hn hc
    cases r
    · exact core n c hn hc
    · show |get (relu y) _ - get (relu y') _| ≤ _
      rw [relu_get, relu_get]
      exact le_trans (relu1_lipschitz _ _) (core n c hn hc)

theorem pattern_close_to_fc (keep r : Bool) {x q scale w : T} {bias : Option T} {d0 d1 B S C e : Nat}
    (hx : x.shape = [d0, d1, B * S]) (hq : q.shape = [1, B, S, C]) (hs : scale.shape = [1, e, 1, C])
    (he : e = 1 ∨ e = B) (hb : biasOK bias C = true) (hw : w.shape = [C, B * S]) (err : Nat → Rat)
    (hval : ∀ wq, dequantBlock q scale = some wq → ∀ c f, c < C → f < B * S →
      |get wq (c * (B * S) + f) - get w (c * (B * S) + f)| ≤ err c) :
    ∃ p y : T, pattern (fcOutShape keep d0 d1 C) x q scale bias r = some p ∧
      fullyConnectedAct keep x w bias r = some y ∧ p.shape = y.shape ∧
      ∀ n c, n < d0 * d1 → c < C →
        |get p (n * C + c) - get y (n * C + c)| ≤ sumN (B * S) (fun f => |get x (n * (B * S) + f)|) * err c := by
  obtain ⟨wq, y0, ew, shw, ey0, ep⟩ := pattern_eq_fc keep r (bias := bias) hx hq hs he hb
  obtain ⟨y1, y2, e1, e2, s1, s2, hd⟩ := fc_perturb keep r hx shw hw hb err (hval wq ew)
  have : y1 = if r then relu y0 else y0 := by
    simp only [fullyConnectedAct, ey0, Option.map_some, Option.some.injEq] at e1
    exact e1.symm
  subst this
  exact ⟨_, y2, ep, e2, s1.trans s2.symm, hd⟩

end EmuSemProofs
