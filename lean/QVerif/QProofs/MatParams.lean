import QProofs.MatAPI
import QProofs.PipeNF
import QProofs.NdReduce
/-!
What materialisation requests for a tensor IS the reference (TFLite-spec) computation applied to its statistics: the
min/max formula (`Arith.zpScale`), the quantized dimension (tables `weightQDim` / `bmmQDim`), the quantized values
(`Arith.uniformQuantize`); and the statistics taken on the spot for a constant are its true per-channel min / max.
-/
open Graph Mat Arith Cfg Nd

set_option autoImplicit false

namespace MatParams

theorem refParams_ok_iff (bits : Nat) (sym : Bool) (qdim : Option Nat) (mn mx : FArr) (qp : QParams) :
    refParams bits sym qdim mn mx = .ok qp ↔ ∃ zp scale, zpScale bits sym mn mx = .ok (zp, scale) ∧
      qp = { bits := bits, qdim := qdim, scale := scale, zp := zp, symmetric := sym } := by
  unfold refParams
  cases zpScale bits sym mn mx with
  | error e => exact ⟨fun h => (nomatch h), fun ⟨_, _, h, _⟩ => (nomatch h)⟩
  | ok zs =>
    exact ⟨fun h => ⟨zs.1, zs.2, rfl, (Except.ok.inj h).symm⟩,
      fun ⟨_, _, h, hq⟩ => by cases h; rw [hq]⟩

theorem wrapper_none_eq (env : Env) (qsvs : Qsvs) (oi : OpInfo) (t : Tensor) (inbound : Bool) :
    wrapper env qsvs oi t inbound none =
      match tcfgOf env oi t with
      | none => mkReq t.name oi inbound none (constData env t).isSome
      | some tc =>
        match statsOf env qsvs oi t with
        | .error e => .error e
        | .ok mm =>
          match tensorQuantParams env oi mm tc (constData env t) with
          | .error e => .error e
          | .ok p => mkReq t.name oi inbound (some p) (constData env t).isSome := by
  rw [wrapper_eq]
  unfold wrapperParam
  cases tcfgOf env oi t with
  | none => rfl
  | some tc =>
    cases statsOf env qsvs oi t with
    | error e => rfl
    | ok mm =>
      simp only [bind, Except.bind]
      cases tensorQuantParams env oi mm tc (constData env t) <;> rfl

/-- what `mkReq` returns under a static-range config (`mkReq_srq`) -/
def srqReq (name : String) (opId : Int) (inbound isConst : Bool) (p : Option Param) : CReq :=
  if inbound then ⟨name, none, some [⟨opId, [if isConst then .quantTensor else .addQuant], p⟩]⟩
  else ⟨name, some ⟨opId, [.addDequant], p⟩, none⟩

theorem mkReq_srq (name : String) (oi : OpInfo) (inbound : Bool) (p : Option Param) (isC : Bool)
    (h : isSRQ oi.cfg = true) : mkReq name oi inbound p isC = .ok (srqReq name oi.opId inbound isC p) := by
  unfold isSRQ at h
  unfold mkReq tensorXfs srqReq
  simp only [h, if_true, bind, Except.bind, pure, Except.pure]
  cases inbound <;> cases isC <;> rfl

theorem wrapper_srq {env : Env} {qs : Qsvs} {oi : OpInfo} {t : Tensor} {inb : Bool} {g : Option Param} {r : CReq}
    (hs : isSRQ oi.cfg = true) (h : wrapper env qs oi t inb g = .ok r) :
    ∃ p, wrapperParam env qs oi t g = .ok p ∧ r = srqReq t.name oi.opId inb (constData env t).isSome p := by
  rw [wrapper_eq] at h
  obtain ⟨p, hp, hr⟩ := PyM.bind_eq_ok_iff.1 h
  rw [mkReq_srq _ _ _ _ _ hs] at hr
  exact ⟨p, hp, (Except.ok.inj hr).symm⟩

theorem stripData_uniform (qp : QParams) (d : Option IArr) :
    Pipe.stripData (some (.uniform qp d)) = some (.uniform qp none) := by
  cases d <;> rfl

theorem wrapper_srq_runtime {env : Env} {qs : Qsvs} {oi : OpInfo} {t : Tensor} {inb : Bool} {P : Param} {r : CReq}
    (hs : isSRQ oi.cfg = true) (hnc : constData env t = none) (h : wrapper env qs oi t inb (some P) = .ok r) :
    r = srqReq t.name oi.opId inb false (some P) := by
  obtain ⟨p, hp, rfl⟩ := wrapper_srq hs h
  rw [hnc]
  cases wrapperParam_ok hp with
  | requantized _ d _ hd _ => rw [hnc] at hd; cases hd
  | kept _ _ => rfl

/-- number of channels of a tensor of shape `shape` quantized along `qdim` (one when `qdim` is not a dimension of it) -/
def channels (shape : List Nat) (qdim : Option Nat) : Nat :=
  match qdim with | none => 1 | some k => shape.getD k 1

theorem constData_shape (env : Env) (t : Tensor) (d : Arr Rat) (h : constData env t = some d) :
    d.shape = shapeNat t ∧ d.shape.length = t.shape.length := by
  unfold constData at h
  have : d.shape = shapeNat t := by
    split at h
    · split at h <;> (cases h; rfl)
    · cases h
  exact ⟨this, by rw [this]; simp [shapeNat]⟩

def StatsOrdered (mn mx : FArr) : Prop :=
  mn.arr.shape = mx.arr.shape ∧ ∀ k, mn.arr.data.getD k 0 ≤ mx.arr.data.getD k 0

/-- **the statistics taken on the spot are the true per-channel min and max** (`reduceKeep_spec` on `lo` / `hi` says it
    cell by cell) -/
structure InitMinMax (env : Env) (oi : OpInfo) (d : Arr Rat) (mn mx : FArr) : Prop where
  notBlockwise : weightBlockwise oi = false
  nonempty : d.data ≠ []
  prMin : mn.pr = .f32
  prMax : mx.pr = .f32
  lo : reduceKeep minR d (reduceDims (statQDim env oi d.shape.length) d.shape.length) = .ok mn.arr
  hi : reduceKeep maxR d (reduceDims (statQDim env oi d.shape.length) d.shape.length) = .ok mx.arr
  ordered : StatsOrdered mn mx
  cells : numel mn.arr.shape = channels d.shape (statQDim env oi d.shape.length)
  lenMin : mn.arr.data.length = channels d.shape (statQDim env oi d.shape.length)
  lenMax : mx.arr.data.length = channels d.shape (statQDim env oi d.shape.length)

theorem initMinMax_spec (env : Env) (oi : OpInfo) (t : Tensor) (d : Arr Rat) (mn mx : FArr)
    (hrank : d.shape.length = t.shape.length) (h : initMinMax env oi t d = .ok (mn, mx)) :
    InitMinMax env oi d mn mx := by
  rw [initMinMax_eq, ← hrank] at h
  split at h
  · cases h
  · rename_i hbw
    cases hlo : reduceKeep minR d (reduceDims (statQDim env oi d.shape.length) d.shape.length) with
    | error e => rw [hlo] at h; cases h
    | ok lo =>
      cases hhi : reduceKeep maxR d (reduceDims (statQDim env oi d.shape.length) d.shape.length) with
      | error e => rw [hlo, hhi] at h; cases h
      | ok hi =>
        rw [hlo, hhi] at h
        simp only [Except.ok.injEq, Prod.mk.injEq] at h
        obtain ⟨rfl, rfl⟩ := h
        obtain ⟨hne, s1, l1, _⟩ := reduceKeep_spec _ _ sel_min d _ lo hlo
        obtain ⟨_, s2, l2, _⟩ := reduceKeep_spec _ _ sel_max d _ hi hhi
        have hcount : numel (keepShape d.shape (reduceDims (statQDim env oi d.shape.length) d.shape.length)) =
            channels d.shape (statQDim env oi d.shape.length) := by
          cases statQDim env oi d.shape.length with
          | none => exact numel_keepShape_none _
          | some q => exact numel_keepShape_qdim _ q
        exact ⟨by simpa using hbw, hne, rfl, rfl, hlo, hhi, reduceKeep_min_le_max d _ lo hi hlo hhi,
          by rw [s1, hcount], by rw [l1, hcount], by rw [l2, hcount]⟩

theorem weightQDim_wo (n : String) (e : String × Nat) (h : Tables.weightQDim.find? (·.1 == n) = some e) :
    Tables.woOps.contains n = true := by
  have h1 : e ∈ Tables.weightQDim := List.mem_of_find?_eq_some h
  have h2 : (e.1 == n) = true := List.find?_some (p := fun x : String × Nat => x.1 == n) h
  have h3 : ∀ e ∈ Tables.weightQDim, Tables.woOps.contains e.1 = true := by decide
  rw [← (beq_iff_eq.1 h2)]
  exact h3 e h1

theorem bmm_wo : Tables.woOps.contains "BATCH_MATMUL" = true := by decide

/-- activation configs are per-tensor (every config of the shipped policy is) -/
def ActPerTensor (c : OpCfg) : Prop := ∀ a, c.act = some a → a.gran ≠ Gran.channelwise

theorem refQDim_perTensor {env : Env} {oi : OpInfo} {tc : TCfg} {content : Option (Arr Rat)}
    (hg : tc.gran ≠ Gran.channelwise) : refQDim env oi tc content = .ok none := by
  unfold refQDim
  rw [if_neg (by simpa using hg)]

theorem refQDim_ok {env : Env} {oi : OpInfo} {tc : TCfg} {content : Option (Arr Rat)} {q : Option Nat}
    (h : refQDim env oi tc content = .ok q) :
    (tc.gran ≠ Gran.channelwise ∧ q = none) ∨
    (tc.gran = Gran.channelwise ∧ ∃ k, q = some k ∧
      ((oi.opName = "BATCH_MATMUL" ∧ ∃ c, content = some c ∧ k = bmmQDim c.shape.length (opAdjY env oi)) ∨
       (oi.opName ≠ "BATCH_MATMUL" ∧ Py.dictGet? Tables.weightQDim oi.opName = some k))) := by
  by_cases hg : tc.gran = Gran.channelwise
  · refine .inr ⟨hg, ?_⟩
    unfold refQDim at h
    rw [if_pos (by rw [hg]; rfl)] at h
    by_cases hb : oi.opName = "BATCH_MATMUL"
    · rw [if_pos (by rw [hb]; rfl)] at h
      cases content with
      | none => cases h
      | some c => exact ⟨_, (Except.ok.inj h).symm, .inl ⟨hb, c, rfl, rfl⟩⟩
    · rw [if_neg (by simpa using hb)] at h
      unfold Py.dictGet?
      cases hf : Tables.weightQDim.find? (·.1 == oi.opName) with
      | none => rw [hf] at h; cases h
      | some e =>
        rw [hf] at h
        exact ⟨_, (Except.ok.inj h).symm, .inr ⟨hb, rfl⟩⟩
  · rw [refQDim_perTensor hg] at h
    exact .inl ⟨hg, (Except.ok.inj h).symm⟩

/-- the statistics of a constant are kept along `refQDim` under the WEIGHT config -/
theorem statQDim_of_ref {env : Env} {oi : OpInfo} {w : TCfg} {d : Arr Rat} {q : Option Nat} (hw : oi.cfg.weight = some w)
    (h : refQDim env oi w (some d) = .ok q) : statQDim env oi d.shape.length = q := by
  unfold statQDim
  rw [hw]
  rcases refQDim_ok h with ⟨hg, rfl⟩ | ⟨hg, k, rfl, ⟨hb, c, hc, rfl⟩ | ⟨hb, hk⟩⟩
  · exact if_neg (by simpa using hg)
  · cases hc
    simp only [hg, hb, beq_self_eq_true, if_true]
  · simp only [hg, beq_self_eq_true, if_true, if_neg (show ¬ (oi.opName == "BATCH_MATMUL") = true by simpa using hb)]
    exact hk

theorem statQDim_noWo {env : Env} {oi : OpInfo} (h : Tables.woOps.contains oi.opName = false) (rank : Nat) :
    statQDim env oi rank = none := by
  unfold statQDim
  split
  · split
    · have hb : ¬ (oi.opName == "BATCH_MATMUL") = true := fun hb => by rw [beq_iff_eq.1 hb, bmm_wo] at h; cases h
      rw [if_neg hb]
      cases hf : Tables.weightQDim.find? (·.1 == oi.opName) with
      | none => rfl
      | some e => rw [weightQDim_wo _ _ hf] at h; cases h
    · rfl
  · rfl

theorem refQDim_stat (env : Env) (oi : OpInfo) (t : Tensor) (d : Arr Rat) (tc : TCfg) (qdim : Option Nat)
    (hd : constData env t = some d) (htc : tcfgOf env oi t = some tc) (hact : ActPerTensor oi.cfg)
    (h : refQDim env oi tc (some d) = .ok qdim) : statQDim env oi d.shape.length = qdim := by
  unfold tcfgOf at htc
  rw [hd] at htc
  split at htc
  · exact statQDim_of_ref htc h
  · rename_i hwo
    rcases refQDim_ok h with ⟨-, rfl⟩ | ⟨hg, -⟩
    · refine statQDim_noWo ?_ _
      simp only [Option.isSome_some, Bool.true_and, Bool.or_eq_true, not_or, Bool.not_eq_true] at hwo
      exact hwo.1
    · exact absurd hg (hact tc htc)

theorem woOps_qdim : Tables.woOps.all (fun k => k == "BATCH_MATMUL" || (Tables.weightQDim.find? (·.1 == k)).isSome) = true := by
  decide

theorem refQDim_total {env : Env} {oi : OpInfo} {tc : TCfg} {content : Option (Arr Rat)}
    (h : tc.gran = Gran.channelwise → content.isSome = true ∧ Tables.woOps.contains oi.opName = true) :
    ∃ q, refQDim env oi tc content = .ok q := by
  unfold refQDim
  split
  · rename_i hg
    obtain ⟨hcs, hwo⟩ := h (beq_iff_eq.1 hg)
    split
    · cases content with
      | none => cases hcs
      | some c => exact ⟨_, rfl⟩
    · rename_i hb
      have := List.all_eq_true.1 woOps_qdim oi.opName (by simpa using hwo)
      cases hf : Tables.weightQDim.find? (·.1 == oi.opName) with
      | none => rw [hf] at this; exact absurd (by simpa using this) hb
      | some x => exact ⟨_, rfl⟩
  · exact ⟨_, rfl⟩

theorem refTensorParams_ok_iff (env : Env) (oi : OpInfo) (tc : TCfg) (content : Option (Arr Rat)) (mn mx : FArr)
    (p : Param) :
    refTensorParams env oi tc content mn mx = .ok p ↔
      ∃ qdim qp dat, refQDim env oi tc content = .ok qdim ∧
        refParams tc.bits.toNat tc.symmetric qdim mn mx = .ok qp ∧ refData tc content qp = .ok dat ∧
        p = .uniform qp dat := by
  unfold refTensorParams refParams
  cases hz : zpScale tc.bits.toNat tc.symmetric mn mx with
  | error e =>
    constructor
    · intro h; cases h
    · rintro ⟨_, _, _, _, h, _⟩; cases h
  | ok zs =>
    cases hq : refQDim env oi tc content with
    | error e =>
      constructor
      · intro h; cases h
      · rintro ⟨_, _, _, h, _⟩; cases h
    | ok qdim =>
      simp only []
      cases hdat : refData tc content { bits := tc.bits.toNat, qdim := qdim, scale := zs.2, zp := zs.1, symmetric := tc.symmetric } with
      | error e =>
        constructor
        · intro h; cases h
        · rintro ⟨qd, qp, dat, h1, h2, h3, _⟩
          simp only [Except.ok.injEq] at h1 h2
          subst h1; subst h2
          rw [hdat] at h3; cases h3
      | ok dat =>
        simp only [Except.ok.injEq]
        constructor
        · intro h; exact ⟨qdim, _, dat, rfl, rfl, hdat, h.symm⟩
        · rintro ⟨qd, qp, dat', h1, h2, h3, h4⟩
          subst h1; subst h2
          rw [hdat] at h3
          simp only [Except.ok.injEq] at h3
          subst h3
          exact h4.symm

theorem tcfgOf_nonconst (env : Env) (oi : OpInfo) (t : Tensor) (h : constData env t = none) :
    tcfgOf env oi t = oi.cfg.act := by
  unfold tcfgOf
  rw [h]
  rfl

theorem biasSlot_gt_one (k : String) (b : Nat) (h : PipeNF.biasSlot k = some b) : 1 < b := by
  unfold PipeNF.biasSlot at h
  split at h
  · cases h; decide
  · split at h
    · cases h; decide
    · cases h

theorem tcfgOf_cases {env : Env} {oi : OpInfo} {t : Tensor} {tc : TCfg} (h : tcfgOf env oi t = some tc) :
    (oi.cfg.weight = some tc ∧ (constData env t).isSome = true ∧
      (Tables.woOps.contains oi.opName = true ∨ Tables.drqOps.contains oi.opName = true)) ∨ oi.cfg.act = some tc := by
  unfold tcfgOf at h
  split at h
  · rename_i hc
    simp only [Bool.and_eq_true, Bool.or_eq_true] at hc
    exact .inl ⟨h, hc⟩
  · exact .inr h

theorem statsOf_runtime (env : Env) (qs : Qsvs) (oi : OpInfo) (t : Tensor) (e : Qsv)
    (hnc : constData env t = none) : statsOf env qs oi t = .ok e ↔ Py.dictGet? qs t.name = some e := by
  unfold statsOf
  rw [hnc]
  cases Py.dictGet? qs t.name with
  | none => constructor <;> (intro h; cases h)
  | some v => simp

/-- **request for a constant**: the reference parameters of its statistics (always the true min/max
    taken on the spot, D36), with the quantized values attached -/
theorem wrapper_const_eq (env : Env) (qsvs : Qsvs) (oi : OpInfo) (t : Tensor) (inbound : Bool) (tc : TCfg)
    (d : Arr Rat) (hd : constData env t = some d) (htc : tcfgOf env oi t = some tc) :
    wrapper env qsvs oi t inbound none =
      match statsOf env qsvs oi t with
      | .error e => .error e
      | .ok none => .error .valueError
      | .ok (some s) =>
        match refTensorParams env oi tc (some d) s.1 s.2 with
        | .error e => .error e
        | .ok p => mkReq t.name oi inbound (some p) true := by
  rw [wrapper_none_eq, htc]
  simp only [hd, Option.isSome_some]
  cases hs : statsOf env qsvs oi t with
  | error e => rfl
  | ok mm =>
    simp only [tensorQuantParams_eq]
    cases mm with
    | none => rfl
    | some s => rfl

/-- **the statistics of a constant never depend on the statistics dictionary** (D36): they
    are exactly what `init_tensor_min_max` computes from the data under the current op config -/
theorem statsOf_const (env : Env) (qsvs : Qsvs) (oi : OpInfo) (t : Tensor) (d : Arr Rat) (mn mx : FArr)
    (hd : constData env t = some d) :
    statsOf env qsvs oi t = .ok (some (mn, mx)) ↔ initMinMax env oi t d = .ok (mn, mx) := by
  unfold statsOf
  rw [hd]
  simp only []
  cases he : d.data.isEmpty with
  | true =>
    simp only [if_true]
    constructor
    · intro h; cases h
    · intro h
      have hne := (initMinMax_spec env oi t d mn mx (constData_shape env t d hd).2 h).nonempty
      rw [List.isEmpty_iff] at he
      exact absurd he hne
  | false =>
    simp only [Bool.false_eq_true, if_false]
    cases initMinMax env oi t d with
    | error e =>
      constructor <;> (intro h; cases h)
    | ok r =>
      simp only [Except.ok.injEq, Option.some.injEq]

theorem statsOf_ne_none {env : Env} {qs : Qsvs} {oi : OpInfo} {t : Tensor}
    (hrun : constData env t = none → ∃ mm, Py.dictGet? qs t.name = some (some mm))
    (hne : ∀ d, constData env t = some d → d.data ≠ []) : statsOf env qs oi t ≠ .ok none := by
  intro hs
  cases hc : constData env t with
  | none =>
    obtain ⟨mm, hmm⟩ := hrun hc
    rw [(statsOf_runtime env qs oi t none hc).1 hs] at hmm
    cases hmm
  | some d =>
    unfold statsOf at hs
    rw [hc] at hs
    simp only [List.isEmpty_eq_false_iff.2 (hne d hc), Bool.false_eq_true, if_false] at hs
    cases hi : initMinMax env oi t d with
    | error e => rw [hi] at hs; cases hs
    | ok r => rw [hi] at hs; cases hs

/-- what calibration records for a float32 constant is what `init_tensor_min_max` computes -/
theorem initTensor_faithful (env : Env) (oi : OpInfo) (t : Tensor) (d : Arr Rat) (mm : FArr × FArr)
    (hd : constData env t = some d) (hf32 : t.dtype = Tables.ttFloat32)
    (h : Calib.initTensor env oi t = .ok (some mm)) : initMinMax env oi t d = .ok mm := by
  unfold Calib.initTensor Calib.constAny at h
  rw [hd] at h
  simp only [] at h
  split at h
  · cases h
  · obtain ⟨r, hr, h⟩ := PyM.bind_eq_ok_iff.1 h
    obtain ⟨mn, mx⟩ := r
    simp only [pure, Except.pure, Except.ok.injEq, Option.some.injEq] at h
    have I := initMinMax_spec env oi t d mn mx (constData_shape env t d hd).2 hr
    have h1 := I.prMin
    have h2 := I.prMax
    have hp : Calib.statPrec t = .f32 := by unfold Calib.statPrec; rw [hf32]; rfl
    rw [hr, ← h, hp]
    obtain ⟨a1, p1⟩ := mn
    obtain ⟨a2, p2⟩ := mx
    subst h1; subst h2
    rfl

/-- **fixed-range ops**: the requests are those of an unconstrained op, except that the result (last
    request) carries the range hard-coded in the runtime kernel instead of its calibrated one -/
theorem fixedRangeOp_spec (env : Env) (sg : Subgraph) (qsvs : Qsvs) (oi : OpInfo) (b : Bool)
    (rs : List CReq) (qs' : Qsvs) (h : fixedRangeOp env sg qsvs oi b = .ok (rs, qs')) :
    oi.op.outputs.length = 1 ∧ ∃ reqs qs, standardOp env sg qsvs oi .none [] [] = .ok (reqs, qs) ∧
      ((rs = reqs ∧ qs' = qs ∧
          (reqs.getLast? = none ∨ oi.cfg.act = none ∨ ∃ last, reqs.getLast? = some last ∧ last.producer = none)) ∨
        ∃ last a pr fp mm, reqs.getLast? = some last ∧ oi.cfg.act = some a ∧ last.producer = some pr ∧
          fixedParams b a.bits.toNat = some fp ∧ minMaxFromParams a.bits.toNat a.symmetric fp = .ok mm ∧
          rs = reqs.dropLast ++ [{ last with producer := some { pr with param := some (.uniform fp none) } }] ∧
          qs' = Py.dictSet qs last.name (some mm)) := by
  rw [fixedRangeOp_eq_fixLast] at h
  split at h
  · cases h
  rename_i hlen
  obtain ⟨⟨reqs, qs⟩, hstd, hfix⟩ := PyM.bind_eq_ok_iff.1 h
  refine ⟨Decidable.not_not.1 hlen, reqs, qs, hstd, ?_⟩
  rcases fixLast_ok hfix with ⟨hwhy, rfl, rfl⟩ | ⟨last, pr, a, fp, mm, hlast, hpr, hact, hfp, hmm, -, rfl, rfl⟩
  · exact .inl ⟨rfl, rfl, hwhy⟩
  · exact .inr ⟨last, a, pr, fp, mm, hlast, hact, hpr, hfp, hmm, rfl, rfl⟩

/-- **bias request under a static-range config**: the bias must be a constant; its request, placed at the bias position,
    carries `symmetric_quantize_bias_tensor` of the parameters of the requests at the data / weight positions -/
theorem biasFor_srq (env : Env) (sg : Subgraph) (oi : OpInfo) (reqs rs : List CReq) (iIn iW iB : Nat) (bslot : Int)
    (hsrq : isSRQ oi.cfg = true) (hb : oi.op.inputs[iB]? = some bslot) (hne : bslot ≠ -1)
    (h : biasFor env sg oi reqs iIn iW iB = .ok rs) :
    ∃ bt bd rin rw qi di qw dw qp q, tensorAt sg bslot = .ok bt ∧ constData env bt = some bd ∧
      reqs[iIn]? = some rin ∧ reqs[iW]? = some rw ∧
      reqParam0 rin = .ok (some (.uniform qi di)) ∧ reqParam0 rw = .ok (some (.uniform qw dw)) ∧
      quantizeBias ⟨bd, .f32⟩ qi qw = .ok (qp, q) ∧ iB < reqs.length ∧
      rs = reqs.set iB (srqReq bt.name oi.opId true true (some (.uniform qp (some q)))) := by
  rcases biasFor_ok h with ⟨hno | hno, -⟩ | ⟨a, bt, bp, r, ha, -, hbt, hbp, hr, hlt, rfl⟩
  · rw [hb] at hno; cases hno
  · rw [hb] at hno; exact absurd (Option.some.inj hno) hne
  · rw [hb] at ha
    cases ha
    rw [hsrq, mkReq_srq _ _ _ _ _ hsrq] at hr
    cases hr
    cases hbp with
    | none hs => rw [hsrq] at hs; cases hs
    | quantized bd rI rW qi qw di dw qp q _ hbd hrI hpI hrW hpW hq =>
      exact ⟨bt, bd, rI, rW, qi, di, qw, dw, qp, q, hbt, hbd, hrI, hrW, hpI, hpW, hq, hlt, rfl⟩

/-- the materialize function registered for op `k` under min/max uniform quantization -/
def minmaxFn (k : String) : Option String := Py.dictGet? Pipe.minmaxOps k

theorem registry_minmaxFn (k : String) :
    (Py.dictGet? Tables.registry Tables.algMinMax).bind (fun ops => Py.dictGet? ops k) = minmaxFn k := by
  rw [Pipe.registry_minmax]; rfl

theorem refData_some (tc : TCfg) (d : Arr Rat) (qp : QParams) (dat : Option IArr) :
    refData tc (some d) qp = .ok dat ↔
      tc.gran ≠ Gran.blockwise ∧ ∃ q, uniformQuantize ⟨d, .f32⟩ qp = .ok q ∧ dat = some q := by
  unfold refData
  simp only []
  by_cases hb : (tc.gran == Gran.blockwise) = true
  · rw [if_pos hb]
    constructor
    · intro h; cases h
    · rintro ⟨h, _⟩; exact absurd (beq_iff_eq.1 hb) h
  · rw [if_neg hb]
    have hb' : tc.gran ≠ Gran.blockwise := fun h => hb (by rw [h]; rfl)
    cases hu : uniformQuantize ⟨d, .f32⟩ qp with
    | error e =>
      constructor
      · intro h; cases h
      · rintro ⟨_, q, h, _⟩; cases h
    | ok q =>
      simp only [Except.ok.injEq]
      constructor
      · intro h; exact ⟨hb', q, rfl, h.symm⟩
      · rintro ⟨_, q', h, rfl⟩; rw [h]

/-- the request of a tensor that is handed parameters: they pass through unchanged, except that a
    constant handed data-free uniform parameters gets its quantized values attached (D21) -/
theorem wrapper_given_eq (env : Env) (qsvs : Qsvs) (oi : OpInfo) (t : Tensor) (inbound : Bool) (p : Param) :
    wrapper env qsvs oi t inbound (some p) =
      match p, constData env t with
      | .uniform qp none, some d =>
        match uniformQuantize ⟨d, .f32⟩ qp with
        | .error e => .error e
        | .ok q => mkReq t.name oi inbound (some (.uniform qp (some q))) true
      | _, _ => mkReq t.name oi inbound (some p) (constData env t).isSome := by
  unfold wrapper
  simp only [bind, Except.bind, pure, Except.pure]
  cases p with
  | nonlinear b dd => rfl
  | uniform qp dd =>
    cases dd with
    | some v => rfl
    | none =>
      cases hd : constData env t with
      | none => rfl
      | some d =>
        simp only []
        cases uniformQuantize ⟨d, .f32⟩ qp <;> rfl

theorem wrapperParam_none_iff {env : Env} {qs : Qsvs} {oi : OpInfo} {t : Tensor} {p : Option Param} :
    wrapperParam env qs oi t none = .ok p ↔
      (tcfgOf env oi t = none ∧ p = none) ∨
      ∃ tc mn mx P, tcfgOf env oi t = some tc ∧ statsOf env qs oi t = .ok (some (mn, mx)) ∧
        refTensorParams env oi tc (constData env t) mn mx = .ok P ∧ p = some P := by
  constructor
  · intro h
    cases wrapperParam_ok h with
    | unconfigured hc => exact .inl ⟨hc, rfl⟩
    | computed tc mm q hc hs hq =>
      rw [tensorQuantParams_eq] at hq
      cases mm with
      | none => cases hq
      | some s => exact .inr ⟨tc, s.1, s.2, q, hc, hs, hq, rfl⟩
  · rintro (⟨hc, rfl⟩ | ⟨tc, mn, mx, P, hc, hs, hP, rfl⟩)
    · unfold wrapperParam
      rw [hc]
      rfl
    · unfold wrapperParam
      rw [hc]
      simp only [hs, tensorQuantParams_eq, hP, bind, Except.bind, pure, Except.pure]

theorem wrapper_none_ok_iff (env : Env) (qsvs : Qsvs) (oi : OpInfo) (t : Tensor) (inbound : Bool) (r : CReq) :
    wrapper env qsvs oi t inbound none = .ok r ↔
      (tcfgOf env oi t = none ∧ mkReq t.name oi inbound none (constData env t).isSome = .ok r) ∨
      ∃ tc mn mx qdim qp dat, tcfgOf env oi t = some tc ∧ statsOf env qsvs oi t = .ok (some (mn, mx)) ∧
        refQDim env oi tc (constData env t) = .ok qdim ∧
        refParams tc.bits.toNat tc.symmetric qdim mn mx = .ok qp ∧
        refData tc (constData env t) qp = .ok dat ∧
        mkReq t.name oi inbound (some (.uniform qp dat)) (constData env t).isSome = .ok r := by
  rw [wrapper_eq, PyM.bind_eq_ok_iff]
  constructor
  · rintro ⟨p, hp, hr⟩
    rcases wrapperParam_none_iff.1 hp with ⟨hc, rfl⟩ | ⟨tc, mn, mx, P, hc, hs, hP, rfl⟩
    · exact .inl ⟨hc, hr⟩
    · obtain ⟨qdim, qp, dat, h1, h2, h3, rfl⟩ := (refTensorParams_ok_iff ..).1 hP
      exact .inr ⟨tc, mn, mx, qdim, qp, dat, hc, hs, h1, h2, h3, hr⟩
  · rintro (⟨hc, hr⟩ | ⟨tc, mn, mx, qdim, qp, dat, hc, hs, h1, h2, h3, hr⟩)
    · exact ⟨none, wrapperParam_none_iff.2 (.inl ⟨hc, rfl⟩), hr⟩
    · exact ⟨_, wrapperParam_none_iff.2 (.inr ⟨tc, mn, mx, _, hc, hs,
        (refTensorParams_ok_iff ..).2 ⟨qdim, qp, dat, h1, h2, h3, rfl⟩, rfl⟩), hr⟩

/-- finite positive scales, in-range zero points (0 when symmetric), scale and zero-point arrays of one shape -/
structure WellFormed (bits : Nat) (sym : Bool) (qp : QParams) : Prop where
  bits_eq : qp.bits = bits
  sym_eq : qp.symmetric = sym
  shape : qp.scale.arr.shape = qp.zp.arr.shape
  len : qp.scale.arr.data.length = qp.zp.arr.data.length
  wf : qp.scale.arr.data.length = numel qp.scale.arr.shape
  pos : ∀ s ∈ qp.scale.arr.data, 0 < s
  fin : ∀ s ∈ qp.scale.arr.data, qp.scale.pr.isFin s = true
  zp : ∀ z ∈ qp.zp.arr.data, qmin bits ≤ z ∧ z ≤ qmax bits
  zp0 : sym = true → ∀ z ∈ qp.zp.arr.data, z = 0

deriving instance DecidableEq for Nd.Arr
deriving instance DecidableEq for Arith.FArr
deriving instance DecidableEq for Arith.IArr
deriving instance DecidableEq for Arith.QParams
deriving instance DecidableEq for Mat.Param
deriving instance DecidableEq for Mat.CO2T
deriving instance DecidableEq for Mat.CReq

end MatParams
