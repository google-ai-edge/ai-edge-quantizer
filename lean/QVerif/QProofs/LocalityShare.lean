import QProofs.LocalityMat
import QProofs.SharingProofs
/-!
# C19 — the two buffer-sharing passes on the extracted model

With unique names an operand of subgraph `j` is an operand in the extracted model, and the readers of a buffer
in subgraph `j` are a sublist of its readers in the model.  `checkUnreadOwn` transfers at once (`own_local`);
`checkBufferSharing` needs more (LocalityCompat).
-/
open Graph Mat SharingProofs

namespace Locality

/-- no constant buffer read (as operand or result) by an operator of subgraph `j` is read by an operator
    of another subgraph -/
def NoCrossShare (m : Model) (j : Nat) (sg : Subgraph) : Prop :=
  ∀ k sgk, m.subgraphs[k]? = some sgk → k ≠ j → ∀ e ∈ occSg sgk, ∀ e' ∈ occSg sg,
    (∃ c, m.buffers[e.1]? = some (some c)) → e.1 ≠ e'.1

theorem occ_extract (m : Model) (j : Nat) (sg : Subgraph) : occ (extract m j sg) = occSg sg := by
  simp only [occ, extract, List.flatMap_cons, List.flatMap_nil, List.append_nil]

theorem occSg_nameIn (sg : Subgraph) (e : Nat × String) (he : e ∈ occSg sg) : nameIn sg e.2 = true := by
  obtain ⟨t, ht, _, htn⟩ := occSg_name sg e he
  rw [← htn]
  exact nameIn_of_mem sg t ht

theorem occ_own (m : Model) (hnu : GenInstsOK.namesUnique m) (j : Nat) (sg : Subgraph)
    (hsg : m.subgraphs[j]? = some sg) (b : Nat) (n : String) (hn : nameIn sg n = true) (h : (b, n) ∈ occ m) :
    (b, n) ∈ occSg sg := by
  obtain ⟨sgk, hk, he⟩ := List.mem_flatMap.1 h
  obtain ⟨k, hk'⟩ := List.mem_iff_getElem?.1 hk
  by_cases hkj : k = j
  · subst hkj
    rw [hsg] at hk'
    cases hk'
    exact he
  · exfalso
    have h1 : nameIn sgk n = true := occSg_nameIn sgk (b, n) he
    have := names_disjoint m hnu j k sg sgk hsg hk' hkj n h1
    rw [hn] at this
    cases this

theorem namesAt_sublist {m : Model} {sg : Subgraph} (hsg : sg ∈ m.subgraphs) (b : Nat) :
    (namesAt (occSg sg) b).Sublist (namesAt (occ m) b) :=
  ((List.sublist_flatMap_of_mem occSg hsg).filter _).map _

/-- `checkUnreadOwn` (D35) of the extracted model follows from that of the whole model (unique names) -/
theorem own_local (m : Model) (res : List (String × CReq)) (hnu : GenInstsOK.namesUnique m) (j : Nat)
    (sg : Subgraph) (hsg : m.subgraphs[j]? = some sg) (h : checkUnreadOwn m res = .ok ()) :
    checkUnreadOwn (extract m j sg) (keep (nameIn sg) res) = .ok () := by
  have S := (checkUnreadOwn_ok_iff m res).1 h
  have hmemsg : sg ∈ m.subgraphs := List.mem_of_getElem? hsg
  refine (checkUnreadOwn_ok_iff _ _).2 ?_
  intro sg' hsg' t ht hun hdata own hown hrw
  obtain rfl : sg' = sg := List.mem_singleton.1 hsg'
  rw [dictGet?_keep (nameIn sg') res t.name (nameIn_of_mem sg' t ht)] at hown
  -- the extracted model has no more tensors over the buffer than the whole model
  have hun' : Unread m t.name := fun ⟨b, hb⟩ => (unread_iff _ _).1 hun
    ⟨b, occ_extract m j sg' ▸ occ_own m hnu j sg' hsg b t.name (nameIn_of_mem sg' t ht) hb⟩
  refine Nat.le_trans ?_ (S sg' hmemsg t ht ((unread_iff m _).2 hun') hdata own hown hrw)
  show ([sg'].flatMap (·.tensors)).countP _ ≤ _
  rw [List.flatMap_cons, List.flatMap_nil, List.append_nil]
  exact (List.sublist_flatMap_of_mem (·.tensors) hmemsg).countP_le

def noCrossShareB (m : Model) (j : Nat) (sg : Subgraph) : Bool :=
  m.subgraphs.zipIdx.all fun p =>
    p.2 == j || (occSg p.1).all fun e =>
      (match m.buffers[e.1]? with | some (some _) => false | _ => true) ||
        (occSg sg).all fun e' => e.1 != e'.1

theorem noCrossShare_of_B (m : Model) (j : Nat) (sg : Subgraph) (h : noCrossShareB m j sg = true) :
    NoCrossShare m j sg := by
  intro k sgk hk hkj e he e' he' hdata
  unfold noCrossShareB at h
  rw [List.all_eq_true] at h
  have h1 := h (sgk, k) (List.mem_zipIdx_iff_getElem?.2 hk)
  simp only [Bool.or_eq_true, beq_iff_eq] at h1
  rcases h1 with h1 | h1
  · exact absurd h1 hkj
  · rw [List.all_eq_true] at h1
    have h2 := h1 e he
    simp only [Bool.or_eq_true] at h2
    obtain ⟨c, hc⟩ := hdata
    rcases h2 with h2 | h2
    · rw [hc] at h2; cases h2
    · rw [List.all_eq_true] at h2
      have h3 := h2 e' he'
      simpa using h3

end Locality
