import QProofs.EmulatedNames
/-!
# The user-facing statements about `Emulated.apply`, derived from `EmuWF.apply_spec` and `EmuNames.tensors_spec`
-/
open Graph Perform Emulated GraphStep EmuWF EmuNames

namespace EmuThms

section
variable (pt : PTable) (env : EmuEnv) (m m' : Model) (sgi : Nat) (sg : Subgraph) (inp : TIn) (info : TInfoOut)
  (hsg : m.subgraphs[sgi]? = some sg) (hwf : WF.modelOK m = true) (hinp : EmuOK m sg inp)
  (h : Emulated.apply pt env m sgi inp = .ok (m', info))
include hsg hwf hinp h

theorem emulated_wf : WF.modelOK m' = true := by
  obtain ⟨_, _, _, _, _, _, _, _, _, _, hm'⟩ := apply_spec pt env m m' sgi sg inp info hsg hwf hinp h
  exact hm'

theorem emulated_frame :
    ∃ (k : Nat) (N : List Op) (sg' : Subgraph) (wT : Tensor) (c : BufContent) (bext : List BufContent)
      (cext : List Nat),
      inp.consumers = [(k : Int)] ∧ k < sg.ops.length ∧
      m'.subgraphs = m.subgraphs.set sgi sg' ∧ (∀ j, j ≠ sgi → m'.subgraphs[j]? = m.subgraphs[j]?) ∧
      m'.opcodes = m.opcodes ++ cext ∧
      sg.tensors[inp.tensor.toNat]? = some wT ∧ m'.buffers = m.buffers.set wT.buffer c ++ bext ∧
      m'.sigs = m.sigs ∧ sg'.inputs = sg.inputs ∧ sg'.outputs = sg.outputs ∧
      sg'.ops = sg.ops.take k ++ N ++ sg.ops.drop (k + 1) ∧ (∀ o ∈ N, o.orig = none) := by
  obtain ⟨pl, pre, post, N, fc, y, wT, sg', _, hr, _⟩ := apply_spec pt env m m' sgi sg inp info hsg hwf hinp h
  obtain ⟨v, bext, hb⟩ := hr.bufs
  obtain ⟨cext, hc⟩ := hr.codes
  refine ⟨pre.length, N, sg', wT, some v, bext, cext, hr.cons, by rw [hr.ops]; simp, hr.sub, fun j hj => ?_, hc,
    hr.weight, hb, hr.sigs, hr.inputs, hr.outputs, ?_, hr.orig⟩
  · rw [hr.sub]; exact List.getElem?_set_ne (Ne.symm hj)
  · rw [hr.ops', hr.ops, List.take_left, List.append_cons pre, List.drop_left' (by simp)]

theorem emulated_bookkeeping :
    ∃ (k : Nat) (sg' : Subgraph), inp.consumers = [(k : Int)] ∧ m'.subgraphs[sgi]? = some sg' ∧
      info.opId = (k : Int) ∧
      sg'.ops.length = sg.ops.length + info.added ∧
      (∀ j, j < k → sg'.ops[j]? = sg.ops[j]?) ∧
      (∀ j, k ≤ j → j ≤ k + info.added → ∃ o, sg'.ops[j]? = some o ∧ o.orig = none) ∧
      (∀ j, k < j → sg'.ops[j + info.added]? = sg.ops[j]?) := by
  obtain ⟨pl, pre, post, N, fc, y, wT, sg', _, hr, _⟩ := apply_spec pt env m m' sgi sg inp info hsg hwf hinp h
  have hadd := hr.added
  refine ⟨pre.length, sg', hr.cons, hr.get hsg, hr.opId, ?_, fun j hj => ?_, fun j h1 h2 => ?_, fun j hj => ?_⟩
  · rw [hr.ops', hr.ops]; simp; omega
  · rw [hr.ops', hr.ops, getElem?_splice_pre _ _ _ hj, List.getElem?_append_left hj]
  · obtain ⟨i, rfl⟩ : ∃ i, j = pre.length + i := ⟨j - pre.length, by omega⟩
    have hi : i < N.length := by omega
    exact ⟨N[i], by rw [hr.ops', getElem?_splice_mid _ _ _ hi, List.getElem?_eq_getElem hi],
      hr.orig _ (List.getElem_mem hi)⟩
  · obtain ⟨d, rfl⟩ : ∃ d, j = pre.length + (d + 1) := ⟨j - pre.length - 1, by omega⟩
    rw [hr.ops', hr.ops, show pre.length + (d + 1) + info.added = pre.length + N.length + d by omega,
      getElem?_splice_post, List.getElem?_append_right (Nat.le_add_right _ _), Nat.add_sub_cancel_left,
      List.getElem?_cons_succ]

theorem emulated_result_tensor :
    ∃ (k : Nat) (fc : Op) (y : Int) (sg' : Subgraph) (last : Op),
      inp.consumers = [(k : Int)] ∧ sg.ops[k]? = some fc ∧ fc.outputs = [y] ∧
      m'.subgraphs[sgi]? = some sg' ∧ info.outTensor = y ∧
      sg'.ops[k + info.added]? = some last ∧ last.outputs = [y] ∧ last.orig = none := by
  obtain ⟨pl, pre, post, N, fc, y, wT, sg', _, hr, _⟩ := apply_spec pt env m m' sgi sg inp info hsg hwf hinp h
  have hadd := hr.added
  have hN : N.length - 1 < N.length := by omega
  refine ⟨pre.length, fc, y, sg', N[N.length - 1], hr.cons, by rw [hr.ops]; simp, hr.out, hr.get hsg, hr.outTensor,
    ?_, hr.last _ (List.getElem?_eq_getElem hN), hr.orig _ (List.getElem_mem hN)⟩
  rw [hr.ops', show info.added = N.length - 1 by omega, getElem?_splice_mid _ _ _ hN, List.getElem?_eq_getElem hN]

theorem emulated_tensors :
    ∃ (sg' : Subgraph), m'.subgraphs[sgi]? = some sg' ∧ sg.tensors.length + 8 ≤ sg'.tensors.length ∧
      (∀ i t, sg.tensors.length ≤ i → sg'.tensors[i]? = some t → t.name ∉ sg.tensors.map (·.name)) ∧
      (∀ i, i < sg.tensors.length → i ≠ inp.tensor.toNat → i ≠ info.outTensor.toNat →
        sg'.tensors[i]? = sg.tensors[i]?) ∧
      (∀ t t', sg.tensors[info.outTensor.toNat]? = some t → sg'.tensors[info.outTensor.toNat]? = some t' →
        t'.name = t.name ∨ t'.name ∉ sg.tensors.map (·.name)) := by
  obtain ⟨pl, pre, post, N, fc, y, wT, sg', hpl, hr, _⟩ := apply_spec pt env m m' sgi sg inp info hsg hwf hinp h
  obtain ⟨_, hsgs, _⟩ := (modelOK_iff m).1 hwf
  have hfcOK : OpOK m sg pre.length fc :=
    (hsgs sg (List.mem_of_getElem? hsg)).ops _ _ (by rw [hr.ops]; simp)
  have hyOK := (hfcOK.outs y (by rw [hr.out]; simp)).resolve_left hr.yne
  have hy0 : 0 ≤ y := hyOK.1.1
  have hyn : y < (sg.tensors.length : Int) := hyOK.1.2
  have hv := (validT_iff _ _).1 hinp.tvalid
  have hw0 : 0 ≤ inp.tensor := hv.1
  have hwn : inp.tensor < (sg.tensors.length : Int) := hv.2
  obtain ⟨wT', ty, Told, ext, hw', hT, hTold, hext, hcase⟩ :=
    tensors_spec pt env m sg inp pl (hsgs sg (List.mem_of_getElem? hsg)) hinp hpl hr.nodupB
  rw [hr.outId] at hcase
  rw [← hr.tensors] at hT
  refine ⟨sg', hr.get hsg, hr.grow, fun i t hi ht => ?_, fun i hi hiw hiy => ?_, fun t t' ht ht' => ?_⟩
  · rw [hT, List.getElem?_append_right (by omega)] at ht
    exact hext t (List.mem_of_getElem? ht)
  · rw [hT, List.getElem?_append_left (by omega)]
    rw [hr.outTensor] at hiy
    rcases hcase with rfl | ⟨nn, _, rfl⟩
    · rw [List.getElem?_set_ne (Ne.symm hiw)]
    · rw [List.getElem?_modify_ne _ _ (Ne.symm hiy), List.getElem?_set_ne (Ne.symm hiw)]
  · rw [hr.outTensor] at ht ht'
    rw [hT, List.getElem?_append_left (by omega)] at ht'
    -- the result tensor is not the weight: one is a constant, the other an operator result
    have hne : inp.tensor.toNat ≠ y.toNat := by
      intro heq
      have hc := hinp.wconst
      rw [show inp.tensor = y by omega, hyOK.2.2.1] at hc
      cases hc
    rcases hcase with rfl | ⟨nn, hnn, rfl⟩
    · rw [List.getElem?_set_ne hne, ht] at ht'
      cases ht'
      exact .inl rfl
    · rw [List.getElem?_modify_eq, List.getElem?_set_ne hne, ht] at ht'
      cases ht'
      exact .inr hnn

end

end EmuThms
