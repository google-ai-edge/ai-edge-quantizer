import QProofs.MatTotalOps
import QProofs.CalibExact
/-!
# Producer requests: one per result slot, hence no `updateResults` conflict (C08, `StepSite.conflict`)

Every registered materialisation emits its producer requests in result-slot order (`runKind_prodNames`: the names of the
requests with a producer side are a sublist of the names at the non-`-1` result slots).  Last, what one operator does to the
statistics (`Write`, `runKind_writes`): a list of writes, each at the name of a result.
-/
open Graph Mat Arith Cfg Pipe

set_option autoImplicit false

namespace MatTotal

def prodNames (rs : List CReq) : List String := (rs.filter (·.producer.isSome)).map (·.name)

def nameAt (sg : Subgraph) (a : Int) : Option String :=
  match tensorAt sg a with
  | .ok t => some t.name
  | .error _ => none

def outNames (sg : Subgraph) (op : Op) : List String := (op.outputs.filter (· != -1)).filterMap (nameAt sg)

theorem prodNames_append (a b : List CReq) : prodNames (a ++ b) = prodNames a ++ prodNames b := by
  simp [prodNames]

theorem prodNames_nil_of (rs : List CReq) (h : ∀ r ∈ rs, r.producer = none) : prodNames rs = [] := by
  unfold prodNames
  rw [List.filter_eq_nil_iff.2]
  · rfl
  · intro r hr
    rw [h r hr]
    simp

theorem prodNames_all (rs : List CReq) (h : ∀ r ∈ rs, r.producer.isSome = true) : prodNames rs = rs.map (·.name) := by
  unfold prodNames
  rw [List.filter_eq_self.2 h]

theorem standardOp_prodNames (env : Env) (sg : Subgraph) (qs : Qsvs) (oi : OpInfo) (con : Constraint) (gi go : List Nat)
    (rs : List CReq) (qs' : Qsvs) (h : standardOp env sg qs oi con gi go = .ok (rs, qs')) :
    prodNames rs = outNames sg oi.op := by
  obtain ⟨rin, rout, g, gO, hrs, hrin, hrout, -⟩ := Mat.standardOp_slots h
  have hrinP : ∀ r ∈ rin, r.producer = none := by
    intro r hr
    obtain ⟨p, -, hS⟩ := hrin.mem_right hr
    obtain ⟨t, c, -, rfl, -⟩ := hS.eq_sideReq
    rfl
  have hroutP : ∀ r ∈ rout, r.producer.isSome = true := by
    intro r hr
    obtain ⟨p, -, hS⟩ := hrout.mem_right hr
    obtain ⟨t, c, -, rfl, -⟩ := hS.eq_sideReq
    rfl
  rw [hrs, prodNames_append, prodNames_nil_of rin hrinP, List.nil_append, prodNames_all rout hroutP]
  unfold outNames
  rw [← cslots_map_fst, List.filterMap_map]
  refine (hrout.filterMap_eq ?_).symm
  intro p r hpr
  obtain ⟨t, c, hat, rfl, -⟩ := hpr.eq_sideReq
  simp only [Function.comp, nameAt, hat, sideReq_name]

theorem noQuantReq_prod (n : String) (o : Int) (b : Bool) : (noQuantReq n o b).producer.isSome = !b := by
  cases b <;> rfl

theorem noQuantOp_prodNames (sg : Subgraph) (op : Op) (opId : Int) (rs : List CReq)
    (h : noQuantOp sg op opId = .ok rs) : prodNames rs = outNames sg op := by
  obtain ⟨tin, tout, -, hout, rfl⟩ := noQuantOp_ok_iff.1 h
  rw [prodNames_append, prodNames_nil_of _ (by simp [noQuantReq]), List.nil_append,
    prodNames_all _ (by simp [noQuantReq]), List.map_map]
  unfold outNames
  clear h
  generalize op.outputs.filter (· != -1) = l at hout
  induction hout with
  | nil => rfl
  | cons h1 _ ih => rw [List.filterMap_cons, nameAt, h1, List.map_cons, ih]; rfl

theorem prodNames_set_sublist (rs : List CReq) (i : Nat) (r : CReq) (hr : r.producer = none) :
    (prodNames (rs.set i r)).Sublist (prodNames rs) := by
  induction rs generalizing i with
  | nil => simp [prodNames]
  | cons a as ih =>
    cases i with
    | zero =>
      simp only [List.set_cons_zero, prodNames, List.filter_cons, hr, Option.isSome_none, Bool.false_eq_true, if_false]
      split
      · exact List.sublist_cons_self _ _
      · exact List.Sublist.refl _
    | succ i =>
      simp only [List.set_cons_succ, prodNames, List.filter_cons]
      split
      · simp only [List.map_cons]
        exact List.Sublist.cons_cons _ (ih i)
      · exact ih i

theorem biasFor_prodNames (env : Env) (sg : Subgraph) (oi : OpInfo) (reqs rs : List CReq) (iIn iW iB : Nat)
    (h : biasFor env sg oi reqs iIn iW iB = .ok rs) : (prodNames rs).Sublist (prodNames reqs) := by
  rcases biasFor_ok h with ⟨-, rfl⟩ | ⟨bslot, bt, bp, r, B⟩
  · exact List.Sublist.refl _
  · obtain ⟨xfs, _, rfl⟩ := mkReq_ok.1 B.req
    exact B.eq ▸ prodNames_set_sublist reqs iB _ rfl

theorem prodNames_dropLast_snoc (reqs : List CReq) (last last' : CReq) (hl : reqs.getLast? = some last)
    (hn : last'.name = last.name) (hp : last'.producer.isSome = last.producer.isSome) :
    prodNames (reqs.dropLast ++ [last']) = prodNames reqs := by
  conv_rhs => rw [← List.dropLast_append_getLast? last hl]
  simp only [prodNames_append]
  congr 1
  simp only [prodNames, List.filter_cons, List.filter_nil, hp]
  split <;> simp [hn]

theorem fixLast_prodNames {oi : OpInfo} {sl : Bool} {reqs rs : List CReq} {q qs' : Qsvs}
    (h : fixLast oi sl (reqs, q) = .ok (rs, qs')) : prodNames rs = prodNames reqs := by
  rcases fixLast_ok h with ⟨-, rfl, -⟩ | ⟨last, pr, a, fp, mm, hl, hpr, -, -, -, -, rfl, -⟩
  · rfl
  · refine prodNames_dropLast_snoc reqs last _ hl rfl ?_
    rw [hpr]
    rfl

theorem floatCastOp_prodNames (env : Env) (sg : Subgraph) (oi : OpInfo) (iIn iW iB : Nat) (rs : List CReq)
    (hout : oi.op.outputs[0]? ≠ some (-1)) (h : floatCastOp env sg oi iIn iW iB = .ok rs) :
    (prodNames rs).Sublist (outNames sg oi.op) := by
  obtain ⟨sIn, sW, sOut, tin, tw, tout, wd, hh, C⟩ := floatCastOp_ok h
  have e3 := C.outSlot
  have htout := C.outT
  have hne : sOut ≠ -1 := fun hh => hout (hh ▸ e3)
  have hprod : prodNames rs = [tout.name] := by
    rcases C.reqs with ⟨_, rfl⟩ | ⟨b, tb, _, _, _, rfl⟩
    · simp [prodNames, noQuantReq, f16Req, sideReq]
    · simp [prodNames, noQuantReq, f16Req, sideReq]
  rw [hprod]
  unfold outNames
  cases ho : oi.op.outputs with
  | nil => rw [ho] at e3; cases e3
  | cons a as =>
    rw [ho] at e3
    simp only [List.getElem?_cons_zero, Option.some.injEq] at e3
    subst e3
    rw [List.filter_cons_of_pos (by simpa using hne), List.filterMap_cons]
    simp only [nameAt, htout]
    exact List.Sublist.cons_cons _ (List.nil_sublist _)

theorem runKind_prodNames (env : Env) (sg : Subgraph) (qs : Qsvs) (oi : OpInfo) (k : Kind) (rs : List CReq) (qs' : Qsvs)
    (hcast : ∀ a b c, k = .cast a b c → oi.op.outputs[0]? ≠ some (-1))
    (h : runKind env sg qs oi k = .ok (rs, qs')) : (prodNames rs).Sublist (outNames sg oi.op) := by
  have hk := runKind_ok h
  cases k with
  | std con gi => rw [standardOp_prodNames env sg qs oi con gi [] rs qs' hk]
  | conv =>
    obtain ⟨r, hstd, hb⟩ := hk
    rw [← standardOp_prodNames env sg qs oi .none [2] [] r qs' hstd]
    exact biasFor_prodNames env sg oi r rs 0 1 2 hb
  | convT =>
    obtain ⟨r, hstd, -, hb⟩ := hk
    rw [← standardOp_prodNames env sg qs oi .none [0, 3] [] r qs' hstd]
    exact biasFor_prodNames env sg oi r rs 2 1 3 hb
  | fixed sl =>
    obtain ⟨-, r0, q0, hs, hfix⟩ := hk
    rw [fixLast_prodNames hfix, standardOp_prodNames env sg qs oi .none [] [] r0 q0 hs]
  | cast a b c => exact floatCastOp_prodNames env sg oi a b c rs (hcast a b c rfl) hk.1
  | unknown => exact hk.elim

def HasProd (res : List (String × CReq)) (n : String) : Prop := ∃ c, Py.dictGet? res n = some c ∧ c.producer.isSome = true

theorem stepF_hasProd (res res' : List (String × CReq)) (r : CReq) (h : stepF res r = .ok res') (n : String)
    (hn : HasProd res' n) : HasProd res n ∨ (n = r.name ∧ r.producer.isSome = true) := by
  obtain ⟨c, hc, hp⟩ := hn
  rcases stepF_ok h with ⟨-, rfl⟩ | ⟨cur, hd, -, rfl⟩
  · rw [Py.dictGet?_append, Py.dictGet?_cons, Py.dictGet?_nil] at hc
    cases hdn : Py.dictGet? res n with
    | some v => rw [hdn] at hc; cases hc; exact .inl ⟨_, hdn, hp⟩
    | none =>
      rw [hdn, Option.none_or] at hc
      split at hc
      · rename_i heq; cases hc; exact .inr ⟨heq.symm, hp⟩
      · cases hc
  · rw [Py.dictGet?_dictSet] at hc
    split at hc
    · rename_i heq
      cases hc
      -- the merged entry has the producer of `r`, or else the one it had
      cases hrp : r.producer with
      | some p => exact .inr ⟨heq.symm, rfl⟩
      | none => exact .inl ⟨cur, heq ▸ hd, by simpa only [mergeReq, hrp] using hp⟩
    · exact .inl ⟨c, hc, hp⟩

theorem updateResults_hasProd : ∀ (rs : List CReq) (res res' : List (String × CReq)),
    updateResults res rs = .ok res' → ∀ n, HasProd res' n → HasProd res n ∨ n ∈ prodNames rs := by
  intro rs
  induction rs with
  | nil =>
    intro res res' h n hn
    rw [updateResults_eq] at h
    simp only [List.foldlM_nil, pure, Except.pure, Except.ok.injEq] at h
    subst h; exact .inl hn
  | cons r rs ih =>
    intro res res' h n hn
    rw [updateResults_eq, List.foldlM_cons] at h
    obtain ⟨res1, h1, h⟩ := PyM.bind_ok _ _ _ h
    rcases ih res1 res' h n hn with h2 | h2
    · rcases stepF_hasProd res res1 r h1 n h2 with h3 | ⟨h3, h4⟩
      · exact .inl h3
      · refine .inr ?_
        simp only [prodNames, List.filter_cons, h4, if_true, List.map_cons]
        exact List.mem_cons.2 (.inl h3)
    · refine .inr ?_
      simp only [prodNames, List.filter_cons]
      split
      · exact List.mem_cons_of_mem _ h2
      · exact h2

theorem slotTensor_outName (sg : Subgraph) (op : Op) (go : List Nat) (t : Tensor) (h : SlotTensor sg op false go t) :
    t.name ∈ outNames sg op := by
  obtain ⟨i, a, hia, hane, hat, _, _⟩ := h
  simp only [Bool.false_eq_true, if_false] at hia
  unfold outNames
  refine List.mem_filterMap.2 ⟨a, List.mem_filter.2 ⟨List.mem_of_getElem? hia, by simpa using hane⟩, ?_⟩
  simp only [nameAt, hat]

/-- one write of an operator's materialisation into the statistics -/
inductive Write (env : Env) (sg : Subgraph) (qs : Qsvs) (oi : OpInfo) : Kind → String × Qsv → Prop
  /-- a same-as-input operator copies the entry of its data operand to each of its float results -/
  | copy (gi : List Nat) (t o : Tensor) (outT : List Tensor) (iq : Qsv) : FloatSlots sg oi.op.inputs gi [t] →
      FloatSlots sg oi.op.outputs [] outT → o ∈ outT → Py.dictGet? qs t.name = some iq →
      Write env sg qs oi (.std .sameAsInput gi) (o.name, iq)
  /-- a fixed-range operator overwrites the entry of its result by the hard-coded range -/
  | fixed (sl : Bool) (a : TCfg) (fp : QParams) (mm : FArr × FArr) (n : String) : oi.cfg.act = some a →
      fixedParams sl a.bits.toNat = some fp → minMaxFromParams a.bits.toNat a.symmetric fp = .ok mm →
      n ∈ outNames sg oi.op → Write env sg qs oi (.fixed sl) (n, some mm)

theorem Write.name_mem {env : Env} {sg : Subgraph} {qs : Qsvs} {oi : OpInfo} {k : Kind} {e : String × Qsv}
    (h : Write env sg qs oi k e) : e.1 ∈ outNames sg oi.op := by
  cases h with
  | copy gi t o outT iq _ hO ho _ => exact slotTensor_outName sg oi.op [] o (floatSlots_mem sg oi.op false [] outT hO o ho)
  | fixed sl a fp mm n _ _ _ hn => exact hn

/-- every invariant of the statistics along the walk is a property of `Write` -/
theorem runKind_writes {env : Env} {sg : Subgraph} {qs : Qsvs} {oi : OpInfo} {k : Kind} {rs : List CReq} {qs' : Qsvs}
    (h : runKind env sg qs oi k = .ok (rs, qs')) :
    ∃ w, qs' = Locality.applyW w qs ∧ ∀ e ∈ w, Write env sg qs oi k e := by
  cases Mat.runKind_qs h with
  | same => exact ⟨[], rfl, fun _ he => by cases he⟩
  | copy gi t iq outT hI hO hiq =>
    refine ⟨_, rfl, fun e he => ?_⟩
    obtain ⟨o, ho, rfl⟩ := List.mem_map.1 he
    exact .copy gi t o outT iq hI hO ho hiq
  | fixed sl t a fp mm ht ha hfp hmm =>
    refine ⟨[(t.name, some mm)], rfl, fun e he => ?_⟩
    cases List.mem_singleton.1 he
    obtain ⟨x, hx, hne, hat⟩ := ht
    refine .fixed sl a fp mm _ ha hfp hmm (List.mem_filterMap.2 ⟨x, List.mem_filter.2 ⟨hx, by simpa using hne⟩, ?_⟩)
    simp only [nameAt, hat]

end MatTotal
