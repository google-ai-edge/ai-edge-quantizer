import QProofs.ParamsSrc
/-!
# C04 end to end, request stage: what the statistics dictionary IN FORCE contains

The materialisation works on a private copy of the calibration statistics and WRITES to it: a
same-as-input operator (RESHAPE, TRANSPOSE, AVERAGE_POOL_2D, STRIDED_SLICE, SPLIT) copies the entry of its
data operand to its results, a fixed-range operator (SOFTMAX, LOGISTIC, TANH) stores the min/max of the
fixed range for its result.  `StatSrc` says where an entry of a dictionary in force (`ParamsSrc.StatsAt`) comes
from (`statsAt_src`).
-/
open Graph Mat Cfg Pipe Arith
open ParamsSrc

set_option autoImplicit false

namespace ParamsStats

/-- the materialize functions with the same-as-input constraint / with a fixed output range -/
def sameAsInputFns : List String :=
  ["materialize_reshape", "materialize_transpose", "materialize_average_pool_2d", "materialize_strided_slice",
   "materialize_split"]
def fixedRangeFns : List String := ["materialize_softmax_and_logistic", "materialize_tanh"]

/-- the statistics after a same-as-input operator: the entry `iq` of the data operand `t0` written under
    the names of the quantized results `outT` -/
def Copied (sg : Subgraph) (op : Op) (qs qs' : Qsvs) : Prop :=
  ∃ (t0 : Tensor) (iq : Qsv) (outT : List Tensor), SlotOf sg op true t0 ∧ Py.dictGet? qs t0.name = some iq ∧
    (∀ o ∈ outT, SlotOf sg op false o) ∧ qs' = outT.foldl (fun q o => Py.dictSet q o.name iq) qs

/-- the statistics after a fixed-range operator: the min/max of the fixed range under the name of the result -/
def Fixed (sg : Subgraph) (oi : OpInfo) (sl : Bool) (qs qs' : Qsvs) : Prop :=
  ∃ (t : Tensor) (a : TCfg) (fp : QParams) (mm : FArr × FArr), SlotOf sg oi.op false t ∧ oi.cfg.act = some a ∧
    fixedParams sl a.bits.toNat = some fp ∧ minMaxFromParams a.bits.toNat a.symmetric fp = .ok mm ∧
    qs' = Py.dictSet qs t.name (some mm)

theorem runKind_stats (env : Env) (sg : Subgraph) (qs : Qsvs) (oi : OpInfo) (k : MatTotal.Kind)
    (rs : List CReq) (qs' : Qsvs) (h : MatTotal.runKind env sg qs oi k = .ok (rs, qs')) :
    qs' = qs ∨ (∃ gi, k = .std .sameAsInput gi ∧ Copied sg oi.op qs qs') ∨
      (∃ sl, k = .fixed sl ∧ Fixed sg oi sl qs qs') := by
  have slot : ∀ {b : Bool} {given : List Nat} {t : Tensor}, MatTotal.SlotTensor sg oi.op b given t → SlotOf sg oi.op b t :=
    fun ⟨i, a, hi, hne, ht, _, _⟩ => ⟨(a, i), (mem_cslots _ _).2 ⟨hi, hne⟩, ht⟩
  cases Mat.runKind_qs h with
  | same => exact .inl rfl
  | copy gi t iq outT hI hO hiq =>
    exact .inr (.inl ⟨gi, rfl, t, iq, outT, slot (MatTotal.floatSlots_mem sg oi.op true _ _ hI t List.mem_cons_self), hiq,
      fun o ho => slot (MatTotal.floatSlots_mem sg oi.op false _ _ hO o ho), Locality.applyW_map iq outT qs⟩)
  | fixed sl t a fp mm ht ha hfp hmm =>
    exact .inr (.inr ⟨sl, rfl, t, a, fp, mm, slotOf_of_atSlot ht, ha, hfp, hmm, rfl⟩)

/-- what entry `q` (name `k`, scope `scope`, registered function `fn` of the min/max algorithm) does to the
    statistics, when it changes them -/
def Writes (rx : String → String → Bool) (env : Env) (st : Recipe.State) (s : Nat) (sg : Subgraph)
    (q : Op × Option String × Int) (k scope fn : String) (qs qs' : Qsvs) : Prop :=
  Resolves rx env st sg q k scope ∧ (Recipe.resolve rx st k scope).1 = Tables.algMinMax ∧
    Py.dictGet? minmaxOps k = some fn ∧
    ((fn ∈ sameAsInputFns ∧ Copied sg q.1 qs qs') ∨
     (fn ∈ fixedRangeFns ∧ Fixed sg (oiOf rx st s q k scope) (fn == "materialize_softmax_and_logistic") qs qs'))

theorem opReqs_stats (rx : String → String → Bool) (env : Env) (st : Recipe.State)
    (s : Nat) (sg : Subgraph) (qs : Qsvs) (q : Op × Option String × Int) (rs : List CReq) (qs' : Qsvs)
    (h : opReqs rx env st s sg qs q = .ok (rs, qs')) :
    qs' = qs ∨ ∃ k scope fn, Writes rx env st s sg q k scope fn qs qs' := by
  rcases opReqs_ok h with ⟨-, h1, -⟩ | ⟨k, scope, ops, fn, ⟨hk, hs, hne, hops, hfn⟩, hrun⟩
  · exact .inl h1
  · have hres : Resolves rx env st sg q k scope := ⟨hk, hs, by simpa using hne⟩
    have reg : (Recipe.resolve rx st k scope).1 = Tables.algMinMax → Py.dictGet? minmaxOps k = some fn := by
      intro ha
      rw [ha, registry_minmax] at hops
      cases hops
      exact hfn
    -- by the registry, a kind that writes statistics belongs to the min/max algorithm and to these function names
    have hA := (kindAlg_of_registry hops hfn).2
    rcases runKind_stats env sg qs _ _ rs qs' hrun with h1 | ⟨gi, hkind, h1⟩ | ⟨sl, hkind, h1⟩
    · exact .inl h1
    · rw [hkind] at hA
      exact .inr ⟨k, scope, fn, hres, hA.1, reg hA.1, .inl ⟨hA.2.2 rfl, h1⟩⟩
    · rw [hkind] at hA
      obtain ⟨ha, -, -, -, -, hf, rfl⟩ := hA
      exact .inr ⟨k, scope, fn, hres, ha, reg ha, .inr ⟨hf, h1⟩⟩

/-- where an entry of a statistics dictionary in force comes from: the caller's statistics; a copy, made by
    a same-as-input operator, of the entry of its data operand `t0` to a result `t`; the min/max of the
    range fixed by the runtime kernel for the result `t` of a fixed-range operator -/
inductive StatSrc (rx : String → String → Bool) (env : Env) (st : Recipe.State) (qsvs : Option Qsvs) :
    String → Qsv → Prop
  | given (n : String) (e : Qsv) : Py.dictGet? (qsvs.getD []) n = some e → StatSrc rx env st qsvs n e
  | copied (s : Nat) (sg : Subgraph) (j : Nat) (q : Op × Option String × Int) (k scope fn : String)
      (t0 t : Tensor) (e : Qsv) :
      env.model.subgraphs[s]? = some sg → (allOps sg)[j]? = some q → Resolves rx env st sg q k scope →
      (Recipe.resolve rx st k scope).1 = Tables.algMinMax → Py.dictGet? minmaxOps k = some fn →
      fn ∈ sameAsInputFns → SlotOf sg q.1 true t0 → SlotOf sg q.1 false t →
      StatSrc rx env st qsvs t0.name e → StatSrc rx env st qsvs t.name e
  | fixed (s : Nat) (sg : Subgraph) (j : Nat) (q : Op × Option String × Int) (k scope fn : String)
      (t : Tensor) (a : TCfg) (fp : QParams) (mm : FArr × FArr) :
      env.model.subgraphs[s]? = some sg → (allOps sg)[j]? = some q → Resolves rx env st sg q k scope →
      (Recipe.resolve rx st k scope).1 = Tables.algMinMax → Py.dictGet? minmaxOps k = some fn →
      fn ∈ fixedRangeFns → SlotOf sg q.1 false t → (Recipe.resolve rx st k scope).2.act = some a →
      fixedParams (fn == "materialize_softmax_and_logistic") a.bits.toNat = some fp →
      minMaxFromParams a.bits.toNat a.symmetric fp = .ok mm → StatSrc rx env st qsvs t.name (some mm)

def SInv (rx : String → String → Bool) (env : Env) (st : Recipe.State) (qsvs : Option Qsvs) (g : GState) : Prop :=
  ∀ n e, Py.dictGet? g.1 n = some e → StatSrc rx env st qsvs n e

theorem opStep_sinv (rx : String → String → Bool) (env : Env) (st : Recipe.State) (qsvs : Option Qsvs)
    (s : Nat) (sg : Subgraph) (hsg : env.model.subgraphs[s]? = some sg)
    (q : Op × Option String × Int) (hq : q ∈ allOps sg) (x x' : GState) (hx : SInv rx env st qsvs x)
    (h : opStep rx env st s sg x q = .ok x') : SInv rx env st qsvs x' := by
  obtain ⟨rs, hr, -⟩ := opStep_ok rx env st s sg x x' q h
  obtain ⟨j, hj⟩ := List.mem_iff_getElem?.1 hq
  rcases opReqs_stats rx env st s sg x.1 q rs x'.1 hr with
    h1 | ⟨k, scope, fn, hres, halg, hfn, hcase⟩
  · intro n e hn
    rw [h1] at hn
    exact hx n e hn
  · rcases hcase with ⟨hf, t0, iq, outT, ht0, hiq, hout, hq'⟩ | ⟨hf, t, a, fp, mm, ht, ha, hfp, hmm, hq'⟩
    · intro n e hn
      rw [hq', ← Locality.applyW_map] at hn
      rcases Locality.applyW_get _ _ n e hn with ⟨w, hw, rfl, rfl⟩ | h2
      · obtain ⟨o, ho, rfl⟩ := List.mem_map.1 hw
        exact .copied s sg j q k scope fn t0 o _ hsg hj hres halg hfn hf ht0 (hout o ho) (hx _ _ hiq)
      · exact hx n e h2
    · intro n e hn
      rw [hq', Py.dictGet?_dictSet] at hn
      by_cases hnn : t.name = n
      · rw [if_pos hnn] at hn
        cases hn
        rw [← hnn]
        exact .fixed s sg j q k scope fn t a fp mm hsg hj hres halg hfn hf ht ha hfp hmm
      · rw [if_neg hnn] at hn
        exact hx n e hn

theorem statsAt_src (rx : String → String → Bool) (env : Env) (st : Recipe.State) (qsvs : Option Qsvs)
    (s : Nat) (sg : Subgraph) (hsg : env.model.subgraphs[s]? = some sg) (j : Nat)
    (qs : Qsvs) (h : StatsAt rx env st qsvs s sg j qs) :
    ∀ n e, Py.dictGet? qs n = some e → StatSrc rx env st qsvs n e := by
  obtain ⟨g1, res, h1, h2⟩ := h
  have hg1 : SInv rx env st qsvs g1 := by
    refine PyM.foldlM_inv (sgStep rx env st) (SInv rx env st qsvs) _ _ g1
      (fun n e hn => .given n e hn) ?_ h1
    intro p hp x x' hx hstep
    have hp' : p ∈ env.model.subgraphs.zipIdx := List.mem_of_mem_take hp
    have hpsg : env.model.subgraphs[p.2]? = some p.1 := by
      have := List.mem_zipIdx_iff_getElem?.1 (show (p.1, p.2) ∈ _ from hp')
      exact this
    unfold sgStep at hstep
    exact PyM.foldlM_inv (opStep rx env st p.2 p.1) (SInv rx env st qsvs) _ x x' hx
      (fun q hq y y' hy hs => opStep_sinv rx env st qsvs p.2 p.1 hpsg q hq y y' hy hs) hstep
  have := PyM.foldlM_inv (opStep rx env st s sg) (SInv rx env st qsvs) _ g1 (qs, res) hg1
    (fun q hq y y' hy hs => opStep_sinv rx env st qsvs s sg hsg q (List.mem_of_mem_take hq) y y' hy hs) h2
  exact this

end ParamsStats
