import QProofs.GenInstsOK
/-! # Totality of the graph stage (C08b)
The dual of the partial correctness of `GraphInv` / `GenInstsOK`: under the same hypotheses plus `ParamsKnown` and `HasConsumers`
the performer cannot raise, and under `ReqOK`, `ReqParamsKnown`, `NoMixed` neither can `modify`.  Both added hypotheses are
necessary (counterexamples in `QProps/C08b.lean`). -/
open Graph Perform GraphBasics GraphStep GraphInv StepTypes Wiring

namespace GraphTotal

/-- the parameter of a quantizing instruction is usable: it is present (`None.quantized_data` would
    raise AttributeError), the parameter table has an entry for it, and the type table knows the bit
    width (`quant_params_to_tflite_type` would raise ValueError) -/
def ParamOK (pt : PTable) (param : Option PId) : Prop :=
  ∃ p pi ty, param = some p ∧ pinfo pt p = some pi ∧ dtypeOf pi = .ok ty

/-- every parameter mentioned by an instruction that the performer executes (`isInsertion`: QUANTIZE /
    DEQUANTIZE insertion, in-place quantization) is usable -/
def ParamsKnown (pt : PTable) (tis : List TInsts) : Prop :=
  ∀ ti ∈ tis, ∀ ins ∈ ti.insts, isInsertion ins.xf = true → ParamOK pt ins.param

/-- an instruction that inserts an operator has at least one consumer (the insertion position is
    `max(producer+1, min(consumers))`, and Python's `min([])` raises ValueError) -/
def HasConsumers (tis : List TInsts) : Prop :=
  ∀ ti ∈ tis, ∀ ins ∈ ti.insts, (ins.xf = .addQuant ∨ ins.xf = .addDequant) → ins.consumers ≠ []

def paramOKb (pt : PTable) (param : Option PId) : Bool :=
  match param with
  | none => false
  | some p =>
    match pinfo pt p with
    | none => false
    | some pi => match dtypeOf pi with | .ok _ => true | .error _ => false

theorem paramOK_of_b (pt : PTable) (param : Option PId) (h : paramOKb pt param = true) : ParamOK pt param := by
  unfold paramOKb at h
  cases param with
  | none => cases h
  | some p =>
    simp only at h
    cases hp : pinfo pt p with
    | none => rw [hp] at h; cases h
    | some pi =>
      rw [hp] at h
      simp only at h
      cases hd : dtypeOf pi with
      | error e => rw [hd] at h; cases h
      | ok ty => exact ⟨p, pi, ty, rfl, hp, hd⟩

theorem paramsKnown_of (pt : PTable) (tis : List TInsts)
    (h : ∀ ti ∈ tis, ∀ ins ∈ ti.insts, isInsertion ins.xf = true → paramOKb pt ins.param = true) :
    ParamsKnown pt tis :=
  fun ti hti ins hins hx => paramOK_of_b pt _ (h ti hti ins hins hx)

theorem quantizeTensor_total (pt : PTable) (bufs : List BufContent) (sg : Subgraph) (t : Int)
    (param : Option PId) (h0 : 0 ≤ t) (h1 : t < sg.tensors.length)
    (hbuf : ∀ tn, sg.tensors[t.toNat]? = some tn → tn.buffer < bufs.length)
    (hpar : ParamOK pt param) :
    ∃ r, quantizeTensor pt bufs sg t param = .ok r ∧ r.2.ops = sg.ops := by
  obtain ⟨p, pi, ty, hp, hpi, hty⟩ := hpar
  have hget : sg.tensors[t.toNat]? = some sg.tensors[t.toNat] := List.getElem?_eq_getElem (by omega)
  exact ⟨_, quantizeTensor_ok_iff.2 ⟨p, pi, ty, _, hp, hpi, hty, (getTensor_ok_iff h0).2 hget,
    fun _ _ => hbuf _ hget, rfl⟩, rfl⟩

theorem minCons_total (l : List Int) (h : l ≠ []) : ∃ first, minCons l = .ok first := by
  cases l with
  | nil => exact absurd rfl h
  | cons x xs => exact ⟨_, rfl⟩

theorem insertOp_total {pt : PTable} {m : Model} {sgi : Nat} {sg : Subgraph} {inp : TIn} (code : Nat)
    (suffix : String) (onNew : Bool) (hSg : SgOK m sg) (hinp : InpOK pt m sg inp)
    (hb : 0 < m.buffers.length) (hpar : ParamOK pt inp.param) (hne : inp.consumers ≠ []) :
    ∃ r, insertOp pt m sgi sg inp code suffix onNew = .ok r := by
  have hlt := hinp.tlt
  have hget : sg.tensors[inp.tensor.toNat]? = some sg.tensors[inp.tensor.toNat] :=
    List.getElem?_eq_getElem hlt
  obtain ⟨first, hf⟩ := minCons_total _ hne
  -- the tensor that is retyped (the appended one or the instruction's own) exists, and so does its buffer
  obtain ⟨r, hq, hops⟩ := quantizeTensor_total pt m.buffers
    { sg with tensors := sg.tensors ++ [fresh (uniqueName (sg.tensors.map (·.name))
        (sg.tensors[inp.tensor.toNat].name ++ suffix)) sg.tensors[inp.tensor.toNat]] }
    (if onNew then (sg.tensors.length : Int) else inp.tensor) inp.param
    (by split; exact Int.natCast_nonneg _; exact hinp.tpos)
    (by have := hinp.tpos; rw [List.length_append]; split <;> simp only [List.length_singleton] <;> omega)
    (by
      intro tq hq
      cases onNew
      · rw [if_neg Bool.false_ne_true, List.getElem?_append_left hlt] at hq
        exact hSg.bufr tq (List.mem_of_getElem? hq)
      · rw [if_pos rfl, Int.toNat_natCast, List.getElem?_concat_length] at hq
        cases hq
        exact hb) hpar
  refine ⟨_, insertOp_ok_iff.2 ⟨_, r, _, (getTensor_ok_iff hinp.tpos).2 hget, hq,
    wireNewOp_ok_iff.2 ⟨first, hf, ?_, rfl⟩, rfl⟩⟩
  rw [hops]
  exact hinp.consRange

theorem runXf_total (pt : PTable) (m : Model) (sgi : Nat) (sg : Subgraph) (x : Xf) (inp : TIn)
    (hsg : m.subgraphs[sgi]? = some sg) (hwf : WF.modelOK m = true) (hinp : InpOK pt m sg inp)
    (hx : isInsertion x = true) (hpar : ParamOK pt inp.param)
    (hne : (x = .addQuant ∨ x = .addDequant) → inp.consumers ≠ []) :
    ∃ r, runXf pt m sgi x inp = .ok r := by
  obtain ⟨hb0, hsgs, -⟩ := (modelOK_iff m).1 hwf
  have hSg : SgOK m sg := hsgs sg (List.mem_of_getElem? hsg)
  have hblen : 0 < m.buffers.length := (List.getElem?_eq_some_iff.1 hb0).1
  cases x with
  | noQuant => cases hx
  | emulated => cases hx
  | addQuant =>
    show ∃ r, insertQuant pt m sgi inp = .ok r
    rw [insertQuant_eq inp hsg]
    exact insertOp_total _ _ _ hSg hinp hblen hpar (hne (.inl rfl))
  | addDequant =>
    show ∃ r, insertDequant pt m sgi inp = .ok r
    rw [insertDequant_eq inp hsg]
    exact insertOp_total _ _ _ hSg hinp hblen hpar (hne (.inr rfl))
  | quantTensor =>
    obtain ⟨p, pi, ty, hp, hpi, hty⟩ := hpar
    have hlt := hinp.tlt
    have hget : sg.tensors[inp.tensor.toNat]? = some sg.tensors[inp.tensor.toNat] :=
      List.getElem?_eq_getElem hlt
    exact ⟨_, (quantizeOnly_ok_iff hsg hinp.tpos).2 ⟨p, pi, ty, _, hp, hpi, hty, hget,
      fun _ _ => hSg.bufr _ (List.mem_of_getElem? hget), rfl⟩⟩

theorem xlatProducer_total (ins : Inst) (om am : List Int)
    (hr : ins.producer < om.length) : ∃ producer, xlatProducer ins om am = .ok producer := by
  unfold xlatProducer
  by_cases h0 : ins.producer < 0
  · rw [if_pos h0]; exact ⟨_, rfl⟩
  · rw [if_neg h0, if_pos hr]
    exact ⟨_, (Py.index_nonneg (by omega)).2 (List.getElem?_eq_getElem (by omega))⟩

theorem xlatConsumers_total (ins : Inst) (om : List Int)
    (h : ∀ c ∈ ins.consumers, c < 0 ∨ c < om.length) :
    ∃ consumers, xlatConsumers ins om = .ok consumers := by
  refine PyM.mapM_total _ _ fun c hc => ?_
  by_cases h0 : c < 0
  · rw [if_pos h0]; exact ⟨_, rfl⟩
  · rw [if_neg h0]
    have h1 := (h c hc).resolve_left h0
    exact ⟨_, (Py.index_nonneg (by omega)).2 (List.getElem?_eq_getElem (by omega))⟩

theorem applySingle_total (pt : PTable) (m0 : Model) (st : PState) (ti : TInsts) (idx : Nat)
    (sg0 : Subgraph) (ins : Inst)
    (hinv : Inv m0 st) (hsg0 : m0.subgraphs[ti.sg]? = some sg0) (hins : ti.insts[idx]? = some ins)
    (hok : InstOK pt m0 sg0 ins) (hx : isInsertion ins.xf = true) (hpar : ParamOK pt ins.param)
    (hne : (ins.xf = .addQuant ∨ ins.xf = .addDequant) → ins.consumers ≠ []) :
    ∃ r, applySingle pt st ti idx = .ok r := by
  obtain ⟨sgc, om, am, hsgc, hom, ham, I⟩ := hinv.lookup hsg0
  obtain ⟨producer, hprod⟩ := xlatProducer_total ins om am (by rw [I.len]; exact hok.prodRange.2)
  obtain ⟨consumers, hcons⟩ := xlatConsumers_total ins om (fun c hc => by
    rw [I.len]; exact (hok.consAfter c hc).imp id (fun h => h.2))
  have hinp := inpOK_of_inv pt m0 sg0 st.model sgc om am ins producer consumers I hok hprod hcons
  obtain ⟨⟨m', info⟩, hrun⟩ := runXf_total pt st.model ti.sg sgc ins.xf
    ⟨ins.tensor, producer, consumers, ins.param⟩ hsgc hinv.wf hinp hx hpar (fun h hc => by
      -- the translated consumers are as many as the instruction's
      have := PyM.mapM_ok_length hcons
      rw [show consumers = [] from hc] at this
      exact hne h (List.length_eq_zero_iff.1 this.symm))
  obtain ⟨p, pi, ty, tn, sg', E⟩ := StepTypes.runXf_exact hsgc hinp hrun
  exact ⟨_, applySingle_ok_iff.2 ⟨ins, om, am, producer, consumers, sgc, m', info, sg', hins, hom, ham,
    hprod, hcons, hsgc, hrun, E.sub hsgc, rfl⟩⟩

theorem applyAll_total (pt : PTable) (m0 : Model) (st : PState) (ti : TInsts)
    (hinv : Inv m0 st) (hok : TInstsOK pt m0 ti)
    (hpar : ∀ ins ∈ ti.insts, isInsertion ins.xf = true → ParamOK pt ins.param)
    (hne : ∀ ins ∈ ti.insts, (ins.xf = .addQuant ∨ ins.xf = .addDequant) → ins.consumers ≠ []) :
    ∃ st', applyAll pt st ti = .ok st' ∧ Inv m0 st' := by
  obtain ⟨sg0, hsg0, hall⟩ := hok.insts
  -- the loop: the instruction list is handed on unchanged
  obtain ⟨cur, hloop, hI, ht⟩ := PyM.foldlM_total (applyStep pt) (fun c : PState × TInsts => Inv m0 c.1 ∧ c.2 = ti)
    (List.range ti.insts.length) (st, ti) ⟨hinv, rfl⟩ (by
      rintro idx - ⟨s, t⟩ ⟨hI, rfl⟩
      unfold applyStep
      cases hi : t.insts[idx]? with
      | none => exact ⟨_, rfl, hI, rfl⟩
      | some i =>
        have hmem := List.mem_of_getElem? hi
        by_cases hx : isInsertion i.xf = true
        · obtain ⟨⟨s', t'⟩, hr⟩ := applySingle_total pt m0 s t idx sg0 i hI hsg0 hi (hall i hmem) hx
            (hpar i hmem hx) (hne i hmem)
          obtain ⟨e, ⟨A⟩⟩ := applySingle_run pt m0 s s' t t' idx sg0 i hI hsg0 hi (hall i hmem) hok.noChain hr
          exact ⟨_, by simp only [hx, if_true]; exact hr, A.inv hI, e⟩
        · exact ⟨_, by simp only [hx]; rfl, hI, rfl⟩)
  have hem : (cur.2.insts.any fun x => x.xf == Xf.emulated) = false := by
    rw [ht]
    exact List.any_eq_false.2 fun i hi hxf => (hall i hi).notEmulated (by simpa using hxf)
  refine ⟨cur.1, ?_, hI⟩
  rw [applyAll_eq, hloop]
  show (if (cur.2.insts.any fun x => x.xf == Xf.emulated) = true then _ else _) = _
  rw [hem]
  rfl

theorem transformGraph_total (pt : PTable) (m : Model) (tis : List TInsts)
    (hwf : WF.modelOK m = true) (hok : ∀ ti ∈ tis, TInstsOK pt m ti)
    (hpar : ParamsKnown pt tis) (hcons : HasConsumers tis) :
    ∃ m', transformGraph pt m tis = .ok m' := by
  obtain ⟨st, hfold, -⟩ := PyM.foldlM_total (applyAll pt) (Inv m) tis _ (inv_init m hwf)
    (fun ti hti s hs => applyAll_total pt m s ti hs (hok ti hti) (hpar ti hti) (hcons ti hti))
  exact ⟨_, (transformGraph_ok_iff pt m _ tis).2 ⟨st, hfold, rfl⟩⟩

section Gen
open InstGen GenInstsInfo GenInstsOK

/-- request-level form of `ParamsKnown` -/
def ReqParamsKnown (pt : PTable) (r : TReq) : Prop :=
  ∀ o, (r.producer = some o ∨ ∃ cs, r.consumers = some cs ∧ o ∈ cs) →
    (∃ x ∈ o.xfs, isInsertion x = true) → ParamOK pt o.param

/-- `_check_tensor_transformation_instructions_valid` raises ValueError when a tensor is both left
    float by somebody (`NO_QUANTIZE`) and quantized in place / dequantized for somebody else.  With the
    closed request shape of `ReqOK` this happens exactly when a `NO_QUANTIZE` entry (the producer's or a
    consumer's) meets a consumer entry `QUANTIZE_TENSOR` or `ADD_DEQUANTIZE`. -/
def NoMixed (r : TReq) : Prop :=
  ∀ cs, r.consumers = some cs →
    ((∃ p, r.producer = some p ∧ p.xfs = [.noQuant]) ∨ ∃ c ∈ cs, c.xfs = [.noQuant]) →
    ∀ c ∈ cs, c.xfs ≠ [.quantTensor] ∧ c.xfs ≠ [.addDequant]

theorem reqParamsKnown_of (pt : PTable) (reqs : List TReq)
    (h : ∀ r ∈ reqs, ∀ o ∈ r.producer.toList ++ r.consumers.getD [], o.xfs.any isInsertion = true →
      paramOKb pt o.param = true) : ∀ r ∈ reqs, ReqParamsKnown pt r :=
  fun r hr o ho ⟨x, hx1, hx2⟩ => paramOK_of_b pt _ (h r hr o (mem_entries ho) (List.any_eq_true.2 ⟨x, hx1, hx2⟩))

theorem noMixed_of (reqs : List TReq)
    (h : ∀ r ∈ reqs, ((∃ p ∈ r.producer.toList, p.xfs = [.noQuant]) ∨ ∃ c ∈ r.consumers.getD [], c.xfs = [.noQuant]) →
      ∀ c ∈ r.consumers.getD [], c.xfs ≠ [.quantTensor] ∧ c.xfs ≠ [.addDequant]) : ∀ r ∈ reqs, NoMixed r := by
  intro r hr cs hcs htrig c hc
  refine h r hr ?_ c (mem_getD_consumers hcs hc)
  rcases htrig with ⟨p, hp, hx⟩ | ⟨c', hc', hx⟩
  · exact .inl ⟨p, mem_producer_toList hp, hx⟩
  · exact .inr ⟨c', mem_getD_consumers hcs hc', hx⟩

theorem instsValid_of (l : List Inst) (hem : ∀ i ∈ l, i.xf ≠ .emulated)
    (h : (∀ i ∈ l, i.xf ≠ .noQuant) ∨ (∀ i ∈ l, i.xf ≠ .quantTensor ∧ i.xf ≠ .addDequant)) :
    instsValid l = true := by
  have hem' : l.any (·.xf == .emulated) = false :=
    List.any_eq_false.2 fun i hi hx => hem i hi (by simpa using hx)
  unfold instsValid
  simp only [hem', Bool.false_and, Bool.not_false, Bool.and_true]
  rcases h with h | h
  · have : l.any (·.xf == .noQuant) = false :=
      List.any_eq_false.2 fun i hi hx => h i hi (by simpa using hx)
    simp [this]
  · have : l.any (fun i => i.xf == .quantTensor || i.xf == .addDequant) = false :=
      List.any_eq_false.2 fun i hi hx => by
        simp only [Bool.or_eq_true, beq_iff_eq] at hx
        exact hx.elim (h i hi).1 (h i hi).2
    simp [this]

theorem isInsertion_iff (x : Xf) : isInsertion x = true ↔ x = .addDequant ∨ x = .quantTensor ∨ x = .addQuant := by
  cases x <;> simp [isInsertion]

theorem instsList_facts (pt : PTable) (m : Model) (s : Nat) (sg : Subgraph) (t : Nat) (req : TReq)
    (hsg : m.subgraphs[s]? = some sg)
    (hinfo : Py.dictGet? (nameMap m) req.name = some (tensorInfo s sg t))
    (hreq : ReqOK pt m req) (hpk : ReqParamsKnown pt req) (hmix : NoMixed req) :
    instsValid (Locality.instsList (tensorInfo s sg t) req) = true ∧
    (∀ ins ∈ Locality.instsList (tensorInfo s sg t) req, isInsertion ins.xf = true → ParamOK pt ins.param) ∧
    (∀ ins ∈ Locality.instsList (tensorInfo s sg t) req,
      (ins.xf = .addQuant ∨ ins.xf = .addDequant) → ins.consumers ≠ []) := by
  have hem : ∀ ins ∈ Locality.instsList (tensorInfo s sg t) req, ins.xf ≠ .emulated := fun ins hins =>
    ((instsList_ok pt m s sg t req hsg hinfo hreq).1 ins hins).notEmulated
  have horigin := inst_origin (tensorInfo s sg t) req hreq.consLen hreq.prodShape
  refine ⟨instsValid_of _ hem ?_, ?_, ?_⟩
  · by_cases hdq : ∃ p, req.producer = some p ∧ p.xfs = [.addDequant]
    · -- the producer is quantized: nobody stays float
      left
      intro ins hins
      rcases horigin ins hins with ⟨p, hp, hy, -⟩ | ⟨-, -, -, hk, -⟩ | ⟨-, -, -, -, -, hne⟩
      · obtain ⟨p', hp', hy'⟩ := hdq
        cases hp.symm.trans hp'
        cases hy.symm.trans hy'
      · rcases hk with ⟨h, -⟩ | h
        · rw [h]; nofun
        · rw [h]; nofun
      · exact hne hdq
    · -- the producer stays float or is absent: an instruction is the producer's NO_QUANTIZE or a consumer side
      by_cases htrig : (∃ p, req.producer = some p ∧ p.xfs = [.noQuant]) ∨
          ∃ cs, req.consumers = some cs ∧ ∃ c ∈ cs, c.xfs = [.noQuant]
      · right
        intro ins hins
        rcases horigin ins hins with ⟨-, -, -, h, -⟩ | ⟨p, hp, hy, -⟩ | ⟨o, ho, hx, -⟩
        · rw [h]; exact ⟨nofun, nofun⟩
        · exact absurd ⟨p, hp, hy⟩ hdq
        · obtain ⟨cs, h1, hf⟩ := getD_consumers req o ho
          have htrig' : (∃ p, req.producer = some p ∧ p.xfs = [.noQuant]) ∨ ∃ c ∈ cs, c.xfs = [.noQuant] := by
            rcases htrig with h | ⟨cs', h1', h⟩
            · exact .inl h
            · rw [h1] at h1'; cases h1'; exact .inr h
          obtain ⟨n1, n2⟩ := hmix cs h1 htrig' o hf
          exact ⟨fun h => n1 (h ▸ hx), fun h => n2 (h ▸ hx)⟩
      · left
        intro ins hins hxn
        rcases horigin ins hins with ⟨p, hp, hy, -⟩ | ⟨p, hp, hy, -⟩ | ⟨o, ho, hx, -⟩
        · exact htrig (.inl ⟨p, hp, hy⟩)
        · exact hdq ⟨p, hp, hy⟩
        · obtain ⟨cs, h1, hf⟩ := getD_consumers req o ho
          exact htrig (.inr ⟨cs, h1, o, hf, hxn ▸ hx⟩)
  · intro ins hins hxi
    rcases horigin ins hins with ⟨-, -, -, h, -⟩ | ⟨p, hp, hy, -, hpar⟩ | ⟨o, ho, hx, hpar, -⟩
    · rw [h] at hxi; cases hxi
    · rw [hpar]
      exact hpk p (.inl hp) ⟨.addDequant, by rw [hy]; exact List.mem_singleton.2 rfl, rfl⟩
    · obtain ⟨cs, h1, h2⟩ := getD_consumers req o ho
      rw [hpar]
      exact hpk o (.inr ⟨cs, h1, h2⟩) ⟨ins.xf, by rw [hx]; exact List.mem_singleton.2 rfl, hxi⟩
  · intro ins hins hxi
    rcases horigin ins hins with ⟨-, -, -, h, -⟩ | ⟨-, -, -, ⟨-, hne⟩ | h, -⟩ | ⟨o, -, -, -, hmem, -⟩
    · rw [h] at hxi
      rcases hxi with h | h <;> cases h
    · exact hne
    · rw [h] at hxi
      rcases hxi with h | h <;> cases h
    · exact List.ne_nil_of_mem hmem

/-- `_quant_params_to_transformation_insts` cannot raise on a request of the closed shape, and its
    result satisfies the performer's parameter / consumer hypotheses -/
theorem tensorInsts_total (pt : PTable) (m : Model) (req : TReq)
    (hreq : ReqOK pt m req) (hpk : ReqParamsKnown pt req) (hmix : NoMixed req) :
    ∃ ti, tensorInsts (nameMap m) req = .ok ti ∧
      (∀ ins ∈ ti.insts, isInsertion ins.xf = true → ParamOK pt ins.param) ∧
      (∀ ins ∈ ti.insts, (ins.xf = .addQuant ∨ ins.xf = .addDequant) → ins.consumers ≠ []) := by
  obtain ⟨info, hinfo⟩ := hreq.known
  obtain ⟨s, sg, t, -, hsg, -, -, rfl⟩ := nameMap_mem m _ _ hinfo
  obtain ⟨hv, h1, h2⟩ := instsList_facts pt m s sg t req hsg hinfo hreq hpk hmix
  exact ⟨_, Locality.tensorInsts_ok_iff.2 ⟨_, hinfo, hv, rfl⟩, h1, h2⟩

theorem genInsts_total (pt : PTable) (m : Model) (reqs : List TReq)
    (hreq : ∀ r ∈ reqs, ReqOK pt m r) (hpk : ∀ r ∈ reqs, ReqParamsKnown pt r)
    (hmix : ∀ r ∈ reqs, NoMixed r) :
    ∃ tis, genInsts m reqs = .ok tis ∧ ParamsKnown pt tis ∧ HasConsumers tis := by
  obtain ⟨tis, h, hQ⟩ := PyM.mapM_ok_total (tensorInsts (nameMap m))
    (fun ti => (∀ ins ∈ ti.insts, isInsertion ins.xf = true → ParamOK pt ins.param) ∧
      (∀ ins ∈ ti.insts, (ins.xf = .addQuant ∨ ins.xf = .addDequant) → ins.consumers ≠ []))
    reqs (fun r hr => tensorInsts_total pt m r (hreq r hr) (hpk r hr) (hmix r hr))
  exact ⟨tis, h, fun ti hti => (hQ ti hti).1, fun ti hti => (hQ ti hti).2⟩

theorem modify_total (pt : PTable) (m : Model) (reqs : List TReq)
    (hwf : WF.modelOK m = true) (hnames : namesUnique m)
    (hreq : ∀ r ∈ reqs, ReqOK pt m r) (hpk : ∀ r ∈ reqs, ReqParamsKnown pt r)
    (hmix : ∀ r ∈ reqs, NoMixed r) :
    ∃ m', Perform.modify pt m reqs = .ok m' := by
  obtain ⟨tis, hgen, hpar, hcons⟩ := genInsts_total pt m reqs hreq hpk hmix
  obtain ⟨m', h⟩ :=
    transformGraph_total pt m tis hwf (genInsts_ok pt m reqs tis hwf hreq hgen) hpar hcons
  exact ⟨m', PyM.bind_eq_ok_iff.2 ⟨tis, hgen, h⟩⟩

end Gen

end GraphTotal
