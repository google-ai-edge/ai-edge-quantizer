import QProofs.NumericArray
import QProofs.MatTotalMain
/-!
# The numeric raise sites of one operator's materialisation are excluded on bounded data (C08, numeric half)

`MatTotal.opSite_num_absurd`: under the context facts of `MatTotalOps` (`KindCtx`) and the numeric facts `NumKind`
(bounded constants, good statistics of the runtime tensors, the shape conditions of the bias), no NUMERIC site
(`… true e`) of `Mat.materializeOp` can fire.
-/
open Graph Mat Arith Nd NumT MatParams

set_option autoImplicit false

namespace MatTotal

theorem oneDim_keepShape (shape : List Nat) (sq : Option Nat) : OneDim (keepShape shape (reduceDims sq shape.length)) := by
  cases sq with
  | none =>
    refine oneDim_ones _ ?_
    intro d hd
    simp only [reduceDims, Option.map_none, keepShape, List.mem_map] at hd
    obtain ⟨_, _, rfl⟩ := hd
    rfl
  | some q =>
    rw [keepShape_qdim]
    unfold OneDim
    generalize shape.getD q 1 = c
    generalize shape.length = n
    have key : ∀ n, ((List.range n).map (fun i => if i = q then c else 1)).filter (· ≠ 1) =
        if q < n ∧ c ≠ 1 then [c] else [] := by
      intro n
      induction n with
      | zero => simp
      | succ n ih =>
        rw [List.range_succ, List.map_append, List.filter_append, ih]
        by_cases hn : n = q
        · subst hn
          by_cases hc : c = 1
          · subst hc; simp
          · simp [hc]
        · have h1 : (q < n + 1) ↔ q < n := by omega
          simp [hn, h1]
    rw [key n]
    split <;> simp

theorem statsOf_fin (env : Env) (qs : Qsvs) (oi : OpInfo) (t : Tensor) (mn mx : FArr)
    (hs : statsOf env qs oi t = .ok (some (mn, mx)))
    (hrun : constData env t = none → ∀ mn mx, Py.dictGet? qs t.name = some (some (mn, mx)) → StatGood mn mx)
    (hconst : ∀ d, constData env t = some d → ∀ x ∈ d.data, |x| ≤ B) :
    StatFin mn mx ∧ (constData env t = none → ∀ d ∈ mn.arr.shape, d = 1) ∧
    (∀ d, constData env t = some d →
      mn.arr.shape = keepShape d.shape (reduceDims (statQDim env oi d.shape.length) d.shape.length) ∧
      numel mn.arr.shape = (match statQDim env oi d.shape.length with | none => 1 | some q => d.shape.getD q 1)) := by
  cases hd : constData env t with
  | none =>
    have hg : StatGood mn mx := hrun hd mn mx ((statsOf_runtime env qs oi t _ hd).1 hs)
    exact ⟨hg.fin, fun _ => hg.ones, (fun d h => by cases h)⟩
  | some d =>
    have hi := (statsOf_const env qs oi t d mn mx hd).1 hs
    have I := initMinMax_spec env oi t d mn mx (constData_shape env t d hd).2 hi
    have hb := hconst d hd
    refine ⟨⟨.inl I.prMin, .inl I.prMax, I.ordered.1, reduceKeep_bounded _ _ sel_min d _ _ I.lo hb,
      reduceKeep_bounded _ _ sel_max d _ _ I.hi hb⟩, (fun h => by cases h), ?_⟩
    intro d' hd'
    cases hd'
    exact ⟨(reduceKeep_spec _ _ sel_min d _ _ I.lo).2.1, I.cells⟩

theorem refParams_good (bits : Nat) (hb2 : 2 ≤ bits) (hb16 : bits ≤ 16) (sym : Bool) (qdim : Option Nat) (mn mx : FArr)
    (S : StatFin mn mx) (qp : QParams) (h : refParams bits sym qdim mn mx = .ok qp) :
    QPGood sLo qp ∧ qp.scale.arr.shape = mn.arr.shape ∧ (∀ s ∈ qp.scale.arr.data, s ≤ B) := by
  obtain ⟨zp, scale, hz, rfl⟩ := (refParams_ok_iff bits sym qdim mn mx qp).1 h
  exact zpScale_good bits hb2 hb16 sym mn mx S qdim zp scale hz

/-- the parameters `wrapper` computes from a tensor's own statistics are good, whichever side asks for them -/
theorem wrapperParam_good (env : Env) (qs : Qsvs) (oi : OpInfo) (t : Tensor) (qp : QParams) (dat : Option IArr)
    (hmode : C13.modeOK oi.opName oi.cfg = true)
    (hrun : constData env t = none → ∀ mn mx, Py.dictGet? qs t.name = some (some (mn, mx)) → StatGood mn mx)
    (hconst : ∀ d, constData env t = some d → ∀ x ∈ d.data, |x| ≤ B)
    (h : wrapperParam env qs oi t none = .ok (some (.uniform qp dat))) :
    QPGood sLo qp ∧ (∀ s ∈ qp.scale.arr.data, s ≤ B) ∧
    (constData env t = none → ∀ d ∈ qp.scale.arr.shape, d = 1) ∧
    (∀ d, constData env t = some d →
      qp.scale.arr.shape = keepShape d.shape (reduceDims (statQDim env oi d.shape.length) d.shape.length) ∧
      numel qp.scale.arr.shape = (match statQDim env oi d.shape.length with | none => 1 | some q => d.shape.getD q 1)) ∧
    ∃ mn mx, statsOf env qs oi t = .ok (some (mn, mx)) ∧ qp.scale.arr.shape = mn.arr.shape := by
  rcases wrapperParam_none_iff.1 h with ⟨-, hn⟩ | ⟨tc, mn, mx, P, htc, hs, hP, hp⟩
  · cases hn
  · cases hp
    obtain ⟨qdim, qp', dat', -, hrp, -, hPe⟩ := (refTensorParams_ok_iff ..).1 hP
    cases hPe
    obtain ⟨hb2, hb16⟩ := tc_bits env oi t tc hmode htc
    obtain ⟨S, h1, h2⟩ := statsOf_fin env qs oi t mn mx hs hrun hconst
    obtain ⟨G, hshape, hB⟩ := refParams_good _ hb2 hb16 _ qdim mn mx S _ hrp
    exact ⟨G, hB, fun hc => hshape ▸ h1 hc, fun d hd => hshape ▸ h2 d hd, mn, mx, hs, hshape⟩

theorem tensorSite_num_absurd (env : Env) (qs : Qsvs) (oi : OpInfo) (t : Tensor) (inbound : Bool)
    (g : Option Param) (e : PyErr) (hmode : C13.modeOK oi.opName oi.cfg = true)
    (hrun : constData env t = none → ∀ mn mx, Py.dictGet? qs t.name = some (some (mn, mx)) → StatGood mn mx)
    (hconst : ∀ d, constData env t = some d → ∀ x ∈ d.data, |x| ≤ B)
    (hg : ∀ qp, g = some (.uniform qp none) → ∀ d, constData env t = some d →
      QPGood ((2:Rat)^(-60:Int)) qp ∧ Compat qp.scale.arr.shape d.shape) :
    ¬ TensorSite env qs oi t inbound g true e := by
  intro hsite
  cases hsite with
  | zpScale tc mn mx e hgn htc hs hz =>
    obtain ⟨hb2, hb16⟩ := tc_bits env oi t tc hmode htc
    obtain ⟨S, _, _⟩ := statsOf_fin env qs oi t mn mx hs hrun hconst
    obtain ⟨zs, hzs⟩ := zpScale_total tc.bits.toNat hb2 hb16 tc.symmetric mn mx S
    rw [hzs] at hz
    cases hz
  | quantize tc d mn mx qdim qp e hgn htc hd hs hq hp hgran hu =>
    obtain ⟨hb2, hb16⟩ := tc_bits env oi t tc hmode htc
    obtain ⟨S, _, hsh⟩ := statsOf_fin env qs oi t mn mx hs hrun hconst
    obtain ⟨G, hshape, _⟩ := refParams_good _ hb2 hb16 _ qdim mn mx S qp hp
    have hc : Compat qp.scale.arr.shape d.shape := by
      rw [hshape, (hsh d hd).1]
      exact keepShape_compat _ _
    obtain ⟨q, hq'⟩ := uniformQuantize_total ⟨d, .f32⟩ qp (.inl rfl) (hconst d hd) (G.mono sLo_ge60) hc
    rw [hq'] at hu
    cases hu
  | givenQuantize qp d e hgn hd hu =>
    obtain ⟨G, hc⟩ := hg qp hgn d hd
    obtain ⟨q, hq'⟩ := uniformQuantize_total ⟨d, .f32⟩ qp (.inl rfl) (hconst d hd) G hc
    rw [hq'] at hu
    cases hu

structure NumStd (env : Env) (sg : Subgraph) (qs : Qsvs) (oi : OpInfo) (con : Constraint) (gi go : List Nat) : Prop where
  mode : C13.modeOK oi.opName oi.cfg = true
  run : ∀ b t, SlotTensor sg oi.op b (if b then gi else go) t → constData env t = none →
    ∀ mn mx, Py.dictGet? qs t.name = some (some (mn, mx)) → StatGood mn mx
  const : ∀ t ∈ sg.tensors, ∀ d, constData env t = some d → ∀ x ∈ d.data, |x| ≤ B
  outRun : con = .sameAsInput → ∀ t, SlotTensor sg oi.op false go t → constData env t = none
  /-- the results of a same-as-output operator are runtime tensors, and the statistics entry of the result has the rank of
      every constant float operand (which is quantized with the parameters of the result) -/
  inRank : con = .sameAsOutput → ∀ t', SlotTensor sg oi.op false go t' → constData env t' = none ∧
    ∀ mn mx, Py.dictGet? qs t'.name = some (some (mn, mx)) → ∀ t, SlotTensor sg oi.op true gi t →
      ∀ d, constData env t = some d → mn.arr.shape.length = d.shape.length

theorem stdSite_num_absurd (env : Env) (sg : Subgraph) (qs : Qsvs) (oi : OpInfo) (con : Constraint) (gi go : List Nat)
    (e : PyErr) (N : NumStd env sg qs oi con gi go) : ¬ StdSite env sg qs oi con gi go true e := by
  intro hsite
  cases hsite with
  | tensor _ t inbound g e ts hst _ _ hgiven hts =>
    have htm : t ∈ sg.tensors := by
      obtain ⟨_, a, _, _, hat, _, _⟩ := hst
      exact Py.index_mem _ a t hat
    refine tensorSite_num_absurd env qs oi t inbound g e N.mode (N.run inbound t hst) (N.const t htm) ?_ hts
    intro qp hgq d hd
    cases hgiven with
    | none => cases hgq
    | fromInput t' ir p0 hc _ _ _ =>
      rw [N.outRun hc t hst] at hd
      cases hd
    | fromOutput t' orq hc hFO horq =>
      have hst' : SlotTensor sg oi.op false go t' := floatSlots_mem sg oi.op false go [t'] hFO t' List.mem_cons_self
      have htm' : t' ∈ sg.tensors := by
        obtain ⟨_, a, _, _, hat, _, _⟩ := hst'
        exact Py.index_mem _ a t' hat
      obtain ⟨hrun', hrank⟩ := N.inRank hc t' hst'
      obtain ⟨p, xfs, hp, -, rfl⟩ := wrapper_ok.1 horq
      cases hgq
      obtain ⟨G, -, h1, -, mn, mx, hs, hshape⟩ :=
        wrapperParam_good env qs oi t' qp none N.mode (N.run false t' hst') (N.const t' htm') hp
      have hlen := hrank mn mx ((statsOf_runtime env qs oi t' _ hrun').1 hs) t hst d hd
      exact ⟨G.mono sLo_ge60, compat_ones _ _ (h1 hrun') (hshape ▸ hlen)⟩

structure NumBias (env : Env) (sg : Subgraph) (oi : OpInfo) (iIn iW iB : Nat) : Prop where
  notBMM : oi.opName ≠ "BATCH_MATMUL"
  /-- the bias is a vector with one element per output channel of the weight -/
  shape : isSRQ oi.cfg = true → ∀ a bt, oi.op.inputs[iB]? = some a → a ≠ -1 → tensorAt sg a = .ok bt →
    ∃ n, shapeNat bt = [n] ∧ ∀ aw tW, oi.op.inputs[iW]? = some aw → tensorAt sg aw = .ok tW →
      ∀ q, Py.dictGet? Tables.weightQDim oi.opName = some q → (shapeNat tW).getD q 1 = n
  dataRun : isSRQ oi.cfg = true → ∀ a, oi.op.inputs[iB]? = some a → a ≠ -1 →
    ∀ ai tI, oi.op.inputs[iIn]? = some ai → tensorAt sg ai = .ok tI → constData env tI = none

theorem wrapper_param_good (env : Env) (qs : Qsvs) (oi : OpInfo) (t : Tensor) (r : CReq) (qp : QParams) (dat : Option IArr)
    (hmode : C13.modeOK oi.opName oi.cfg = true)
    (hrun : constData env t = none → ∀ mn mx, Py.dictGet? qs t.name = some (some (mn, mx)) → StatGood mn mx)
    (hconst : ∀ d, constData env t = some d → ∀ x ∈ d.data, |x| ≤ B)
    (hw : wrapper env qs oi t true none = .ok r) (hp : reqParam0 r = .ok (some (.uniform qp dat))) :
    QPGood sLo qp ∧ (∀ s ∈ qp.scale.arr.data, s ≤ B) ∧
    (constData env t = none → ∀ d ∈ qp.scale.arr.shape, d = 1) ∧
    (∀ d, constData env t = some d →
      qp.scale.arr.shape = keepShape d.shape (reduceDims (statQDim env oi d.shape.length) d.shape.length) ∧
      numel qp.scale.arr.shape = (match statQDim env oi d.shape.length with | none => 1 | some q => d.shape.getD q 1)) := by
  obtain ⟨p, xfs, hp', -, rfl⟩ := wrapper_ok.1 hw
  cases hp
  obtain ⟨G, hB, h1, h2, -⟩ := wrapperParam_good env qs oi t qp dat hmode hrun hconst hp'
  exact ⟨G, hB, h1, h2⟩

theorem statQDim_table (env : Env) (oi : OpInfo) (rank q : Nat) (hn : oi.opName ≠ "BATCH_MATMUL")
    (h : statQDim env oi rank = some q) : Py.dictGet? Tables.weightQDim oi.opName = some q := by
  unfold statQDim at h
  cases hw : oi.cfg.weight with
  | none => rw [hw] at h; cases h
  | some w =>
    rw [hw] at h
    simp only [] at h
    split at h
    · rw [if_neg (by simpa using hn)] at h
      exact h
    · cases h

theorem biasSite_num_absurd (env : Env) (sg : Subgraph) (qs : Qsvs) (oi : OpInfo) (gi : List Nat) (iIn iW iB : Nat)
    (r : List CReq) (q : Qsvs) (e : PyErr) (C : ConvCtx env sg oi gi iIn iW iB) (N : NumStd env sg qs oi .none gi [])
    (NB : NumBias env sg oi iIn iW iB)
    (hstd : standardOp env sg qs oi .none gi [] = .ok (r, q)) : ¬ BiasSite env sg oi r iIn iW iB true e := by
  obtain ⟨aIn, tIn, rIn, hsIn, haIn, hatIn, hrIn, hwIn'⟩ := C.operand hstd (.inl rfl)
  obtain ⟨aW, tW, rW, hsW, haW, hatW, hrW, hwW'⟩ := C.operand hstd (.inr rfl)
  have hmIn : tIn ∈ sg.tensors := Py.index_mem _ aIn tIn hatIn
  have hmW : tW ∈ sg.tensors := Py.index_mem _ aW tW hatW
  intro hsite
  cases hsite with
  | quantize a bt bd rin rw qi qw di dw e hb hne hat hsrq hc h1 h2 h3 h4 hq =>
    rw [hrIn] at h1; cases h1
    rw [hrW] at h2; cases h2
    obtain ⟨Gi, hiB, hiOnes, _⟩ := wrapper_param_good env qs oi tIn _ qi di N.mode (N.run true tIn hsIn) (N.const tIn hmIn) hwIn' h3
    obtain ⟨Gw, hwB, hwOnes, hwK⟩ := wrapper_param_good env qs oi tW _ qw dw N.mode (N.run true tW hsW) (N.const tW hmW) hwW' h4
    have hInRun := NB.dataRun hsrq a hb hne aIn tIn haIn hatIn
    obtain ⟨n, hbn, hch⟩ := NB.shape hsrq a bt hb hne hat
    have hbs : bd.shape = [n] := by rw [(constData_shape env bt bd hc).1]; exact hbn
    have hbb : ∀ v ∈ bd.data, |v| ≤ B := N.const bt (Py.index_mem _ a bt hat) bd hc
    have hw2 : OneDim qw.scale.arr.shape ∧ (numel qw.scale.arr.shape = 1 ∨ numel qw.scale.arr.shape = n) := by
      cases hcw : constData env tW with
      | none => exact ⟨oneDim_ones _ (hwOnes hcw), .inl (numel_ones' _ (hwOnes hcw))⟩
      | some d =>
        obtain ⟨hsh, hnum'⟩ := hwK d hcw
        refine ⟨by rw [hsh]; exact oneDim_keepShape _ _, ?_⟩
        cases hsq : statQDim env oi d.shape.length with
        | none => rw [hsq] at hnum'; exact .inl hnum'
        | some qd =>
          rw [hsq] at hnum'
          right
          rw [hnum', (constData_shape env tW d hcw).1]
          exact hch aW tW haW hatW qd (statQDim_table env oi _ qd NB.notBMM hsq)
    obtain ⟨res, hres⟩ := quantizeBias_total bd n qi qw hbs hbb Gi Gw hiB hwB (hiOnes hInRun) hw2.1 hw2.2
    rw [hres] at hq
    cases hq

/-- the weights of a float-cast operator are within the float16 range -/
def NumCast (env : Env) (sg : Subgraph) (oi : OpInfo) (iW : Nat) : Prop :=
  ∀ a tw d, oi.op.inputs[iW]? = some a → tensorAt sg a = .ok tw → constData env tw = some d → ∀ x ∈ d.data, |x| ≤ 65504

theorem castSite_num_absurd (env : Env) (sg : Subgraph) (oi : OpInfo) (iIn iW iB : Nat) (e : PyErr)
    (N : NumCast env sg oi iW) : ¬ CastSite env sg oi iIn iW iB true e := by
  intro hsite
  cases hsite with
  | f16 a tw wd x e ha hat hc hx he =>
    obtain ⟨y, hy⟩ := f16_total x (N a tw wd ha hat hc x hx)
    rw [hy] at he
    cases he

def NumKind (env : Env) (sg : Subgraph) (qs : Qsvs) (oi : OpInfo) : Kind → Prop
  | .std con gi => NumStd env sg qs oi con gi []
  | .conv => NumStd env sg qs oi .none [2] [] ∧ NumBias env sg oi 0 1 2
  | .convT => NumStd env sg qs oi .none [0, 3] [] ∧ NumBias env sg oi 2 1 3
  | .fixed _ => NumStd env sg qs oi .none [] []
  | .cast _ b _ => NumCast env sg oi b
  | .unknown => True

theorem opSite_num_absurd (env : Env) (sg : Subgraph) (qs : Qsvs) (oi : OpInfo) (k : Kind) (e : PyErr)
    (C : KindCtx env sg qs oi k) (N : NumKind env sg qs oi k) : ¬ OpSite env sg qs oi k true e := by
  intro hsite
  cases hsite with
  | std _ con gi e h => exact stdSite_num_absurd env sg qs oi con gi [] e N h
  | convStd _ e h => exact stdSite_num_absurd env sg qs oi .none [2] [] e N.1 h
  | convBias _ r q e hstd h => exact biasSite_num_absurd env sg qs oi [2] 0 1 2 r q e C.2 N.1 N.2 hstd h
  | convTStd _ e h => exact stdSite_num_absurd env sg qs oi .none [0, 3] [] e N.1 h
  | convTBias _ r q e hstd h => exact biasSite_num_absurd env sg qs oi [0, 3] 2 1 3 r q e C.2 N.1 N.2 hstd h
  | fixed _ sl e h =>
    cases h with
    | std _ e h => exact stdSite_num_absurd env sg qs oi .none [] [] e N h
  | cast _ a b c e h => exact castSite_num_absurd env sg oi a b c e N h

end MatTotal
