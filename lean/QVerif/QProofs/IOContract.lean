import QProps.C11
import QProofs.TypingE2E
/-! C02, the I/O contract end to end on `Pipeline.quantizePure`.  The INPUT / OUTPUT pseudo-operators of `Mat.generate` are an operator
without operands whose results are the graph inputs, and one without results whose operands are the graph outputs: the graph
outputs are read like the operands of a consumer with id `-1`. -/
open Graph Mat Pipeline InstGen GenInstsOK GenInstsInfo Pipe SharingGen Perform
open IOStep IOInv

namespace IOContract

theorem outs_length {sg sg' : Subgraph} (K : SkeletonProof.SkInv sg sg') : sg'.outputs.length = sg.outputs.length := by
  have := congrArg List.length K.outs
  unfold Skeleton.eraseOutputs at this
  simpa using this

theorem uniqueNameAux_form (names : List String) (base : String) (fuel k : Nat) :
    uniqueNameAux names base fuel k = longName names base ∨
    ∃ k', k ≤ k' ∧ uniqueNameAux names base fuel k = base ++ "_" ++ toString k' := by
  induction fuel generalizing k with
  | zero => exact .inl rfl
  | succ f ih =>
    unfold uniqueNameAux
    simp only []
    split
    · rcases ih (k + 1) with h | ⟨k', hk, h⟩
      · exact .inl h
      · exact .inr ⟨k', by omega, h⟩
    · exact .inr ⟨k, Nat.le_refl _, rfl⟩

theorem uniqueName_form (names : List String) (base : String) :
    (base ∉ names ∧ uniqueName names base = base) ∨
    (base ∈ names ∧ ((∃ k, 1 ≤ k ∧ uniqueName names base = base ++ "_" ++ toString k) ∨
      uniqueName names base = longName names base)) := by
  unfold uniqueName
  split
  · rename_i h
    right
    refine ⟨by simpa using h, ?_⟩
    rcases uniqueNameAux_form names base (names.length + 1) 1 with h | h
    · exact .inr h
    · exact .inl h
  · rename_i h
    exact .inl ⟨by simpa using h, rfl⟩

def inputOp (sg : Subgraph) : Op := { code := 0, inputs := [], outputs := sg.inputs }
def outputOp (sg : Subgraph) : Op := { code := 0, inputs := sg.outputs, outputs := [] }

theorem mem_allOps_input (sg : Subgraph) : (inputOp sg, some "INPUT", (-1 : Int)) ∈ allOps sg := by
  unfold allOps inputOp
  exact List.mem_append_right _ List.mem_cons_self

theorem mem_allOps_output (sg : Subgraph) : (outputOp sg, some "OUTPUT", (-1 : Int)) ∈ allOps sg := by
  unfold allOps outputOp
  exact List.mem_append_right _ (List.mem_cons_of_mem _ List.mem_cons_self)

theorem outputScope (sg : Subgraph) : opScope sg (outputOp sg) = .ok "" := rfl

/-- the recipe leaves the INPUT pseudo-operator of `sg` unquantized (its scope is the concatenation of the
    graph-input names, each followed by `;`) -/
def InputNoQuant (rx : String → String → Bool) (st : Recipe.State) (sg : Subgraph) : Prop :=
  ∃ scope, opScope sg (inputOp sg) = .ok scope ∧ (Recipe.resolve rx st "INPUT" scope).1 = Tables.algNoQuantize

/-- the recipe leaves the OUTPUT pseudo-operator unquantized (its scope is `""`) -/
def OutputNoQuant (rx : String → String → Bool) (st : Recipe.State) : Prop :=
  (Recipe.resolve rx st "OUTPUT" "").1 = Tables.algNoQuantize

theorem outputNoQuant_of_nomatch (rx : String → String → Bool) (st : Recipe.State)
    (h : ∀ e ∈ st, rx e.1 "" = false) : OutputNoQuant rx st := by
  unfold OutputNoQuant
  rw [C11.resolve_default rx st "OUTPUT" "" fun _ hr =>
    let ⟨e, he, hm, _⟩ := C11.mem_flat.1 hr
    nomatch (h e he).symm.trans hm]

theorem opReqs_pseudo_noquant (rx : String → String → Bool) (env : Env) (st : Recipe.State) (s : Nat)
    (sg : Subgraph) (op : Op) (k scope : String) (id : Int) (hsc : opScope sg op = .ok scope)
    (hres : (Recipe.resolve rx st k scope).1 = Tables.algNoQuantize) (qs0 qs1 : Qsvs) (rs : List CReq)
    (h : opReqs rx env st s sg qs0 (op, some k, id) = .ok (rs, qs1)) : noQuantOp sg op id = .ok rs := by
  rcases Pipe.opReqs_keyed (q := (op, some k, id)) rfl hsc h with ⟨-, hq⟩ | ⟨ops, fn, S, -⟩
  · exact hq
  · exact absurd hres S.halg

open TypingE2E in
theorem input_requests {rx : String → String → Bool} {env : Env} {st : Recipe.State} {qsvs : Option Qsvs}
    {m' : Model} {tbl : List Param} {res : List (String × CReq)} {tis : List TInsts}
    (S : Stages rx env st qsvs m' tbl res tis) (s : Nat) (sg : Subgraph)
    (hsg : env.model.subgraphs[s]? = some sg) (hnq : InputNoQuant rx st sg) :
    ∀ t ∈ sg.inputs, ∃ tn e, 0 ≤ t ∧ sg.tensors[t.toNat]? = some tn ∧ (tn.name, e) ∈ res ∧
      e.producer = some ⟨(-1 : Int), [.noQuant], none⟩ := by
  obtain ⟨qs, hfold⟩ := S.fold
  obtain ⟨qs0, rs, qs1, hreq, hhas⟩ := TypingReq.generate_has rx env st _ qs res hfold s sg hsg _
    (mem_allOps_input sg)
  obtain ⟨scope, hsc, hres⟩ := hnq
  have hnqo := opReqs_pseudo_noquant rx env st s sg _ _ scope _ hsc hres qs0 qs1 rs hreq
  obtain ⟨-, hout⟩ := TypingReq.noQuantOp_mem sg _ _ rs hnqo
  have hsg'K := GraphStep.SgOK.of_wf S.ctx.wf (List.mem_of_getElem? hsg)
  intro t ht
  have hv := hsg'K.ins t ht
  unfold GraphStep.ValidT at hv
  obtain ⟨tn, htn, hr⟩ := hout t ht (by omega)
  obtain ⟨e, he, hp, -⟩ := hhas _ hr
  have hname : (noQuantReq tn.name (-1 : Int) false).name = tn.name := rfl
  rw [hname] at he
  exact ⟨tn, e, hv.1, tensorAt_get sg t tn hv.1 htn, Py.dictGet?_mem _ _ _ he, hp _ rfl⟩

open TypingE2E in
theorem output_requests {rx : String → String → Bool} {env : Env} {st : Recipe.State} {qsvs : Option Qsvs}
    {m' : Model} {tbl : List Param} {res : List (String × CReq)} {tis : List TInsts}
    (S : Stages rx env st qsvs m' tbl res tis) (s : Nat) (sg : Subgraph)
    (hsg : env.model.subgraphs[s]? = some sg) (hnq : OutputNoQuant rx st) :
    ∀ t ∈ sg.outputs, ∃ tn e cs, 0 ≤ t ∧ sg.tensors[t.toNat]? = some tn ∧ (tn.name, e) ∈ res ∧
      e.consumers = some cs ∧ (⟨(-1 : Int), [.noQuant], none⟩ : CO2T) ∈ cs := by
  obtain ⟨qs, hfold⟩ := S.fold
  obtain ⟨qs0, rs, qs1, hreq, hhas⟩ := TypingReq.generate_has rx env st _ qs res hfold s sg hsg _
    (mem_allOps_output sg)
  have hnqo := opReqs_pseudo_noquant rx env st s sg _ _ "" _ (outputScope sg) hnq qs0 qs1 rs hreq
  obtain ⟨hin, -⟩ := TypingReq.noQuantOp_mem sg _ _ rs hnqo
  have hsg'K := GraphStep.SgOK.of_wf S.ctx.wf (List.mem_of_getElem? hsg)
  intro t ht
  have hv := hsg'K.outs t ht
  unfold GraphStep.ValidT at hv
  obtain ⟨tn, htn, hr⟩ := hin t ht (by omega)
  obtain ⟨e, he, -, hc⟩ := hhas _ hr
  have hname : (noQuantReq tn.name (-1 : Int) true).name = tn.name := rfl
  rw [hname] at he
  obtain ⟨ecs, hecs, hsub⟩ := hc _ rfl
  exact ⟨tn, e, ecs, hv.1, tensorAt_get sg t tn hv.1 htn, Py.dictGet?_mem _ _ _ he, hecs,
    hsub _ List.mem_cons_self⟩

theorem listsOut_iff {m : Model} {res : List (String × CReq)} (C : Ctx m res) (tis : List TInsts)
    (hgen : genInsts m (areqsOf res) = .ok tis) (ti : TInsts) (hti : ti ∈ tis) (ins : Inst)
    (hins : ins ∈ ti.insts) : ListsOut ins ↔ (-1 : Int) ∈ ins.consumers := by
  constructor
  · rintro ⟨c, hc, hc0⟩
    obtain ⟨e, he, hreq, s, sg, i, hloc, hget, rfl⟩ := entry_of_ti C tis hgen ti hti
    obtain ⟨hcore, -⟩ := instsList_ok _ m s sg i _ hloc.1 hget hreq
    have hmem := (hcore ins hins).consumers c hc
    rcases (tensorInfo_consumers s sg i).1 c hmem with ⟨rfl, -⟩ | ⟨k, o, rfl, -⟩
    · exact hc
    · omega
  · intro h
    exact ⟨-1, h, by omega⟩

/-- what graph output position `j` (original tensor `o`) holds in the output (see `C02.OutputSlot`) -/
def OutputSlot (m' : Model) (sg sg' : Subgraph) (j : Nat) (o : Int) : Prop :=
  ∃ tn, 0 ≤ o ∧ sg.tensors[o.toNat]? = some tn ∧
    ((∃ tn', sg'.outputs[j]? = some o ∧ sg'.tensors[o.toNat]? = some tn' ∧ tn'.name = tn.name ∧
        tn'.shape = tn.shape) ∨
     (∃ (n ci : Nat) (tn' : Tensor), sg'.outputs[j]? = some (n : Int) ∧ sg.tensors.length ≤ n ∧
        sg'.tensors[n]? = some tn' ∧ tn'.shape = tn.shape ∧ tn'.buffer = 0 ∧
        ({ code := ci, inputs := [o], outputs := [(n : Int)], orig := none } : Op) ∈ sg'.ops ∧
        Skeleton.root sg' (n : Int) = o ∧
        ((m'.opcodes[ci]? = some Tables.opQuantize ∧
            tn'.name = uniqueName ((sg'.tensors.take n).map (·.name)) (tn.name ++ "_quantized")) ∨
         (m'.opcodes[ci]? = some Tables.opDequantize ∧
            tn'.name = uniqueName ((sg'.tensors.take n).map (·.name)) (tn.name ++ "_dequant") ∧
            tn'.dtype = Tables.ttFloat32 ∧ tn'.quant = none))))

/-- **graph inputs and outputs keep count, order, names and shapes** (`C02.io_counts_names_shapes`) -/
theorem io_shape (rx : String → String → Bool) (env : Env) (st : Recipe.State)
    (qsvs : Option Qsvs) (m' : Model) (tbl : List Param) (hnf : PipelineWF.NF env st)
    (h : quantizePure rx env st qsvs = .ok (m', tbl))
    (s : Nat) (sg sg' : Subgraph) (hsg : env.model.subgraphs[s]? = some sg) (hsg' : m'.subgraphs[s]? = some sg') :
    sg'.inputs = sg.inputs ∧ sg'.outputs.length = sg.outputs.length ∧
    sg'.outputs.map (Skeleton.root sg') = sg.outputs ∧
    (∀ i ∈ sg.inputs, ∃ tn tn', 0 ≤ i ∧ sg.tensors[i.toNat]? = some tn ∧ sg'.tensors[i.toNat]? = some tn' ∧
      tn'.name = tn.name ∧ tn'.shape = tn.shape ∧ tn'.buffer = tn.buffer) ∧
    ∀ (j : Nat) (o : Int), sg.outputs[j]? = some o → OutputSlot m' sg sg' j o := by
  obtain ⟨res, tis, stF, rfl, rfl, S, F, R⟩ := TypingE2E.run rx env st qsvs m' tbl hnf h
  have K := F.base.sk.sgs s sg sg' hsg hsg'
  have hsg'K := GraphStep.SgOK.of_wf hnf.wf (List.mem_of_getElem? hsg)
  refine ⟨K.inputs, outs_length K, K.outs, ?_, ?_⟩
  · intro i hi
    have hv := hsg'K.ins i hi
    unfold GraphStep.ValidT at hv
    have hlt : i.toNat < sg.tensors.length := by omega
    obtain ⟨tn', T⟩ := TypingGraph.tensor_final _ env.model tis stF F s sg sg' hsg hsg'
      i.toNat _ (List.getElem?_eq_getElem hlt)
    exact ⟨_, tn', hv.1, List.getElem?_eq_getElem hlt, T.get, T.name, T.shape, T.buffer⟩
  · intro j o hj
    have hv := hsg'K.outs o (List.mem_of_getElem? hj)
    unfold GraphStep.ValidT at hv
    have hlt : o.toNat < sg.tensors.length := by omega
    have htn : sg.tensors[o.toNat]? = some sg.tensors[o.toNat] := List.getElem?_eq_getElem hlt
    refine ⟨sg.tensors[o.toNat], hv.1, htn, ?_⟩
    obtain ⟨z, hout, hread⟩ := out_final F.base R s sg sg' hsg hsg' j o hj
    rcases hread with ⟨hz, -⟩ | ⟨n, ti, ins, rfl, ht, -, N, -⟩
    · left
      rw [hz] at hout
      obtain ⟨tn', T⟩ := TypingGraph.tensor_final _ env.model tis stF F s sg sg' hsg hsg'
        o.toNat _ htn
      exact ⟨tn', hout, T.get, T.name, T.shape⟩
    · right
      subst ht
      obtain ⟨ci, tn', A⟩ := newT_slot N K _ htn
      refine ⟨n, ci, tn', hout, N.ge, A.get, A.shape, A.buffer, A.op, A.root, ?_⟩
      rcases Wiring.addsOp_cases ins.xf N.adds with hx | hx
      · exact .inl ⟨by rw [A.code, hx]; rfl, by rw [A.name, hx]; rfl⟩
      · refine .inr ⟨by rw [A.code, hx]; rfl, by rw [A.name, hx]; rfl, ?_, ?_⟩
        · rw [A.fresh (by rw [hx]; decide)]; rfl
        · rw [A.fresh (by rw [hx]; decide)]; rfl

/-- **the signatures follow the graph outputs** (`C02.io_signatures`) -/
theorem io_signatures (rx : String → String → Bool) (env : Env) (st : Recipe.State)
    (qsvs : Option Qsvs) (m' : Model) (tbl : List Param) (hnf : PipelineWF.NF env st)
    (h : quantizePure rx env st qsvs = .ok (m', tbl)) :
    m'.sigs.length = env.model.sigs.length ∧
    ∀ (i : Nat) (s0 : Sig), env.model.sigs[i]? = some s0 →
      ∃ (s1 : Sig) (sg sg' : Subgraph), m'.sigs[i]? = some s1 ∧ env.model.subgraphs[s0.sg]? = some sg ∧
        m'.subgraphs[s0.sg]? = some sg' ∧
        s1.key = s0.key ∧ s1.sg = s0.sg ∧ s1.inputs = s0.inputs ∧ sg'.inputs = sg.inputs ∧
        s1.outputs.length = s0.outputs.length ∧
        ∀ (k : Nat) (e0 : String × Int), s0.outputs[k]? = some e0 →
          ∃ e1, s1.outputs[k]? = some e1 ∧ e1.1 = e0.1 ∧
            (∀ j : Nat, sg.outputs[j]? = some e0.2 → sg'.outputs[j]? = some e1.2) ∧
            (e0.2 ∉ sg.outputs → e1 = e0) := by
  obtain ⟨res, tis, stO, rfl, rfl, S, F, R⟩ := TypingE2E.run rx env st qsvs m' tbl hnf h
  have hns := F.base.sk.nsig
  refine ⟨hns, ?_⟩
  intro i s0 h0
  have hil : i < stO.model.sigs.length := by rw [hns]; exact (List.getElem?_eq_some_iff.1 h0).1
  have h1 : stO.model.sigs[i]? = some stO.model.sigs[i] := List.getElem?_eq_getElem hil
  have hsigOK := ((GraphStep.modelOK_iff env.model).1 hnf.wf).2.2 s0 (List.mem_of_getElem? h0)
  unfold WF.sigOK at hsigOK
  cases hsg : env.model.subgraphs[s0.sg]? with
  | none => simp [hsg] at hsigOK
  | some sg =>
    obtain ⟨sg', -, hsg', -, -⟩ := F.base.cur s0.sg sg hsg
    have Q := F.base.sk.sigs i s0 _ sg sg' h0 h1 hsg hsg'
    have K := F.base.sk.sgs s0.sg sg sg' hsg hsg'
    have hlen : stO.model.sigs[i].outputs.length = s0.outputs.length := by
      have := congrArg List.length Q.names
      simpa using this
    have hol := outs_length K
    refine ⟨_, sg, sg', h1, rfl, hsg', Q.key, Q.sgi, Q.inputs, K.inputs, hlen, ?_⟩
    intro k e0 hk
    have hkl : k < stO.model.sigs[i].outputs.length := by
      rw [hlen]; exact (List.getElem?_eq_some_iff.1 hk).1
    have hk1 : stO.model.sigs[i].outputs[k]? = some stO.model.sigs[i].outputs[k] :=
      List.getElem?_eq_getElem hkl
    refine ⟨_, hk1, ?_, ?_, ?_⟩
    · have := congrArg (·[k]?) Q.names
      simp only [List.getElem?_map, hk1, hk, Option.map_some, Option.some.injEq] at this
      exact this
    · intro j hj
      have hjl : j < sg'.outputs.length := by rw [hol]; exact (List.getElem?_eq_some_iff.1 hj).1
      have hj' : sg'.outputs[j]? = some sg'.outputs[j] := List.getElem?_eq_getElem hjl
      rw [hj', Q.outs k j e0 _ e0.2 _ hk hk1 hj hj' rfl]
    · intro hne
      have := R.sigs i s0 _ sg h0 h1 hsg k e0 hk hne
      rw [hk1] at this
      exact Option.some.inj this

theorem sig_outputs_aligned (rx : String → String → Bool) (env : Env) (st : Recipe.State)
    (qsvs : Option Qsvs) (m' : Model) (tbl : List Param) (hnf : PipelineWF.NF env st)
    (h : quantizePure rx env st qsvs = .ok (m', tbl))
    (i : Nat) (s0 s1 : Sig) (sg sg' : Subgraph) (h0 : env.model.sigs[i]? = some s0)
    (h1 : m'.sigs[i]? = some s1) (hsg : env.model.subgraphs[s0.sg]? = some sg)
    (hsg' : m'.subgraphs[s0.sg]? = some sg')
    (hal : s0.outputs.map (·.2) = sg.outputs) : s1.outputs.map (·.2) = sg'.outputs := by
  obtain ⟨-, hall⟩ := io_signatures rx env st qsvs m' tbl hnf h
  obtain ⟨s1x, sgx, sgx', a1, a2, a3, -, -, -, -, a8, a9⟩ := hall i s0 h0
  rw [h1] at a1; cases a1
  rw [hsg] at a2; cases a2
  rw [hsg'] at a3; cases a3
  obtain ⟨-, hol, -, -, -⟩ := io_shape rx env st qsvs m' tbl hnf h s0.sg sg sg' hsg hsg'
  have hl0 : s0.outputs.length = sg.outputs.length := by
    have := congrArg List.length hal
    simpa using this
  apply List.ext_getElem?
  intro k
  by_cases hk : k < s0.outputs.length
  · have hk0 : s0.outputs[k]? = some s0.outputs[k] := List.getElem?_eq_getElem hk
    obtain ⟨e1, b1, -, b3, -⟩ := a9 k _ hk0
    have hgk : sg.outputs[k]? = some s0.outputs[k].2 := by
      have := congrArg (·[k]?) hal
      simp only [List.getElem?_map, hk0, Option.map_some] at this
      exact this.symm
    rw [List.getElem?_map, b1, b3 k hgk]
    rfl
  · rw [List.getElem?_eq_none (by simp; omega), List.getElem?_eq_none (by omega)]

/-- **graph inputs of an unquantized INPUT** keep their records (the input half of `C02.io_float_unless_covered`) -/
theorem input_float (rx : String → String → Bool) (env : Env) (st : Recipe.State)
    (qsvs : Option Qsvs) (m' : Model) (tbl : List Param) (hnf : PipelineWF.NF env st)
    (h : quantizePure rx env st qsvs = .ok (m', tbl))
    (s : Nat) (sg sg' : Subgraph) (hsg : env.model.subgraphs[s]? = some sg) (hsg' : m'.subgraphs[s]? = some sg')
    (hin : InputNoQuant rx st sg) :
    sg'.inputs = sg.inputs ∧
    ∀ i ∈ sg.inputs, ∃ tn, 0 ≤ i ∧ sg.tensors[i.toNat]? = some tn ∧ sg'.tensors[i.toNat]? = some tn ∧
      tn.quant = none := by
  obtain ⟨res, tis, stF, rfl, rfl, S, F, -⟩ := TypingE2E.run rx env st qsvs m' tbl hnf h
  have K := F.base.sk.sgs s sg sg' hsg hsg'
  refine ⟨K.inputs, ?_⟩
  intro i hi
  obtain ⟨tn, e, h0, htn, he, hp⟩ := input_requests S s sg hsg hin i hi
  have hnr := TypingE2E.noQuant_producer_insts S.ctx tis S.gen s sg hsg i.toNat tn htn e he _ hp rfl
  obtain ⟨tn', T⟩ := TypingGraph.tensor_final _ env.model tis stF F s sg sg' hsg hsg' _ tn htn
  refine ⟨tn, h0, htn, ?_, S.noq _ (List.mem_of_getElem? hsg) _ (List.mem_of_getElem? htn)⟩
  rcases T.typed with rfl | ⟨p, hr, -⟩
  · exact T.get
  · exact absurd hr (hnr p)

/-- `TypingE2E.Untouched`, said of graph output position `j` (see `C02.FloatOutput`) -/
def FloatOutput (env : Env) (m' : Model) (sg sg' : Subgraph) (j : Nat) (o : Int) : Prop :=
  ∃ tn, 0 ≤ o ∧ sg.tensors[o.toNat]? = some tn ∧ tn.quant = none ∧
    ((sg'.outputs[j]? = some o ∧ sg'.tensors[o.toNat]? = some tn) ∨
     (tn.dtype = Tables.ttFloat32 ∧ isConst env.model sg o = false ∧
       ∃ (n ci : Nat), sg'.outputs[j]? = some (n : Int) ∧ sg.tensors.length ≤ n ∧
         sg'.tensors[n]? = some (Wiring.fresh (uniqueName ((sg'.tensors.take n).map (·.name))
           (tn.name ++ "_dequant")) tn) ∧
         ({ code := ci, inputs := [o], outputs := [(n : Int)], orig := none } : Op) ∈ sg'.ops ∧
         m'.opcodes[ci]? = some Tables.opDequantize ∧ Skeleton.root sg' (n : Int) = o))

/-- **graph outputs of an unquantized OUTPUT**: the `[NO_QUANTIZE]` row read by consumer `-1` (the output half of
    `C02.io_float_unless_covered`) -/
theorem output_float (rx : String → String → Bool) (env : Env) (st : Recipe.State)
    (qsvs : Option Qsvs) (m' : Model) (tbl : List Param) (hnf : PipelineWF.NF env st)
    (h : quantizePure rx env st qsvs = .ok (m', tbl))
    (s : Nat) (sg sg' : Subgraph) (hsg : env.model.subgraphs[s]? = some sg) (hsg' : m'.subgraphs[s]? = some sg')
    (hout : OutputNoQuant rx st) :
    ∀ (j : Nat) (o : Int), sg.outputs[j]? = some o → FloatOutput env m' sg sg' j o := by
  obtain ⟨res, tis, stF, rfl, rfl, S, F, R⟩ := TypingE2E.run rx env st qsvs m' tbl hnf h
  intro j o hj
  obtain ⟨tn, e, cs, h0, htn, he, hcs, hc⟩ := output_requests S s sg hsg hout o (List.mem_of_getElem? hj)
  obtain ⟨i, rfl⟩ := Int.eq_ofNat_of_zero_le h0
  rw [Int.toNat_natCast] at htn
  obtain ⟨z, hz, hread⟩ := out_final F.base R s sg sg' hsg hsg' j i hj
  have U := TypingE2E.noQuant_reader S F hsg hsg' (hread.congr (listsOut_iff S.ctx tis S.gen)) htn he hcs hc rfl rfl
  refine ⟨tn, Int.natCast_nonneg i, by rw [Int.toNat_natCast]; exact htn,
    S.noq _ (List.mem_of_getElem? hsg) _ (List.mem_of_getElem? htn), ?_⟩
  rcases U with ⟨rfl, h1, -⟩ | ⟨hnc, hf, n, ci, rfl, hl, hrec, hop, hcode, -, hroot⟩
  · exact .inl ⟨hz, h1⟩
  · exact .inr ⟨hf, hnc, n, ci, hz, hl, hrec, hop, hcode, hroot⟩

end IOContract
