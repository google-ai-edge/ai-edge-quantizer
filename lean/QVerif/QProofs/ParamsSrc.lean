import QProofs.PipeGen
import QProofs.MatParams
/-!
# C04 end to end, request stage: where EVERY parameter object of a request of `Mat.generate` comes from

Every parameter object of every request of one entry of the operator list has a source `PSrc` (`opReqs_src`);
`Spine.origin_at` + `ParamsE2E.origin_paramAt` carry it to the result dictionary.
-/
open Graph Mat Cfg PipeNF Pipe Arith Nd MatParams Num

set_option autoImplicit false

namespace ParamsSrc

/-- `(qp, dat)` are the reference parameters (and quantized values, for a constant) of tensor `t` under
    the tensor config operator `oi` applies to it and the statistics dictionary `qs` -/
def RefOf (env : Env) (qs : Qsvs) (oi : OpInfo) (t : Tensor) (qp : QParams) (dat : Option IArr) : Prop :=
  ∃ tc mn mx qdim, tcfgOf env oi t = some tc ∧ statsOf env qs oi t = .ok (some (mn, mx)) ∧
    refQDim env oi tc (constData env t) = .ok qdim ∧
    refParams tc.bits.toNat tc.symmetric qdim mn mx = .ok qp ∧ refData tc (constData env t) qp = .ok dat

/-- the quantized values tensor `t` attaches to BORROWED parameters `qp`: none for a runtime tensor,
    `uniform_quantize(data, qp)` for a constant (D21) -/
def LentData (env : Env) (t : Tensor) (qp : QParams) (dat : Option IArr) : Prop :=
  (constData env t = none ∧ dat = none) ∨
  ∃ d q, constData env t = some d ∧ uniformQuantize ⟨d, .f32⟩ qp = .ok q ∧ dat = some q

/-- `t` is the tensor in a non-absent operand (`b = true`) / result (`b = false`) slot of `op` -/
def SlotOf (sg : Subgraph) (op : Op) (b : Bool) (t : Tensor) : Prop :=
  ∃ p ∈ cslots (if b then op.inputs else op.outputs), tensorAt sg p.1 = .ok t

/-- the operator is not one of those with a weight config (weight-only / dynamic-range capable); the
    constrained operators (same-as-input, same-as-output) are of this kind -/
def NotWeightOp (oi : OpInfo) : Prop :=
  Tables.woOps.contains oi.opName = false ∧ Tables.drqOps.contains oi.opName = false

/-- the parameter object `P` that the materialisation of operator `oi`, under the statistics `qs` in force, attaches to a
    request for tensor `t` is one of
    * `ref`   -- the reference parameters (`MatParams.refParams`) of `t`'s OWN statistics (`statsOf`: the entry of `qs` for
      a runtime tensor, the true per-channel min/max of the data for a constant) under the config `oi` applies to `t`;
    * `lent`  -- those of ANOTHER operand / result `t0` of the same operator (same-as-input: the data operand;
      same-as-output: the result), with `t`'s own quantized values when `t` is a constant;
    * `fixed` -- the range fixed by the runtime kernel (SOFTMAX / LOGISTIC / TANH results);
    * `bias`  -- `symmetric_quantize_bias_tensor` of the reference parameters of the data operand and the weight;
    * `f16`   -- float casting -/
inductive PSrc (env : Env) (sg : Subgraph) (qs : Qsvs) (oi : OpInfo) (t : Tensor) : Param → Prop
  | ref (qp : QParams) (dat : Option IArr) : RefOf env qs oi t qp dat → PSrc env sg qs oi t (.uniform qp dat)
  | lent (b : Bool) (t0 : Tensor) (qp : QParams) (dat0 dat : Option IArr) :
      SlotOf sg oi.op b t0 → SlotOf sg oi.op (!b) t → RefOf env qs oi t0 qp dat0 → LentData env t qp dat →
      NotWeightOp oi → PSrc env sg qs oi t (.uniform qp dat)
  | fixed (sl : Bool) (a : TCfg) (fp : QParams) :
      oi.cfg.act = some a → fixedParams sl a.bits.toNat = some fp → SlotOf sg oi.op false t →
      PSrc env sg qs oi t (.uniform fp none)
  | bias (aIn aW : Int) (tin tw : Tensor) (qi : QParams) (di : Option IArr) (qw : QParams) (dw : Option IArr)
      (bd : Arr Rat) (qp : QParams) (q : IArr) :
      oi.op.inputs[dataSlot oi.opName]? = some aIn → tensorAt sg aIn = .ok tin →
      oi.op.inputs[1]? = some aW → tensorAt sg aW = .ok tw →
      RefOf env qs oi tin qi di → RefOf env qs oi tw qw dw → constData env t = some bd →
      quantizeBias ⟨bd, .f32⟩ qi qw = .ok (qp, q) → PSrc env sg qs oi t (.uniform qp (some q))
  | f16 (d : Arr Rat) (h : List Rat) :
      constData env t = some d → d.data.mapM Prec.f16.chk = .ok h →
      PSrc env sg qs oi t (.nonlinear 16 (some ⟨d.shape, h⟩))

/-- the side is `oi`'s, and its parameter object, if any, has a source -/
def SideSrc (env : Env) (sg : Subgraph) (qs : Qsvs) (oi : OpInfo) (t : Tensor) (c : CO2T) : Prop :=
  c.opId = oi.opId ∧ ∀ P, c.param = some P → PSrc env sg qs oi t P

theorem slotOf_of_atSlot {sg : Subgraph} {op : Op} {b : Bool} {t : Tensor} (h : AtSlot sg op b t) : SlotOf sg op b t := by
  obtain ⟨a, ha, hne, ht⟩ := h
  obtain ⟨i, hi⟩ := List.getElem?_of_mem ha
  refine ⟨(a, i), (mem_cslots _ _).2 ⟨?_, hne⟩, ht⟩
  cases b <;> exact hi

theorem wrapperParam_none_ref {env : Env} {qs : Qsvs} {oi : OpInfo} {t : Tensor} {p : Option Param}
    (h : wrapperParam env qs oi t none = .ok p) :
    p = none ∨ ∃ qp dat, p = some (.uniform qp dat) ∧ RefOf env qs oi t qp dat := by
  rcases wrapperParam_none_iff.1 h with ⟨-, rfl⟩ | ⟨tc, mn, mx, P, hc, hs, hP, rfl⟩
  · exact .inl rfl
  · obtain ⟨qdim, qp, dat, h1, h2, h3, rfl⟩ := (refTensorParams_ok_iff ..).1 hP
    exact .inr ⟨qp, dat, rfl, tc, mn, mx, qdim, hc, hs, h1, h2, h3⟩

theorem wrapperParam_lent {env : Env} {qs : Qsvs} {oi : OpInfo} {t : Tensor} {qp : QParams} {p : Option Param}
    (h : wrapperParam env qs oi t (some (.uniform qp none)) = .ok p) :
    ∃ dat, p = some (.uniform qp dat) ∧ LentData env t qp dat := by
  cases wrapperParam_ok h with
  | requantized _ d q hd hq => exact ⟨some q, rfl, .inr ⟨d, q, hd, hq, rfl⟩⟩
  | kept _ hk => exact ⟨none, rfl, .inl ⟨hk qp rfl, rfl⟩⟩

theorem refOf_nodata (env : Env) (qs : Qsvs) (oi : OpInfo) (t : Tensor) (qp : QParams) (dat : Option IArr)
    (hnc : constData env t = none) (h : RefOf env qs oi t qp dat) : dat = none := by
  obtain ⟨tc, mn, mx, qdim, -, -, -, -, hd⟩ := h
  rw [hnc] at hd
  exact (Except.ok.inj hd).symm

/-- what is handed to a request: nothing, or data-free reference parameters of the tensor `t0` in a
    slot of side `b` -/
def Handed (env : Env) (sg : Subgraph) (qs : Qsvs) (oi : OpInfo) (b : Bool) (g : Option Param) : Prop :=
  g = none ∨ ∃ t0 qp dat0, g = some (.uniform qp none) ∧ SlotOf sg oi.op b t0 ∧ RefOf env qs oi t0 qp dat0 ∧
    NotWeightOp oi

/-- what `standardOp` hands over are data-free reference parameters of a tensor on the other side: a constrained operator
    has no weight config, and a result is not a constant -/
theorem handed_of {env : Env} {sg : Subgraph} {qs : Qsvs} {oi : OpInfo} {con : Constraint} {b : Bool} {g : Option Param}
    (hnc : ConstProv.OutNC env sg oi.op.outputs) (hcon : con ≠ .none → NotWeightOp oi)
    (h : HandedParam env sg qs oi con b g) : Handed env sg qs oi (!b) g ∧ (con = .none → g = none) := by
  cases h with
  | none con b => exact ⟨.inl rfl, fun _ => rfl⟩
  | ofResult t p hs _ hp =>
    refine ⟨?_, fun hc => nomatch hc⟩
    rcases wrapperParam_none_ref hp with rfl | ⟨qp, dat, rfl, href⟩
    · exact .inl rfl
    · obtain rfl := refOf_nodata env qs oi t qp dat (hnc.atSlot hs) href
      exact .inr ⟨t, qp, none, rfl, slotOf_of_atSlot hs, href, hcon (by decide)⟩
  | ofOperand t p hs _ hp =>
    refine ⟨?_, fun hc => nomatch hc⟩
    rcases wrapperParam_none_ref hp with rfl | ⟨qp, dat, rfl, href⟩
    · exact .inl rfl
    · exact .inr ⟨t, qp, dat, by cases dat <;> rfl, slotOf_of_atSlot hs, href, hcon (by decide)⟩

theorem stdEntry_psrc {env : Env} {sg : Subgraph} {qs : Qsvs} {oi : OpInfo} {con : Constraint} {b : Bool} {i : Nat}
    {t : Tensor} {c : CO2T} (hnc : ConstProv.OutNC env sg oi.op.outputs) (hcon : con ≠ .none → NotWeightOp oi)
    (he : StdEntry env sg qs oi con b i t c) :
    (∀ P, c.param = some P → PSrc env sg qs oi t P) ∧
    (con = .none → ∀ qp dat, c.param = some (.uniform qp dat) → RefOf env qs oi t qp dat) := by
  cases he with
  | noQuant _ => exact ⟨fun P hP => (nomatch hP), fun _ _ _ hP => (nomatch hP)⟩
  | wrapped g p xfs hidx _ hH hp _ =>
    obtain ⟨hG, hG0⟩ := handed_of hnc hcon hH
    rcases hG with rfl | ⟨t0, qp, dat0, rfl, hslot, href, hnw⟩
    · rcases wrapperParam_none_ref hp with rfl | ⟨qp, dat, rfl, href⟩
      · exact ⟨fun P hP => (nomatch hP), fun _ _ _ hP => (nomatch hP)⟩
      · exact ⟨fun P hP => by cases hP; exact .ref qp dat href, fun _ _ _ hP => by cases hP; exact href⟩
    · obtain ⟨dat, rfl, hl⟩ := wrapperParam_lent hp
      refine ⟨fun P hP => ?_, fun hc => nomatch hG0 hc⟩
      cases hP
      exact .lent (!b) t0 qp dat0 dat hslot (by rw [Bool.not_not]; exact slotOf_of_atSlot hidx.atSlot) href hl hnw

/-- **every emitted entry is the operator's, and its parameter object has a source.**  The bias reads its two sources by
    list position; these are the data slot and slot 1 because no slot before the bias slot is absent (`hmand`). -/
theorem emitted_psrc {env : Env} {sg : Subgraph} {qs : Qsvs} {oi : OpInfo} {fn : String} {k : MatTotal.Kind} {t : Tensor}
    {b : Bool} {c : CO2T} (hK : KindOK oi.opName fn k)
    (hmand : ∀ b, biasSlot oi.opName = some b → ∀ i < b, oi.op.inputs[i]? ≠ some (-1))
    (hnc : ConstProv.OutNC env sg oi.op.outputs) (he : EmittedK env sg qs oi k t b c) :
    SideSrc env sg qs oi t c := by
  have hcon : k.con ≠ .none → NotWeightOp oi := by
    cases k <;> first | exact fun h => absurd rfl h | exact hK.2.2.1
  cases he with
  | std b i t c _ hs => exact ⟨by cases hs <;> rfl, (stdEntry_psrc hnc hcon hs).1⟩
  | biasPlain => exact ⟨rfl, fun P hP => (nomatch hP)⟩
  | biasQuant iI iW iB a _ bd tI tW cI cW qi qw di dw qp q xfs hk ha hne hbt hs hbd heI hcI heW hcW hq hx =>
    refine ⟨rfl, fun P hP => ?_⟩
    cases hP
    obtain ⟨hbs, hds, rfl, hlt, h1, hk0⟩ : biasSlot oi.opName = some iB ∧ dataSlot oi.opName = iI ∧ iW = 1 ∧ iI < iB ∧
        1 < iB ∧ k.con = .none := by
      cases k <;> cases hk
      · exact ⟨hK.2.2.1, hK.2.2.2.1, rfl, by decide, by decide, rfl⟩
      · exact ⟨hK.2.2.1, hK.2.2.2.1, rfl, by decide, by decide, rfl⟩
    have hpre := hmand iB hbs
    have hlen : iB < oi.op.inputs.length := (List.getElem?_eq_some_iff.1 ha).1
    obtain ⟨aI, i1, i2⟩ := heI.atIdx.raw (fun i hi => hpre i (by omega)) (by omega)
    obtain ⟨aW, w1, w2⟩ := heW.atIdx.raw (fun i hi => hpre i (by omega)) (by omega)
    exact .bias aI aW tI tW qi di qw dw bd qp q (hds ▸ i1) i2 w1 w2
      ((stdEntry_psrc hnc hcon heI).2 hk0 qi di hcI) ((stdEntry_psrc hnc hcon heW).2 hk0 qw dw hcW) hbd hq
  | fixed sl i _ c a fp hk hs hact hfp =>
    exact ⟨by cases hs <;> rfl, fun P hP => by cases hP; exact .fixed sl a fp hact hfp (slotOf_of_atSlot hs.atIdx.atSlot)⟩
  | castPlain => exact ⟨rfl, fun P hP => (nomatch hP)⟩
  | f16 iIn iW iB sW _ wd hh _ _ _ hwd hhh => exact ⟨rfl, fun P hP => by cases hP; exact .f16 wd hh hwd hhh⟩

/-- the `OpInfo` the generator builds for entry `q` of the operator list of subgraph `s`, resolved under
    the name `k` and the scope `scope` -/
def oiOf (rx : String → String → Bool) (st : Recipe.State) (s : Nat) (q : Op × Option String × Int)
    (k scope : String) : OpInfo :=
  { sgIdx := s, op := q.1, opName := k, opId := q.2.2, cfg := (Recipe.resolve rx st k scope).2 }

def Resolves (rx : String → String → Bool) (env : Env) (st : Recipe.State) (sg : Subgraph)
    (q : Op × Option String × Int) (k scope : String) : Prop :=
  keyOf env q = .ok (some k) ∧ opScope sg q.1 = .ok scope ∧
    ((Recipe.resolve rx st k scope).1 == Tables.algNoQuantize) = false

/-- **the requests of one entry of the operator list**: `noQuantReq`s (operator left unquantized), or one-sided requests
    for tensors of the subgraph whose entry has a source under the resolved config -/
theorem opReqs_src (rx : String → String → Bool) (env : Env) (st : Recipe.State)
    (s : Nat) (sg : Subgraph) (qs : Qsvs) (q : Op × Option String × Int) (rs : List CReq) (qs' : Qsvs)
    (hmand : ∀ k, keyOf env q = .ok (some k) → ∀ b, biasSlot k = some b → ∀ i < b, q.1.inputs[i]? ≠ some (-1))
    (hnc : ConstProv.OutNC env sg q.1.outputs)
    (h : opReqs rx env st s sg qs q = .ok (rs, qs')) :
    ∀ r ∈ rs, ∃ t b c, t ∈ sg.tensors ∧ r = sideReq t.name b c ∧
      (c.param = none ∨ ∃ k scope, Resolves rx env st sg q k scope ∧ SideSrc env sg qs (oiOf rx st s q k scope) t c) := by
  intro r hr
  rcases opReqs_ok h with ⟨hn, -⟩ | ⟨k, scope, ops, fn, ⟨hk, hs, hne, hops, hfn⟩, hrun⟩
  · obtain ⟨b, t, hslot, rfl⟩ := (noQuantOp_mem_iff hn r).1 hr
    exact ⟨t, b, _, hslot.mem, noQuantReq_eq .., .inl rfl⟩
  · obtain ⟨t, b, c, ht, he, rfl⟩ := runKind_emitted hrun r hr
    exact ⟨t, b, c, ht, rfl, .inr ⟨k, scope, ⟨hk, hs, by simpa using hne⟩,
      emitted_psrc (Pipe.kindAlg_of_registry hops hfn).1 (hmand k hk) hnc he⟩⟩

theorem mand_allOps (env : Env) (st : Recipe.State) (hg : GenHyp env st) (sg : Subgraph)
    (hsg : sg ∈ env.model.subgraphs) (q : Op × Option String × Int) (hq : q ∈ allOps sg) :
    ∀ k, keyOf env q = .ok (some k) → ∀ b, biasSlot k = some b → ∀ i < b, q.1.inputs[i]? ≠ some (-1) := by
  have pseudo : ∀ {op : Op} {nm : String} {o : Int}, biasSlot nm = none → ∀ k, keyOf env (op, some nm, o) = .ok (some k) →
      ∀ b, biasSlot k = some b → ∀ i < b, op.inputs[i]? ≠ some (-1) := by
    intro op nm o hnone k hk b hb
    cases PyM.pure_eq_ok_iff.1 hk
    rw [hnone] at hb
    cases hb
  rcases mem_allOps_iff.1 hq with ⟨j, op, hop, rfl⟩ | rfl | rfl
  · intro k hk b hb
    exact (hg.mandatory sg hsg op (List.mem_of_getElem? hop) k (keyOf_real env op _ k hk) b hb).1
  · exact pseudo (by decide +kernel)
  · exact pseudo (by decide +kernel)

end ParamsSrc
