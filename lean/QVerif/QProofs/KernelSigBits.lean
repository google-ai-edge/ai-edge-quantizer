import QProofs.KernelSigMode
/-! # Kernel signatures (C01b): the bit widths of the parameter objects of every request side
Without `skip_checks` rules a UNIFORM parameter object of a request side has 8 or 16 bits (the activation configs of the policy),
unless its tensor is a CONSTANT and it has 4 bits, or the side is `[QUANTIZE_TENSOR]` (a bias: 32 / 64 bits).  Proved on the
provenance of an entry (`Mat.EmittedK`). -/
open Graph Mat Cfg Pipe Arith

set_option autoImplicit false

namespace KernelSig.Bits

def ConstNamed (env : Env) (sg : Subgraph) (n : String) : Prop :=
  ∃ t ∈ sg.tensors, t.name = n ∧ (constData env t).isSome = true

def SideS (env : Env) (sg : Subgraph) (n : String) (c : CO2T) : Prop :=
  ∀ qp d, c.param = some (.uniform qp d) →
    qp.bits = 8 ∨ qp.bits = 16 ∨ (ConstNamed env sg n ∧ (qp.bits = 4 ∨ c.xfs = [.quantTensor]))

def AB (p : Option Param) : Prop := ∀ qp d, p = some (.uniform qp d) → qp.bits = 8 ∨ qp.bits = 16

/-- the widths of the configs the policy accepts (and of the float-casting config) -/
def LegalBits (c : OpCfg) : Prop :=
  (∀ a, c.act = some a → a.bits = 8 ∨ a.bits = 16) ∧
  (∀ w, c.weight = some w → w.bits = 4 ∨ w.bits = 8 ∨ w.bits = 16)

theorem legalBits_of_modeOK (k : String) (c : OpCfg) (h : C13.modeOK k c = true) : LegalBits c := by
  obtain ⟨w, hw, -, hwb, -⟩ := MatTotal.modeOK_facts k c h
  refine ⟨fun a ha => ?_, fun w' hw' => ?_⟩
  · exact (MatTotal.act_legal h ha).2.1
  · rw [hw] at hw'
    cases hw'
    exact hwb.elim .inl (fun h => .inr (.inl h))

theorem legalBits_of_good {alg k : String} {c : OpCfg} (h : MatTotal.CfgGood alg k c) : LegalBits c := by
  rcases h.alg with rfl | rfl
  · exact legalBits_of_modeOK k c (h.minmax rfl)
  · obtain ⟨-, -, ha, w, hw, hb, -⟩ := h.cast rfl
    refine ⟨fun a ha' => ?_, fun w' hw' => ?_⟩
    · rw [ha] at ha'; cases ha'
    · rw [hw] at hw'; cases hw'; exact .inr (.inr hb)

theorem computed_bits {env : Env} {oi : OpInfo} {t : Tensor} {tc : TCfg} {mm : Qsv} {q : Param}
    (hL : LegalBits oi.cfg) (hc : MatParams.tcfgOf env oi t = some tc)
    (hq : tensorQuantParams env oi mm tc (constData env t) = .ok q) (qp : QParams) (d : Option IArr)
    (e : q = .uniform qp d) :
    qp.bits = 8 ∨ qp.bits = 16 ∨ ((constData env t).isSome = true ∧ qp.bits = 4 ∧
      (Tables.woOps.contains oi.opName || Tables.drqOps.contains oi.opName) = true) := by
  obtain ⟨qp', d', rfl, -, hb, -⟩ := tensorQuantParams_ok hq
  cases e
  unfold MatParams.tcfgOf at hc
  split at hc
  · rename_i hw
    simp only [Bool.and_eq_true] at hw
    rcases hL.2 tc hc with h | h | h
    · exact .inr (.inr ⟨hw.1, by rw [hb, h]; rfl, hw.2⟩)
    · exact .inl (by rw [hb, h]; rfl)
    · exact .inr (.inl (by rw [hb, h]; rfl))
  · rcases hL.1 tc hc with h | h
    · exact .inl (by rw [hb, h]; rfl)
    · exact .inr (.inl (by rw [hb, h]; rfl))

theorem handed_ab {env : Env} {sg : Subgraph} {qs : Qsvs} {oi : OpInfo} {con : Constraint} {b : Bool}
    {g : Option Param} (hL : LegalBits oi.cfg)
    (hcon : con ≠ .none → (Tables.woOps.contains oi.opName || Tables.drqOps.contains oi.opName) = false)
    (h : HandedParam env sg qs oi con b g) : AB g := by
  have own : ∀ (t : Tensor) (p : Option Param), con ≠ .none → wrapperParam env qs oi t none = .ok p → AB p := by
    intro t p hc hp qp d e
    cases wrapperParam_ok hp with
    | unconfigured _ => cases e
    | computed tc mm q hcfg _ hq =>
      rcases computed_bits hL hcfg hq qp d (Option.some.inj e) with h | h | ⟨-, -, h⟩
      · exact .inl h
      · exact .inr h
      · rw [hcon hc] at h; cases h
  cases h with
  | none => exact nofun
  | ofResult t _ _ _ hp => exact own t _ nofun hp
  | ofOperand t p _ _ hp =>
    intro qp d e
    have := own t p nofun hp qp
    cases p with
    | none => cases e
    | some q0 =>
      cases q0 with
      | nonlinear _ _ => cases e
      | uniform qp' d' => cases d' <;> cases e <;> exact this _ rfl

theorem emitted_bits {env : Env} {sg : Subgraph} {qs : Qsvs} {oi : OpInfo} {k : MatTotal.Kind} {t : Tensor}
    {b : Bool} {c : CO2T} (hL : LegalBits oi.cfg)
    (hcon : k.con ≠ .none → (Tables.woOps.contains oi.opName || Tables.drqOps.contains oi.opName) = false)
    (he : EmittedK env sg qs oi k t b c) : SideS env sg t.name c := by
  cases he with
  | std _ i _ _ _ hs =>
    cases hs with
    | noQuant => exact nofun
    | wrapped g p xfs hs _ hg hp _ =>
      intro qp d e
      have hgab := handed_ab hL hcon hg
      cases wrapperParam_ok hp with
      | unconfigured _ => cases e
      | computed tc mm q hcfg _ hq =>
        rcases computed_bits hL hcfg hq qp d (Option.some.inj e) with h | h | ⟨hc, h, -⟩
        · exact .inl h
        · exact .inr (.inl h)
        · exact .inr (.inr ⟨⟨t, hs.atSlot.mem, rfl, hc⟩, .inl h⟩)
      | requantized qp' _ _ _ _ =>
        cases e
        exact (hgab _ none rfl).elim .inl (fun h => .inr (.inl h))
      | kept P _ => exact (hgab qp d e).elim .inl (fun h => .inr (.inl h))
  | biasPlain => exact nofun
  | biasQuant _ _ _ _ _ bd _ _ _ _ _ _ _ _ _ _ xfs _ _ _ hbt hsrq hbd _ _ _ _ _ hx =>
    intro qp d _
    rw [tensorXfs_srq hsrq] at hx
    cases hx
    exact .inr (.inr ⟨⟨t, Py.index_mem _ _ _ hbt, rfl, by rw [hbd]; rfl⟩, .inr rfl⟩)
  | fixed sl i _ c a fp _ _ ha hfp =>
    intro qp d e
    cases e
    have hb : fp.bits = a.bits.toNat := Mat.fixedParams_bits sl _ fp hfp
    rcases hL.1 a ha with h | h
    · exact .inl (by rw [hb, h]; rfl)
    · exact .inr (.inl (by rw [hb, h]; rfl))
  | castPlain => exact nofun
  | f16 => exact nofun

theorem constrained_noWeight {alg k fn : String} {ops : List (String × String)}
    (hr : Py.dictGet? Tables.registry alg = some ops) (hf : Py.dictGet? ops k = some fn)
    (hc : (MatTotal.kindOf alg fn).con ≠ .none) :
    (Tables.woOps.contains k || Tables.drqOps.contains k) = false := by
  have h := (Pipe.kindAlg_of_registry hr hf).1
  cases hk : MatTotal.kindOf alg fn <;> rw [hk] at h hc
  case std con gi =>
    obtain ⟨h1, h2⟩ := h.2.2.1 hc
    rw [h1, h2]; rfl
  all_goals exact absurd rfl hc

theorem opReqs_bits {rx : String → String → Bool} {env : Env} {st : Recipe.State} (hns : MatTotal.NoSkip st)
    {s : Nat} {sg : Subgraph} {qs : Qsvs} {q : Op × Option String × Int} {rs : List CReq} {qs' : Qsvs}
    (h : opReqs rx env st s sg qs q = .ok (rs, qs')) : ∀ r ∈ rs, ReqSides (SideS env sg) (SideS env sg) r := by
  intro r hr
  have side : ∀ {n : String} {b : Bool} {c : CO2T}, SideS env sg n c →
      ReqSides (SideS env sg) (SideS env sg) (sideReq n b c) := fun {n b c} h => by
    cases b <;> exact reqSides_sideReq.2 h
  rcases opReqs_ok h with ⟨hn, -⟩ | ⟨k, scope, ops, fn, ⟨-, -, hne, hops, hfn⟩, hrun⟩
  · obtain ⟨b, a, t, -, -, -, rfl⟩ := (noQuantOp_mem_iff hn r).1 hr
    rw [noQuantReq_eq]
    exact side nofun
  · obtain ⟨t, b, c, -, he, rfl⟩ := runKind_emitted hrun r hr
    obtain ⟨hgood, -⟩ := MatTotal.resolve_selected rx st hns k scope hne
    exact side (emitted_bits (legalBits_of_good hgood)
      (constrained_noWeight hops hfn) he)

def Side (env : Env) (n : String) (c : CO2T) : Prop := ∃ sg ∈ env.model.subgraphs, SideS env sg n c

theorem generate_bits {rx : String → String → Bool} {env : Env} {st : Recipe.State} (hns : MatTotal.NoSkip st)
    {qsvs : Option Qsvs} {qs : Qsvs} {res : List (String × CReq)}
    (h : generateLoop rx env st qsvs = .ok (qs, res)) : DictSides (Side env) (Side env) res :=
  generate_sides (fun _ sg hsg _ _ _ _ _ h r hr =>
    have hm : sg ∈ env.model.subgraphs := List.mem_of_getElem? hsg
    have ⟨h1, h2⟩ := opReqs_bits hns h r hr
    ⟨fun p hp => ⟨sg, hm, h1 p hp⟩, fun cs c hcs hc => ⟨sg, hm, h2 cs c hcs hc⟩⟩) h

end KernelSig.Bits
