import QModel.Validate
import QProofs.PyLemmas
import QProofs.DictLemmas
import Mathlib.Tactic.Linarith
import Mathlib.Tactic.Ring
import Mathlib.Data.List.Nodup
/-!
# validate(): metric laws; `popGroup` and `fileGroups` exactly (C18)

Metric laws: a computed value stays in every set `Conv P` that holds its terms (`metric_conv`, `meanR_conv`); non-negativity and the
zero of a self-comparison are the two instances.
`popGroup` and `fileGroups` are each one equation (`popFold_eq`, `fileGroups_eq`): the pure fold
`names.foldl popPure` (resp. the pure `filed`) if the unguarded names are distinct keys, `KeyError` otherwise.
What remains after the pops is a filter, the group popped its complement up to order (`foldl_popPure_snd`).
-/
open Validate

namespace ValidateProofs

/-- a set of values that contains 0 and is closed under sums and under division by a count: what a mean of squares, a median
    of ratios and a mean of those stay in -/
structure Conv (P : Rat → Prop) : Prop where
  zero : P 0
  add : ∀ x y, P x → P y → P (x + y)
  div : ∀ x (n : Nat), P x → P (x / n)

theorem conv_nonneg : Conv (0 ≤ ·) := ⟨le_refl _, fun _ _ => add_nonneg, fun _ _ h => div_nonneg h (Nat.cast_nonneg _)⟩

theorem conv_zero : Conv (· = 0) :=
  ⟨rfl, fun _ _ hx hy => by rw [hx, hy, add_zero], fun _ _ hx => by rw [hx, zero_div]⟩

theorem mem_zip_self {α} (a : List α) : ∀ p ∈ a.zip a, p.1 = p.2 := by
  induction a with
  | nil => intro p hp; simp at hp
  | cons x xs ih =>
    intro p hp
    simp only [List.zip_cons_cons, List.mem_cons] at hp
    rcases hp with rfl | hp
    · rfl
    · exact ih p hp

theorem zip_map_swap {α β} (f g : α × α → β) (hfg : ∀ x y, f (x, y) = g (y, x)) :
    ∀ (a b : List α), (a.zip b).map f = (b.zip a).map g := by
  intro a
  induction a with
  | nil => intro b; cases b <;> rfl
  | cons x xs ih =>
    intro b
    cases b with
    | nil => rfl
    | cons y ys => rw [List.zip_cons_cons, List.zip_cons_cons, List.map_cons, List.map_cons, hfg, ih ys]

theorem mse_symm (a b : List Rat) : mse a b = mse b a := by
  unfold mse
  by_cases hl : a.length = b.length
  · have hl' : b.length = a.length := hl.symm
    have he : a.isEmpty = b.isEmpty := by cases a <;> cases b <;> simp at hl ⊢
    have hz : (a.zip b).map (fun p : Rat × Rat => (p.1 - p.2) * (p.1 - p.2)) =
        (b.zip a).map fun p => (p.1 - p.2) * (p.1 - p.2) := by
      exact zip_map_swap _ _ (fun x y => by ring) a b
    rw [if_neg (not_not.2 hl), if_neg (not_not.2 hl'), he, hz, hl]
  · have hl' : ¬ b.length = a.length := fun h => hl h.symm
    rw [if_pos hl, if_pos hl']

theorem absQ_nonneg (x : Rat) : 0 ≤ absQ x := by
  unfold absQ
  split_ifs with h
  · linarith
  · linarith

theorem absQ_zero : absQ 0 = 0 := by
  unfold absQ; simp

theorem mem_insertSorted (x x' : Rat) (l : List Rat) :
    x' ∈ insertSorted x l ↔ x' = x ∨ x' ∈ l := by
  induction l with
  | nil => simp [insertSorted]
  | cons y ys ih =>
    unfold insertSorted
    split_ifs with h
    · simp
    · simp only [List.mem_cons, ih]
      exact or_left_comm

theorem mem_sortR (x : Rat) (l : List Rat) : x ∈ sortR l ↔ x ∈ l := by
  induction l with
  | nil => simp [sortR]
  | cons y ys ih =>
    have : sortR (y :: ys) = insertSorted y (sortR ys) := rfl
    rw [this, mem_insertSorted, ih]
    simp

theorem metric_cases (m : Metric) (t r : List Rat) :
    (t.length ≠ r.length ∧ metric m t r = .error .valueError) ∨
    (t.length = r.length ∧ ∃ v, metric m t r = .ok v) := by
  by_cases h : t.length = r.length
  · refine .inr ⟨h, ?_⟩
    cases m
    · unfold metric mse; rw [if_neg (not_not.2 h)]; split_ifs <;> exact ⟨_, rfl⟩
    · unfold metric mdr; rw [if_neg (not_not.2 h)]; split_ifs <;> exact ⟨_, rfl⟩
  · refine .inl ⟨h, ?_⟩
    cases m
    · exact if_pos h
    · exact if_pos h

section Conv
variable {P : Rat → Prop} (hP : Conv P)
include hP

theorem foldl_add_conv (l : List Rat) : ∀ (acc : Rat), P acc → (∀ x ∈ l, P x) → P (l.foldl (· + ·) acc) := by
  induction l with
  | nil => intro acc h _; exact h
  | cons y ys ih =>
    intro acc hacc h
    exact ih _ (hP.add _ _ hacc (h y List.mem_cons_self)) fun x hx => h x (List.mem_cons_of_mem _ hx)

theorem meanR_conv (l : List Rat) (h : ∀ x ∈ l, P x) : P (meanR l) := by
  unfold meanR
  split
  · exact hP.zero
  · exact hP.div _ _ (foldl_add_conv hP l 0 hP.zero h)

theorem getD_conv (s : List Rat) (hs : ∀ x ∈ s, P x) (i : Nat) : P (s.getD i 0) := by
  rw [List.getD_eq_getElem?_getD]
  cases hi : s[i]? with
  | none => exact hP.zero
  | some y => exact hs y (List.mem_of_getElem? hi)

theorem median_conv (l : List Rat) (hl : ∀ x ∈ l, P x) : P (median l) := by
  have hs : ∀ x ∈ sortR l, P x := fun x hx => hl x ((mem_sortR x l).1 hx)
  unfold median
  simp only
  split_ifs with h1 h2
  · exact hP.zero
  · exact getD_conv hP _ hs _
  · exact hP.div _ 2 (hP.add _ _ (getD_conv hP _ hs _) (getD_conv hP _ hs _))

/-- both metrics are a mean (resp. a median) of one term per pair of elements -/
theorem metric_conv (m : Metric) (t r : List Rat) (v : Rat)
    (hterm : ∀ p ∈ t.zip r, P ((p.1 - p.2) * (p.1 - p.2)) ∧ P (absQ (p.1 - p.2) / (absQ p.2 + 1/1000000)))
    (h : metric m t r = .ok v) : P v := by
  cases m
  · unfold metric mse at h
    split_ifs at h with h1 h2
    · cases h; exact hP.zero
    · cases h
      refine hP.div _ _ (foldl_add_conv hP _ 0 hP.zero fun x hx => ?_)
      obtain ⟨p, hp, rfl⟩ := List.mem_map.1 hx
      exact (hterm p hp).1
  · unfold metric mdr at h
    split_ifs at h with h1 h2
    · cases h; exact hP.zero
    · cases h
      refine median_conv hP _ fun x hx => ?_
      obtain ⟨p, hp, rfl⟩ := List.mem_map.1 hx
      exact (hterm p hp).2

end Conv

theorem metric_nonneg (m : Metric) (t r : List Rat) (v : Rat) (h : metric m t r = .ok v) : 0 ≤ v :=
  metric_conv conv_nonneg m t r v
    (fun p _ => ⟨mul_self_nonneg _, div_nonneg (absQ_nonneg _) (by have := absQ_nonneg p.2; linarith)⟩) h

theorem metric_refl (m : Metric) (a : List Rat) : metric m a a = .ok 0 := by
  obtain ⟨v, hv⟩ := ((metric_cases m a a).resolve_left fun h => h.1 rfl).2
  rw [hv, metric_conv conv_zero m a a v (fun p hp => by
    rw [mem_zip_self a p hp, sub_self, mul_zero, absQ_zero, zero_div]; exact ⟨rfl, rfl⟩) hv]


theorem metric_ok_length (m : Metric) (t r : List Rat) :
    (∃ v, metric m t r = .ok v) ↔ t.length = r.length := by
  rcases metric_cases m t r with ⟨h, he⟩ | ⟨h, hv⟩
  · exact ⟨fun ⟨v, hv⟩ => (by rw [he] at hv; cases hv), fun h' => absurd h' h⟩
  · exact ⟨fun _ => h, fun _ => hv⟩

theorem metric_error (m : Metric) (t r : List Rat) (e : PyErr) :
    metric m t r = .error e ↔ t.length ≠ r.length ∧ e = .valueError := by
  rcases metric_cases m t r with ⟨h, he⟩ | ⟨h, v, hv⟩
  · rw [he]
    exact ⟨fun h' => ⟨h, (Except.error.inj h').symm⟩, fun h' => by rw [h'.2]⟩
  · rw [hv]
    exact ⟨fun h' => (by cases h'), fun h' => absurd h h'.1⟩

abbrev Dict := List (String × Rat)

theorem dictGet?_none_of_not_mem (d : Dict) (k : String) (h : k ∉ d.map (·.1)) :
    Py.dictGet? d k = none :=
  (Py.dictGet?_eq_none_iff d k).2 h

def popStep (guarded : Bool) (st : Dict × Dict) (n : String) : PyM (Dict × Dict) :=
  match Py.dictGet? st.1 n with
  | some v => pure (st.1.filter (·.1 != n), Py.dictSet st.2 n v)
  | none => if guarded then pure st else throw .keyError

theorem popGroup_eq (guarded : Bool) (result : Dict) (names : List String) :
    popGroup guarded result names = names.foldlM (popStep guarded) (result, []) := rfl

/-- what a pop of `n` that does not fail does to (remaining dictionary, group) -/
def popPure (st : Dict × Dict) (n : String) : Dict × Dict :=
  match Py.dictGet? st.1 n with
  | some v => (st.1.filter (·.1 != n), Py.dictSet st.2 n v)
  | none => st

theorem popPure_fst (st : Dict × Dict) (n : String) : (popPure st n).1 = st.1.filter (·.1 != n) := by
  unfold popPure
  cases hg : Py.dictGet? st.1 n with
  | some v => rfl
  | none => exact (Py.filter_ne_of_not_mem _ _ ((Py.dictGet?_eq_none_iff _ _).1 hg)).symm

theorem popStep_eq (g : Bool) (st : Dict × Dict) (n : String) :
    popStep g st n = if g = true ∨ n ∈ st.1.map (·.1) then .ok (popPure st n) else .error .keyError := by
  unfold popStep popPure
  cases hg : Py.dictGet? st.1 n with
  | some v => exact (if_pos (.inr (List.mem_map_of_mem (f := (·.1)) (Py.dictGet?_mem _ _ _ hg)))).symm
  | none =>
    have hn := (Py.dictGet?_eq_none_iff _ _).1 hg
    cases g with
    | true => exact (if_pos (.inl rfl)).symm
    | false => exact (if_neg fun h => h.elim Bool.false_ne_true hn).symm

/-- when the pops of `names` from `d` go through: guarded, or distinct keys of `d` -/
abbrev PopOK (g : Bool) (names : List String) (d : Dict) : Prop :=
  g = true ∨ (names.Nodup ∧ ∀ n ∈ names, n ∈ d.map (·.1))

theorem popOK_cons (g : Bool) (n : String) (ns : List String) (st : Dict × Dict) :
    PopOK g (n :: ns) st.1 ↔ (g = true ∨ n ∈ st.1.map (·.1)) ∧ PopOK g ns (popPure st n).1 := by
  unfold PopOK
  simp only [List.nodup_cons, List.forall_mem_cons, popPure_fst, Py.keys_filter_ne]
  constructor
  · rintro (hg | ⟨⟨hn, hnd⟩, hk, hall⟩)
    · exact ⟨.inl hg, .inl hg⟩
    · exact ⟨.inr hk, .inr ⟨hnd, fun m hm => ⟨hall m hm, fun hmn => hn (hmn ▸ hm)⟩⟩⟩
  · rintro ⟨hn, hg | ⟨hnd, hall⟩⟩
    · exact .inl hg
    · exact hn.imp_right fun hk => ⟨⟨fun hm => (hall n hm).2 rfl, hnd⟩, hk, fun m hm => (hall m hm).1⟩

theorem popFold_eq (g : Bool) : ∀ (names : List String) (st : Dict × Dict),
    names.foldlM (popStep g) st =
      if PopOK g names st.1 then .ok (names.foldl popPure st) else .error .keyError := by
  intro names
  induction names with
  | nil => intro st; exact (if_pos (.inr ⟨List.nodup_nil, nofun⟩)).symm
  | cons n ns ih =>
    intro st
    rw [List.foldlM_cons, popStep_eq, List.foldl_cons]
    by_cases hn : g = true ∨ n ∈ st.1.map (·.1)
    · rw [if_pos hn]
      exact (ih (popPure st n)).trans (if_congr ((popOK_cons g n ns st).trans (and_iff_right hn)).symm rfl rfl)
    · rw [if_neg hn, if_neg fun h => hn ((popOK_cons g n ns st).1 h).1]; rfl

theorem foldl_popPure_fst : ∀ (names : List String) (st : Dict × Dict),
    (names.foldl popPure st).1 = st.1.filter (fun e => !names.contains e.1) := by
  intro names
  induction names with
  | nil => intro st; exact (List.filter_eq_self.2 fun _ _ => rfl).symm
  | cons n ns ih =>
    intro st
    rw [List.foldl_cons, ih, popPure_fst, List.filter_filter]
    congr 1
    funext e
    simp only [List.contains_cons, Bool.not_or, bne, Bool.and_comm]

theorem popPure_perm (result : Dict) (hnd : (result.map (·.1)).Nodup) (st : Dict × Dict) (n : String)
    (hP : List.Perm (st.1 ++ st.2) result) :
    List.Perm ((popPure st n).1 ++ (popPure st n).2) result := by
  unfold popPure
  cases hg : Py.dictGet? st.1 n with
  | none => exact hP
  | some v =>
    have hnd' : ((st.1 ++ st.2).map (·.1)).Nodup := (hP.map (·.1)).nodup_iff.2 hnd
    rw [List.map_append, List.nodup_append] at hnd'
    obtain ⟨hnd1, _, hdisj⟩ := hnd'
    have hmem : n ∈ st.1.map (·.1) := List.mem_map_of_mem (f := (·.1)) (Py.dictGet?_mem _ _ _ hg)
    have hn2 : n ∉ st.2.map (·.1) := fun h2 => hdisj n hmem n h2 rfl
    show List.Perm (st.1.filter (·.1 != n) ++ Py.dictSet st.2 n v) result
    rw [Py.dictSet_of_not_mem _ _ _ hn2, ← List.append_assoc]
    refine (List.perm_append_comm.trans ?_).trans hP
    exact ((Py.perm_cons_filter st.1 n v hnd1 hg).symm.append_right _)

theorem foldl_popPure_perm (result : Dict) (hnd : (result.map (·.1)).Nodup) :
    ∀ (names : List String) (st : Dict × Dict), List.Perm (st.1 ++ st.2) result →
      List.Perm ((names.foldl popPure st).1 ++ (names.foldl popPure st).2) result := by
  intro names
  induction names with
  | nil => intro st hP; exact hP
  | cons n ns ih => intro st hP; exact ih _ (popPure_perm result hnd st n hP)

theorem nodup_rest (d : Dict) (hnd : (d.map (·.1)).Nodup) (names : List String) :
    ((names.foldl popPure (d, [])).1.map (·.1)).Nodup := by
  rw [foldl_popPure_fst]; exact hnd.sublist (List.filter_sublist.map _)

theorem foldl_popPure_snd (d : Dict) (hnd : (d.map (·.1)).Nodup) (names : List String) :
    List.Perm (names.foldl popPure (d, [])).2 (d.filter fun e => names.contains e.1) := by
  have hp := foldl_popPure_perm d hnd names (d, []) (by rw [List.append_nil])
  rw [foldl_popPure_fst] at hp
  exact (List.perm_append_left_iff _).1
    (hp.trans ((List.filter_append_perm (fun e => names.contains e.1) d).symm.trans List.perm_append_comm))

theorem mem_popped (d : Dict) (hnd : (d.map (·.1)).Nodup) (names : List String) (e : String × Rat) :
    e ∈ (names.foldl popPure (d, [])).2 ↔ e ∈ d ∧ e.1 ∈ names := by
  rw [(foldl_popPure_snd d hnd names).mem_iff, List.mem_filter, List.contains_eq_mem, decide_eq_true_eq]

theorem mem_rest (d : Dict) (names : List String) (e : String × Rat) :
    e ∈ (names.foldl popPure (d, [])).1 ↔ e ∈ d ∧ e.1 ∉ names := by
  rw [foldl_popPure_fst, List.mem_filter, Bool.not_eq_true', List.contains_eq_mem, decide_eq_false_iff_not]

def filed (d : Dict) (ins outs cs : List String) : Groups :=
  let s1 := ins.foldl popPure (d, [])
  let s2 := outs.foldl popPure (s1.1, [])
  let s3 := cs.foldl popPure (s2.1, [])
  ⟨s1.2, s2.2, s3.2, s3.1⟩

/-- **`add_new_signature_results` in closed form**: it fails, with `KeyError`, exactly when the input names are
    not distinct keys; after the unguarded pops of the inputs nothing can fail -/
theorem fileGroups_eq (d : Dict) (ins outs cs : List String) :
    fileGroups d ins outs cs =
      if ins.Nodup ∧ ∀ n ∈ ins, n ∈ d.map (·.1) then .ok (filed d ins outs cs) else .error .keyError := by
  unfold fileGroups
  simp only [popGroup_eq, popFold_eq, PopOK, true_or, if_true, Bool.false_eq_true, false_or]
  split <;> rfl

theorem fileGroups_ok (d : Dict) (ins outs cs : List String) (g : Groups) :
    fileGroups d ins outs cs = .ok g ↔
      (ins.Nodup ∧ ∀ n ∈ ins, n ∈ d.map (·.1)) ∧ g = filed d ins outs cs := by
  rw [fileGroups_eq]; exact PyM.ite_ok_eq_ok_iff

theorem fileGroups_ok_iff (d : Dict) (ins outs cs : List String) :
    (∃ g, fileGroups d ins outs cs = .ok g) ↔ ins.Nodup ∧ ∀ n ∈ ins, n ∈ d.map (·.1) :=
  ⟨fun ⟨g, h⟩ => ((fileGroups_ok d ins outs cs g).1 h).1, fun hc => ⟨_, (fileGroups_ok d ins outs cs _).2 ⟨hc, rfl⟩⟩⟩

theorem fileGroups_error (d : Dict) (ins outs cs : List String) (e : PyErr)
    (h : fileGroups d ins outs cs = .error e) : e = .keyError := by
  rw [fileGroups_eq] at h; exact (PyM.ite_ok_eq_error_iff.1 h).2

theorem filed_perm (d : Dict) (hnd : (d.map (·.1)).Nodup) (ins outs cs : List String) :
    let g := filed d ins outs cs
    List.Perm (g.inputs ++ g.outputs ++ g.constants ++ g.intermediates) d := by
  have n1 := nodup_rest d hnd ins
  have n2 := nodup_rest _ n1 outs
  have p1 := foldl_popPure_perm d hnd ins (d, []) (by rw [List.append_nil])
  have p2 := foldl_popPure_perm _ n1 outs ((ins.foldl popPure (d, [])).1, []) (by rw [List.append_nil])
  have p3 := foldl_popPure_perm _ n2 cs ((outs.foldl popPure ((ins.foldl popPure (d, [])).1, [])).1, [])
    (by rw [List.append_nil])
  intro g
  have q2 := ((List.Perm.append_left g.outputs (List.perm_append_comm.trans p3)).trans List.perm_append_comm).trans p2
  have q1 := ((List.Perm.append_left g.inputs q2).trans List.perm_append_comm).trans p1
  rwa [← List.append_assoc, ← List.append_assoc] at q1

end ValidateProofs
