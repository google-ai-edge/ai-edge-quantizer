import QProofs.LocalityGen
/-!
# C19 — parameter ids are only names (instruction generation)

A `PId` stands for a parameter OBJECT; instruction generation compares ids for equality and copies them into
the instructions.  Hence it commutes with any injective renaming `ρ` of the ids (`genInsts_rn`).  The performer
looks their `PInfo` up and copies them into tensors and buffers: `ρ` is carried by its simulation `Locality.Sim`.
-/
open Graph InstGen GenInstsOK Locality

namespace Rename

def rnO (ρ : PId → PId) (o : O2T) : O2T := { o with param := o.param.map ρ }

def rnReq (ρ : PId → PId) (r : TReq) : TReq :=
  { r with producer := r.producer.map (rnO ρ), consumers := r.consumers.map fun cs => cs.map (rnO ρ) }

variable {ρ : PId → PId}

theorem beq_map (hρ : Function.Injective ρ) (a b : Option PId) : (a.map ρ == b.map ρ) = (a == b) := by
  cases a <;> cases b <;> simp [hρ.eq_iff]

theorem getD_rn (cs : List O2T) (i : Nat) : (cs.map (rnO ρ)).getD i default = rnO ρ (cs.getD i default) := by
  simp only [List.getD_eq_getElem?_getD, List.getElem?_map]
  cases cs[i]? <;> rfl

theorem horiz_rn (hρ : Function.Injective ρ) (p1 p2 : O2T) (idx : Nat) :
    horiz (rnO ρ p1) (rnO ρ p2) idx = horiz p1 p2 idx := by
  unfold horiz rnO
  simp only [beq_map hρ]

theorem placeInto_rn (hρ : Function.Injective ρ) (cs : List O2T) (d : Nat) (cur : List Nat) (ci : Nat) :
    ∀ (ng : List (List Nat)), placeInto (cs.map (rnO ρ)) d cur ci ng = placeInto cs d cur ci ng := by
  intro ng
  induction ng with
  | nil => rfl
  | cons g rest ih =>
    unfold placeInto
    cases g.head? with
    | none => simp only [ih]
    | some idx => simp only [getD_rn, horiz_rn hρ, ih]

theorem nextDepth_rn (hρ : Function.Injective ρ) (cs : List O2T) (d : Nat) (cur : List (List Nat)) :
    nextDepth (cs.map (rnO ρ)) d cur = nextDepth cs d cur := by
  unfold nextDepth
  rw [List.length_map]
  refine List.foldl_ext _ _ _ ?_
  intro next ci _
  have h1 : ((cs.map (rnO ρ)).getD ci default).xfs = (cs.getD ci default).xfs := by rw [getD_rn]; rfl
  rw [h1]
  split
  · refine List.foldl_ext _ _ _ ?_
    intro next g _
    rw [placeInto_rn hρ]
  · rfl

theorem groupConsumers_rn (hρ : Function.Injective ρ) (cons : Option (List O2T)) :
    groupConsumers (cons.map fun cs => cs.map (rnO ρ)) = groupConsumers cons := by
  cases cons with
  | none => rfl
  | some cs =>
    cases cs with
    | nil => rfl
    | cons c cs =>
      simp only [Option.map_some, List.map_cons, groupConsumers]
      rw [← List.map_cons, List.foldl_map, List.map_cons]
      simp only [List.length_cons, List.length_map]
      refine List.foldl_ext _ _ _ ?_
      intro groups d _
      have := nextDepth_rn hρ (c :: cs) d (groups.getLastD [])
      simp only [List.map_cons] at this
      rw [this]

theorem instOfGroup_rn (cs : List O2T) (info : TInfo) (depth : Nat) (g : List Nat) :
    instOfGroup (cs.map (rnO ρ)) info depth g = rnInst ρ (instOfGroup cs info depth g) := by
  unfold instOfGroup rnInst
  simp only [getD_rn]
  rfl

theorem vertAvail_rn (groups : List (List (List Nat))) (cs : List O2T) (info : TInfo) :
    vertAvail groups (cs.map (rnO ρ)) info = (vertAvail groups cs info).map (rnInst ρ) := by
  unfold vertAvail
  split
  · simp only [List.map_map]
    refine List.map_congr_left ?_
    intro g _
    exact instOfGroup_rn cs info 0 g
  · rfl

theorem vertUnavail_rn (groups : List (List (List Nat))) (cs : List O2T) (info : TInfo) :
    vertUnavail groups (cs.map (rnO ρ)) info = (vertUnavail groups cs info).map (rnInst ρ) := by
  unfold vertUnavail
  rw [List.map_flatMap]
  refine List.flatMap_congr ?_
  intro p _
  rw [List.map_filterMap]
  refine List.filterMap_congr ?_
  intro g _
  have h1 : ((cs.map (rnO ρ)).getD (g.headD 0) default).xfs = (cs.getD (g.headD 0) default).xfs := by
    rw [getD_rn]; rfl
  rw [h1]
  split
  · rfl
  · simp only [instOfGroup_rn, Option.map_some]

theorem vstep_rn (hρ : Function.Injective ρ) (P r : Inst) :
    vstep (rnInst ρ P) (rnInst ρ r) = (vstep P r).map (rnInst ρ) := by
  unfold vstep
  have hx : ∀ i : Inst, (rnInst ρ i).xf = i.xf := fun _ => rfl
  have hp : ((rnInst ρ P).param == (rnInst ρ r).param) = (P.param == r.param) := beq_map hρ _ _
  rw [hx, hx, hp]
  split
  · rfl
  · split
    · rfl
    · split <;> rfl

theorem vrem_rn (P r : Inst) (rem : List Int) : vrem (rnInst ρ P) (rnInst ρ r) rem = vrem P r rem := rfl

theorem applyVertical_rn (hρ : Function.Injective ρ) (P : Inst) (rules : List Inst) :
    applyVertical (rnInst ρ P) (rules.map (rnInst ρ)) =
      ((applyVertical P rules).1.map (rnInst ρ), (applyVertical P rules).2) := by
  have hflat : (rules.map (rnInst ρ)).flatMap (vstep (rnInst ρ P)) =
      (rules.flatMap (vstep P)).map (rnInst ρ) := by
    rw [List.flatMap_map, List.map_flatMap]
    exact List.flatMap_congr fun r _ => vstep_rn hρ P r
  have hrem : vremAll (rnInst ρ P) (rules.map (rnInst ρ)) = vremAll P rules := by
    unfold vremAll
    rw [List.foldl_map]
    rfl
  rw [applyVertical_eq, applyVertical_eq, hflat, hrem]
  have hx : (rnInst ρ P).xf = P.xf := rfl
  rw [hx]
  split
  · rfl
  · simp only [List.isEmpty_map]
    split <;> rfl

theorem instsValid_rn (l : List Inst) : instsValid (l.map (rnInst ρ)) = instsValid l := by
  unfold instsValid
  simp only [List.any_map, List.length_map]
  rfl

theorem instsList_rn (hρ : Function.Injective ρ) (info : TInfo) (req : TReq) :
    Locality.instsList info (rnReq ρ req) = (Locality.instsList info req).map (rnInst ρ) := by
  unfold Locality.instsList
  have hg : groupConsumers (rnReq ρ req).consumers = groupConsumers req.consumers := groupConsumers_rn hρ _
  have hcs : (rnReq ρ req).consumers.getD [] = (req.consumers.getD []).map (rnO ρ) := by
    unfold rnReq
    cases req.consumers <;> rfl
  simp only [hg, hcs, vertAvail_rn, vertUnavail_rn, List.map_append]
  congr 1
  cases hp : req.producer with
  | none =>
    have : (rnReq ρ req).producer = none := by unfold rnReq; rw [hp]; rfl
    rw [this]
    rfl
  | some p =>
    have : (rnReq ρ req).producer = some (rnO ρ p) := by unfold rnReq; rw [hp]; rfl
    rw [this]
    simp only []
    have hrules : (rnO ρ p).xfs.map (fun x => (⟨x, info.tensorId, info.producer, info.consumers, (rnO ρ p).param⟩ : Inst)) =
        (p.xfs.map (fun x => (⟨x, info.tensorId, info.producer, info.consumers, p.param⟩ : Inst))).map (rnInst ρ) := by
      rw [List.map_map]; rfl
    rw [hrules]
    generalize p.xfs.map (fun x => (⟨x, info.tensorId, info.producer, info.consumers, p.param⟩ : Inst)) = R
    rw [List.getLast?_map]
    cases hl : R.getLast? with
    | none => rfl
    | some P =>
      simp only [Option.map_some, applyVertical_rn hρ, List.map_append, List.map_map, ← List.map_dropLast]
      rfl

theorem tensorInsts_rn (hρ : Function.Injective ρ) (nm : List (String × TInfo)) (req : TReq) :
    tensorInsts nm (rnReq ρ req) = (tensorInsts nm req).map (rnTI ρ) := by
  rw [Locality.tensorInsts_eq, Locality.tensorInsts_eq]
  have hn : (rnReq ρ req).name = req.name := rfl
  rw [hn]
  cases Py.dictGet? nm req.name with
  | none => rfl
  | some info =>
    simp only [instsList_rn hρ, instsValid_rn]
    split <;> rfl

theorem genInsts_rn (hρ : Function.Injective ρ) (m : Model) : ∀ (reqs : List TReq),
    genInsts m (reqs.map (rnReq ρ)) = (genInsts m reqs).map fun tis => tis.map (rnTI ρ) := by
  intro reqs
  unfold genInsts
  induction reqs with
  | nil => rfl
  | cons r rs ih =>
    simp only [List.map_cons, List.mapM_cons, tensorInsts_rn hρ, ih, bind, Except.bind, pure, Except.pure]
    cases tensorInsts (nameMap m) r with
    | error e => rfl
    | ok ti =>
      simp only [Except.map]
      cases List.mapM (tensorInsts (nameMap m)) rs <;> rfl

theorem optGet_map {α β} (f : α → β) (o : Option α) : optGet (o.map f) = (optGet o).map f := by
  cases o <;> rfl

end Rename
