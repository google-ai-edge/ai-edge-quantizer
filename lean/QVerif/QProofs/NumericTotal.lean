import QProofs.NumericSites
import QProofs.MatTotalCheck
/-!
Under `Hyp` and `Bounded` no NUMERIC raise site of `Mat.generate` fires.  Two invariants of the walk over the operator
list: `StatsInv` (the entries that matter stay good: the walk writes copies of good entries and hard-coded ranges) and
`FreshInv` (an entry writes only at the names of its results, so the entry of a tensor that no walked operator produces is
the given one -- which ties the parameters a CONCATENATION hands to its constant operands to the given statistics).
At the end the Boolean forms by which a closed instance gets `Bounded` (`boundedB`) or `NumericSessions.BoundedModel` (`kindsB`)
by evaluation.
-/
open Graph Mat Arith Cfg Pipe GraphStep NumT MatParams

set_option autoImplicit false

namespace MatTotal

/-- the names whose statistics entry matters: the FLOAT32 runtime tensors that an operator selected for min/max quantization
    reads or writes, and the float32 operand of a selected same-as-input operator (RESHAPE, TRANSPOSE, …: its entry is copied
    to the results) even when it is a constant.  The entries of integer tensors (indices, the shape of a RESHAPE, …), which
    `calibrate()` records too, are never read. -/
def StatName (rx : String → String → Bool) (env : Env) (st : Recipe.State) (n : String) : Prop :=
  ∃ sg ∈ env.model.subgraphs, ∃ q ∈ allOps sg, ∃ k scope ops fn, Selected rx env st sg q k scope ops fn ∧
    (Recipe.resolve rx st k scope).1 = Tables.algMinMax ∧
    ∃ a ∈ q.1.inputs ++ q.1.outputs, a ≠ -1 ∧ ∃ t, tensorAt sg a = .ok t ∧ t.name = n ∧ t.dtype = Tables.ttFloat32 ∧
      (constData env t = none ∨ ((kindOf (Recipe.resolve rx st k scope).1 fn).isPass = true ∧ a ∈ q.1.inputs))

/-- `B = NumT.B = 2^63`; `65504` (clause `cast`) is the largest finite float16 -/
structure Bounded (rx : String → String → Bool) (env : Env) (st : Recipe.State) (qsvs : Option Qsvs) : Prop where
  consts : ∀ sg ∈ env.model.subgraphs, ∀ t ∈ sg.tensors, ∀ d, constData env t = some d → ∀ x ∈ d.data, |x| ≤ B
  /-- every relevant statistics entry is good: float32 / float64 / `exact`, `min`/`max` of one all-ones shape, magnitudes at most `B`
      (NO order between `min` and `max` is required) -/
  stats : ∀ n, StatName rx env st n → ∀ mn mx, Py.dictGet? (qsvs.getD []) n = some (some (mn, mx)) → StatGood mn mx
  /-- a CONSTANT float operand of a same-as-output operator (CONCATENATION) has the rank of the statistics of the result
      (= the rank of the result, for calibrated statistics): it is quantized with the parameters of the result -/
  concat : ∀ sg ∈ env.model.subgraphs, ∀ q ∈ allOps sg, ∀ k scope ops fn, Selected rx env st sg q k scope ops fn →
    ∀ gi, kindOf (Recipe.resolve rx st k scope).1 fn = .std .sameAsOutput gi →
    ∀ a ∈ q.1.inputs, a ≠ -1 → ∀ t, tensorAt sg a = .ok t → t.dtype = Tables.ttFloat32 → constData env t ≠ none →
    ∀ b ∈ q.1.outputs, b ≠ -1 → ∀ t', tensorAt sg b = .ok t' →
    ∀ mn mx, Py.dictGet? (qsvs.getD []) t'.name = some (some (mn, mx)) → mn.arr.shape.length = t.shape.length
  /-- a bias under static-range quantization is a vector with one element per output channel of the weight, and the
      data operand of the operator is a runtime tensor -/
  bias : ∀ sg ∈ env.model.subgraphs, ∀ q ∈ allOps sg, ∀ k scope ops fn, Selected rx env st sg q k scope ops fn →
    isSRQ (Recipe.resolve rx st k scope).2 = true →
    ∀ iIn iW iB, convSlots (kindOf (Recipe.resolve rx st k scope).1 fn) = some (iIn, iW, iB) →
    ∀ a bt, q.1.inputs[iB]? = some a → a ≠ -1 → tensorAt sg a = .ok bt →
      (∃ n, shapeNat bt = [n] ∧ ∀ aw tW, q.1.inputs[iW]? = some aw → tensorAt sg aw = .ok tW →
        ∀ qd, Py.dictGet? Tables.weightQDim k = some qd → (shapeNat tW).getD qd 1 = n) ∧
      (∀ ai tI, q.1.inputs[iIn]? = some ai → tensorAt sg ai = .ok tI → constData env tI = none)
  cast : ∀ sg ∈ env.model.subgraphs, ∀ q ∈ allOps sg, ∀ k scope ops fn, Selected rx env st sg q k scope ops fn →
    ∀ a b c, kindOf (Recipe.resolve rx st k scope).1 fn = .cast a b c →
    ∀ slot tw d, q.1.inputs[b]? = some slot → tensorAt sg slot = .ok tw → constData env tw = some d → ∀ x ∈ d.data, |x| ≤ 65504

def StatsInv (rx : String → String → Bool) (env : Env) (st : Recipe.State) (qs : Qsvs) : Prop :=
  ∀ n, StatName rx env st n → ∀ mn mx, Py.dictGet? qs n = some (some (mn, mx)) → StatGood mn mx

theorem finB_sound (v : Rat) (h : finB v = true) : |v| ≤ B := by
  unfold finB at h
  simp only [Bool.and_eq_true, decide_eq_true_eq] at h
  have hB : (1000000:Rat) ≤ B := by unfold B; norm_num
  exact abs_le.mpr ⟨by linarith, by linarith⟩

theorem statGoodB_sound (mm : FArr × FArr) (h : statGoodB mm = true) : StatGood mm.1 mm.2 := by
  unfold statGoodB at h
  simp only [Bool.and_eq_true, Bool.or_eq_true, beq_iff_eq, List.all_eq_true] at h
  obtain ⟨⟨⟨⟨⟨h1, h2⟩, h3⟩, h4⟩, h5⟩, h6⟩ := h
  exact ⟨⟨or_assoc.1 h1, or_assoc.1 h2, h3,
    fun v hv => finB_sound v (h4 v hv), fun v hv => finB_sound v (h5 v hv)⟩, h6⟩

theorem fixed_minMax_good (sl sym : Bool) (bits : Nat) (fp : QParams) (mm : FArr × FArr)
    (hf : fixedParams sl bits = some fp) (hm : minMaxFromParams bits sym fp = .ok mm) : StatGood mm.1 mm.2 := by
  obtain ⟨fp', mm', hf', hm', hg⟩ := fixedRange_total sl sym (Mat.fixedParams_some hf).1
  rw [hf] at hf'; cases hf'
  rw [hm] at hm'; cases hm'
  exact statGoodB_sound mm hg

theorem statsInv_writes {rx : String → String → Bool} {env : Env} {st : Recipe.State} (w : List (String × Qsv)) (qs : Qsvs)
    (hw : ∀ e ∈ w, ∀ mn mx, e.2 = some (mn, mx) → StatGood mn mx) (hinv : StatsInv rx env st qs) :
    StatsInv rx env st (Locality.applyW w qs) := by
  intro n hn mn mx hget
  rcases Locality.applyW_get w qs n _ hget with ⟨e, he, -, hv⟩ | hold
  · exact hw e he mn mx hv
  · exact hinv n hn mn mx hold

/-- a copied entry is a good one (the operand of a same-as-input operator is a relevant name), the fixed ranges are good -/
theorem opReqs_statsInv (rx : String → String → Bool) (env : Env) (st : Recipe.State) (sg : Subgraph)
    (hsg : sg ∈ env.model.subgraphs) (sIdx : Nat) (q : Op × Option String × Int) (hq : q ∈ allOps sg)
    (qs : Qsvs) (rs : List CReq) (qs' : Qsvs) (hinv : StatsInv rx env st qs)
    (h : opReqs rx env st sIdx sg qs q = .ok (rs, qs')) : StatsInv rx env st qs' := by
  rcases opReqs_ok h with ⟨_, rfl, -⟩ | ⟨k, scope, ops, fn, S, hrun⟩
  · exact hinv
  have hA := (Pipe.kindAlg_of_registry S.hops S.hfn).2
  obtain ⟨w, rfl, hw⟩ := runKind_writes hrun
  refine statsInv_writes w qs (fun e he mn mx hv => ?_) hinv
  generalize hkd : kindOf (Recipe.resolve rx st k scope).1 fn = kd at hw hA
  cases hw e he with
  | fixed sl a fp mm n ha hfp hmm =>
    cases hv
    exact fixed_minMax_good sl a.symmetric a.bits.toNat fp (mn, mx) hfp hmm
  | copy gi t o outT iq hI hO ho hiq =>
    cases hv
    refine hinv t.name ?_ mn mx hiq
    obtain ⟨i, a, hia, hane, hat, hfl, _⟩ := floatSlots_mem sg _ true gi [t] hI t List.mem_cons_self
    simp only [if_true] at hia
    exact ⟨sg, hsg, q, hq, k, scope, ops, fn, S, hA.1, a, List.mem_append_left _ (List.mem_of_getElem? hia), hane, t, hat, rfl,
      hfl, .inr ⟨by rw [hkd]; rfl, List.mem_of_getElem? hia⟩⟩

theorem reach_statsInv (rx : String → String → Bool) (env : Env) (st : Recipe.State) (qsvs : Option Qsvs)
    (Bd : Bounded rx env st qsvs) (pre post : List ((Subgraph × Nat) × (Op × Option String × Int))) (s : GState)
    (hl : flatOps env.model = pre ++ post) (h : Reach rx env st qsvs pre s) : StatsInv rx env st s.1 := by
  refine reach_rule (fun _ s => StatsInv rx env st s.1) Bd.stats (fun p x a b hx hI hs => ?_) hl h
  obtain ⟨hsg, hq⟩ := mem_flatOps env.model x hx
  obtain ⟨rs, hr, _⟩ := opStep_ok rx env st x.1.2 x.1.1 a b x.2 hs
  exact opReqs_statsInv rx env st x.1.1 (List.mem_of_getElem? hsg) x.1.2 x.2 hq a.1 rs b.1 hI hr

theorem opReqs_frame (rx : String → String → Bool) (env : Env) (st : Recipe.State) (sIdx : Nat) (sg : Subgraph)
    (q : Op × Option String × Int) (qs : Qsvs) (rs : List CReq) (qs' : Qsvs)
    (h : opReqs rx env st sIdx sg qs q = .ok (rs, qs')) :
    ∀ n, n ∉ outNames sg q.1 → Py.dictGet? qs' n = Py.dictGet? qs n := by
  intro n hn
  rcases opReqs_ok h with ⟨_, rfl, -⟩ | ⟨k, scope, ops, fn, -, hrun⟩
  · rfl
  obtain ⟨w, rfl, hw⟩ := runKind_writes hrun
  exact Locality.applyW_frame (N := fun x => decide (x ∈ outNames sg q.1)) w (fun e he => decide_eq_true (hw e he).name_mem) n
    (decide_eq_false hn) qs

def FreshInv (qsvs : Option Qsvs) (pre : List ((Subgraph × Nat) × (Op × Option String × Int))) (qs : Qsvs) : Prop :=
  ∀ n, n ∉ producedBy pre → Py.dictGet? qs n = Py.dictGet? (qsvs.getD []) n

theorem reach_fresh (rx : String → String → Bool) (env : Env) (st : Recipe.State) (qsvs : Option Qsvs)
    (pre post : List ((Subgraph × Nat) × (Op × Option String × Int))) (s : GState)
    (hl : flatOps env.model = pre ++ post) (h : Reach rx env st qsvs pre s) : FreshInv qsvs pre s.1 := by
  refine reach_rule (fun p s => FreshInv qsvs p s.1) (fun _ _ => rfl) (fun p x a b _ hI hs => ?_) hl h
  obtain ⟨rs, hr, _⟩ := opStep_ok rx env st x.1.2 x.1.1 a b x.2 hs
  intro n hn
  unfold producedBy at hn
  rw [List.flatMap_append, List.mem_append, not_or] at hn
  simp only [List.flatMap_cons, List.flatMap_nil, List.append_nil] at hn
  rw [opReqs_frame rx env st x.1.2 x.1.1 x.2 a.1 rs b.1 hr n hn.2]
  exact hI n hn.1

/-- what every algorithm registers for BATCH_MATMUL has no bias (the registration of a bias-processing function promises
    a bias slot: `Pipe.KindOK`) -/
theorem conv_notBMM_of {alg k fn : String} {ops : List (String × String)} {p : Nat × Nat × Nat}
    (hr : Py.dictGet? Tables.registry alg = some ops) (hf : Py.dictGet? ops k = some fn)
    (hc : convSlots (kindOf alg fn) = some p) : k ≠ "BATCH_MATMUL" := by
  rintro rfl
  have hK := (Pipe.kindAlg_of_registry hr hf).1
  generalize kindOf alg fn = kd at hK hc
  cases kd with
  | conv => exact absurd hK.2.2.1 (by decide)
  | convT => exact absurd hK.2.2.1 (by decide)
  | _ => cases hc

theorem numKind_of_bounded (rx : String → String → Bool) (env : Env) (st : Recipe.State) (qsvs : Option Qsvs)
    (H : Hyp rx env st qsvs) (Bd : Bounded rx env st qsvs) (sg : Subgraph) (hsg : sg ∈ env.model.subgraphs) (sIdx : Nat)
    (q : Op × Option String × Int) (hq : q ∈ allOps sg) (k scope fn : String) (ops : List (String × String))
    (S : Selected rx env st sg q k scope ops fn) (qs : Qsvs) (hinv : StatsInv rx env st qs)
    (hfresh : ∀ n ∈ outNames sg q.1, Py.dictGet? qs n = Py.dictGet? (qsvs.getD []) n) :
    NumKind env sg qs
      { sgIdx := sIdx, op := q.1, opName := k, opId := q.2.2, cfg := (Recipe.resolve rx st k scope).2 }
      (kindOf (Recipe.resolve rx st k scope).1 fn) := by
  have hS : SgOK env.model sg := ((modelOK_iff _).1 H.nf.wf).2.1 sg hsg
  have houtRun : (kindOf (Recipe.resolve rx st k scope).1 fn).isStdNone = false → ∀ (go : List Nat) (t : Tensor),
      SlotTensor sg q.1 false go t → constData env t = none := by
    intro hkn go t ⟨i, a, hia, hane, hat, _, _⟩
    exact (ConstProv.outNC_allOps env st H.nf.genHyp sg hsg q hq).atSlot ⟨a, List.mem_of_getElem? hia, hane, hat⟩
  have hrun : (Recipe.resolve rx st k scope).1 = Tables.algMinMax → ∀ (b : Bool) (gg : List Nat) (t : Tensor),
      SlotTensor sg q.1 b gg t → constData env t = none →
      ∀ mn mx, Py.dictGet? qs t.name = some (some (mn, mx)) → StatGood mn mx := by
    intro halg b gg t ⟨i, a, hia, hane, hat, hfl, _⟩ hc mn mx hg
    refine hinv t.name ⟨sg, hsg, q, hq, k, scope, ops, fn, S, halg, a, ?_, hane, t, hat, rfl, hfl, .inl hc⟩ mn mx hg
    cases b
    · exact List.mem_append_right _ (List.mem_of_getElem? hia)
    · exact List.mem_append_left _ (List.mem_of_getElem? hia)
  have mkStd : ∀ con gi, (Recipe.resolve rx st k scope).1 = Tables.algMinMax →
      C13.modeOK k (Recipe.resolve rx st k scope).2 = true →
      (con = .sameAsInput → kindOf (Recipe.resolve rx st k scope).1 fn = .std .sameAsInput gi) →
      (con = .sameAsOutput → kindOf (Recipe.resolve rx st k scope).1 fn = .std .sameAsOutput gi) →
      NumStd env sg qs
        { sgIdx := sIdx, op := q.1, opName := k, opId := q.2.2, cfg := (Recipe.resolve rx st k scope).2 } con gi [] := by
    intro con gi halg hmode h1 h2
    refine { mode := hmode, run := fun b t hst => hrun halg b _ t hst, const := Bd.consts sg hsg, outRun := ?_, inRank := ?_ }
    · intro hc t hst
      exact houtRun (by rw [h1 hc]; rfl) [] t hst
    · intro hc t' hst'
      refine ⟨houtRun (by rw [h2 hc]; rfl) [] t' hst', ?_⟩
      intro mn mx hent t ⟨i, a, hia, hane, hat, hf, _⟩ d hd
      simp only [if_true] at hia
      obtain ⟨i', b, hib, hbne, hbt, _, _⟩ := hst'
      simp only [Bool.false_eq_true, if_false] at hib
      -- `Bounded.concat` speaks of the GIVEN statistics; the entry of a result in the walked dictionary is still the given one
      -- because no earlier entry produces that name (`hfresh`, from `FreshInv` + `fresh_outNames`)
      rw [hfresh t'.name (slotTensor_outName sg q.1 [] t' ⟨i', b, hib, hbne, hbt, ‹_›, ‹_›⟩)] at hent
      rw [(constData_shape env t d hd).2]
      exact Bd.concat sg hsg q hq k scope ops fn S gi (h2 hc) a (List.mem_of_getElem? hia) hane t hat hf
        (by rw [hd]; exact fun h => by cases h) b (List.mem_of_getElem? hib) hbne t' hbt mn mx hent
  have mkBias : ∀ iIn iW iB, convSlots (kindOf (Recipe.resolve rx st k scope).1 fn) = some (iIn, iW, iB) →
      NumBias env sg
        { sgIdx := sIdx, op := q.1, opName := k, opId := q.2.2, cfg := (Recipe.resolve rx st k scope).2 } iIn iW iB := by
    intro iIn iW iB hcs
    refine { notBMM := conv_notBMM_of S.hops S.hfn hcs, shape := ?_, dataRun := ?_ }
    · intro hsrq a bt ha hne hat
      exact (Bd.bias sg hsg q hq k scope ops fn S hsrq iIn iW iB hcs a bt ha hne hat).1
    · intro hsrq a ha hne ai tI hai hati
      obtain ⟨bt, hbt⟩ : ∃ bt, tensorAt sg a = .ok bt := by
        obtain ⟨hvI, _⟩ := entry_valid env.model sg hS q hq
        exact tensorAt_total sg a (hvI a (List.mem_of_getElem? ha)) (H.tensorsNE sg hsg)
      exact (Bd.bias sg hsg q hq k scope ops fn S hsrq iIn iW iB hcs a bt ha hne hbt).2 ai tI hai hati
  have V := S.view H.noSkip
  generalize hk : kindOf (Recipe.resolve rx st k scope).1 fn = kd at V ⊢
  cases V with
  | std con gi halg hmode _ => exact mkStd con gi halg hmode (fun h => by rw [hk, h]) (fun h => by rw [hk, h])
  -- `con = .none`: neither `outRun` nor `inRank` has a premise
  | conv halg hmode _ => exact ⟨mkStd .none [2] halg hmode nofun nofun, mkBias 0 1 2 (by rw [hk]; rfl)⟩
  | convT halg hmode _ => exact ⟨mkStd .none [0, 3] halg hmode nofun nofun, mkBias 2 1 3 (by rw [hk]; rfl)⟩
  | fixed sl halg hmode _ => exact mkStd .none [] halg hmode nofun nofun
  | cast a b c => exact fun slot tw d hs ht hd => Bd.cast sg hsg q hq k scope ops fn S a b c hk slot tw d hs ht hd

theorem genSite_num_absurd (rx : String → String → Bool) (env : Env) (st : Recipe.State) (qsvs : Option Qsvs)
    (H : Hyp rx env st qsvs) (Bd : Bounded rx env st qsvs) (e : PyErr) : ¬ GenSite rx env st qsvs true e := by
  intro hsite
  cases hsite with
  | atOp _ pre post sg sIdx q s e hl hreach hstep =>
    have hx : ((sg, sIdx), q) ∈ flatOps env.model := by rw [hl]; exact List.mem_append_right _ List.mem_cons_self
    obtain ⟨hsg, hq⟩ := mem_flatOps env.model _ hx
    have hsgm : sg ∈ env.model.subgraphs := List.mem_of_getElem? hsg
    have hI := reach_inv rx env st qsvs H pre _ s hl hreach
    have hSI := reach_statsInv rx env st qsvs Bd pre _ s hl hreach
    cases hstep with
    | op _ k scope fn ops e hk hs hne ho hf hop =>
      have S : Selected rx env st sg q k scope ops fn := ⟨hk, hs, hne, ho, hf⟩
      have C := entry_ctx rx env st qsvs H sg hsgm sIdx q hq k scope fn ops S s.1 hI.present
      have hF := reach_fresh rx env st qsvs pre _ s hl hreach
      have hfresh : ∀ n ∈ outNames sg q.1, Py.dictGet? s.1 n = Py.dictGet? (qsvs.getD []) n := by
        intro n hn
        refine hF n (fun hp => ?_)
        exact fresh_outNames env.model H.nf.wf H.names pre post ((sg, sIdx), q) hl n hp hn
      exact opSite_num_absurd env sg s.1 _ _ e C
        (numKind_of_bounded rx env st qsvs H Bd sg hsgm sIdx q hq k scope fn ops S s.1 hSI hfresh) hop

/-! `boundedB` evaluates the clauses of `Bounded` (constants and statistics against the `10^6` of `finB`, well inside `B`);
`kindsB` instead excludes the kinds about which `concat` / `bias` / `cast` say anything (for `NumericSessions.BoundedModel`,
QProps/C08e). -/

def constsB (env : Env) : Bool :=
  env.model.subgraphs.all fun sg => sg.tensors.all fun t => (constData env t).all fun d => d.data.all finB

theorem constsB_sound {env : Env} (h : constsB env = true) :
    ∀ sg ∈ env.model.subgraphs, ∀ t ∈ sg.tensors, ∀ d, constData env t = some d → ∀ x ∈ d.data, |x| ≤ B := by
  intro sg hsg t ht d hd x hx
  have := List.all_eq_true.1 (List.all_eq_true.1 h sg hsg) t ht
  rw [hd] at this
  exact finB_sound x (List.all_eq_true.1 this x hx)

/-- the clauses `concat`, `bias`, `cast` of `Bounded` for one entry, as a Boolean -/
def clausesB (env : Env) (qs : Qsvs) (sg : Subgraph) (q : Op × Option String × Int) (k : String) (cfg : OpCfg) (kd : Kind) : Bool :=
  (match kd with
   | .std .sameAsOutput _ =>
     decide (∀ a ∈ q.1.inputs, a ≠ -1 → ∀ t, tensorAt sg a = .ok t → t.dtype = Tables.ttFloat32 → constData env t ≠ none →
       ∀ b ∈ q.1.outputs, b ≠ -1 → ∀ t', tensorAt sg b = .ok t' →
       (match Py.dictGet? qs t'.name with
        | some (some p) => decide (p.1.arr.shape.length = t.shape.length)
        | _ => true) = true)
   | .cast _ b _ =>
     decide (∀ slot, q.1.inputs[b]? = some slot → ∀ tw, tensorAt sg slot = .ok tw → ∀ d, constData env tw = some d →
       ∀ x ∈ d.data, |x| ≤ 65504)
   | _ => true) &&
  (!isSRQ cfg || decide (∀ s, convSlots kd = some s → ∀ a, q.1.inputs[s.2.2]? = some a → a ≠ -1 → ∀ bt, tensorAt sg a = .ok bt →
    (match shapeNat bt with
     | [n] => decide (∀ aw, q.1.inputs[s.2.1]? = some aw → ∀ tW, tensorAt sg aw = .ok tW →
         ∀ qd, Py.dictGet? Tables.weightQDim k = some qd → (shapeNat tW).getD qd 1 = n)
     | _ => false) = true ∧
    ∀ ai, q.1.inputs[s.1]? = some ai → ∀ tI, tensorAt sg ai = .ok tI → constData env tI = none))

/-- Boolean form of `Bounded` for closed instances (every statistics entry is checked, relevant or not) -/
def boundedB (rx : String → String → Bool) (env : Env) (st : Recipe.State) (qs : Qsvs) : Bool :=
  constsB env && qs.all (fun e => e.2.all statGoodB) &&
  env.model.subgraphs.all fun sg => (allOps sg).all fun q => (selectedOf rx env st sg q).all fun x =>
    clausesB env qs sg q x.1 (Recipe.resolve rx st x.1 x.2.1).2 (kindOf (Recipe.resolve rx st x.1 x.2.1).1 x.2.2.2)

theorem boundedB_sound (rx : String → String → Bool) (env : Env) (st : Recipe.State) (qs : Qsvs)
    (h : boundedB rx env st qs = true) : Bounded rx env st (some qs) := by
  unfold boundedB at h
  simp only [Bool.and_eq_true, List.all_eq_true] at h
  obtain ⟨⟨hc, hs⟩, hcl⟩ := h
  have cl : ∀ sg ∈ env.model.subgraphs, ∀ q ∈ allOps sg, ∀ k scope ops fn, Selected rx env st sg q k scope ops fn →
      clausesB env qs sg q k (Recipe.resolve rx st k scope).2 (kindOf (Recipe.resolve rx st k scope).1 fn) = true := by
    intro sg hsg q hq k scope ops fn S
    have := hcl sg hsg q hq
    rw [S.selectedOf_eq] at this
    exact this
  refine { consts := constsB_sound hc, stats := ?_, concat := ?_, bias := ?_, cast := ?_ }
  · intro n _ mn mx hget
    exact statGoodB_sound (mn, mx) (by simpa using hs _ (Py.dictGet?_mem _ _ _ hget))
  · intro sg hsg q hq k scope ops fn S gi hk a ha hne t hat hdt hcd b hb hbne t' hat' mn mx hget
    have := cl sg hsg q hq k scope ops fn S
    unfold clausesB at this
    rw [hk] at this
    simp only [Bool.and_eq_true, decide_eq_true_eq] at this
    have := this.1 a ha hne t hat hdt hcd b hb hbne t' hat'
    rw [show Py.dictGet? qs t'.name = some (some (mn, mx)) from hget] at this
    exact of_decide_eq_true this
  · intro sg hsg q hq k scope ops fn S hsrq iIn iW iB hcs a bt ha hne hat
    have := cl sg hsg q hq k scope ops fn S
    unfold clausesB at this
    simp only [Bool.and_eq_true, Bool.or_eq_true, Bool.not_eq_true', hsrq, Bool.true_eq_false, false_or, decide_eq_true_eq] at this
    obtain ⟨hb, hi⟩ := this.2 _ hcs a ha hne bt hat
    refine ⟨?_, fun ai tI hai hatI => hi ai hai tI hatI⟩
    split at hb
    · next n hn => exact ⟨n, hn, fun aw tW haw hatW qd hqd => of_decide_eq_true hb aw haw tW hatW qd hqd⟩
    · cases hb
  · intro sg hsg q hq k scope ops fn S a b c hk slot tw d hslot hat hcd x hx
    have := cl sg hsg q hq k scope ops fn S
    unfold clausesB at this
    rw [hk] at this
    simp only [Bool.and_eq_true, decide_eq_true_eq] at this
    exact this.1 slot hslot tw hat d hcd x hx

/-- Boolean form, for closed instances, of "what resolution selects for an entry of an operator list is a fixed-range
    operator (TANH), an unconstrained one, or a convolution-like one whose entry and key are listed in `cv`": the
    kinds about which the clauses `cat`, `bias`, `cast` of `BoundedModel` say anything are excluded or listed -/
def kindsB (rx : String → String → Bool) (env : Env) (st : Recipe.State) (cv : List ((Op × Option String × Int) × String)) : Bool :=
  env.model.subgraphs.all fun sg => (allOps sg).all fun q => (selectedOf rx env st sg q).all fun x =>
    (kindOf (Recipe.resolve rx st x.1 x.2.1).1 x.2.2.2 == .conv && decide ((q, x.1) ∈ cv)) ||
    kindOf (Recipe.resolve rx st x.1 x.2.1).1 x.2.2.2 == .fixed false ||
    kindOf (Recipe.resolve rx st x.1 x.2.1).1 x.2.2.2 == .std .none []

theorem kindsB_sound {rx : String → String → Bool} {env : Env} {st : Recipe.State} {cv : List ((Op × Option String × Int) × String)}
    (h : kindsB rx env st cv = true) {sg : Subgraph} (hsg : sg ∈ env.model.subgraphs) {q : Op × Option String × Int}
    (hq : q ∈ allOps sg) {k scope fn : String} {ops : List (String × String)} (S : Selected rx env st sg q k scope ops fn) :
    ((q, k) ∈ cv ∧ kindOf (Recipe.resolve rx st k scope).1 fn = .conv) ∨
    kindOf (Recipe.resolve rx st k scope).1 fn = .fixed false ∨
    kindOf (Recipe.resolve rx st k scope).1 fn = .std .none [] := by
  have := List.all_eq_true.1 (List.all_eq_true.1 h sg hsg) q hq
  rw [S.selectedOf_eq] at this
  simp only [Option.all_some, Bool.or_eq_true, Bool.and_eq_true, beq_iff_eq, decide_eq_true_eq] at this
  rcases this with (⟨h1, h2⟩ | h) | h
  · exact .inl ⟨h2, h1⟩
  · exact .inr (.inl h)
  · exact .inr (.inr h)

end MatTotal
