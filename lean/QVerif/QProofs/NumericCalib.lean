import QProofs.CalibExact
import QProofs.NumericArray
/-!
Statistics recorded by `calibrate()` are good: finite, per-tensor, ordered.  The moving average
`rn (rn (c1·w) + rn (c2·u))` is monotone in both arguments, hence keeps `min ≤ max`, and `B = 2^63` is a fixed point of it
in float32 and in float64, hence it keeps `|·| ≤ B`.  So a class of statistics that `minMaxAll` produces from the contents
(`SampleIn`) and `ema` keeps (`EmaKeeps`) is an invariant (`GInv`) of `calibrateSample`, of `calibrate` (fresh or resumed) and of a
list of sessions (`calibrate_ginv`, `sessions_sinv`).  Namespace `MatTotal`; the moving average element by element (`emaEl`,
`emaArr_elem`) is in `ArrLemmas`.
-/
open Graph Mat Arith Num Nd Calib CalibExact NumT MatParams

set_option autoImplicit false

namespace MatTotal

/-- one element of `_update_moving_average` on float32 statistics -/
def emaE (w u : Rat) : Rat := Prec.f32.rn (Prec.f32.rn (c1 * w) + Prec.f32.rn (c2 * u))

theorem emaC1_nonneg (p : Prec) : 0 ≤ emaC1 p := PrecL.rn_nonneg _ (PrecL.rn_nonneg _ (by norm_num))

theorem emaC2_nonneg (p : Prec) : 0 ≤ emaC2 p := by
  refine PrecL.rn_nonneg _ (PrecL.rn_nonneg _ ?_)
  have h0 : (19:Rat)/20 ≤ (2:Rat)^(0:Int) := by norm_num
  have := PrecL.rn_le_pow .f64 0 (.inr (by simp [Prec.emin])) h0
  simp only [zpow_zero] at this
  linarith

theorem emaEl_mono (p : Prec) {w w' u u' : Rat} (hw : w ≤ w') (hu : u ≤ u') : emaEl p w u ≤ emaEl p w' u' := by
  unfold emaEl
  refine PrecL.rn_mono _ (add_le_add (PrecL.rn_mono _ ?_) (PrecL.rn_mono _ ?_))
  · exact mul_le_mul_of_nonneg_left hw (emaC1_nonneg p)
  · exact mul_le_mul_of_nonneg_left hu (emaC2_nonneg p)

/-- `B = 2^63` is a fixed point of the moving average in float32 and in float64 (closed evaluation: the two weights sum to
    `1 − 1.1e-8` in float32, which rounds to 1, and to 1 exactly in float64) -/
theorem emaEl_B : ∀ p ∈ [Prec.f32, Prec.f64], emaEl p ((2:Rat)^(63:Int)) ((2:Rat)^(63:Int)) = (2:Rat)^(63:Int) ∧
    emaEl p (-(2:Rat)^(63:Int)) (-(2:Rat)^(63:Int)) = -(2:Rat)^(63:Int) := by
  decide +kernel

theorem emaEl_bounded (p : Prec) (hp : p = .f32 ∨ p = .f64) {w u : Rat} (hw : |w| ≤ B) (hu : |u| ≤ B) : |emaEl p w u| ≤ B := by
  obtain ⟨hB1, hB2⟩ := emaEl_B p (by rcases hp with rfl | rfl <;> simp)
  obtain ⟨w1, w2⟩ := abs_le.mp hw
  obtain ⟨u1, u2⟩ := abs_le.mp hu
  have h1 := emaEl_mono p w2 u2
  have h2 := emaEl_mono p w1 u1
  unfold B at h1 h2 ⊢
  rw [hB1] at h1
  rw [hB2] at h2
  exact abs_le.mpr ⟨h2, h1⟩

theorem emaPr_cases (a b : Prec) (ha : F3264 a) (hb : F3264 b) : emaPr a b = .f32 ∨ emaPr a b = .f64 := by
  rcases ha with rfl | rfl | rfl <;> rcases hb with rfl | rfl | rfl <;> decide

/-- good AND ordered float32 statistics -/
structure StatOrd (mn mx : FArr) : Prop where
  prMn : mn.pr = .f32
  prMx : mx.pr = .f32
  shape : mn.arr.shape = mx.arr.shape
  ones : ∀ d ∈ mn.arr.shape, d = 1
  bMn : ∀ v ∈ mn.arr.data, |v| ≤ B
  bMx : ∀ v ∈ mx.arr.data, |v| ≤ B
  ord : ∀ k, mn.arr.data.getD k 0 ≤ mx.arr.data.getD k 0

theorem StatOrd.good {mn mx : FArr} (h : StatOrd mn mx) : StatGood mn mx :=
  ⟨⟨.inl h.prMn, .inl h.prMx, h.shape, h.bMn, h.bMx⟩, h.ones⟩

/-- `StatOrd` in any ONE format (float32, float64 or `exact`), with the rank `k` of the all-ones shape -/
structure StatOrdK (k : Nat) (mn mx : FArr) : Prop where
  pr : F3264 mn.pr
  prEq : mx.pr = mn.pr
  shape : mn.arr.shape = mx.arr.shape
  ones : ∀ d ∈ mn.arr.shape, d = 1
  rank : mn.arr.shape.length = k
  bMn : ∀ v ∈ mn.arr.data, |v| ≤ B
  bMx : ∀ v ∈ mx.arr.data, |v| ≤ B
  ord : ∀ j, mn.arr.data.getD j 0 ≤ mx.arr.data.getD j 0

theorem StatOrdK.good {k : Nat} {mn mx : FArr} (h : StatOrdK k mn mx) : StatGood mn mx :=
  ⟨⟨h.pr, by rw [h.prEq]; exact h.pr, h.shape, h.bMn, h.bMx⟩, h.ones⟩

theorem StatOrd.toK {mn mx : FArr} (h : StatOrd mn mx) : StatOrdK mn.arr.shape.length mn mx :=
  ⟨.inl h.prMn, by rw [h.prMx, h.prMn], h.shape, h.ones, rfl, h.bMn, h.bMx, h.ord⟩

theorem minMaxAll_ordK (d : FArr) (hpr : F3264 d.pr) (hb : ∀ v ∈ d.arr.data, |v| ≤ B) (v : Qsv)
    (h : minMaxAll d = .ok v) : ∃ mn mx, v = some (mn, mx) ∧ StatOrdK d.arr.shape.length mn mx ∧ mn.pr = d.pr := by
  unfold minMaxAll at h
  obtain ⟨lo, hlo, h⟩ := PyM.bind_eq_ok_iff.1 h
  obtain ⟨hi, hhi, h⟩ := PyM.bind_eq_ok_iff.1 h
  cases PyM.pure_eq_ok_iff.1 h
  obtain ⟨hs, hle⟩ := reduceKeep_min_le_max d.arr none lo hi hlo hhi
  have hsh : lo.shape = keepShape d.arr.shape none := (reduceKeep_spec _ _ sel_min d.arr none lo hlo).2.1
  refine ⟨_, _, rfl, ⟨hpr, rfl, hs, ?_, ?_, reduceKeep_bounded _ _ sel_min _ _ _ hlo hb,
    reduceKeep_bounded _ _ sel_max _ _ _ hhi hb, hle⟩, rfl⟩
  · intro x hx
    rw [show (FArr.mk lo d.pr).arr.shape = keepShape d.arr.shape none from hsh] at hx
    obtain ⟨_, _, rfl⟩ := List.mem_map.1 hx
    rfl
  · exact hsh ▸ keepShape_length _ _

/-- `moving_average_update` keeps good, ordered statistics good and ordered, in every format: two float32 pairs give
    a float32 pair, every other combination a float64 pair; all-ones shapes of ranks `k1`, `k2` broadcast to rank
    `max k1 k2` -/
theorem ema_ord_max (k1 k2 : Nat) (mn mx nmn nmx : FArr) (O : StatOrdK k1 mn mx) (N : StatOrdK k2 nmn nmx) (v : Qsv)
    (h : ema (some (mn, mx)) (some (nmn, nmx)) = .ok v) :
    ∃ a b, v = some (a, b) ∧ StatOrdK (max k1 k2) a b ∧ a.pr = emaPr mn.pr nmn.pr := by
  unfold ema at h
  obtain ⟨a, ha, h⟩ := PyM.bind_eq_ok_iff.1 h
  obtain ⟨b, hb, h⟩ := PyM.bind_eq_ok_iff.1 h
  cases PyM.pure_eq_ok_iff.1 h
  obtain ⟨pa, rs, hrs, hsa, hda⟩ := emaArr_elem mn nmn a ha
  obtain ⟨pb, rs', hrs', hsb, hdb⟩ := emaArr_elem mx nmx b hb
  rw [← O.shape, ← N.shape, hrs] at hrs'
  cases hrs'
  rw [O.prEq, N.prEq] at pb hdb
  have hrs2 : rs = padLeft _ _ := (Option.some.inj ((bshapeAny_ones_left _ _ O.ones).symm.trans hrs)).symm
  have hones : ∀ d ∈ rs, d = 1 := hrs2 ▸ padLeft_ones _ _ N.ones
  have hmxo : ∀ d ∈ mx.arr.shape, d = 1 := by rw [← O.shape]; exact O.ones
  have hnmxo : ∀ d ∈ nmx.arr.shape, d = 1 := by rw [← N.shape]; exact N.ones
  have hp := emaPr_cases mn.pr nmn.pr O.pr N.pr
  have hrk : rs.length = max k1 k2 := by rw [hrs2, padLeft_length, O.rank, N.rank]; omega
  refine ⟨a, b, rfl, ⟨?_, by rw [pa, pb], by rw [hsa, hsb], by rw [hsa]; exact hones, by rw [hsa]; exact hrk, ?_, ?_, ?_⟩, pa⟩
  · rw [pa]
    rcases hp with h | h <;> rw [h]
    · exact .inl rfl
    · exact .inr (.inl rfl)
  · intro x hx
    rw [hda] at hx
    obtain ⟨i, _, rfl⟩ := List.mem_map.1 hx
    exact emaEl_bounded _ hp (getD_bounded _ _ O.bMn) (getD_bounded _ _ N.bMn)
  · intro x hx
    rw [hdb] at hx
    obtain ⟨i, _, rfl⟩ := List.mem_map.1 hx
    exact emaEl_bounded _ hp (getD_bounded _ _ O.bMx) (getD_bounded _ _ N.bMx)
  · intro j
    rw [hda, hdb]
    by_cases hj : j < numel rs
    · rw [List.getD_eq_getElem?_getD, List.getD_eq_getElem?_getD,
        List.getElem?_eq_getElem (by simpa using hj), List.getElem?_eq_getElem (by simpa using hj)]
      simp only [List.getElem_map, List.getElem_range, Option.getD_some]
      rw [bindex_ones rs _ O.ones, bindex_ones rs _ N.ones, bindex_ones rs _ hmxo, bindex_ones rs _ hnmxo]
      exact emaEl_mono _ (O.ord 0) (N.ord 0)
    · rw [List.getD_eq_getElem?_getD, List.getD_eq_getElem?_getD,
        List.getElem?_eq_none (by simpa using hj), List.getElem?_eq_none (by simpa using hj)]

theorem ema_ordK (k : Nat) (mn mx nmn nmx : FArr) (O : StatOrdK k mn mx) (N : StatOrdK k nmn nmx) (v : Qsv)
    (h : ema (some (mn, mx)) (some (nmn, nmx)) = .ok v) : ∃ a b, v = some (a, b) ∧ StatOrdK k a b := by
  obtain ⟨a, b, hv, K, _⟩ := ema_ord_max k k mn mx nmn nmx O N v h
  rw [Nat.max_self] at K
  exact ⟨a, b, hv, K⟩

theorem ema_ord (mn mx nmn nmx : FArr) (O : StatOrd mn mx) (N : StatOrd nmn nmx) (v : Qsv)
    (h : ema (some (mn, mx)) (some (nmn, nmx)) = .ok v) : ∃ a b, v = some (a, b) ∧ StatOrd a b := by
  obtain ⟨a, b, hv, K, hp⟩ := ema_ord_max _ _ mn mx nmn nmx O.toK N.toK v h
  rw [O.prMn, N.prMn] at hp
  exact ⟨a, b, hv, hp, K.prEq.trans hp, K.shape, K.ones, K.bMn, K.bMx, K.ord⟩

def GInv (P : String → Prop) (G : String → FArr → FArr → Prop) (qs : Qsvs) : Prop :=
  ∀ n, P n → ∀ mn mx, Py.dictGet? qs n = some (some (mn, mx)) → G n mn mx

def SampleIn (P : String → Prop) (G : String → FArr → FArr → Prop) (c : Contents) : Prop :=
  ∀ n, P n → ∀ m, sampleStat n c = .ok m → ∃ a b, m = some (a, b) ∧ G n a b

def EmaKeeps (G : String → FArr → FArr → Prop) : Prop :=
  ∀ n mn mx a b v, G n mn mx → G n a b → ema (some (mn, mx)) (some (a, b)) = .ok v → ∃ x y, v = some (x, y) ∧ G n x y

/-- fresh or resumed; no name of `P` may be the name of a constant, whose entry `initModel` fills -/
theorem calibrate_ginv (P : String → Prop) (G : String → FArr → FArr → Prop) (hG : EmaKeeps G)
    (rx : String → String → Bool) (env : Env) (st : Recipe.State)
    (hP : ∀ n, P n → ¬ ConstNamed env n) (sgi : Nat) (previous : Option Qsvs) (samples : List Contents) (qs : Qsvs)
    (hneed : Recipe.needCalibration st = true) (hprev : GInv P G (previous.getD []))
    (hcont : ∀ c ∈ samples, SampleIn P G c)
    (h : calibrate rx env st sgi previous samples = .ok qs) : GInv P G qs := by
  obtain ⟨q0, hq0, hfold⟩ := CalibProofs.calibrate_cases hneed h
  intro n hn
  refine CalibProofs.samples_rule hfold n (fun o => ∀ mn mx, o = some (some (mn, mx)) → G n mn mx) ?_ ?_
  · rcases hq0 with ⟨_, hi⟩ | ⟨_, rfl⟩
    · intro mn mx hget
      have := initFold_no_stats rx env st q0 (by rw [← initModel_eq]; exact hi) n (hP n hn)
      rw [hget] at this
      cases this
    · exact hprev n hn
  · intro c hc o m v ho hm hv mn mx hget
    obtain ⟨a, b, rfl, N⟩ := hcont c hc n hn m hm
    cases Option.some.inj hget
    rcases o with _ | _ | w
    · cases hv; exact N
    · cases hv; exact N
    · obtain ⟨_, _, hab, R⟩ := hG n w.1 w.2 a b _ (ho w.1 w.2 rfl) N hv
      cases hab; exact R

def SInv (P : String → Prop) (rk : String → Nat) (qs : Qsvs) : Prop :=
  ∀ n, P n → ∀ mn mx, Py.dictGet? qs n = some (some (mn, mx)) → StatOrdK (rk n) mn mx

def ContOK (P : String → Prop) (rk : String → Nat) (c : Contents) : Prop :=
  ∀ n, P n → ∀ d, Py.dictGet? c n = some d → F3264 d.pr ∧ d.arr.shape.length = rk n ∧ ∀ v ∈ d.arr.data, |v| ≤ B

theorem sInv_nil (P : String → Prop) (rk : String → Nat) : SInv P rk [] := by
  intro n _ mn mx h
  cases h

theorem sampleStat_ordK (P : String → Prop) (rk : String → Nat) (c : Contents) (hc : ContOK P rk c) :
    SampleIn P (fun n => StatOrdK (rk n)) c := by
  intro n hn v h
  unfold sampleStat at h
  cases hd : Py.dictGet? c n with
  | none => rw [hd] at h; cases h
  | some d =>
    rw [hd] at h
    obtain ⟨hp, hr, hb⟩ := hc n hn d hd
    obtain ⟨mn, mx, hv, K, _⟩ := minMaxAll_ordK d hp hb v h
    rw [hr] at K
    exact ⟨mn, mx, hv, K⟩

/-- a calibration history: `Quantizer.calibrate` is called once per session `(subgraph index, samples)` -- one
    signature of a multi-signature model, or one more batch of data for a signature already calibrated --, each time
    with the result of the previous call passed back as `previous_calibration_result` (what the harness's
    `calibrate_all` does for multi-signature models) -/
def calibrateSessions (rx : String → String → Bool) (env : Env) (st : Recipe.State) (previous : Option Qsvs)
    (L : List (Nat × List Contents)) : PyM (Option Qsvs) :=
  L.foldlM (fun p s => do
    let q ← calibrate rx env st s.1 p s.2
    pure (some q)) previous

theorem session_step (rx : String → String → Bool) (env : Env) (st : Recipe.State) (p p' : Option Qsvs)
    (s : Nat × List Contents)
    (h : (do let q ← calibrate rx env st s.1 p s.2; pure (some q) : PyM (Option Qsvs)) = .ok p') :
    ∃ q, calibrate rx env st s.1 p s.2 = .ok q ∧ p' = some q := by
  obtain ⟨q, hq, h⟩ := PyM.bind_ok _ _ _ h
  simp only [pure, Except.pure, Except.ok.injEq] at h
  exact ⟨q, hq, h.symm⟩

theorem sessions_sinv (P : String → Prop) (rk : String → Nat) (rx : String → String → Bool) (env : Env) (st : Recipe.State)
    (hP : ∀ n, P n → ¬ ConstNamed env n) (hneed : Recipe.needCalibration st = true)
    (previous : Option Qsvs) (L : List (Nat × List Contents)) (r : Option Qsvs)
    (hprev : SInv P rk (previous.getD []))
    (hcont : ∀ s ∈ L, ∀ c ∈ s.2, ContOK P rk c)
    (h : calibrateSessions rx env st previous L = .ok r) : SInv P rk (r.getD []) := by
  unfold calibrateSessions at h
  refine PyM.foldlM_inv _ (fun p => SInv P rk (p.getD [])) L previous r hprev ?_ h
  intro s hs p p' hp hstep
  obtain ⟨q, hq, rfl⟩ := session_step rx env st p p' s hstep
  exact calibrate_ginv P (fun n => StatOrdK (rk n)) (fun n mn mx a b v O N h => ema_ordK (rk n) mn mx a b O N v h) rx env st hP s.1 p s.2 q hneed hp
    (fun c hc => sampleStat_ordK P rk c (hcont s hs c hc)) hq

/-- a later `calibrate()` never loses recorded statistics -/
theorem calibrate_HS (rx : String → String → Bool) (env : Env) (st : Recipe.State) (sgi : Nat) (previous : Option Qsvs)
    (samples : List Contents) (qs : Qsvs) (hneed : Recipe.needCalibration st = true) (n : String)
    (hn : CalibProofs.HS (previous.getD []) n)
    (h : calibrate rx env st sgi previous samples = .ok qs) : CalibProofs.HS qs n := by
  obtain ⟨q0, hq0, hfold⟩ := CalibProofs.calibrate_cases hneed h
  refine CalibProofs.samples_rule hfold n (fun o => ∃ v, o = some (some v)) ?_ ?_
  · rcases hq0 with ⟨he, _⟩ | ⟨_, rfl⟩
    · obtain ⟨v, hv⟩ := hn
      rw [List.isEmpty_iff.1 he] at hv
      cases hv
    · exact hn
  · intro c _ o m v _ hm hv
    obtain ⟨w, rfl⟩ := CalibProofs.sampleStat_some hm
    obtain ⟨x, rfl⟩ := CalibProofs.ema_some _ w v hv
    exact ⟨x, rfl⟩

theorem sessions_complete (rx : String → String → Bool) (env : Env) (st : Recipe.State)
    (hneed : Recipe.needCalibration st = true) (previous : Option Qsvs) (L : List (Nat × List Contents))
    (r : Option Qsvs) (h : calibrateSessions rx env st previous L = .ok r)
    (s : Nat × List Contents) (hs : s ∈ L) (hne : s.2 ≠ [])
    (sg : Subgraph) (hsg : env.model.subgraphs[s.1]? = some sg)
    (op : Op) (k scope : String) (hop : CalibProofs.IsOp env sg op k) (hscope : opScope sg op = .ok scope)
    (hsel : (Recipe.resolve rx st k scope).1 = Tables.algMinMax)
    (i : Int) (hi : i ∈ op.inputs ++ op.outputs) (hi1 : i ≠ -1) (t : Tensor) (ht : tensorAt sg i = .ok t)
    (hnc : constAny env t = none) : CalibProofs.HS (r.getD []) t.name := by
  unfold calibrateSessions at h
  refine PyM.foldlM_reach _ (fun p => CalibProofs.HS (p.getD []) t.name) L previous r ?_ s hs ?_ h
  · intro x _ p p' hq hstep
    obtain ⟨q, hq', rfl⟩ := session_step rx env st p p' x hstep
    exact calibrate_HS rx env st x.1 p x.2 q hneed t.name hq hq'
  · intro p p' hstep
    obtain ⟨q, hq', rfl⟩ := session_step rx env st p p' s hstep
    obtain ⟨mn, mx, hget⟩ := CalibProofs.stats_complete rx env st s.1 sg hsg p s.2 hne q hneed hq' op k scope hop hscope hsel
      i hi hi1 t ht hnc
    exact ⟨(mn, mx), hget⟩

end MatTotal
