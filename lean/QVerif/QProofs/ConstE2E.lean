import QProofs.ParamsSrc
import QProofs.RunStages
import QProofs.ConstValue
/-! # End to end: the parameter table against the objects with quantized data, and the buffers the graph stage leaves alone
Namespace `ConstProv`: the provenance `Src` of the quantized data carried by the requests, read off the source of the parameters
(`src_of_psrc`).  Namespace `ConstE2E`, for `C05.stored_source`: an object `==`-equal to one with data has the SAME stored bytes
(`eqv_bytes`, for objects whose data has the dtype of their bit width, as every computed one has: `tbl_src`, `src_wdata`), tensors
keep name and shape (`frame_of_skeleton`); for `C05.rewritten_of_inr`: a buffer without data is never written (`nodata_frame`). -/
open Graph Mat Cfg Pipeline GraphStep GraphInv PipeNF Pipe SharingGen Arith Nd MatParams Num ParamsSrc

set_option autoImplicit false

namespace ConstProv

/-- the parameter object `P` (WITH quantized data) was computed from the constant data `d` of tensor `t`: `own` (`wrapper` on a
    constant: reference parameters of its true min/max), `lent` (borrowed data-free parameters), `bias`
    (`symmetric_quantize_bias_tensor`), `f16` (`d.astype(float16)`) -/
inductive Src (env : Env) (t : Tensor) (d : Arr Rat) : Param → Prop
  | own (oi : OpInfo) (tc : TCfg) (mn mx : FArr) (qdim : Option Nat) (qp : QParams) (q : IArr) :
      tcfgOf env oi t = some tc → initMinMax env oi t d = .ok (mn, mx) →
      refQDim env oi tc (some d) = .ok qdim →
      refParams tc.bits.toNat tc.symmetric qdim mn mx = .ok qp → tc.gran ≠ Gran.blockwise →
      uniformQuantize ⟨d, .f32⟩ qp = .ok q → Src env t d (.uniform qp (some q))
  | lent (qp : QParams) (q : IArr) :
      uniformQuantize ⟨d, .f32⟩ qp = .ok q → Src env t d (.uniform qp (some q))
  | bias (qi qw qp : QParams) (q : IArr) :
      quantizeBias ⟨d, .f32⟩ qi qw = .ok (qp, q) → Src env t d (.uniform qp (some q))
  | f16 (h : List Rat) :
      d.data.mapM Prec.f16.chk = .ok h → Src env t d (.nonlinear 16 (some ⟨d.shape, h⟩))

/-- a parameter object with data on entry `o` was computed from the data of a constant named `n` -/
def OProv (env : Env) (n : String) (o : CO2T) : Prop :=
  ∀ P, o.param = some P → hasData P = true →
    ∃ sg ∈ env.model.subgraphs, ∃ t ∈ sg.tensors, t.name = n ∧ ∃ d, constData env t = some d ∧ Src env t d P

/-- every parameter object with data in the result dictionary has a source -/
abbrev ResProv (env : Env) (res : List (String × CReq)) : Prop := DictSides (OProv env) (OProv env) res

/-- the reference object of a tensor carries data only for a constant, and is then the `own` source -/
theorem refOf_data {env : Env} {qs : Qsvs} {oi : OpInfo} {t : Tensor} {qp : QParams} {q : IArr}
    (h : RefOf env qs oi t qp (some q)) : ∃ d, constData env t = some d ∧ Src env t d (.uniform qp (some q)) := by
  obtain ⟨tc, mn, mx, qdim, htc, hst, hqd, hp, hdat⟩ := h
  cases hc : constData env t with
  | none => rw [hc] at hdat; cases hdat
  | some d =>
    rw [hc] at hqd hdat
    obtain ⟨hb, q', hu, hq'⟩ := (refData_some _ _ _ _).1 hdat
    cases hq'
    exact ⟨d, rfl, .own oi tc mn mx qdim qp q htc ((statsOf_const env qs oi t d mn mx hc).1 hst) hqd hp hb hu⟩

/-- **a parameter object with data that has a source (`PSrc`) was computed from the data of its tensor**: `Src` is `PSrc`
    on the objects that carry data, with the origin of the parameters forgotten -/
theorem src_of_psrc {env : Env} {sg : Subgraph} {qs : Qsvs} {oi : OpInfo} {t : Tensor} {P : Param}
    (h : PSrc env sg qs oi t P) (hd : hasData P = true) : ∃ d, constData env t = some d ∧ Src env t d P := by
  cases h with
  | ref qp dat hr =>
    cases dat with
    | none => cases hd
    | some q => exact refOf_data hr
  | lent b t0 qp dat0 dat _ _ _ hl _ =>
    rcases hl with ⟨-, rfl⟩ | ⟨d, q, hc, hu, rfl⟩
    · cases hd
    · exact ⟨d, hc, .lent qp q hu⟩
  | fixed => cases hd
  | bias _ _ _ _ qi _ qw _ bd qp q _ _ _ _ _ _ hbd hq => exact ⟨bd, hbd, .bias qi qw qp q hq⟩
  | f16 d h hc hm => exact ⟨d, hc, .f16 h hm⟩

theorem opReqs_prov {rx : String → String → Bool} {env : Env} {st : Recipe.State} {sIdx : Nat} {sg : Subgraph}
    {qs : Qsvs} {q : Op × Option String × Int} {rs : List CReq} {qs' : Qsvs} (hsg : sg ∈ env.model.subgraphs)
    (hmand : ∀ k, keyOf env q = .ok (some k) → ∀ b, biasSlot k = some b → ∀ i < b, q.1.inputs[i]? ≠ some (-1))
    (hnc : OutNC env sg q.1.outputs) (h : opReqs rx env st sIdx sg qs q = .ok (rs, qs')) :
    ∀ r ∈ rs, ReqSides (OProv env) (OProv env) r := by
  intro r hr
  obtain ⟨t, b, c, ht, rfl, hc⟩ := opReqs_src rx env st sIdx sg qs q rs qs' hmand hnc h r hr
  have hO : OProv env t.name c := fun P hP hd => by
    rcases hc with hnone | ⟨k, scope, -, hS⟩
    · rw [hnone] at hP
      cases hP
    · obtain ⟨d, hd', hs⟩ := src_of_psrc (hS.2 P hP) hd
      exact ⟨sg, hsg, t, ht, rfl, d, hd', hs⟩
  refine reqSides_sideReq.2 ?_
  cases b <;> exact hO

theorem generate_prov (rx : String → String → Bool) (env : Env) (st : Recipe.State) (qsvs : Option Qsvs)
    (hg : GenHyp env st)
    (res : List (String × CReq)) (qs : Qsvs)
    (hfold : env.model.subgraphs.zipIdx.foldlM (sgStep rx env st) (qsvs.getD [], []) = .ok (qs, res)) :
    ResProv env res :=
  generate_sides (fun _ sg hs q hq _ _ _ h =>
    opReqs_prov (List.mem_of_getElem? hs) (mand_allOps env st hg sg (List.mem_of_getElem? hs) q hq)
      (outNC_allOps env st hg sg (List.mem_of_getElem? hs) q hq) h) hfold

end ConstProv

open ConstBytes ConstProv

namespace ConstE2E

/-- the quantized data has the dtype `assign_quantized_type` gives for the bit width -/
def WData (P : Param) : Prop := ∀ qp q, P = .uniform qp (some q) → q.w = storageBits qp.bits

theorem entry_f16 (P0 : Param) (b : Nat) (v : Arr Rat) (he : P0.eqv (.nonlinear b (some v)) = true) :
    P0 = .nonlinear b (some v) := by
  have hk := (Pipe.eqv_iff _ _).1 he
  cases P0 with
  | uniform qp d => cases hk
  | nonlinear b0 d0 =>
    cases d0 with
    | none => simp [Pipe.pkey] at hk
    | some v0 =>
      simp only [Pipe.pkey, Sum.inr.injEq, Prod.mk.injEq, Option.map_some, Option.some.injEq] at hk
      rw [hk.1, arr_ext (Prod.ext hk.2.1 hk.2.2)]

theorem eqv_bytes (P0 P : Param) (h : P0.eqv P = true) (hd : hasData P = true) (hw0 : WData P0) (hw : WData P) :
    paramBytes P0 = paramBytes P := by
  cases P with
  | uniform qp d =>
    cases d with
    | none => cases hd
    | some q =>
      obtain ⟨qp0, _ | q0, rfl, h1, -, -, -, -, h6⟩ := eqv_uniform h
      · cases h6
      have h6 : q0.arr = q.arr := Option.some.inj h6
      simp only [paramBytes]
      rw [hw0 qp0 q0 rfl, hw qp q rfl, h1, h6]
  | nonlinear b d =>
    cases d with
    | none => cases hd
    | some v => rw [entry_f16 P0 b v h]

theorem src_wdata {env : Env} {t : Tensor} {d : Arr Rat} {P : Param} (h : Src env t d P) : WData P := by
  intro qp q hP
  cases h with
  | own oi tc mn mx qdim qp' q' _ _ _ _ _ hu => cases hP; exact ConstQuant.uq_w _ _ _ hu
  | lent qp' q' hu => cases hP; exact ConstQuant.uq_w _ _ _ hu
  | bias qi qw qp' q' hb => cases hP; exact ConstQuant.uq_w _ _ _ (C04.quantizeBias_uq _ _ _ _ _ hb)
  | f16 hh _ => cases hP

theorem tbl_src {env : Env} {res : List (String × CReq)} (hprov : ResProv env res) {x : Param}
    (hx : x ∈ tblOf res) (hd : hasData x = true) : ∃ t d, Src env t d x := by
  obtain ⟨r0, hr0, hp⟩ := List.mem_flatMap.1 (Pipe.absReqs_tbl_mem _ _ hx)
  obtain ⟨c0, hc0, hpc0⟩ := Pipe.mem_paramsOfR.1 hp
  obtain ⟨e0, he0, rfl⟩ := List.mem_map.1 hr0
  rcases Mat.mem_sides.1 hc0 with ho | ⟨cs0, hcs0, hc0⟩
  · obtain ⟨_, _, t, _, _, d, _, hs0⟩ := (hprov e0 he0).1 c0 ho _ hpc0 hd
    exact ⟨t, d, hs0⟩
  · obtain ⟨_, _, t, _, _, d, _, hs0⟩ := (hprov e0 he0).2 cs0 c0 hcs0 hc0 _ hpc0 hd
    exact ⟨t, d, hs0⟩

theorem frame_of_skeleton (m m' : Model) (h : Skeleton.sameModelSkeleton m m' = true)
    (s : Nat) (sg sg' : Subgraph) (i : Nat) (tn tn' : Tensor)
    (h1 : m.subgraphs[s]? = some sg) (h1' : m'.subgraphs[s]? = some sg')
    (h2 : sg.tensors[i]? = some tn) (h2' : sg'.tensors[i]? = some tn') :
    tn'.name = tn.name ∧ tn'.shape = tn.shape := by
  unfold Skeleton.sameModelSkeleton at h
  simp only [Bool.and_eq_true, List.all_eq_true] at h
  obtain ⟨⟨⟨_, hall⟩, _⟩, _⟩ := h
  have hz : (sg, sg') ∈ m.subgraphs.zip m'.subgraphs := by
    apply List.mem_of_getElem? (i := s)
    rw [List.getElem?_zip_eq_some]
    exact ⟨h1, h1'⟩
  have hsk := hall _ hz
  unfold Skeleton.sameSkeleton at hsk
  simp only [Bool.and_eq_true, beq_iff_eq, decide_eq_true_eq] at hsk
  obtain ⟨⟨_, hframe⟩, _⟩ := hsk
  unfold Skeleton.tensorFrame at hframe
  have hi : i < sg.tensors.length := (List.getElem?_eq_some_iff.1 h2).1
  have e1 : ((sg'.tensors.take sg.tensors.length).map fun t => (t.name, t.shape))[i]? = some (tn'.name, tn'.shape) := by
    rw [List.getElem?_map, List.getElem?_take_of_lt hi, h2']; rfl
  have e2 : ((sg.tensors.take sg.tensors.length).map fun t => (t.name, t.shape))[i]? = some (tn.name, tn.shape) := by
    rw [List.getElem?_map, List.getElem?_take_of_lt hi, h2]; rfl
  rw [hframe, e2] at e1
  simp only [Option.some.injEq, Prod.mk.injEq] at e1
  exact ⟨e1.1.symm, e1.2.symm⟩

/-- **graph stage: a buffer without data is never written** (an instruction whose parameter carries
    data is on a constant, `InstOK.dataConst`, and only such instructions write) -/
theorem nodata_frame {pt : PTable} {m : Model} {tis : List TInsts} {st : Perform.PState}
    (R : RunDesc.Ran pt m (RunRule.performed tis) st) (hok : ∀ ti ∈ tis, TInstsOK pt m ti)
    (b : Nat) (hb : ∀ c, m.buffers[b]? ≠ some (some c)) : st.model.buffers[b]? = m.buffers[b]? := by
  rw [R.bufs]
  rcases RunDesc.bufsAfter_cases pt m (RunRule.performed tis) b with
    ⟨h, -⟩ | ⟨e, he, p, ⟨sg0, tn0, pi, g0, g1, g2, g3, -, gb, -, -, hd⟩, -⟩
  · exact h
  · -- a writer carries data, so its tensor is a constant: `b` held data
    exfalso
    obtain ⟨hti, hins, -⟩ := RunRule.mem_performed.1 he
    obtain ⟨sgx, hx, hall⟩ := (hok e.1 hti).insts
    cases hx.symm.trans g0
    have hv := (GraphStep.validT_iff _ _).1 (hall e.2 hins).tvalid
    unfold GraphStep.ValidT at hv
    have hc := (hall e.2 hins).dataConst p pi g2 g3 hd
    rw [GraphStep.isConst_of_get m _ e.2.tensor tn0 hv.1 g1, gb] at hc
    unfold constAt at hc
    cases hbb : m.buffers[b]? with
    | none => rw [hbb] at hc; cases hc
    | some v =>
      cases v with
      | none => rw [hbb] at hc; cases hc
      | some c => exact hb c hbb

/-- **end to end**: if the input model's data buffers are all original constants (`.inl k`), every
    buffer of the output that holds packed data `.inr p` was an original constant of the input -/
theorem inr_was_const (rx : String → String → Bool) (env : Env) (st : Recipe.State) (qsvs : Option Qsvs)
    (m' : Model) (tbl : List Param) (hnf : PipelineWF.NF env st)
    (h : quantizePure rx env st qsvs = .ok (m', tbl))
    (hin : ∀ (b : Nat) (q : PId), env.model.buffers[b]? ≠ some (some (Sum.inr q)))
    (b : Nat) (p : PId) (hp : m'.buffers[b]? = some (some (.inr p))) :
    ∃ k, env.model.buffers[b]? = some (some (.inl k)) := by
  obtain ⟨res, tis, stF, rfl, rfl, S, -, R⟩ := TypingE2E.run rx env st qsvs m' tbl hnf h
  by_cases hd : ∃ c, env.model.buffers[b]? = some (some c)
  · obtain ⟨c, hc⟩ := hd
    cases c with
    | inl k => exact ⟨k, hc⟩
    | inr q => exact absurd hc (hin b q)
  · exfalso
    have := nodata_frame R S.ok b (fun c hc => hd ⟨c, hc⟩)
    rw [hp] at this
    exact hd ⟨_, this.symm⟩

end ConstE2E
