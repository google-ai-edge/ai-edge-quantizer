import QProofs.MatTotal
import QProofs.MatParams
/-!
# The numeric raise sites are real: a numeric site makes `Mat.generate` fail (C08)

Converse of the inventory for the sites tagged `true`, read off the closed forms of the successful runs (`tensorSite_real`, …,
`stepSite_real`: `f … = .ok r → ¬ FSite … true e`).  A run that returned made the call a numeric site speaks of, with
the same arguments (`GivenFrom.eq_core`: the parameters handed over are determined by the run), and that call
returned.  So a numeric site makes the stage fail -- possibly with an error raised earlier in program order.
-/
open Graph Mat Pipe PyM

set_option autoImplicit false

namespace MatTotal

open MatParams in
theorem tensorSite_real {env : Env} {qs : Qsvs} {oi : OpInfo} {t : Tensor} {b : Bool} {g : Option Param} {r : CReq}
    {e : PyErr} (h : wrapper env qs oi t b g = .ok r) : ¬ TensorSite env qs oi t b g true e := by
  obtain ⟨p, xfs, hp, -, -⟩ := wrapper_ok.1 h
  have hw := wrapperParam_ok hp
  -- parameters computed from statistics are the reference ones
  have comp : ∀ tc mn mx, g = none → tcfgOf env oi t = some tc → statsOf env qs oi t = .ok (some (mn, mx)) →
      ∃ qdim qp dat, refQDim env oi tc (constData env t) = .ok qdim ∧
        refParams tc.bits.toNat tc.symmetric qdim mn mx = .ok qp ∧ refData tc (constData env t) qp = .ok dat := by
    rintro tc mn mx rfl htc hs
    rcases (wrapper_none_ok_iff ..).1 h with ⟨hcfg, -⟩ | ⟨tc', mn', mx', qdim, qp, dat, hcfg, hst, h1, h2, h3, -⟩
    · rw [htc] at hcfg; cases hcfg
    · cases htc.symm.trans hcfg
      cases hs.symm.trans hst
      exact ⟨qdim, qp, dat, h1, h2, h3⟩
  intro hsite
  cases hsite with
  | zpScale tc mn mx e hg htc hs hz =>
    obtain ⟨qdim, qp, dat, -, h2, -⟩ := comp tc mn mx hg htc hs
    obtain ⟨zp, sc, hz', -⟩ := (refParams_ok_iff ..).1 h2
    rw [hz] at hz'
    cases hz'
  | quantize tc d mn mx qdim qp e hg htc hd hs hq hp' hb hu =>
    obtain ⟨qdim', qp', dat, h1, h2, h3⟩ := comp tc mn mx hg htc hs
    cases hq.symm.trans h1
    cases hp'.symm.trans h2
    rw [hd] at h3
    obtain ⟨-, q, hq', -⟩ := (refData_some ..).1 h3
    rw [hu] at hq'
    cases hq'
  | givenQuantize qp d e hg hd hu =>
    subst hg
    cases hw with
    | requantized _ d' q hd' hu' =>
      cases hd.symm.trans hd'
      rw [hu] at hu'
      cases hu'
    | kept _ hk => rw [hk qp rfl] at hd; cases hd

theorem stdSite_real {env : Env} {sg : Subgraph} {qs : Qsvs} {oi : OpInfo} {con : Constraint} {gi go : List Nat}
    {rs : List CReq} {qs' : Qsvs} {e : PyErr} (hrun : standardOp env sg qs oi con gi go = .ok (rs, qs')) :
    ¬ StdSite env sg qs oi con gi go true e := by
  obtain ⟨V, hV⟩ := standardOp_ok hrun
  have hFI := hV.floatIn
  have hFO := hV.floatOut
  have hc := hV.core
  intro h
  cases h with
  | tensor num t b g e ts _ hF hmem hg hts =>
    -- the run made this very call, and it returned
    have : ∃ r, wrapper env qs oi t b g = .ok r := by
      rw [hg.eq_core hFI hFO hc]
      cases b
      · cases floatSlots_unique hF hFO
        obtain ⟨r, -, hr⟩ := mapM_ok' _ _ _ ((mapM_ok_iff _ _ _).2 hc.results) t hmem
        exact ⟨r, hr⟩
      · cases floatSlots_unique hF hFI
        obtain ⟨r, -, hr⟩ := mapM_ok' _ _ _ ((mapM_ok_iff _ _ _).2 hc.operands) t hmem
        exact ⟨r, hr⟩
    obtain ⟨r, hr⟩ := this
    exact tensorSite_real hr hts

theorem biasSite_real {env : Env} {sg : Subgraph} {oi : OpInfo} {reqs rs : List CReq} {iIn iW iB : Nat} {e : PyErr}
    (hrun : biasFor env sg oi reqs iIn iW iB = .ok rs) : ¬ BiasSite env sg oi reqs iIn iW iB true e := by
  intro h
  cases h with
  | quantize a bt bd rin rw qi qw di dw e hb hne hat hsrq hc hrin hrw hpin hpw he =>
    rcases biasFor_ok hrun with ⟨hno, -⟩ | ⟨a', bt', bp, r, B⟩
    · rcases hno with hno | hno
      · rw [hb] at hno; cases hno
      · rw [hb] at hno; cases hno; exact hne rfl
    · cases hb.symm.trans B.slot
      cases hat.symm.trans B.tensor
      cases B.param with
      | none hs => rw [hsrq] at hs; cases hs
      | quantized bd' rI rW qi' qw' di' dw' qp q _ hbd hrI hpI hrW hpW hq =>
        cases hc.symm.trans hbd
        cases hrin.symm.trans hrI
        cases hrw.symm.trans hrW
        cases hpin.symm.trans hpI
        cases hpw.symm.trans hpW
        rw [he] at hq
        cases hq

theorem castSite_real {env : Env} {sg : Subgraph} {oi : OpInfo} {iIn iW iB : Nat} {rs : List CReq} {e : PyErr}
    (hrun : floatCastOp env sg oi iIn iW iB = .ok rs) : ¬ CastSite env sg oi iIn iW iB true e := by
  intro h
  cases h with
  | f16 a tw wd x e ha hat hc hx hchk =>
    obtain ⟨sIn, sW, sOut, tin, tw', tout, wd', hh, C⟩ := floatCastOp_ok hrun
    cases ha.symm.trans C.wSlot
    cases hat.symm.trans C.wT
    cases hc.symm.trans C.const
    obtain ⟨y, -, hy⟩ := mapM_ok' _ _ _ C.f16 x hx
    rw [hchk] at hy
    cases hy

theorem opSite_real {env : Env} {sg : Subgraph} {qs : Qsvs} {oi : OpInfo} {k : Kind} {rs : List CReq} {qs' : Qsvs}
    {e : PyErr} (hrun : runKind env sg qs oi k = .ok (rs, qs')) : ¬ OpSite env sg qs oi k true e := by
  intro h
  cases h with
  | std num con gi e h => exact stdSite_real (runKind_ok hrun) h
  | convStd num e h => obtain ⟨r0, hs, -⟩ := runKind_ok hrun; exact stdSite_real hs h
  | convTStd num e h => obtain ⟨r0, hs, -⟩ := runKind_ok hrun; exact stdSite_real hs h
  | convBias num r q e hstd hb =>
    obtain ⟨r0, hs, hbias⟩ := runKind_ok hrun
    cases hstd.symm.trans hs
    exact biasSite_real hbias hb
  | convTBias num r q e hstd hb =>
    obtain ⟨r0, hs, -, hbias⟩ := runKind_ok hrun
    cases hstd.symm.trans hs
    exact biasSite_real hbias hb
  | fixed num sl e h =>
    obtain ⟨-, r0, q0, hs, -⟩ := runKind_ok hrun
    cases h with
    | std num e h => exact stdSite_real hs h
  | cast num a b c e h => exact castSite_real (runKind_ok hrun).1 h

theorem stepSite_real {rx : String → String → Bool} {env : Env} {st : Recipe.State} {sIdx : Nat} {sg : Subgraph}
    {s s' : GState} {q : Op × Option String × Int} {e : PyErr} (hrun : opStep rx env st sIdx sg s q = .ok s') :
    ¬ StepSite rx env st sIdx sg s.1 s.2 q true e := by
  intro h
  cases h with
  | op num k scope fn ops e hk hs hne ho hf hop =>
    obtain ⟨rs, hr, -⟩ := opStep_ok rx env st sIdx sg s s' q hrun
    have hne' : ((Recipe.resolve rx st k scope).1 == Tables.algNoQuantize) = false := by simpa using hne
    unfold opReqs at hr
    simp only [hk, hs, hne', Bool.false_eq_true, if_false, ho, hf, materializeOp_kind] at hr
    exact opSite_real hr hop

theorem no_numeric_site_of_ok (rx : String → String → Bool) (env : Env) (st : Recipe.State) (qsvs : Option Qsvs)
    (reqs : List CReq) (h : Mat.generate rx env st qsvs = .ok reqs) (e : PyErr) : ¬ GenSite rx env st qsvs true e := by
  obtain ⟨-, -, -, qs, res, hloop, -⟩ := generate_ok_iff.1 h
  intro hsite
  cases hsite with
  | atOp num pre post sg sIdx q s e hl hreach hsite =>
    rw [generateLoop_flat, hl] at hloop
    obtain ⟨s1, s2, h1, h2, -⟩ := foldlM_append_cons_ok_iff.1 hloop
    cases (show Reach rx env st qsvs pre s1 from h1).symm.trans hreach
    exact stepSite_real h2 hsite

theorem genSite_sound (rx : String → String → Bool) (env : Env) (st : Recipe.State) (qsvs : Option Qsvs) (e : PyErr)
    (h : GenSite rx env st qsvs true e) : ∃ e', Mat.generate rx env st qsvs = .error e' := by
  cases hrun : Mat.generate rx env st qsvs with
  | error e' => exact ⟨e', rfl⟩
  | ok reqs => exact absurd h (no_numeric_site_of_ok rx env st qsvs reqs hrun e)

end MatTotal
