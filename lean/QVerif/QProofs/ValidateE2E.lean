import QProofs.ValidateProofs
import QProofs.PyForall
/-!
# validate(): the whole `compare` (C18b)

`collect` is restated as "evaluate the list of all comparisons (`allPairs`) left to right
(`List.mapM`, first error wins), then group the values by name (`groupVals`)"; with `fileGroups_eq` this
gives `compare` as one expression (`compare_eq`), from which its specification, its success condition and its
errors are read; then the laws of the reported values: non-negative, zero on a self-comparison (`self_compare`), and
for MSE what exchanging reference and target (`swap`) does to the comparisons.
-/
open Validate

namespace ValidateE2E

/-- reference tensor first, then target, then the metric: the order fixes which error is reported -/
def pairVal (m : Metric) (td rd : TData) : PyM Rat := do
  let r ← values rd
  let t ← values td
  metric m t r

/-- the comparisons of one sample, in the order of the reference side; a name absent on the target side is skipped -/
def samplePairs (s : Sample) : List (String × TData × TData) :=
  s.ref.filterMap fun e => (Py.dictGet? s.target e.1).map fun td => (e.1, td, e.2)

def allPairs (samples : List Sample) : List (String × TData × TData) := samples.flatMap samplePairs

def evalPair (m : Metric) (p : String × TData × TData) : PyM (String × Rat) := do
  let v ← pairVal m p.2.1 p.2.2
  pure (p.1, v)

/-- `comparison_results[name].append(v)` -/
def push (acc : List (String × List Rat)) (p : String × Rat) : List (String × List Rat) :=
  Py.dictSet acc p.1 ((Py.dictGet? acc p.1).getD [] ++ [p.2])

def groupVals (vs : List (String × Rat)) : List (String × List Rat) := vs.foldl push []

def collectStep (m : Metric) (s : Sample) (acc : List (String × List Rat)) (e : String × TData) :
    PyM (List (String × List Rat)) :=
  match Py.dictGet? s.target e.1 with
  | none => pure acc
  | some td => do
    let r ← values e.2
    let t ← values td
    let v ← metric m t r
    pure (Py.dictSet acc e.1 ((Py.dictGet? acc e.1).getD [] ++ [v]))

theorem inner_eq (m : Metric) (s : Sample) : ∀ (l : List (String × TData)) (acc : List (String × List Rat)),
    l.foldlM (collectStep m s) acc =
      (l.filterMap fun e => (Py.dictGet? s.target e.1).map fun td => (e.1, td, e.2)).foldlM
        (fun acc p => do let v ← evalPair m p; pure (push acc v)) acc := by
  intro l
  induction l with
  | nil => intro acc; rfl
  | cons e es ih =>
    intro acc
    rw [List.foldlM_cons, List.filterMap_cons]
    cases hg : Py.dictGet? s.target e.1 with
    | none =>
      simp only [Option.map_none]
      have : collectStep m s acc e = pure acc := by simp only [collectStep, hg]
      rw [this]
      exact ih acc
    | some td =>
      simp only [Option.map_some, List.foldlM_cons]
      have : collectStep m s acc e =
          (do let v ← evalPair m (e.1, td, e.2); pure (push acc v)) := by
        simp only [collectStep, hg, evalPair, pairVal, push, bind_assoc, pure_bind]
      rw [this]
      cases (do let v ← evalPair m (e.1, td, e.2); pure (push acc v) : PyM _) with
      | error x => rfl
      | ok a => exact ih a

theorem collect_eq (m : Metric) (samples : List Sample) :
    collect m samples = (do let vs ← (allPairs samples).mapM (evalPair m); pure (groupVals vs)) := by
  show samples.foldlM (fun acc s => s.ref.foldlM (collectStep m s) acc) [] = _
  have h1 : (fun acc (s : Sample) => s.ref.foldlM (collectStep m s) acc) =
      (fun acc s => (samplePairs s).foldlM (fun acc p => do let v ← evalPair m p; pure (push acc v)) acc) := by
    funext acc s
    exact inner_eq m s s.ref acc
  rw [h1, ← PyM.foldlM_flatMap samplePairs, PyM.foldlM_eq_mapM]
  rfl

def valsOf (vs : List (String × Rat)) (n : String) : List Rat := (vs.filter (·.1 == n)).map (·.2)

theorem valsOf_cons (p : String × Rat) (vs : List (String × Rat)) (n : String) :
    valsOf (p :: vs) n = if p.1 == n then p.2 :: valsOf vs n else valsOf vs n := by
  unfold valsOf
  rw [List.filter_cons]
  split <;> rfl

theorem dictGet?_push (acc : List (String × List Rat)) (p : String × Rat) (n : String) :
    Py.dictGet? (push acc p) n =
      if p.1 = n then some ((Py.dictGet? acc n).getD [] ++ [p.2]) else Py.dictGet? acc n := by
  unfold push
  rw [Py.dictGet?_dictSet]
  by_cases h : p.1 = n
  · rw [if_pos h, if_pos h, h]
  · rw [if_neg h, if_neg h]

theorem dictGet?_foldl_push (n : String) : ∀ (vs : List (String × Rat)) (acc : List (String × List Rat)),
    Py.dictGet? (vs.foldl push acc) n =
      if valsOf vs n = [] then Py.dictGet? acc n
      else some ((Py.dictGet? acc n).getD [] ++ valsOf vs n) := by
  intro vs
  induction vs with
  | nil => intro acc; rfl
  | cons p ps ih =>
    intro acc
    rw [List.foldl_cons, ih, dictGet?_push, valsOf_cons]
    by_cases h : p.1 = n
    · rw [if_pos h, if_pos (beq_iff_eq.2 h), if_neg (List.cons_ne_nil _ _), Option.getD_some,
        List.append_assoc, List.singleton_append]
      split
      · rename_i h0; rw [h0]
      · rfl
    · rw [if_neg h, if_neg fun h' => h (beq_iff_eq.1 h')]

theorem nodup_foldl_push : ∀ (vs : List (String × Rat)) (acc : List (String × List Rat)),
    (acc.map (·.1)).Nodup → ((vs.foldl push acc).map (·.1)).Nodup := by
  intro vs
  induction vs with
  | nil => intro acc h; exact h
  | cons p ps ih => intro acc h; exact ih _ (Py.nodup_dictSet _ _ _ h)

theorem dictGet?_groupVals (vs : List (String × Rat)) (n : String) :
    Py.dictGet? (groupVals vs) n = if valsOf vs n = [] then none else some (valsOf vs n) := by
  unfold groupVals
  rw [dictGet?_foldl_push]
  rfl

theorem nodup_groupVals (vs : List (String × Rat)) : ((groupVals vs).map (·.1)).Nodup :=
  nodup_foldl_push vs [] List.nodup_nil

theorem valsOf_eq_nil_iff (vs : List (String × Rat)) (n : String) :
    valsOf vs n = [] ↔ n ∉ vs.map (·.1) := by
  unfold valsOf
  simp only [List.map_eq_nil_iff, List.filter_eq_nil_iff, beq_iff_eq, List.mem_map, not_exists, not_and]

def aggregated (vs : List (String × Rat)) : List (String × Rat) :=
  (groupVals vs).map fun e => (e.1, meanR e.2)

theorem nodup_aggregated (vs : List (String × Rat)) : ((aggregated vs).map (·.1)).Nodup := by
  unfold aggregated
  rw [Py.keys_map]
  exact nodup_groupVals vs

theorem mem_aggregated (vs : List (String × Rat)) (n : String) (v : Rat) :
    (n, v) ∈ aggregated vs ↔ valsOf vs n ≠ [] ∧ v = meanR (valsOf vs n) := by
  rw [Py.mem_iff_dictGet? _ (nodup_aggregated vs)]
  unfold aggregated
  rw [Py.dictGet?_map, dictGet?_groupVals]
  split
  · rename_i h; exact ⟨nofun, fun h' => absurd h h'.1⟩
  · rename_i h
    exact ⟨fun h' => ⟨h, (Option.some.inj h').symm⟩, fun h' => congrArg some h'.2.symm⟩

theorem key_aggregated (vs : List (String × Rat)) (n : String) :
    n ∈ (aggregated vs).map (·.1) ↔ n ∈ vs.map (·.1) := by
  constructor
  · intro h
    obtain ⟨e, he, hen⟩ := List.mem_map.1 h
    obtain ⟨k, v⟩ := e
    simp only at hen; subst hen
    have := ((mem_aggregated vs k v).1 he).1
    rw [ne_eq, valsOf_eq_nil_iff] at this
    exact not_not.1 this
  · intro h
    have h1 : valsOf vs n ≠ [] := by rw [ne_eq, valsOf_eq_nil_iff]; exact not_not.2 h
    exact List.mem_map.2 ⟨(n, meanR (valsOf vs n)), (mem_aggregated vs n _).2 ⟨h1, rfl⟩, rfl⟩


open ValidateProofs (Dict)

inductive Tag where | inputs | outputs | constants | intermediates
  deriving DecidableEq, Repr

def get (g : Groups) : Tag → List (String × Rat)
  | .inputs => g.inputs
  | .outputs => g.outputs
  | .constants => g.constants
  | .intermediates => g.intermediates

def classify (ins outs cs : List String) (n : String) : Tag :=
  if n ∈ ins then .inputs else if n ∈ outs then .outputs else if n ∈ cs then .constants
  else .intermediates

theorem classify_eq_iff (ins outs cs : List String) (n : String) (t : Tag) :
    classify ins outs cs n = t ↔
      match t with
      | .inputs => n ∈ ins
      | .outputs => n ∉ ins ∧ n ∈ outs
      | .constants => n ∉ ins ∧ n ∉ outs ∧ n ∈ cs
      | .intermediates => n ∉ ins ∧ n ∉ outs ∧ n ∉ cs := by
  unfold classify
  split_ifs <;> cases t <;> simp [*]

theorem filed_spec (d : Dict) (hnd : (d.map (·.1)).Nodup) (ins outs cs : List String) (t : Tag) (e : String × Rat) :
    e ∈ get (ValidateProofs.filed d ins outs cs) t ↔ e ∈ d ∧ classify ins outs cs e.1 = t := by
  have n1 := ValidateProofs.nodup_rest d hnd ins
  have n2 := ValidateProofs.nodup_rest _ n1 outs
  rw [classify_eq_iff]
  cases t <;> simp only [get, ValidateProofs.filed]
  · exact ValidateProofs.mem_popped d hnd ins e
  · rw [ValidateProofs.mem_popped _ n1 outs, ValidateProofs.mem_rest, and_assoc]
  · rw [ValidateProofs.mem_popped _ n2 cs, ValidateProofs.mem_rest, ValidateProofs.mem_rest, and_assoc, and_assoc]
  · rw [ValidateProofs.mem_rest, ValidateProofs.mem_rest, ValidateProofs.mem_rest, and_assoc, and_assoc]

theorem fileGroups_spec (result : Dict) (hnd : (result.map (·.1)).Nodup)
    (ins outs cs : List String) (g : Groups) (h : fileGroups result ins outs cs = .ok g)
    (t : Tag) (e : String × Rat) :
    e ∈ get g t ↔ e ∈ result ∧ classify ins outs cs e.1 = t := by
  obtain ⟨-, rfl⟩ := (ValidateProofs.fileGroups_ok result ins outs cs g).1 h
  exact filed_spec result hnd ins outs cs t e


theorem evalPair_ok (m : Metric) (p : String × TData × TData) (v : String × Rat) :
    evalPair m p = .ok v ↔ v.1 = p.1 ∧ pairVal m p.2.1 p.2.2 = .ok v.2 := by
  unfold evalPair
  rw [PyM.bind_eq_ok_iff]
  constructor
  · rintro ⟨x, hx, h⟩; cases PyM.pure_eq_ok_iff.1 h; exact ⟨rfl, hx⟩
  · rintro ⟨h1, h2⟩; exact ⟨v.2, h2, PyM.pure_eq_ok_iff.2 (Prod.ext h1.symm rfl)⟩

theorem evalPair_ok_iff (m : Metric) (p : String × TData × TData) :
    (∃ v, evalPair m p = .ok v) ↔ ∃ x, pairVal m p.2.1 p.2.2 = .ok x :=
  ⟨fun ⟨v, h⟩ => ⟨v.2, ((evalPair_ok m p v).1 h).2⟩, fun ⟨x, h⟩ => ⟨(p.1, x), (evalPair_ok m p _).2 ⟨rfl, h⟩⟩⟩

theorem evalPair_error (m : Metric) (p : String × TData × TData) (e : PyErr) :
    evalPair m p = .error e ↔ pairVal m p.2.1 p.2.2 = .error e := by
  unfold evalPair
  rw [PyM.bind_eq_error_iff]
  exact ⟨fun h => h.elim id fun ⟨_, _, h⟩ => (nomatch h), .inl⟩

/-- the results of all comparisons of the tensor `n`, in evaluation order -/
def trace (m : Metric) (samples : List Sample) (n : String) : List (PyM Rat) :=
  ((allPairs samples).filter (·.1 == n)).map fun p => pairVal m p.2.1 p.2.2

theorem forall₂_trace (m : Metric) (n : String) : ∀ (l : List (String × TData × TData)) (vs : List (String × Rat)),
    List.Forall₂ (fun p v => evalPair m p = .ok v) l vs →
      (l.filter (·.1 == n)).map (fun p => pairVal m p.2.1 p.2.2) = (valsOf vs n).map .ok ∧
      vs.map (·.1) = l.map (·.1) := by
  intro l vs h
  induction h with
  | nil => exact ⟨rfl, rfl⟩
  | @cons p v l vs hpv _ ih =>
    obtain ⟨h1, h2⟩ := (evalPair_ok m p v).1 hpv
    rw [valsOf_cons, List.filter_cons, h1]
    refine ⟨?_, by simp [h1, ih.2]⟩
    split
    · simp [h2, ih.1]
    · exact ih.1

theorem keys_of_mapM (m : Metric) {l : List (String × TData × TData)} {vs : List (String × Rat)}
    (h : l.mapM (evalPair m) = .ok vs) : vs.map (·.1) = l.map (·.1) :=
  (forall₂_trace m "" _ _ ((PyM.mapM_ok_iff _ _ _).1 h)).2

/-- **`compare` in closed form**: evaluate all comparisons in order (first error wins); then `KeyError` unless
    the input names are distinct and were all compared; else the groups of the aggregated dictionary -/
theorem compare_eq (m : Metric) (samples : List Sample) (ins outs cs : List String) :
    compare m samples ins outs cs =
      (do let vs ← (allPairs samples).mapM (evalPair m)
          if ins.Nodup ∧ ∀ n ∈ ins, n ∈ (allPairs samples).map (·.1) then
            .ok (ValidateProofs.filed (aggregated vs) ins outs cs)
          else .error .keyError) := by
  have : compare m samples ins outs cs =
      (do let per ← collect m samples
          fileGroups (per.map fun e => (e.1, meanR e.2)) ins outs cs) := rfl
  rw [this, collect_eq]
  cases h : (allPairs samples).mapM (evalPair m) with
  | error e => rfl
  | ok vs =>
    show fileGroups (aggregated vs) ins outs cs = _
    rw [ValidateProofs.fileGroups_eq]
    simp only [key_aggregated, keys_of_mapM m h]
    rfl

theorem compare_ok (m : Metric) (samples : List Sample) (ins outs cs : List String) (g : Groups) :
    compare m samples ins outs cs = .ok g ↔
      ∃ vs, (allPairs samples).mapM (evalPair m) = .ok vs ∧
        (ins.Nodup ∧ ∀ n ∈ ins, n ∈ (allPairs samples).map (·.1)) ∧
        g = ValidateProofs.filed (aggregated vs) ins outs cs := by
  rw [compare_eq, PyM.bind_eq_ok_iff]
  exact exists_congr fun vs => and_congr_right fun _ => PyM.ite_ok_eq_ok_iff

theorem map_ok_injective {l1 l2 : List Rat} (h : l1.map (Except.ok (ε := PyErr)) = l2.map .ok) : l1 = l2 :=
  List.map_injective_iff.2 (fun a b hab => by cases hab; rfl) h

theorem dictGet?_isSome_iff {ν : Type} (d : List (String × ν)) (n : String) :
    (Py.dictGet? d n).isSome ↔ n ∈ d.map (·.1) := by
  rw [← not_iff_not, ← Py.dictGet?_eq_none_iff]
  cases Py.dictGet? d n <;> simp

def present (samples : List Sample) (n : String) : Prop :=
  ∃ s ∈ samples, n ∈ s.ref.map (·.1) ∧ n ∈ s.target.map (·.1)

theorem mem_samplePairs (s : Sample) (p : String × TData × TData) :
    p ∈ samplePairs s ↔ ∃ e ∈ s.ref, Py.dictGet? s.target e.1 = some p.2.1 ∧ p.1 = e.1 ∧ p.2.2 = e.2 := by
  unfold samplePairs
  simp only [List.mem_filterMap, Option.map_eq_some_iff]
  constructor
  · rintro ⟨e, he, td, htd, rfl⟩; exact ⟨e, he, htd, rfl, rfl⟩
  · rintro ⟨e, he, htd, h1, h2⟩
    exact ⟨e, he, p.2.1, htd, by obtain ⟨a, b, c⟩ := p; simp only at h1 h2; subst h1; subst h2; rfl⟩

theorem mem_allPairs (samples : List Sample) (p : String × TData × TData) :
    p ∈ allPairs samples ↔
      ∃ s ∈ samples, ∃ e ∈ s.ref, Py.dictGet? s.target e.1 = some p.2.1 ∧ p.1 = e.1 ∧ p.2.2 = e.2 := by
  unfold allPairs
  simp only [List.mem_flatMap, mem_samplePairs]

theorem key_allPairs (samples : List Sample) (n : String) :
    n ∈ (allPairs samples).map (·.1) ↔ present samples n := by
  unfold present
  simp only [List.mem_map, mem_allPairs]
  constructor
  · rintro ⟨p, ⟨s, hs, e, he, htd, h1, _⟩, rfl⟩
    refine ⟨s, hs, ⟨e, he, h1.symm⟩, ?_⟩
    have := Py.dictGet?_mem _ _ _ htd
    exact ⟨_, this, h1.symm⟩
  · rintro ⟨s, hs, ⟨e, he, rfl⟩, ht⟩
    cases hg : Py.dictGet? s.target e.1 with
    | none => exact absurd (List.mem_map.2 ht) ((Py.dictGet?_eq_none_iff _ _).1 hg)
    | some td => exact ⟨(e.1, td, e.2), ⟨s, hs, e, he, hg, rfl, rfl⟩, rfl⟩

theorem trace_ne_nil_iff (m : Metric) (samples : List Sample) (n : String) :
    trace m samples n ≠ [] ↔ present samples n := by
  rw [← key_allPairs]
  unfold trace
  simp only [ne_eq, List.map_eq_nil_iff, List.filter_eq_nil_iff, beq_iff_eq, List.mem_map, not_forall]
  constructor
  · rintro ⟨p, hp, hn⟩; exact ⟨p, hp, not_not.1 hn⟩
  · rintro ⟨p, hp, hn⟩; exact ⟨p, hp, not_not.2 hn⟩

theorem compare_spec_general (m : Metric) (samples : List Sample) (ins outs cs : List String) (g : Groups)
    (h : compare m samples ins outs cs = .ok g) (n : String) :
    ∃ xs : List Rat, trace m samples n = xs.map .ok ∧
      ∀ (t : Tag) (v : Rat), (n, v) ∈ get g t ↔
        xs ≠ [] ∧ t = classify ins outs cs n ∧ v = meanR xs := by
  obtain ⟨vs, hvs, -, rfl⟩ := (compare_ok m samples ins outs cs g).1 h
  have hF := (PyM.mapM_ok_iff _ _ _).1 hvs
  refine ⟨valsOf vs n, (forall₂_trace m n _ _ hF).1, fun t v => ?_⟩
  rw [filed_spec _ (nodup_aggregated vs) ins outs cs t (n, v), mem_aggregated]
  constructor
  · rintro ⟨⟨h1, h2⟩, h3⟩; exact ⟨h1, h3.symm, h2⟩
  · rintro ⟨h1, h3, h2⟩; exact ⟨⟨h1, h2⟩, h3.symm⟩

theorem compare_nodup (m : Metric) (samples : List Sample) (ins outs cs : List String) (g : Groups)
    (h : compare m samples ins outs cs = .ok g) :
    ((g.inputs ++ g.outputs ++ g.constants ++ g.intermediates).map (·.1)).Nodup := by
  obtain ⟨vs, -, -, rfl⟩ := (compare_ok m samples ins outs cs g).1 h
  exact ((ValidateProofs.filed_perm _ (nodup_aggregated vs) ins outs cs).map (·.1)).nodup_iff.2 (nodup_aggregated vs)

def sampleVal (m : Metric) (s : Sample) (n : String) : List (PyM Rat) :=
  match Py.dictGet? s.ref n, Py.dictGet? s.target n with
  | some rd, some td => [pairVal m td rd]
  | _, _ => []

def perSample (m : Metric) (samples : List Sample) (n : String) : List (PyM Rat) :=
  samples.flatMap (sampleVal m · n)

theorem filter_pairs_nodup (T : List (String × TData)) (n : String) :
    ∀ (l : List (String × TData)), (l.map (·.1)).Nodup →
      ((l.filterMap fun e => (Py.dictGet? T e.1).map fun td => (e.1, td, e.2)).filter (·.1 == n))
        = match Py.dictGet? l n, Py.dictGet? T n with
          | some rd, some td => [(n, td, rd)]
          | _, _ => [] := by
  intro l
  induction l with
  | nil => intro _; simp [Py.dictGet?]
  | cons e es ih =>
    intro hnd
    simp only [List.map_cons, List.nodup_cons] at hnd
    rw [List.filterMap_cons, Py.dictGet?_cons]
    by_cases hen : e.1 = n
    · subst hen
      rw [if_pos rfl]
      have hnone : Py.dictGet? es e.1 = none := (Py.dictGet?_eq_none_iff _ _).2 hnd.1
      have hrest := ih hnd.2
      rw [hnone] at hrest
      cases hg : Py.dictGet? T e.1 with
      | none => simp only [Option.map_none]; rw [hrest]
      | some td =>
        simp only [Option.map_some, List.filter_cons, beq_self_eq_true, if_true]
        rw [hrest]
    · have hb : (e.1 == n) = false := beq_false_of_ne hen
      rw [if_neg hen]
      cases hg : Py.dictGet? T e.1 with
      | none => simp only [Option.map_none]; exact ih hnd.2
      | some td =>
        simp only [Option.map_some, List.filter_cons, hb, Bool.false_eq_true, if_false]
        exact ih hnd.2

theorem trace_eq_perSample (m : Metric) (samples : List Sample)
    (hnd : ∀ s ∈ samples, (s.ref.map (·.1)).Nodup) (n : String) :
    trace m samples n = perSample m samples n := by
  unfold trace perSample allPairs
  rw [List.filter_flatMap, List.map_flatMap]
  apply List.flatMap_congr
  intro s hs
  unfold samplePairs sampleVal
  rw [filter_pairs_nodup s.target n s.ref (hnd s hs)]
  cases Py.dictGet? s.ref n with
  | none => rfl
  | some rd =>
    cases Py.dictGet? s.target n with
    | none => rfl
    | some td => rfl

theorem compare_spec (m : Metric) (samples : List Sample) (ins outs cs : List String) (g : Groups)
    (hnd : ∀ s ∈ samples, (s.ref.map (·.1)).Nodup)
    (h : compare m samples ins outs cs = .ok g) (n : String) :
    ∃ xs : List Rat, perSample m samples n = xs.map .ok ∧ (xs ≠ [] ↔ present samples n) ∧
      ∀ (t : Tag) (v : Rat), (n, v) ∈ get g t ↔
        present samples n ∧ t = classify ins outs cs n ∧ v = meanR xs := by
  obtain ⟨xs, htr, hspec⟩ := compare_spec_general m samples ins outs cs g h n
  have hne : xs ≠ [] ↔ present samples n := by
    rw [← trace_ne_nil_iff m, htr]; simp
  refine ⟨xs, by rw [← trace_eq_perSample m samples hnd n]; exact htr, hne, fun t v => ?_⟩
  rw [hspec, hne]

theorem pairVal_ok_iff (m : Metric) (td rd : TData) (v : Rat) :
    pairVal m td rd = .ok v ↔
      ∃ t r, values td = .ok t ∧ values rd = .ok r ∧ metric m t r = .ok v := by
  unfold pairVal
  cases values rd with
  | error e => simp [bind, Except.bind]
  | ok r =>
    cases values td with
    | error e => simp [bind, Except.bind]
    | ok t => simp [bind, Except.bind]

theorem pairVal_ok_exists (m : Metric) (td rd : TData) :
    (∃ v, pairVal m td rd = .ok v) ↔
      ∃ t r, values td = .ok t ∧ values rd = .ok r ∧ t.length = r.length := by
  constructor
  · rintro ⟨v, h⟩
    obtain ⟨t, r, h1, h2, h3⟩ := (pairVal_ok_iff m td rd v).1 h
    exact ⟨t, r, h1, h2, (ValidateProofs.metric_ok_length m t r).1 ⟨v, h3⟩⟩
  · rintro ⟨t, r, h1, h2, h3⟩
    obtain ⟨v, hv⟩ := (ValidateProofs.metric_ok_length m t r).2 h3
    exact ⟨v, (pairVal_ok_iff m td rd v).2 ⟨t, r, h1, h2, hv⟩⟩

theorem allOk_iff (m : Metric) (samples : List Sample) :
    (∃ vs, (allPairs samples).mapM (evalPair m) = .ok vs) ↔
      ∀ p ∈ allPairs samples, ∃ v, pairVal m p.2.1 p.2.2 = .ok v :=
  (PyM.mapM_ok_all_iff _ _).trans (forall₂_congr fun p _ => evalPair_ok_iff m p)

theorem filedOK_iff (samples : List Sample) (ins : List String) :
    (ins.Nodup ∧ ∀ n ∈ ins, n ∈ (allPairs samples).map (·.1)) ↔ ins.Nodup ∧ ∀ n ∈ ins, present samples n :=
  and_congr_right fun _ => forall₂_congr fun n _ => key_allPairs samples n

/-- `compare` succeeds iff every comparison does and the input names are distinct and each compared at least once -/
theorem compare_ok_iff (m : Metric) (samples : List Sample) (ins outs cs : List String) :
    (∃ g, compare m samples ins outs cs = .ok g) ↔
      (∀ p ∈ allPairs samples, ∃ v, pairVal m p.2.1 p.2.2 = .ok v) ∧
      ins.Nodup ∧ ∀ n ∈ ins, present samples n := by
  rw [← allOk_iff, ← filedOK_iff]
  simp only [compare_ok]
  exact ⟨fun ⟨_, vs, hvs, hc, _⟩ => ⟨⟨vs, hvs⟩, hc⟩, fun ⟨⟨vs, hvs⟩, hc⟩ => ⟨_, vs, hvs, hc, rfl⟩⟩

/-- the error of the first failing comparison in evaluation order; if none fails, `KeyError`, exactly when
    the input names are not distinct or one of them was never compared -/
theorem compare_error_iff (m : Metric) (samples : List Sample) (ins outs cs : List String) (e : PyErr) :
    compare m samples ins outs cs = .error e ↔
      (∃ l1 p l2, allPairs samples = l1 ++ p :: l2 ∧
          (∀ q ∈ l1, ∃ v, pairVal m q.2.1 q.2.2 = .ok v) ∧ pairVal m p.2.1 p.2.2 = .error e) ∨
      ((∀ p ∈ allPairs samples, ∃ v, pairVal m p.2.1 p.2.2 = .ok v) ∧ e = .keyError ∧
          ¬ (ins.Nodup ∧ ∀ n ∈ ins, present samples n)) := by
  rw [compare_eq, PyM.bind_eq_error_iff, ← allOk_iff, ← filedOK_iff, PyM.mapM_error_iff]
  refine or_congr (exists_congr fun l1 => exists_congr fun p => exists_congr fun l2 => and_congr_right fun _ =>
      and_congr (forall₂_congr fun q _ => evalPair_ok_iff m q) (evalPair_error m p e)) ?_
  simp only [PyM.ite_ok_eq_error_iff]
  exact ⟨fun ⟨vs, hvs, hc, he⟩ => ⟨⟨vs, hvs⟩, he, hc⟩, fun ⟨⟨vs, hvs⟩, he, hc⟩ => ⟨vs, hvs, hc, he⟩⟩

theorem pairVal_nonneg (m : Metric) (td rd : TData) (v : Rat) (h : pairVal m td rd = .ok v) : 0 ≤ v := by
  obtain ⟨t, r, _, _, h3⟩ := (pairVal_ok_iff m td rd v).1 h
  exact ValidateProofs.metric_nonneg m t r v h3

theorem mem_trace (m : Metric) (samples : List Sample) (n : String) (xs : List Rat)
    (h : trace m samples n = xs.map .ok) (x : Rat) (hx : x ∈ xs) :
    ∃ p ∈ allPairs samples, p.1 = n ∧ pairVal m p.2.1 p.2.2 = .ok x := by
  have : (Except.ok x : PyM Rat) ∈ trace m samples n := by rw [h]; exact List.mem_map_of_mem hx
  unfold trace at this
  obtain ⟨p, hp, hpx⟩ := List.mem_map.1 this
  rw [List.mem_filter] at hp
  exact ⟨p, hp.1, by simpa using hp.2, hpx⟩

/-- a reported value is a mean of comparison results, so it lies in every `Conv` set that holds them -/
theorem compare_conv {P : Rat → Prop} (hP : ValidateProofs.Conv P) (m : Metric) (samples : List Sample) (ins outs cs : List String)
    (g : Groups) (hpair : ∀ p ∈ allPairs samples, ∀ x, pairVal m p.2.1 p.2.2 = .ok x → P x)
    (h : compare m samples ins outs cs = .ok g) (t : Tag) (e : String × Rat) (he : e ∈ get g t) : P e.2 := by
  obtain ⟨xs, htr, hspec⟩ := compare_spec_general m samples ins outs cs g h e.1
  rw [((hspec t e.2).1 he).2.2]
  refine ValidateProofs.meanR_conv hP xs fun x hx => ?_
  obtain ⟨p, hp, _, hpx⟩ := mem_trace m samples e.1 xs htr x hx
  exact hpair p hp x hpx

theorem compare_nonneg (m : Metric) (samples : List Sample) (ins outs cs : List String) (g : Groups)
    (h : compare m samples ins outs cs = .ok g) (t : Tag) (e : String × Rat) (he : e ∈ get g t) :
    0 ≤ e.2 :=
  compare_conv ValidateProofs.conv_nonneg m samples ins outs cs g (fun _ _ x hx => pairVal_nonneg m _ _ x hx) h t e he

theorem pairVal_self (m : Metric) (d : TData) (v : Rat) (h : pairVal m d d = .ok v) : v = 0 := by
  obtain ⟨t, r, h1, h2, h3⟩ := (pairVal_ok_iff m d d v).1 h
  cases h1.symm.trans h2
  exact (Except.ok.inj ((ValidateProofs.metric_refl m t).symm.trans h3)).symm

theorem pairVal_self_ok (m : Metric) (d : TData) : (∃ v, pairVal m d d = .ok v) ↔ ∃ t, values d = .ok t := by
  rw [pairVal_ok_exists]
  constructor
  · rintro ⟨t, _, h, _⟩; exact ⟨t, h⟩
  · rintro ⟨t, h⟩; exact ⟨t, t, h, h, rfl⟩

theorem allPairs_self (samples : List Sample) (hself : ∀ s ∈ samples, s.target = s.ref)
    (hnd : ∀ s ∈ samples, (s.ref.map (·.1)).Nodup) (p : String × TData × TData) :
    p ∈ allPairs samples ↔ p.2.1 = p.2.2 ∧ ∃ s ∈ samples, (p.1, p.2.2) ∈ s.ref := by
  rw [mem_allPairs]
  constructor
  · rintro ⟨s, hs, e, he, htd, h1, h2⟩
    rw [hself s hs, (Py.mem_iff_dictGet? _ (hnd s hs) e.1 e.2).1 he] at htd
    simp only [Option.some.injEq] at htd
    exact ⟨by rw [h2, htd], s, hs, by rw [h1, h2]; exact he⟩
  · rintro ⟨h1, s, hs, he⟩
    refine ⟨s, hs, (p.1, p.2.2), he, ?_, rfl, rfl⟩
    rw [hself s hs, h1]
    exact (Py.mem_iff_dictGet? _ (hnd s hs) _ _).1 he

theorem present_self (samples : List Sample) (hself : ∀ s ∈ samples, s.target = s.ref) (n : String) :
    present samples n ↔ ∃ s ∈ samples, n ∈ s.ref.map (·.1) := by
  unfold present
  constructor
  · rintro ⟨s, hs, h, _⟩; exact ⟨s, hs, h⟩
  · rintro ⟨s, hs, h⟩; exact ⟨s, hs, h, by rw [hself s hs]; exact h⟩

theorem self_compare (m : Metric) (samples : List Sample) (ins outs cs : List String) (g : Groups)
    (hself : ∀ s ∈ samples, s.target = s.ref) (hnd : ∀ s ∈ samples, (s.ref.map (·.1)).Nodup)
    (h : compare m samples ins outs cs = .ok g) :
    (∀ t, ∀ e ∈ get g t, e.2 = 0) ∧
    (∀ s ∈ samples, ∀ n ∈ s.ref.map (·.1), (n, 0) ∈ get g (classify ins outs cs n)) := by
  have hzero := compare_conv ValidateProofs.conv_zero m samples ins outs cs g
    (fun p hp x hx => pairVal_self m _ x (((allPairs_self samples hself hnd p).1 hp).1 ▸ hx)) h
  refine ⟨hzero, fun s hs n hn => ?_⟩
  obtain ⟨xs, htr, hspec⟩ := compare_spec_general m samples ins outs cs g h n
  have hne : xs ≠ [] := by
    have := (trace_ne_nil_iff m samples n).2 ((present_self samples hself n).2 ⟨s, hs, hn⟩)
    rw [htr] at this
    simpa using this
  have hmem := (hspec (classify ins outs cs n) (meanR xs)).2 ⟨hne, rfl, rfl⟩
  rwa [show meanR xs = 0 from hzero _ _ hmem] at hmem

def swap (s : Sample) : Sample := ⟨s.target, s.ref⟩

theorem pairVal_mse_symm (a b : TData) (v : Rat) : pairVal .mse a b = .ok v ↔ pairVal .mse b a = .ok v := by
  rw [pairVal_ok_iff, pairVal_ok_iff]
  constructor
  · rintro ⟨t, r, h1, h2, h3⟩
    exact ⟨r, t, h2, h1, by simp only [metric] at h3 ⊢; rw [ValidateProofs.mse_symm]; exact h3⟩
  · rintro ⟨t, r, h1, h2, h3⟩
    exact ⟨r, t, h2, h1, by simp only [metric] at h3 ⊢; rw [ValidateProofs.mse_symm]; exact h3⟩

def flip (p : String × TData × TData) : String × TData × TData := (p.1, p.2.2, p.2.1)

/-- with the same (distinct) tensor names in the same order on both sides, the swapped run performs
    the same comparisons with the two arguments exchanged -/
theorem pairs_swap (R T : List (String × TData)) (hR : (R.map (·.1)).Nodup) (hT : (T.map (·.1)).Nodup) :
    ∀ (l l' : List (String × TData)), l.map (·.1) = l'.map (·.1) → (∀ e ∈ l, e ∈ R) → (∀ e ∈ l', e ∈ T) →
      (l'.filterMap fun e => (Py.dictGet? R e.1).map fun td => (e.1, td, e.2)) =
        (l.filterMap fun e => (Py.dictGet? T e.1).map fun td => (e.1, td, e.2)).map flip := by
  intro l
  induction l with
  | nil => intro l' h _ _; cases l' with | nil => rfl | cons _ _ => cases h
  | cons e es ih =>
    intro l' h hl hl'
    cases l' with
    | nil => cases h
    | cons e' es' =>
      simp only [List.map_cons, List.cons.injEq] at h
      have h1 : Py.dictGet? R e'.1 = some e.2 := by
        rw [← h.1]; exact (Py.mem_iff_dictGet? R hR e.1 e.2).1 (hl e List.mem_cons_self)
      have h2 : Py.dictGet? T e.1 = some e'.2 := by
        rw [h.1]; exact (Py.mem_iff_dictGet? T hT e'.1 e'.2).1 (hl' e' List.mem_cons_self)
      rw [List.filterMap_cons, List.filterMap_cons, h1, h2]
      simp only [Option.map_some, List.map_cons]
      rw [ih es' h.2 (fun x hx => hl x (by simp [hx])) (fun x hx => hl' x (by simp [hx]))]
      simp only [flip, h.1]

theorem allPairs_swap (samples : List Sample)
    (hnames : ∀ s ∈ samples, s.ref.map (·.1) = s.target.map (·.1))
    (hnd : ∀ s ∈ samples, (s.ref.map (·.1)).Nodup) :
    allPairs (samples.map swap) = (allPairs samples).map flip := by
  unfold allPairs
  rw [List.flatMap_map, List.map_flatMap]
  apply List.flatMap_congr
  intro s hs
  unfold samplePairs swap
  exact pairs_swap s.ref s.target (hnd s hs) (hnames s hs ▸ hnd s hs) s.ref s.target (hnames s hs)
    (fun _ h => h) (fun _ h => h)

theorem mapM_evalPair_flip (l : List (String × TData × TData)) (vs : List (String × Rat)) :
    (l.map flip).mapM (evalPair .mse) = .ok vs ↔ l.mapM (evalPair .mse) = .ok vs := by
  rw [PyM.mapM_ok_iff, PyM.mapM_ok_iff, List.forall₂_map_left_iff]
  apply Iff.of_eq
  congr 1
  funext p v
  rw [evalPair_ok, evalPair_ok]
  simp only [flip]
  rw [pairVal_mse_symm]

def okVals (l : List (PyM Rat)) : List Rat := l.filterMap Except.toOption

theorem okVals_map_ok (xs : List Rat) : okVals (xs.map .ok) = xs := by
  unfold okVals
  rw [List.filterMap_map]
  exact List.filterMap_some

theorem toOption_pairVal_mse (a b : TData) :
    (pairVal .mse a b).toOption = (pairVal .mse b a).toOption := by
  cases h : pairVal .mse a b with
  | ok v => rw [(pairVal_mse_symm a b v).1 h]
  | error e =>
    cases h' : pairVal .mse b a with
    | ok v => rw [(pairVal_mse_symm a b v).2 h'] at h; cases h
    | error e' => rfl

theorem okVals_perSample_swap (samples : List Sample) (n : String) :
    okVals (perSample .mse (samples.map swap) n) = okVals (perSample .mse samples n) := by
  unfold okVals perSample
  rw [List.flatMap_map, List.filterMap_flatMap, List.filterMap_flatMap]
  refine List.flatMap_congr fun s _ => ?_
  simp only [sampleVal, swap]
  cases Py.dictGet? s.ref n with
  | none => cases Py.dictGet? s.target n <;> rfl
  | some rd =>
    cases Py.dictGet? s.target n with
    | none => rfl
    | some td => simp only [List.filterMap_cons, List.filterMap_nil, toOption_pairVal_mse rd td]

theorem present_swap (samples : List Sample) (n : String) :
    present (samples.map swap) n ↔ present samples n := by
  unfold present
  simp only [List.mem_map]
  constructor
  · rintro ⟨_, ⟨s, hs, rfl⟩, h1, h2⟩; exact ⟨s, hs, h2, h1⟩
  · rintro ⟨s, hs, h1, h2⟩; exact ⟨swap s, ⟨s, hs, rfl⟩, h2, h1⟩

theorem mem_allPairs_nodup (samples : List Sample) (hnd : ∀ s ∈ samples, (s.ref.map (·.1)).Nodup)
    (p : String × TData × TData) :
    p ∈ allPairs samples ↔
      ∃ s ∈ samples, Py.dictGet? s.ref p.1 = some p.2.2 ∧ Py.dictGet? s.target p.1 = some p.2.1 := by
  rw [mem_allPairs]
  constructor
  · rintro ⟨s, hs, e, he, htd, h1, h2⟩
    refine ⟨s, hs, ?_, h1 ▸ htd⟩
    rw [h1, h2]; exact (Py.mem_iff_dictGet? _ (hnd s hs) e.1 e.2).1 he
  · rintro ⟨s, hs, h1, h2⟩
    exact ⟨s, hs, (p.1, p.2.2), Py.dictGet?_mem _ _ _ h1, h2, rfl, rfl⟩

end ValidateE2E
