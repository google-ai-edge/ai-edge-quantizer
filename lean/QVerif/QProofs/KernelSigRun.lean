import QProofs.KernelSig
import QProofs.TypingModes
/-!
# Kernel signatures (C01b): the table read slot by slot, its operand kinds against the slot roles of the
materialisation, and what a successful run gives besides the typing theorems of C03d
-/
open Graph Mat Pipeline Skeleton SkeletonProof

set_option autoImplicit false

namespace KernelSig

theorem sig_iff (row : Kind → DT → Bool) (res : Nat) (nm : String) (ins outs : List DT) :
    sig row res nm ins outs = true ↔
      arityOK nm ins.length outs.length = true ∧ (∀ j d, ins[j]? = some d → row (kind nm j) d = true) ∧
        ∀ d ∈ outs, d = some res := by
  unfold sig
  simp only [Bool.and_eq_true, List.all_eq_true, beq_iff_eq]
  constructor
  · rintro ⟨⟨h1, h2⟩, h3⟩
    exact ⟨h1, fun j d hj => h2 (d, j) (List.mem_zipIdx_iff_getElem?.2 hj), h3⟩
  · rintro ⟨h1, h2, h3⟩
    exact ⟨⟨h1, fun p hp => h2 p.2 p.1 (List.mem_zipIdx_iff_getElem?.1 hp)⟩, h3⟩

theorem dtypeAt_some (sg : Subgraph) (t : Int) (h0 : 0 ≤ t) (tn : Tensor) (htn : sg.tensors[t.toNat]? = some tn) :
    dtypeAt sg t = some tn.dtype := by
  unfold dtypeAt
  rw [if_neg (by omega), htn]
  rfl

theorem dtypeAt_neg (sg : Subgraph) (t : Int) (h : t < 0) : dtypeAt sg t = none := by
  unfold dtypeAt
  rw [if_pos h]

theorem dtypeAt_eq_some (sg : Subgraph) (t : Int) (d : Nat) (h : dtypeAt sg t = some d) :
    0 ≤ t ∧ ∃ tn, sg.tensors[t.toNat]? = some tn ∧ tn.dtype = d := by
  unfold dtypeAt at h
  split at h
  · cases h
  · rename_i hn
    cases htn : sg.tensors[t.toNat]? with
    | none => rw [htn] at h; cases h
    | some tn =>
      rw [htn] at h
      exact ⟨by omega, tn, rfl, Option.some.inj h⟩

theorem fl_arity {nm : String} {sg : Subgraph} {op : Op}
    (fl : floatSig nm (op.inputs.map (dtypeAt sg)) (op.outputs.map (dtypeAt sg)) = true) :
    arityOK nm op.inputs.length op.outputs.length = true := by
  have := ((sig_iff _ _ _ _ _).1 fl).1
  rwa [List.length_map, List.length_map] at this

theorem fl_out {nm : String} {sg : Subgraph} {op : Op}
    (fl : floatSig nm (op.inputs.map (dtypeAt sg)) (op.outputs.map (dtypeAt sg)) = true) (t : Int)
    (ht : t ∈ op.outputs) : 0 ≤ t ∧ ∃ tn, sg.tensors[t.toNat]? = some tn ∧ tn.dtype = Tables.ttFloat32 :=
  dtypeAt_eq_some sg t _ (((sig_iff _ _ _ _ _).1 fl).2.2 _ (List.mem_map.2 ⟨t, ht, rfl⟩))

theorem fl_row {nm : String} {sg : Subgraph} {op : Op}
    (fl : floatSig nm (op.inputs.map (dtypeAt sg)) (op.outputs.map (dtypeAt sg)) = true) {j : Nat} {t : Int}
    (hj : op.inputs[j]? = some t) : floatRow nm (kind nm j) (dtypeAt sg t) = true :=
  ((sig_iff _ _ _ _ _).1 fl).2.1 j _ (by rw [List.getElem?_map, hj]; rfl)

def names : List String := Tables.opCodeOfName.map (·.1)

theorem opNameOfCode_mem {code : Nat} {nm : String} (h : opNameOfCode code = some nm) :
    (nm, code) ∈ Tables.opCodeOfName := by
  unfold opNameOfCode at h
  obtain ⟨e, hf, rfl⟩ := Option.map_eq_some_iff.1 h
  have hc : e.2 = code := by simpa using List.find?_some hf
  exact hc ▸ List.mem_of_find?_eq_some hf

theorem name_mem (code : Nat) (nm : String) (h : opNameOfCode code = some nm) : nm ∈ names :=
  List.mem_map.2 ⟨_, opNameOfCode_mem h, rfl⟩

theorem nameOfCode_named (code : Nat) (nm : String) (h : opNameOfCode code = some nm) :
    nameOfCode code = some nm ∧ nm ≠ "QUANTIZE" ∧ nm ≠ "DEQUANTIZE" := by
  have hall : ∀ e ∈ Tables.opCodeOfName, e.2 ≠ Tables.opQuantize ∧ e.2 ≠ Tables.opDequantize ∧
      e.1 ≠ "QUANTIZE" ∧ e.1 ≠ "DEQUANTIZE" := by decide +kernel
  obtain ⟨a, b, c, d⟩ := hall _ (opNameOfCode_mem h)
  refine ⟨?_, c, d⟩
  unfold nameOfCode
  rw [if_neg a, if_neg b, h]

theorem nameOfCode_none (code : Nat) (h : opNameOfCode code = none) (h1 : code ≠ Tables.opQuantize)
    (h2 : code ≠ Tables.opDequantize) : nameOfCode code = none := by
  unfold nameOfCode
  rw [if_neg h1, if_neg h2, h]

theorem names_not_io : ∀ nm ∈ names, nm ≠ "INPUT" ∧ nm ≠ "OUTPUT" := by decide +kernel

def roleOf : Kind → Nat
  | .index => 1
  | .bias => 2
  | _ => 0

/-- the operators with a weight config (`Tables.woOps` = `Tables.drqOps`) -/
def weightOp (nm : String) : Bool := Tables.woOps.contains nm

/-- operand position `j` of operator `nm`, in the vocabulary of the table (`kind`) and in that of the
    materialisation (`PipeNF.slotRole`, `biasSlot`, `dataSlot`, `Tables.woOps`) -/
def SlotFacts (nm : String) (j : Nat) : Prop :=
  roleOf (kind nm j) = PipeNF.slotRole nm j ∧
  (kind nm j = .bias → PipeNF.biasSlot nm = some j ∧ nm ≠ "EMBEDDING_LOOKUP" ∧ weightOp nm = true) ∧
  (kind nm j = .weight → weightOp nm = true ∧ j = 1) ∧
  (kind nm j = .data → weightOp nm = true → j = PipeNF.dataSlot nm ∧ nm ≠ "EMBEDDING_LOOKUP") ∧
  (kind nm j = .index → weightOp nm = true → j = 0) ∧
  (kind nm j ≠ .bias → PipeNF.biasSlot nm ≠ some j)

instance (nm : String) (j : Nat) : Decidable (SlotFacts nm j) := by
  unfold SlotFacts
  infer_instance

theorem layout_check : names.all (fun nm =>
    match layout nm with
    | some L => (L.variadic == (nm == "CONCATENATION")) && (List.range L.fixed.length).all fun j => SlotFacts nm j
    | none => false) = true := by decide +kernel

theorem concat_slot (j : Nat) : SlotFacts "CONCATENATION" j := by
  have hl : layout "CONCATENATION" = some { fixed := [], minIn := 1, variadic := true } := by decide +kernel
  have hk : kind "CONCATENATION" j = .data := by unfold kind; rw [hl]; rfl
  have hi : PipeNF.indexSlots "CONCATENATION" = [] := by decide +kernel
  have hb : PipeNF.biasSlot "CONCATENATION" = none := by decide +kernel
  have hr : PipeNF.slotRole "CONCATENATION" j = 0 := by unfold PipeNF.slotRole; rw [hi, hb]; simp
  unfold SlotFacts
  rw [hk, hr, hb]
  exact ⟨rfl, nofun, nofun, fun _ h => absurd h (by decide +kernel), nofun, fun _ => nofun⟩

/-- **the table's operand kinds agree with the materialisation's slot roles**, for every operand position
    of an operator whose arity the table accepts -/
theorem slot_table (nm : String) (hnm : nm ∈ names) (nIn nOut : Nat) (har : arityOK nm nIn nOut = true)
    (j : Nat) (hj : j < nIn) : SlotFacts nm j := by
  have h := List.all_eq_true.1 layout_check nm hnm
  unfold arityOK at har
  cases hlay : layout nm with
  | none => rw [hlay] at h; cases h
  | some L =>
    rw [hlay] at h har
    simp only [Bool.and_eq_true, Bool.or_eq_true, beq_iff_eq, List.all_eq_true, List.mem_range,
      decide_eq_true_eq] at h har
    rcases har.1.1.2 with hv | hlen
    · obtain rfl : nm = "CONCATENATION" := by simpa [hv] using h.1
      exact concat_slot j
    · exact h.2 j (by omega)

/-- facts about a successful run that the typing theorems of C03d do not state -/
structure Run (env : Env) (m' : Model) : Prop where
  nsg : m'.subgraphs.length = env.model.subgraphs.length
  sk : ∀ (s : Nat) (sg sg' : Subgraph), env.model.subgraphs[s]? = some sg → m'.subgraphs[s]? = some sg' →
    SkInv sg sg'
  wf : WF.modelOK m' = true
  codes : ∀ (i c : Nat), env.model.opcodes[i]? = some c → m'.opcodes[i]? = some c
  insNonneg : ∀ (s : Nat) (sg' : Subgraph), m'.subgraphs[s]? = some sg' → ∀ o ∈ sg'.ops, o.orig = none →
    ∀ t ∈ o.inputs, (0 : Int) ≤ t

theorem run_of (rx : String → String → Bool) (env : Env) (st : Recipe.State) (qsvs : Option Qsvs)
    (m' : Model) (tbl : List Param) (hnf : PipelineWF.NF env st)
    (h : quantizePure rx env st qsvs = .ok (m', tbl)) : Run env m' := by
  obtain ⟨res, tis, stF, rfl, rfl, S, F, R⟩ := TypingE2E.run rx env st qsvs m' tbl hnf h
  refine ⟨F.base.inv.nsg, F.base.sk.sgs, F.base.inv.wf, R.codes, ?_⟩
  intro s sg' hsg' o ho hn t ht
  obtain ⟨sg, ci, t0, n, tin, tout, -, ho', -⟩ :=
    TypingE2E.inserted_ops_typed rx env st qsvs _ _ hnf h s sg' hsg' o ho hn
  rw [ho'] at ht
  simp only [List.mem_singleton] at ht
  subst ht
  exact Int.natCast_nonneg t0

theorem Run.source {env : Env} {m' : Model} (R : Run env m') (s : Nat) (sg' : Subgraph)
    (hsg' : m'.subgraphs[s]? = some sg') : ∃ sg, env.model.subgraphs[s]? = some sg := by
  have : s < env.model.subgraphs.length := by
    rw [← R.nsg]; exact (List.getElem?_eq_some_iff.1 hsg').1
  exact ⟨_, List.getElem?_eq_getElem this⟩

theorem orig_source {env : Env} {m' : Model} (R : Run env m') (htag : origTagged env.model = true)
    (s : Nat) (sg sg' : Subgraph) (hsg : env.model.subgraphs[s]? = some sg)
    (hsg' : m'.subgraphs[s]? = some sg') (o : Op) (ho : o ∈ sg'.ops) (k : Nat) (hk : o.orig = some k) :
    ∃ op, sg.ops[k]? = some op := by
  have K := R.sk s sg sg' hsg hsg'
  have hmem : ({ o with inputs := o.inputs.map (root sg'), outputs := o.outputs.map (root sg') } : Op) ∈ sg.ops := by
    rw [← K.ops]
    unfold eraseOps
    exact List.mem_map.2 ⟨o, List.mem_filter.2 ⟨ho, by rw [hk]; rfl⟩, rfl⟩
  obtain ⟨i, hi⟩ := List.mem_iff_getElem?.1 hmem
  have := origTagged_get env.model htag s sg hsg i _ hi
  simp only [hk, Option.some.injEq] at this
  subst this
  exact ⟨_, hi⟩

theorem root_neg {sg sg' : Subgraph} (K : SkInv sg sg')
    (hins : ∀ o ∈ sg'.ops, o.orig = none → ∀ t ∈ o.inputs, (0 : Int) ≤ t)
    (z : Int) (h : root sg' z < 0) : root sg' z = z := by
  by_cases hex : ∃ o ∈ sg'.ops, o.orig = none ∧ o.outputs = [z]
  · obtain ⟨o, ho, hn, hz⟩ := hex
    obtain ⟨t, n, e1, e2, -, e4, -⟩ := K.ins.shape o ho hn
    have hr := root_derived _ sg' K.ins o t z ho hn e1 hz
    have := hins o ho hn t (by rw [e1]; exact List.mem_singleton.2 rfl)
    rw [hr] at h
    omega
  · exact root_fix sg' z (fun o ho hn he => hex ⟨o, ho, hn, he⟩)

/-- the float signature of one operator of the input (Bool; `decide` evaluates it on closed models) -/
def floatOpB (m : Model) (sg : Subgraph) (op : Op) : Bool :=
  match m.opcodes[op.code]? with
  | none => true
  | some code =>
    match opNameOfCode code with
    | some nm => floatSig nm (op.inputs.map (dtypeAt sg)) (op.outputs.map (dtypeAt sg))
    | none => code != Tables.opQuantize && code != Tables.opDequantize

/-- **the input is a float model** as far as the table is concerned: every operator the quantizer knows has the float
    signature of the table, and there is no QUANTIZE / DEQUANTIZE operator (see `C01.FloatModel`) -/
def FloatModel (m : Model) : Prop :=
  (m.subgraphs.all fun sg => sg.ops.all fun op => floatOpB m sg op) = true

theorem FloatModel.get {m : Model} (h : FloatModel m) :
    ∀ sg ∈ m.subgraphs, ∀ op ∈ sg.ops, ∀ code, m.opcodes[op.code]? = some code →
      (∀ nm, opNameOfCode code = some nm →
        floatSig nm (op.inputs.map (dtypeAt sg)) (op.outputs.map (dtypeAt sg)) = true) ∧
      (opNameOfCode code = none → code ≠ Tables.opQuantize ∧ code ≠ Tables.opDequantize) := by
  intro sg hsg op hop code hcode
  unfold FloatModel at h
  rw [List.all_eq_true] at h
  have h1 := h sg hsg
  rw [List.all_eq_true] at h1
  have h2 := h1 op hop
  unfold floatOpB at h2
  rw [hcode] at h2
  simp only at h2
  constructor
  · intro nm hnm
    rw [hnm] at h2
    exact h2
  · intro hnm
    rw [hnm] at h2
    simpa using h2

instance (m : Model) : Decidable (FloatModel m) := by
  unfold FloatModel
  infer_instance

end KernelSig
