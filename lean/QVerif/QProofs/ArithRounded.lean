import QProofs.RoundedAux
/-!
# C17 under IEEE rounding: the scalar cores of `QModel/Arith.lean` in float32 / float64 as numpy evaluates them, for every rational input
Over the error model `RAux.Err`: the parameters of one channel (`asym_rounded`, `chanZp_range`); the two round trips (`q_dq_rounded`; `dq_q_near`,
for values up to `1/2 + ε` steps outside the representable range, `dq_q_rounded` is `ε = 0`); namespace `ConstCover`: the parameters computed from a
channel's min/max cover `[min, max]` up to `ε = 12·2^-24·2^(bits-1)` (`cover`), so the round trip holds for every element, clipped ones included. -/
open Num Arith ArithL RAux

set_option autoImplicit false

namespace ArithRounded

theorem pow_bits_add (bits k : Nat) (h : 1 ≤ bits) :
    (2:Rat)^(bits + k) = (2:Rat)^(k + 1) * (2:Rat)^(bits - 1) := by
  rw [← pow_add]; congr 1; omega

section
variable {pr : Prec} {u τ : Rat}

theorem scale_round (E : Err pr u τ) {b N : Rat} (hb : (2:Rat)^(-14:Int) ≤ b) (hN1 : 1 ≤ N) (hN : N ≤ 65535) :
    (2:Rat)^(-30:Int) ≤ pr.rn (b / N) ∧ b * (1 - u) ≤ pr.rn (b / N) * N := by
  have hN0 : 0 < N := by linarith only [hN1]
  have hN16 : N ≤ (2:Rat)^(16:Int) := hN.trans (by norm_num)
  have hn : (2:Rat)^(-126:Int) ≤ b / N :=
    le_trans (zpow_le_zpow_right₀ (by norm_num) (by norm_num)) (div_ge30 hb hN0 hN16)
  have := mul_le_mul_of_nonneg_right (rn_ge E hn) hN0.le
  rw [mul_right_comm, div_mul_cancel₀ b hN0.ne'] at this
  exact ⟨scale_ge pr E.ne16 hb hN0 hN16, this⟩

/-- two roundings down cost a relative `3u`: `(1-u)²(1+3u) = 1 + u(1 - 5u + 3u²) ≥ 1` -/
theorem two_back (hu0 : 0 ≤ u) (hu : u ≤ 1/8) {D b X : Rat} (hD : 0 ≤ D)
    (h1 : D * (1 - u) ≤ b) (h2 : b * (1 - u) ≤ X) : D ≤ X * (1 + 3 * u) := by
  have a : D * (1 - u) * (1 - u) ≤ X := (mul_le_mul_of_nonneg_right h1 (by linarith only [hu])).trans h2
  have b1 := mul_le_mul_of_nonneg_right a (by linarith only [hu0] : 0 ≤ 1 + 3 * u)
  have c : 0 ≤ D * (u * (1 - 5 * u + 3 * (u * u))) :=
    mul_nonneg hD (mul_nonneg hu0 (by have := mul_nonneg hu0 hu0; linarith only [hu, this]))
  linarith only [b1, c]

theorem asym_scale (E : Err pr u τ) (P : Rat) (hP2 : 2 ≤ P) (hP : P ≤ 32768)
    (bmin bmax mb : Rat) (h0 : bmin ≤ 0) (h1 : 0 ≤ bmax) (hmb : (2:Rat)^(-14:Int) ≤ mb) :
    (2:Rat)^(-30:Int) ≤ pr.rn (maxR (pr.rn (bmax - bmin)) mb / (2 * P - 1)) ∧
    bmax - bmin ≤ pr.rn (maxR (pr.rn (bmax - bmin)) mb / (2 * P - 1)) * (2 * P - 1) * (1 + 3 * u) := by
  obtain ⟨s3, s1⟩ := scale_round E (hmb.trans (maxR_ge_right (pr.rn (bmax - bmin)) mb))
    (N := 2 * P - 1) (by linarith only [hP2]) (by linarith only [hP])
  have hbD := le_maxR_rn E (D := bmax - bmin) (by linarith only [h0, h1])
    (le_trans (zpow_le_zpow_right₀ (by norm_num) (by norm_num)) hmb)
  exact ⟨s3, two_back E.u0 E.u8 (by linarith only [h0, h1]) hbD s1⟩

theorem asym_zp_err (E : Err pr u τ) (P : Rat) (hP2 : 2 ≤ P) {t : Rat}
    (ht1 : -(2 * P) ≤ t) (ht0 : t ≤ 0) : |pr.rn (-P - pr.rn t) - (-P - t)| ≤ 6 * u * P := by
  have ht : |t| ≤ 2 * P := abs_le.mpr ⟨ht1, by linarith only [ht0, hP2]⟩
  have q1 : |pr.rn t - t| ≤ u * (2 * P) + τ :=
    (E.abs t).trans (add_le_add (mul_le_mul_of_nonneg_left ht E.u0) le_rfl)
  have e : -P - pr.rn t - (-P - t) = -(pr.rn t - t) := by ring
  have q2 := rn_step E (x := -P - pr.rn t) (y := -P - t) (Y := P)
    (((congrArg abs e).trans (abs_neg _)).trans_le q1)
    (abs_le.mpr ⟨by linarith only [ht0], by linarith only [ht1]⟩)
  refine q2.trans ?_
  -- `3uP + 2u²P + uτ + 2τ ≤ 6uP`
  have uP : 0 ≤ u * P := mul_nonneg E.u0 (by linarith only [hP2])
  have uuP : u * (u * P) ≤ 1/8 * (u * P) := mul_le_mul_of_nonneg_right E.u8 uP
  have uτ : u * τ ≤ 1/8 * u := by
    have := mul_le_mul_of_nonneg_left (E.τu.trans E.u8) E.u0; linarith only [this]
  have u2P : 2 * u ≤ u * P := by have := mul_le_mul_of_nonneg_left hP2 E.u0; linarith only [this]
  linarith only [uuP, uτ, u2P, E.τu, uP]

/-- **the asymmetric parameters under an error model** (`P = 2^(bits-1)`): the zero point needs no clipping and is within `1/2 + 6uP` of the
    exact `-P - bmin/scale`; `scale·(2P-1)` covers `bmax - bmin` up to a relative `3u`.  `u = 0` is the ideal law `C17.cover_ideal` -/
theorem asym_rounded (E : Err pr u τ) (bits : Nat) (hb2 : 2 ≤ bits) (hb16 : bits ≤ 16)
    (huP : 32 * (u * (2:Rat)^(bits-1)) ≤ 1) (mn mx : Rat) :
    (2:Rat)^(-30:Int) ≤ asymScale pr bits mn mx ∧
    maxR mx 0 - minR mn 0
      ≤ asymScale pr bits mn mx * (2 * (2:Rat)^(bits-1) - 1) * (1 + 3 * u) ∧
    (qmin bits ≤ asymZp pr bits mn mx ∧ asymZp pr bits mn mx ≤ qmax bits) ∧
    |((asymZp pr bits mn mx : Int) : Rat)
        - (-(2:Rat)^(bits-1) - minR mn 0 / asymScale pr bits mn mx)|
      ≤ 1/2 + 6 * u * (2:Rat)^(bits-1) := by
  obtain ⟨hp1, hp2⟩ := pow_bounds bits hb2 hb16
  have h0 := minR_le_right mn 0
  have h1 := maxR_ge_right mx 0
  have hu0 := E.u0
  have hsc : asymScale pr bits mn mx
      = pr.rn (maxR (pr.rn (maxR mx 0 - minR mn 0)) (minBound pr) / (2 * (2:Rat)^(bits-1) - 1)) := by
    unfold asymScale asymBound asymDiff
    rw [qmaxF_eq bits (by omega), qminF_eq bits (by omega)]
    congr 2; ring
  have hzf : asymZpF pr bits mn mx
      = pr.rn (-(2:Rat)^(bits-1) - pr.rn (minR mn 0 / asymScale pr bits mn mx)) := by
    unfold asymZpF asymQuo
    rw [qminF_eq bits (by omega)]
  obtain ⟨a1, a2⟩ := asym_scale E _ hp1 hp2 _ _ _ h0 h1 (minBound_ge14 pr E.ne16)
  rw [← hsc] at a1 a2
  have hs0 := (Rounding.two_zpow_pos _).trans_le a1
  obtain ⟨t1, t0⟩ := quo_range hs0 h0 h1 a2
  -- `N(1+3u) ≤ 2P`
  have t1' : -(2 * (2:Rat)^(bits-1)) ≤ minR mn 0 / asymScale pr bits mn mx :=
    le_trans (by linarith only [huP, hu0]) t1
  have hz := asym_zp_err E _ hp1 t1' t0
  rw [← hzf] at hz
  obtain ⟨z1, z2⟩ := abs_le.mp hz
  have r1 : qmin bits ≤ rhe (asymZpF pr bits mn mx) := Rounding.le_rhe (by
    rw [qmin_cast]; linarith only [z1, t0, huP])
  have r2 : rhe (asymZpF pr bits mn mx) ≤ qmax bits := Rounding.rhe_le (by
    rw [qmax_cast]; linarith only [z2, t1, huP, hu0])
  rw [asymZp_eq_rhe pr bits hb2 (by omega) mn mx r1 r2]
  refine ⟨a1, a2, ⟨r1, r2⟩, ?_⟩
  have := abs_sub_le ((rhe (asymZpF pr bits mn mx) : Int) : Rat) (asymZpF pr bits mn mx)
    (-(2:Rat)^(bits-1) - minR mn 0 / asymScale pr bits mn mx)
  linarith only [this, Rounding.rhe_err (asymZpF pr bits mn mx), hz]

end

theorem huP24 (bits : Nat) (hb2 : 2 ≤ bits) (hb16 : bits ≤ 16) : 32 * (u32 * (2:Rat)^(bits-1)) ≤ 1 := by
  have := (pow_bounds bits hb2 hb16).2
  rw [u32_num]
  linarith only [this]

theorem chanZp_range (pr : Prec) (hpr : pr ≠ .f16) (bits : Nat) (hb2 : 2 ≤ bits) (hb16 : bits ≤ 16) (sym : Bool)
    (mn mx : Rat) : qmin bits ≤ chanZp pr bits sym mn mx ∧ chanZp pr bits sym mn mx ≤ qmax bits := by
  cases sym
  · exact (asym_rounded (Err.wide pr hpr) bits hb2 hb16 (huP24 bits hb2 hb16) mn mx).2.2.1
  · have := two_le_pow_pred bits hb2
    rw [chanZp_sym]
    unfold qmin qmax
    omega

theorem zp_in_range (pr : Prec) (hpr : pr = .f32 ∨ pr = .f64) (bits : Nat) (hb2 : 2 ≤ bits) (hb16 : bits ≤ 16)
    (mn mx : Rat) (hmm : mn ≤ mx) (zp : Int) (s : Rat)
    (h : zpScale1 pr bits false mn mx = .ok (zp, s)) :
    qmin bits ≤ zp ∧ zp ≤ qmax bits :=
  (zpScale1_ok_iff.1 h).2.1 ▸ chanZp_range pr (ne_f16 pr hpr) bits hb2 hb16 false mn mx

/-- rational core of `q_dq_rounded`: the three roundings of `(c - zp)·s·(1/s)` cost a relative `4u`,
    the final one of `… + zp` an absolute `u·|c|` -/
theorem qdq_core (s : Rat) (hs1 : (2:Rat)^(-100:Int) ≤ s) (hs2 : s ≤ (2:Rat)^(100:Int))
    (c zp : Int) (hc : |c| ≤ 32768) (hzp : |zp| ≤ 32768) :
    |Prec.f64.rn (Prec.f64.rn (Prec.f64.rn (((c - zp : Int) : Rat) * s) * Prec.f32.rn (1 / s)) + zp) - c|
      < 1/2 := by
  obtain ⟨d2, hd2, e2⟩ := inv_delta s hs1 hs2
  obtain ⟨d1, hd1, e1⟩ := int_mul_delta (Err.wide .f64 (by decide)) (c - zp) s hs1
  have h12 := delta_mul hd1 hd2
  have hm : (2:Rat)^(-100:Int) ≤ (1 + d1) * (1 + d2) := by
    have h100 : (2:Rat)^(-100:Int) ≤ 1/2 :=
      le_trans (zpow_le_zpow_right₀ (by norm_num) (by norm_num) : _ ≤ (2:Rat)^(-1:Int)) (by norm_num)
    have := (abs_le.mp h12).1
    rw [u32_num] at this
    exact h100.trans (by linarith only [this])
  obtain ⟨d3, hd3, e3⟩ := int_mul_delta (Err.wide .f64 (by decide)) (c - zp) ((1 + d1) * (1 + d2)) hm
  have eprod : Prec.f64.rn (((c - zp : Int) : Rat) * s) * Prec.f32.rn (1 / s)
      = ((c - zp : Int) : Rat) * ((1 + d1) * (1 + d2)) := by
    rw [e1, mul_right_comm, mul_assoc _ s, mul_comm s, e2]; ring
  rw [eprod, e3]
  have hk : |((c - zp : Int) : Rat)| ≤ 65536 := by
    have h : |c - zp| ≤ 65536 := by rw [abs_le] at hc hzp ⊢; omega
    exact_mod_cast h
  have hθ : |((c - zp : Int) : Rat) * ((1 + d1) * (1 + d2)) * (1 + d3) + zp - c| ≤ 65536 * (4 * u32) := by
    rw [show ((c - zp : Int) : Rat) * ((1 + d1) * (1 + d2)) * (1 + d3) + zp - c
        = ((c - zp : Int) : Rat) * ((1 + d1) * (1 + d2) * (1 + d3) - 1) by push_cast; ring, abs_mul]
    exact mul_le_mul hk (three_delta d1 d2 d3 hd1 hd2 hd3) (abs_nonneg _) (by norm_num)
  have hcR : |(c : Rat)| ≤ 32768 := by exact_mod_cast hc
  refine lt_of_le_of_lt (rn_step (Err.wide .f64 (by decide)) hθ hcR) ?_
  norm_num [u32_num, tiny]

theorem q_dq_rounded (bits : Nat) (hb2 : 2 ≤ bits) (hb16 : bits ≤ 16) (narrow : Bool)
    (qw zw : Nat) (hqw : qw = 8 ∨ qw = 16) (hzw : zw = 8 ∨ zw = 16)
    (s : Rat) (hs1 : (2:Rat)^(-100:Int) ≤ s) (hs2 : s ≤ (2:Rat)^(100:Int))
    (zp c : Int) (hz1 : qmin bits ≤ zp) (hz2 : zp ≤ qmax bits)
    (hc1 : qmin bits + (if narrow then 1 else 0) ≤ c) (hc2 : c ≤ qmax bits) :
    roundClip bits narrow (qSum .f64 .f32 zw (dqVal true qw zw .f32 c zp s) s zp) = c := by
  obtain ⟨hqmin, hqmax, hi2, hi32768⟩ := range_bounds bits hb2 hb16
  have hc0 : qmin bits ≤ c := by split_ifs at hc1 <;> omega
  have hsum : ∀ v, qSum .f64 .f32 zw v s zp
      = Prec.f64.rn (Prec.f64.rn (v * Prec.f32.rn (1 / s)) + zp) := fun v => rfl
  rw [dqVal_widen_f32 qw zw hqw hzw c zp s (by omega) (by omega), hsum,
    roundClip_eq bits hb2 (by omega) narrow,
    Rounding.rhe_eq_of_near _ c (qdq_core s hs1 hs2 c zp (abs_le.mpr ⟨by omega, by omega⟩)
      (abs_le.mpr ⟨by omega, by omega⟩))]
  exact clipI_of_mem hc1 hc2

section
variable {u τ : Rat} {p1 p2 p3 : Prec}

/-- evaluation of `x/s + zp` (with `x = w·s`, a reciprocal `rinv·s = 1 + δ`, product in `p1`, sum in `p2`): error at most
    `3uB` when `|w| ≤ B` and `|w + zp| ≤ B/2`; sub-normal intermediate results are covered by `Err.abs` -/
theorem sum_core (E1 : Err p1 u τ) (E2 : Err p2 u τ) (s rinv δ : Rat) (hδ : |δ| ≤ u) (e2 : rinv * s = 1 + δ)
    (B : Rat) (hB : 4 ≤ B) (w : Rat) (zp : Int) (hw : |w| ≤ B) (hy : |w + zp| ≤ B / 2) :
    |p2.rn (p1.rn (w * s * rinv) + zp) - (w + zp)| ≤ 3 * u * B := by
  have hwd : |w * s * rinv - w| ≤ B * u := by
    rw [mul_assoc, mul_comm s, e2, show w * (1 + δ) - w = w * δ by ring, abs_mul]
    exact mul_le_mul hw hδ (abs_nonneg _) (by linarith only [hB])
  have r1 := rn_step E1 hwd hw
  have r2 := rn_step E2 (x := p1.rn (w * s * rinv) + zp) (y := w + zp)
    ((congrArg abs (add_sub_add_right_eq_sub _ _ _)).trans_le r1) hy
  refine r2.trans ?_
  -- `2.5uB + 3u²B + u³B + 2τ + uτ ≤ 3uB`
  have uB : 0 ≤ u * B := mul_nonneg E1.u0 (by linarith only [hB])
  have uuB := mul_le_mul_of_nonneg_right E1.u64 uB
  have uuuB := mul_le_mul_of_nonneg_right E1.u64 (mul_nonneg E1.u0 uB)
  have u4 := mul_le_mul_of_nonneg_left hB E1.u0
  have uτ := mul_le_mul_of_nonneg_right E1.u64 E1.τ0
  linarith only [uB, uuB, uuuB, u4, uτ, E1.τ64, E1.τ0]

/-- core of `dq_q_near` over integers and rationals: `P = 2^(bits-1)`, clip bounds `L`, `H`, and `x`
    within `(1/2 + ε)` steps of `[(L - zp)·s, (H - zp)·s]`.  The sum `x/s + zp` is evaluated up to
    `3u(2P+2)`, rounding and clipping add `1/2 + ε`, the product with the scale in `p3` a relative `u` -/
theorem dqq_core_ext (E1 : Err p1 u τ) (E2 : Err p2 u τ) (E3 : Err p3 u τ) (s rinv δ : Rat)
    (hs1 : (2:Rat)^(-100:Int) ≤ s) (hδ : |δ| ≤ u) (e2 : rinv * s = 1 + δ)
    (P L H zp : Int) (hP : 2 ≤ P) (hL : -P ≤ L) (hLH : L ≤ H) (hH : H ≤ P - 1)
    (hz1 : -P ≤ zp) (hz2 : zp ≤ P - 1) (ε : Rat) (hε0 : 0 ≤ ε) (hε1 : ε ≤ 1/2) (x : Rat)
    (hlo : (((L - zp : Int) : Rat) - (1/2 + ε)) * s ≤ x) (hhi : x ≤ (((H - zp : Int) : Rat) + (1/2 + ε)) * s) :
    |p3.rn (((clipI (rhe (p2.rn (p1.rn (x * rinv) + zp))) L H - zp : Int) : Rat) * s) - x|
      ≤ s * (1/2 + ε + 8 * u * P + 6 * u) := by
  have hs0 : 0 < s := lt_of_lt_of_le (Rounding.two_zpow_pos _) hs1
  obtain ⟨w, rfl⟩ : ∃ w, x = w * s := ⟨x / s, (div_mul_cancel₀ x hs0.ne').symm⟩
  have hwlo := le_of_mul_le_mul_right hlo hs0
  have hwhi := le_of_mul_le_mul_right hhi hs0
  push_cast at hwlo hwhi
  have i1 : -(P:Rat) ≤ (L:Rat) := by exact_mod_cast hL
  have i2 : (H:Rat) ≤ (P:Rat) - 1 := by exact_mod_cast hH
  have i3 : -(P:Rat) ≤ (zp:Rat) := by exact_mod_cast hz1
  have i4 : (zp:Rat) ≤ (P:Rat) - 1 := by exact_mod_cast hz2
  have i5 : (2:Rat) ≤ (P:Rat) := by exact_mod_cast hP
  have hw : |w| ≤ 2 * (P:Rat) + 2 :=
    abs_le.mpr ⟨by linarith only [hwlo, i1, i4, hε1], by linarith only [hwhi, i2, i3, hε1]⟩
  have hy : |w + zp| ≤ (2 * (P:Rat) + 2) / 2 :=
    abs_le.mpr ⟨by linarith only [hwlo, i1, hε1], by linarith only [hwhi, i2, hε1]⟩
  have hsum := sum_core E1 E2 s rinv δ hδ e2 (2 * (P:Rat) + 2) (by linarith only [i5]) w zp hw hy
  have hclip := rhe_clip_near _ (w + zp) _ ε L H hLH hsum hε0 (by linarith only [hwlo])
    (by linarith only [hwhi])
  obtain ⟨c1, c2⟩ := clipI_range (rhe (p2.rn (p1.rn (w * s * rinv) + zp))) L H hLH
  generalize clipI (rhe (p2.rn (p1.rn (w * s * rinv) + zp))) L H = cl at hclip c1 c2 ⊢
  have hk : |((cl - zp : Int) : Rat)| ≤ 2 * (P:Rat) := by
    have h : |cl - zp| ≤ 2 * P := abs_le.mpr ⟨by omega, by omega⟩
    exact_mod_cast h
  refine (dq_err E3 s hs1 (cl - zp) hk w).trans (mul_le_mul_of_nonneg_left ?_ hs0.le)
  rw [show ((cl - zp : Int) : Rat) - w = (cl:Rat) - (w + zp) by push_cast; ring]
  linarith only [hclip]

end

/-- **dequantize ∘ quantize of a value within `1/2 + ε` steps of the representable range** moves it by at most `1/2 + ε` steps plus the
    evaluation error (sum in float32, dequantization in float64).  `x` and `s` need not be float32 numbers; sub-normal products `x * (1/s)` are covered. -/
theorem dq_q_near (bits : Nat) (hb2 : 2 ≤ bits) (hb16 : bits ≤ 16) (narrow : Bool)
    (zw : Nat) (hzw : zw = 8 ∨ zw = 16)
    (s : Rat) (hs1 : (2:Rat)^(-100:Int) ≤ s) (hs2 : s ≤ (2:Rat)^(100:Int))
    (zp : Int) (hz1 : qmin bits ≤ zp) (hz2 : zp ≤ qmax bits)
    (ε : Rat) (hε0 : 0 ≤ ε) (hε1 : ε ≤ 1/2) (x : Rat)
    (hlo : (((qmin bits + (if narrow then 1 else 0) - zp : Int) : Rat) - (1/2 + ε)) * s ≤ x)
    (hhi : x ≤ (((qmax bits - zp : Int) : Rat) + (1/2 + ε)) * s) :
    |dqVal true (storageBits bits) zw .f32 (roundClip bits narrow (qSum .f32 .f32 zw x s zp)) zp s - x|
      ≤ s * (1/2 + ε + 8 * u32 * (2:Rat)^(bits-1) + 6 * u32) := by
  obtain ⟨hqmin, hqmax, hi2, hi32768⟩ := range_bounds bits hb2 hb16
  have hL0 : qmin bits ≤ qmin bits + (if narrow then 1 else 0) := by split_ifs <;> omega
  have hLH : qmin bits + (if narrow then 1 else 0) ≤ qmax bits := by split_ifs <;> omega
  rw [qSum_f32 zw hzw, roundClip_eq bits hb2 (by omega) narrow]
  generalize qmin bits + (if narrow then 1 else 0) = L at hlo hL0 hLH ⊢
  obtain ⟨c1, c2⟩ := clipI_range
    (rhe (Prec.f32.rn (Prec.f32.rn (x * Prec.f32.rn (1 / s)) + zp))) L (qmax bits) hLH
  rw [dqVal_widen_f32 _ zw (storageBits_le16 bits hb16) hzw _ zp s (by omega) (by omega)]
  obtain ⟨δ, hδ, e2⟩ := inv_delta s hs1 hs2
  have core := dqq_core_ext (Err.wide .f32 (by decide)) (Err.wide .f32 (by decide)) (Err.wide .f64 (by decide))
    s _ δ hs1 hδ e2 ((2:Int)^(bits-1)) L (qmax bits) zp hi2 (by omega) hLH (by omega)
    (by omega) (by omega) ε hε0 hε1 x hlo hhi
  rwa [Int.cast_pow, Int.cast_ofNat] at core

theorem dq_q_rounded (bits : Nat) (hb2 : 2 ≤ bits) (hb16 : bits ≤ 16) (narrow : Bool)
    (zw : Nat) (hzw : zw = 8 ∨ zw = 16)
    (s : Rat) (hs1 : (2:Rat)^(-100:Int) ≤ s) (hs2 : s ≤ (2:Rat)^(100:Int))
    (zp : Int) (hz1 : qmin bits ≤ zp) (hz2 : zp ≤ qmax bits) (x : Rat)
    (hlo : ((qmin bits + (if narrow then 1 else 0) - zp : Int) : Rat) * s ≤ x)
    (hhi : x ≤ ((qmax bits - zp : Int) : Rat) * s) :
    |dqVal true (storageBits bits) zw .f32 (roundClip bits narrow (qSum .f32 .f32 zw x s zp)) zp s - x|
      ≤ s * (1/2 + (2:Rat)^(bits + 3) * u32) := by
  have hs0 : 0 < s := lt_of_lt_of_le (Rounding.two_zpow_pos _) hs1
  have hp1 := (pow_bounds bits hb2 hb16).1
  refine (dq_q_near bits hb2 hb16 narrow zw hzw s hs1 hs2 zp hz1 hz2 0 le_rfl (by norm_num) x
    (by linarith only [hlo, hs0]) (by linarith only [hhi, hs0])).trans
    (mul_le_mul_of_nonneg_left ?_ hs0.le)
  rw [pow_bits_add bits 3 (by omega), u32_num]
  linarith only [hp1]

end ArithRounded

/-! Asymmetric: the zero point is rounded (half a step); symmetric: the scale may round down (a relative `2^-24`). -/

namespace ConstCover

open ArithRounded (u32)

theorem sym_core (Q : Rat) (hQ1 : 1 ≤ Q) (hQ : Q ≤ 32767) (B0 : Rat) (hB : (2:Rat)^(-14:Int) ≤ B0) :
    (2:Rat)^(-30:Int) ≤ Prec.f32.rn (B0 / Q) ∧ B0 ≤ (Q + 1/2) * Prec.f32.rn (B0 / Q) := by
  obtain ⟨s3, s1⟩ := ArithRounded.scale_round (Err.wide .f32 (by decide)) hB hQ1 (by linarith only [hQ])
  have hs0 := (Rounding.two_zpow_pos _).trans_le s3
  have hB0 : 0 ≤ B0 := (Rounding.two_zpow_pos _).le.trans hB
  -- `s ≥ B0(1-u)/32767` is far above `2u·B0`
  have hsQ := mul_le_mul_of_nonneg_left hQ hs0.le
  refine ⟨s3, ?_⟩
  rw [u32_num] at s1
  linarith only [s1, hsQ, hB0]

theorem sym_cover_f32 (bits : Nat) (hb2 : 2 ≤ bits) (hb16 : bits ≤ 16) {mn mx x : Rat} (h1 : mn ≤ x) (h2 : x ≤ mx) :
    |x| ≤ (((qmax bits : Int) : Rat) + 1/2) * symScale .f32 bits mn mx := by
  obtain ⟨hp1, hp2⟩ := pow_bounds bits hb2 hb16
  have hB : (2:Rat)^(-14:Int) ≤ symBound .f32 mn mx :=
    (minBound_ge14 .f32 (by decide)).trans (maxR_ge_right _ _)
  unfold symScale
  rw [qmaxF_eq bits (by omega), qmax_cast]
  exact (abs_le_symBound .f32 h1 h2).trans
    (sym_core _ (by linarith only [hp1]) (by linarith only [hp2]) _ hB).2

theorem cover (bits : Nat) (hb2 : 2 ≤ bits) (hb16 : bits ≤ 16) (sym : Bool) (mn mx : Rat)
    (zp : Int) (s : Rat) (h : zpScale1 .f32 bits sym mn mx = .ok (zp, s))
    (hmn : |mn| ≤ (2:Rat)^(99:Int)) (hmx : |mx| ≤ (2:Rat)^(99:Int)) :
    qmin bits ≤ zp ∧ zp ≤ qmax bits ∧ (2:Rat)^(-100:Int) ≤ s ∧ s ≤ (2:Rat)^(100:Int) ∧
    ∀ x, mn ≤ x → x ≤ mx →
      (((qmin bits + (if sym then 1 else 0) - zp : Int) : Rat) - (1/2 + 12 * u32 * (2:Rat)^(bits-1))) * s ≤ x ∧
      x ≤ (((qmax bits - zp : Int) : Rat) + (1/2 + 12 * u32 * (2:Rat)^(bits-1))) * s := by
  obtain ⟨-, rfl, rfl⟩ := zpScale1_ok_iff.1 h
  obtain ⟨hp1, hp2⟩ := pow_bounds bits hb2 hb16
  have hz := ArithRounded.chanZp_range .f32 (by decide) bits hb2 hb16 sym mn mx
  have hs1 := chanScale_ge .f32 (by decide) bits hb2 hb16 sym mn mx
  have hs0 := (Rounding.two_zpow_pos _).trans_le hs1
  have hu12 : 0 ≤ 12 * u32 * (2:Rat)^(bits-1) :=
    mul_nonneg (mul_nonneg (by norm_num) u32_pos.le) (by linarith only [hp1])
  refine ⟨hz.1, hz.2, (zpow_le_zpow_right₀ (by norm_num) (by norm_num)).trans hs1,
    (chanScale_le .f32 (by decide) bits hb2 hb16 sym mn mx 99 (by norm_num) hmn hmx).trans
      (zpow_le_zpow_right₀ (by norm_num) (by norm_num)),
    fun x hx1 hx2 => ?_⟩
  have hpos := mul_nonneg hu12 hs0.le
  cases sym with
  | true =>
    -- the scale may round down by a relative `u`: `|x| ≤ bound ≤ (qmax + 1/2)·s`
    obtain ⟨x1, x2⟩ := abs_le.mp (sym_cover_f32 bits hb2 hb16 hx1 hx2)
    simp only [chanZp, chanScale, if_true] at hpos ⊢
    push_cast
    rw [qmin_cast, qmax_cast] at *
    exact ⟨by linarith only [x1, hpos], by linarith only [x2, hpos]⟩
  | false =>
    obtain ⟨-, a2, -, hzf⟩ := ArithRounded.asym_rounded (Err.wide .f32 (by decide)) bits hb2 hb16
      (ArithRounded.huP24 bits hb2 hb16) mn mx
    obtain ⟨c1, c2⟩ := cover_of_zp_err (h := 1/2 + 12 * u32 * (2:Rat)^(bits-1)) hs0 a2 hzf
      (by rw [u32_num]; linarith only [hp1]) (by rw [u32_num]; linarith only [hp1])
    simp only [chanZp, chanScale, Bool.false_eq_true, if_false, add_zero] at c1 c2 ⊢
    push_cast
    rw [qmin_cast, qmax_cast]
    exact ⟨by linarith only [c1, minR_le_left mn 0, hx1], by linarith only [c2, maxR_ge_left mx 0, hx2]⟩

theorem decode_minmax (bits : Nat) (hb2 : 2 ≤ bits) (hb16 : bits ≤ 16) (sym : Bool)
    (zw : Nat) (hzw : zw = 8 ∨ zw = 16) (mn mx : Rat) (hmm : mn ≤ mx)
    (zp : Int) (s : Rat) (h : zpScale1 .f32 bits sym mn mx = .ok (zp, s))
    (hmn : |mn| ≤ (2:Rat)^(99:Int)) (hmx : |mx| ≤ (2:Rat)^(99:Int)) (x : Rat) (hx1 : mn ≤ x) (hx2 : x ≤ mx) :
    |dqVal true (storageBits bits) zw .f32 (roundClip bits sym (qSum .f32 .f32 zw x s zp)) zp s - x|
      ≤ s * (1/2 + (2:Rat)^(bits + 4) * ArithRounded.u32) := by
  obtain ⟨hp1, hp2⟩ := pow_bounds bits hb2 hb16
  obtain ⟨z1, z2, s1, s2, hcov⟩ := cover bits hb2 hb16 sym mn mx zp s h hmn hmx
  obtain ⟨c1, c2⟩ := hcov x hx1 hx2
  have hs0 := (Rounding.two_zpow_pos _).trans_le s1
  refine (ArithRounded.dq_q_near bits hb2 hb16 sym zw hzw s s1 s2 zp z1 z2 (12 * u32 * (2:Rat)^(bits-1))
    (mul_nonneg (mul_nonneg (by norm_num) u32_pos.le) (by linarith only [hp1]))
    (by rw [u32_num]; linarith only [hp2]) x c1 c2).trans (mul_le_mul_of_nonneg_left ?_ hs0.le)
  rw [ArithRounded.pow_bits_add bits 4 (by omega), u32_num]
  linarith only [hp1]

end ConstCover
