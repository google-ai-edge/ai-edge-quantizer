import QProofs.MatEmit
/-!
# `Mat.generate` as a nested fold, and where the requests of one operator come from

`generate` is three guards, the nested `foldlM` `generateLoop` (subgraphs, then operators; `opStep` computes
`opReqs` and merges them with `updateResults`) and two checks (`generate_eq`).  Two invariant rules: `generate_inv` (by
subgraph / position; `generate_sides`, `generate_sides_at` are its forms for properties of sides) and `MatTotal.reach_rule`
(over the flattened list `flatOps`, for the error side: `StepSite`, `Reach`).  `opReqs_emitted`: every request of one entry
has an origin `Mat.EmittedK`.
-/
open Graph Mat PyM MatTotal

namespace Pipe

/-- loop state of `generate`: the (private copy of the) statistics and the result dictionary -/
abbrev GState := Qsvs × List (String × CReq)

/-- the operator list of a subgraph: real operators (id = position), then INPUT and OUTPUT (id -1) -/
def allOps (sg : Subgraph) : List (Op × Option String × Int) :=
  (sg.ops.zipIdx.map fun (q : Op × Nat) => (q.1, (none : Option String), (q.2 : Int))) ++
    [(({ code := 0, inputs := [], outputs := sg.inputs } : Op), some "INPUT", (-1 : Int)),
     (({ code := 0, inputs := sg.outputs, outputs := [] } : Op), some "OUTPUT", (-1 : Int))]

def keyOf (env : Env) (q : Op × Option String × Int) : PyM (Option String) :=
  match q.2.1 with
  | some k => pure (some k)
  | none =>
    match env.model.opcodes[q.1.code]? with
    | none => throw .indexError
    | some code => pure (opNameOfCode code)

def opReqs (rx : String → String → Bool) (env : Env) (st : Recipe.State) (sIdx : Nat) (sg : Subgraph)
    (qs : Qsvs) (q : Op × Option String × Int) : PyM (List CReq × Qsvs) :=
  match keyOf env q with
  | .error e => .error e
  | .ok none =>
    match noQuantOp sg q.1 q.2.2 with
    | .error e => .error e
    | .ok r => .ok (r, qs)
  | .ok (some k) =>
    match opScope sg q.1 with
    | .error e => .error e
    | .ok scope =>
      if (Recipe.resolve rx st k scope).1 == Tables.algNoQuantize then
        match noQuantOp sg q.1 q.2.2 with
        | .error e => .error e
        | .ok r => .ok (r, qs)
      else
        match Py.dictGet? Tables.registry (Recipe.resolve rx st k scope).1 with
        | none => .error .valueError
        | some ops =>
          match Py.dictGet? ops k with
          | none => .error .valueError
          | some fn =>
            materializeOp env sg qs
              { sgIdx := sIdx, op := q.1, opName := k, opId := q.2.2, cfg := (Recipe.resolve rx st k scope).2 }
              (Recipe.resolve rx st k scope).1 fn

def opStep (rx : String → String → Bool) (env : Env) (st : Recipe.State) (sIdx : Nat) (sg : Subgraph)
    (s : GState) (q : Op × Option String × Int) : PyM GState :=
  match opReqs rx env st sIdx sg s.1 q with
  | .error e => .error e
  | .ok (rs, qs') =>
    match updateResults s.2 rs with
    | .error e => .error e
    | .ok res' => .ok (qs', res')

def sgStep (rx : String → String → Bool) (env : Env) (st : Recipe.State) (s : GState) (p : Subgraph × Nat) :
    PyM GState :=
  (allOps p.1).foldlM (opStep rx env st p.2 p.1) s

def generateLoop (rx : String → String → Bool) (env : Env) (st : Recipe.State) (qsvs : Option Qsvs) : PyM GState :=
  env.model.subgraphs.zipIdx.foldlM (sgStep rx env st) (qsvs.getD [], [])

end Pipe

namespace MatTotal
open Pipe

/-- the INPUT pseudo-operator: its results are the graph inputs -/
def inEntry (sg : Subgraph) : Op × Option String × Int :=
  (({ code := 0, inputs := [], outputs := sg.inputs } : Op), some "INPUT", (-1 : Int))
/-- the OUTPUT pseudo-operator: its operands are the graph outputs -/
def outEntry (sg : Subgraph) : Op × Option String × Int :=
  (({ code := 0, inputs := sg.outputs, outputs := [] } : Op), some "OUTPUT", (-1 : Int))

/-- what recipe resolution selects for the entry `q` of subgraph `sg` -/
structure Selected (rx : String → String → Bool) (env : Env) (st : Recipe.State) (sg : Subgraph)
    (q : Op × Option String × Int) (k scope : String) (ops : List (String × String)) (fn : String) : Prop where
  hkey : keyOf env q = .ok (some k)
  hscope : opScope sg q.1 = .ok scope
  halg : (Recipe.resolve rx st k scope).1 ≠ Tables.algNoQuantize
  hops : Py.dictGet? Tables.registry (Recipe.resolve rx st k scope).1 = some ops
  hfn : Py.dictGet? ops k = some fn

/-- **why one entry `q` of the operator list of subgraph `sg` can fail**, at statistics `qs` and result
    dictionary `res` -/
inductive StepSite (rx : String → String → Bool) (env : Env) (st : Recipe.State) (sIdx : Nat) (sg : Subgraph)
    (qs : Qsvs) (res : List (String × CReq)) (q : Op × Option String × Int) : Bool → PyErr → Prop
  /-- the operator's opcode index is out of range (IndexError; excluded by `WF.modelOK`) -/
  | opcode : q.2.1 = none → env.model.opcodes[q.1.code]? = none → StepSite rx env st sIdx sg qs res q false .indexError
  /-- an operand / result slot names no tensor (IndexError; excluded by `WF.modelOK`) -/
  | slot (e : PyErr) : SlotSite sg (q.1.inputs ++ q.1.outputs) e → StepSite rx env st sIdx sg qs res q false e
  /-- the recipe selects an algorithm that has no materialize function for this operator (ValueError) -/
  | unregistered (k scope : String) : keyOf env q = .ok (some k) → opScope sg q.1 = .ok scope →
      (Recipe.resolve rx st k scope).1 ≠ Tables.algNoQuantize →
      ((Py.dictGet? Tables.registry (Recipe.resolve rx st k scope).1).bind fun ops => Py.dictGet? ops k) = none →
      StepSite rx env st sIdx sg qs res q false .valueError
  /-- the materialisation of the operator fails -/
  | op (num : Bool) (k scope fn : String) (ops : List (String × String)) (e : PyErr) : keyOf env q = .ok (some k) →
      opScope sg q.1 = .ok scope → (Recipe.resolve rx st k scope).1 ≠ Tables.algNoQuantize →
      Py.dictGet? Tables.registry (Recipe.resolve rx st k scope).1 = some ops → Py.dictGet? ops k = some fn →
      OpSite env sg qs
        { sgIdx := sIdx, op := q.1, opName := k, opId := q.2.2, cfg := (Recipe.resolve rx st k scope).2 }
        (kindOf (Recipe.resolve rx st k scope).1 fn) num e →
      StepSite rx env st sIdx sg qs res q num e
  /-- `_update_model_quant_results`: a second producer request for a tensor (RuntimeError) -/
  | conflict (rs : List CReq) (qs' : Qsvs) (pre post : List CReq) (r cur : CReq) (mid : List (String × CReq)) :
      opReqs rx env st sIdx sg qs q = .ok (rs, qs') → rs = pre ++ r :: post → updateResults res pre = .ok mid →
      Py.dictGet? mid r.name = some cur → r.producer.isSome = true → cur.producer.isSome = true →
      StepSite rx env st sIdx sg qs res q false .runtimeError

/-- all entries of all operator lists, in the order `generate` walks them -/
def flatOps (m : Model) : List ((Subgraph × Nat) × (Op × Option String × Int)) :=
  m.subgraphs.zipIdx.flatMap fun p => (allOps p.1).map fun q => (p, q)

def flatStep (rx : String → String → Bool) (env : Env) (st : Recipe.State) (s : GState)
    (x : (Subgraph × Nat) × (Op × Option String × Int)) : PyM GState :=
  opStep rx env st x.1.2 x.1.1 s x.2

/-- the state `generate` has reached after walking the prefix `pre` of the operator list -/
def Reach (rx : String → String → Bool) (env : Env) (st : Recipe.State) (qsvs : Option Qsvs)
    (pre : List ((Subgraph × Nat) × (Op × Option String × Int))) (s : GState) : Prop :=
  pre.foldlM (flatStep rx env st) (qsvs.getD [], []) = .ok s

end MatTotal

namespace ParamsSrc
open Pipe

/-- `qs` is the statistics dictionary in force when entry `j` of the operator list of subgraph `s` (= `sg`)
    is materialised: the first component of the loop state after the subgraphs before `s` and the entries
    before `j` -/
def StatsAt (rx : String → String → Bool) (env : Env) (st : Recipe.State) (qsvs : Option Qsvs)
    (s : Nat) (sg : Subgraph) (j : Nat) (qs : Qsvs) : Prop :=
  ∃ (g1 : GState) (res : List (String × CReq)),
    (env.model.subgraphs.zipIdx.take s).foldlM (sgStep rx env st) (qsvs.getD [], []) = .ok g1 ∧
    ((allOps sg).take j).foldlM (opStep rx env st s sg) g1 = .ok (qs, res)

end ParamsSrc

namespace Pipe

theorem allOps_eq_append (sg : Subgraph) :
    allOps sg = (sg.ops.zipIdx.map fun q => (q.1, none, (q.2 : Int))) ++ [MatTotal.inEntry sg, MatTotal.outEntry sg] := rfl

theorem mem_allOps_iff {sg : Subgraph} {q : Op × Option String × Int} :
    q ∈ allOps sg ↔ (∃ (j : Nat) (op : Op), sg.ops[j]? = some op ∧ q = (op, none, (j : Int))) ∨ q = MatTotal.inEntry sg ∨ q = MatTotal.outEntry sg := by
  rw [allOps_eq_append, List.mem_append, List.mem_map]
  refine or_congr ⟨?_, ?_⟩ (by simp)
  · rintro ⟨⟨op, j⟩, hm, rfl⟩
    exact ⟨j, op, List.mem_zipIdx_iff_getElem?.1 hm, rfl⟩
  · rintro ⟨j, op, hj, rfl⟩
    exact ⟨(op, j), List.mem_zipIdx_iff_getElem?.2 hj, rfl⟩

theorem allOps_real (sg : Subgraph) (k : Nat) (op : Op) (h : sg.ops[k]? = some op) :
    (allOps sg)[k]? = some (op, none, (k : Int)) := by
  unfold allOps
  have hk : k < sg.ops.length := (List.getElem?_eq_some_iff.1 h).1
  rw [List.getElem?_append_left (by simpa using hk), List.getElem?_map, List.getElem?_zipIdx, h]
  simp

/-- the operator description handed to the materialisation of entry `q` named `k` with scope `scope` -/
def opInfoAt (rx : String → String → Bool) (st : Recipe.State) (sIdx : Nat) (q : Op × Option String × Int)
    (k scope : String) : OpInfo :=
  { sgIdx := sIdx, op := q.1, opName := k, opId := q.2.2, cfg := (Recipe.resolve rx st k scope).2 }

theorem _root_.MatTotal.opScope_sited (sg : Subgraph) (op : Op) : Sited (SlotSite sg (op.inputs ++ op.outputs)) (opScope sg op) := by
  unfold opScope
  refine Sited.foldlM _ (fun _ => True) _ _ trivial (fun a ha s _ => ⟨?_, fun _ _ => trivial⟩)
  refine Sited.bind ?_ (fun _ _ => Sited.ok _)
  intro e he
  exact ⟨a, List.mem_append_right _ (List.mem_filter.1 ha).1, he⟩

/-- what a successful `opReqs` ran: the requests of `noQuantOp` (no key, or the recipe says `no_quantize`), or those of
    the registered materialisation function under the resolved configuration -/
def ReqsOut (rx : String → String → Bool) (env : Env) (st : Recipe.State) (sIdx : Nat) (sg : Subgraph) (qs : Qsvs)
    (q : Op × Option String × Int) (rs : List CReq) (qs' : Qsvs) : Prop :=
  (noQuantOp sg q.1 q.2.2 = .ok rs ∧ qs' = qs ∧
    (keyOf env q = .ok none ∨ ∃ k scope, keyOf env q = .ok (some k) ∧ opScope sg q.1 = .ok scope ∧
      (Recipe.resolve rx st k scope).1 = Tables.algNoQuantize)) ∨
  ∃ k scope ops fn, MatTotal.Selected rx env st sg q k scope ops fn ∧
    runKind env sg qs (opInfoAt rx st sIdx q k scope) (kindOf (Recipe.resolve rx st k scope).1 fn) = .ok (rs, qs')

/-- `res`: the dictionary of the walk, of which the sites of the step speak -/
theorem opReqs_run (rx : String → String → Bool) (env : Env) (st : Recipe.State) (sIdx : Nat) (sg : Subgraph)
    (qs : Qsvs) (res : List (String × CReq)) (q : Op × Option String × Int) :
    Run (fun out => ReqsOut rx env st sIdx sg qs q out.1 out.2) (AnySite (StepSite rx env st sIdx sg qs res q))
      (opReqs rx env st sIdx sg qs q) := by
  have nq : (keyOf env q = .ok none ∨ ∃ k scope, keyOf env q = .ok (some k) ∧ opScope sg q.1 = .ok scope ∧
        (Recipe.resolve rx st k scope).1 = Tables.algNoQuantize) →
      Run (fun out => ReqsOut rx env st sIdx sg qs q out.1 out.2) (AnySite (StepSite rx env st sIdx sg qs res q))
      (match noQuantOp sg q.1 q.2.2 with | .error e => .error e | .ok r => .ok (r, qs)) := by
    intro why
    cases hn : noQuantOp sg q.1 q.2.2 with
    | error e' => exact Run.error ⟨_, .slot _ (noQuantOp_sited sg q.1 q.2.2 _ hn)⟩
    | ok r => exact Run.ok (.inl ⟨hn, rfl, why⟩)
  unfold opReqs
  cases hk : keyOf env q with
  | error e =>
    refine Run.error ?_
    unfold keyOf at hk
    cases hio : q.2.1 with
    | some k => rw [hio] at hk; cases hk
    | none =>
      rw [hio] at hk
      cases hc : env.model.opcodes[q.1.code]? with
      | none => rw [hc] at hk; cases hk; exact ⟨_, .opcode hio hc⟩
      | some c => rw [hc] at hk; cases hk
  | ok key =>
    cases key with
    | none => exact nq (.inl hk)
    | some k =>
      cases hs : opScope sg q.1 with
      | error e => exact Run.error ⟨_, .slot _ (opScope_sited sg q.1 _ hs)⟩
      | ok scope =>
        refine Run.ite _ (fun he => nq (.inr ⟨k, scope, hk, hs, eq_of_beq he⟩)) (fun hne => ?_)
        have hne' : (Recipe.resolve rx st k scope).1 ≠ Tables.algNoQuantize := by
          intro hh; exact hne (by rw [hh]; exact beq_self_eq_true _)
        cases hr : Py.dictGet? Tables.registry (Recipe.resolve rx st k scope).1 with
        | none => exact Run.error ⟨_, .unregistered k scope hk hs hne' (by rw [hr]; rfl)⟩
        | some ops =>
          simp only []
          cases hf : Py.dictGet? ops k with
          | none => exact Run.error ⟨_, .unregistered k scope hk hs hne' (by rw [hr]; exact hf)⟩
          | some fn =>
            simp only []
            rw [materializeOp_kind]
            exact Run.intro (fun out hrun => .inr ⟨k, scope, ops, fn, ⟨hk, hs, hne', hr, hf⟩, hrun⟩)
              (fun e hrun => (runKind_sited env sg qs _ _ e hrun).elim fun num h =>
                ⟨num, .op num k scope fn ops e hk hs hne' hr hf h⟩)

theorem opReqs_ok {rx : String → String → Bool} {env : Env} {st : Recipe.State} {sIdx : Nat} {sg : Subgraph}
    {qs : Qsvs} {q : Op × Option String × Int} {rs : List CReq} {qs' : Qsvs}
    (h : opReqs rx env st sIdx sg qs q = .ok (rs, qs')) : ReqsOut rx env st sIdx sg qs q rs qs' :=
  (opReqs_run rx env st sIdx sg qs [] q).of_ok h

theorem keyOf_code {env : Env} {op : Op} {code : Nat} (h : env.model.opcodes[op.code]? = some code) (j : Int) :
    keyOf env (op, none, j) = .ok (opNameOfCode code) := by
  unfold keyOf
  simp only [h]
  rfl

/-- `opReqs_ok` with the key and the scope known -/
theorem opReqs_keyed {rx : String → String → Bool} {env : Env} {st : Recipe.State} {s : Nat} {sg : Subgraph} {qs qs' : Qsvs}
    {q : Op × Option String × Int} {rs : List CReq} {k scope : String} (hk : keyOf env q = .ok (some k))
    (hsc : opScope sg q.1 = .ok scope) (h : opReqs rx env st s sg qs q = .ok (rs, qs')) :
    ((Recipe.resolve rx st k scope).1 = Tables.algNoQuantize ∧ noQuantOp sg q.1 q.2.2 = .ok rs) ∨
    ∃ ops fn, MatTotal.Selected rx env st sg q k scope ops fn ∧
      runKind env sg qs (opInfoAt rx st s q k scope) (kindOf (Recipe.resolve rx st k scope).1 fn) = .ok (rs, qs') := by
  rcases opReqs_ok h with ⟨hn, -, hk0 | ⟨k', scope', hk', hsc', hres⟩⟩ | ⟨k', scope', ops, fn, S, hrun⟩
  · rw [hk] at hk0
    cases hk0
  · cases hk.symm.trans hk'
    cases hsc.symm.trans hsc'
    exact .inl ⟨hres, hn⟩
  · cases hk.symm.trans S.hkey
    cases hsc.symm.trans S.hscope
    exact .inr ⟨ops, fn, S, hrun⟩

theorem opReqs_ok_iff {rx : String → String → Bool} {env : Env} {st : Recipe.State} {sIdx : Nat} {sg : Subgraph}
    {qs : Qsvs} {q : Op × Option String × Int} {rs : List CReq} {qs' : Qsvs} :
    opReqs rx env st sIdx sg qs q = .ok (rs, qs') ↔ ReqsOut rx env st sIdx sg qs q rs qs' := by
  refine ⟨opReqs_ok, ?_⟩
  unfold opReqs
  rintro (⟨hn, rfl, hk | ⟨k, scope, hk, hs, ha⟩⟩ | ⟨k, scope, ops, fn, S, hrun⟩)
  · rw [hk, hn]
  · rw [hk, hs]
    simp only [ha, beq_self_eq_true, if_true, hn]
  · rw [S.hkey, S.hscope]
    simp only [beq_eq_false_iff_ne.2 S.halg, Bool.false_eq_true, if_false, S.hops, S.hfn]
    rw [materializeOp_kind]
    exact hrun

theorem _root_.MatTotal.opReqs_sited (rx : String → String → Bool) (env : Env) (st : Recipe.State) (sIdx : Nat)
    (sg : Subgraph) (qs : Qsvs) (res : List (String × CReq)) (q : Op × Option String × Int) :
    Sited (AnySite (StepSite rx env st sIdx sg qs res q)) (opReqs rx env st sIdx sg qs q) :=
  fun _ he => (opReqs_run rx env st sIdx sg qs res q).of_error he

/-- the entry `cur` of the dictionary after merging the request `r` for the same tensor into it -/
def mergeReq (cur r : CReq) : CReq :=
  { cur with
    producer := match r.producer with | some p => some p | none => cur.producer
    consumers := match r.consumers, cur.consumers with
      | some c, none => some c
      | some c, some c0 => some (c0 ++ c)
      | none, c0 => c0 }

/-- the step function of `updateResults` -/
def stepF (res : List (String × CReq)) (r : CReq) : PyM (List (String × CReq)) :=
  match Py.dictGet? res r.name with
  | none => pure (res ++ [(r.name, r)])
  | some cur =>
    match r.producer, cur.producer with
    | some _, some _ => throw .runtimeError
    | _, _ =>
      let prod := match r.producer with | some p => some p | none => cur.producer
      let cons := match r.consumers, cur.consumers with
        | some c, none => some c
        | some c, some c0 => some (c0 ++ c)
        | none, c0 => c0
      pure (Py.dictSet res r.name { cur with producer := prod, consumers := cons })

theorem updateResults_eq (res : List (String × CReq)) (rs : List CReq) :
    updateResults res rs = rs.foldlM stepF res := rfl

theorem stepF_ok {res res' : List (String × CReq)} {r : CReq} (h : stepF res r = .ok res') :
    (Py.dictGet? res r.name = none ∧ res' = res ++ [(r.name, r)]) ∨
    ∃ cur, Py.dictGet? res r.name = some cur ∧ (r.producer = none ∨ cur.producer = none) ∧
      res' = Py.dictSet res r.name (mergeReq cur r) := by
  unfold stepF at h
  cases hg : Py.dictGet? res r.name with
  | none => rw [hg] at h; exact .inl ⟨rfl, (pure_eq_ok_iff.1 h).symm⟩
  | some cur =>
    rw [hg] at h
    simp only [] at h
    refine .inr ⟨cur, rfl, ?_⟩
    cases hrp : r.producer with
    | none => rw [hrp] at h; exact ⟨.inl rfl, (pure_eq_ok_iff.1 h).symm.trans (by rw [mergeReq, hrp])⟩
    | some p =>
      cases hcp : cur.producer with
      | none => rw [hrp, hcp] at h; exact ⟨.inr rfl, (pure_eq_ok_iff.1 h).symm.trans (by rw [mergeReq, hrp, hcp])⟩
      | some p0 => rw [hrp, hcp] at h; cases h

theorem stepF_ok_iff {res res' : List (String × CReq)} {r : CReq} :
    stepF res r = .ok res' ↔ (Py.dictGet? res r.name = none ∧ res' = res ++ [(r.name, r)]) ∨
      ∃ cur, Py.dictGet? res r.name = some cur ∧ (r.producer = none ∨ cur.producer = none) ∧
        res' = Py.dictSet res r.name (mergeReq cur r) := by
  refine ⟨stepF_ok, ?_⟩
  unfold stepF
  rintro (⟨hg, rfl⟩ | ⟨cur, hg, hp, rfl⟩)
  · rw [hg]; rfl
  · rw [hg]
    rcases hp with hp | hp
    · simp only [hp, mergeReq]; rfl
    · cases hrp : r.producer <;> simp only [hrp, hp, mergeReq] <;> rfl

theorem _root_.MatTotal.updateResults_sited (res : List (String × CReq)) (rs : List CReq) :
    Sited (fun e => e = .runtimeError ∧ ∃ pre r post mid cur, rs = pre ++ r :: post ∧ updateResults res pre = .ok mid ∧
      Py.dictGet? mid r.name = some cur ∧ r.producer.isSome = true ∧ cur.producer.isSome = true)
      (updateResults res rs) := by
  intro e h
  rw [updateResults_eq] at h
  obtain ⟨pre, r, post, mid, hl, hpre, hx⟩ := PyM.foldlM_error_split _ _ _ _ h
  unfold stepF at hx
  cases hd : Py.dictGet? mid r.name with
  | none => rw [hd] at hx; cases hx
  | some cur =>
    rw [hd] at hx
    simp only [] at hx
    cases hp : r.producer with
    | none => rw [hp] at hx; cases hx
    | some p =>
      cases hc : cur.producer with
      | none => rw [hp, hc] at hx; cases hx
      | some p' =>
        rw [hp, hc] at hx
        cases hx
        exact ⟨rfl, pre, r, post, mid, cur, hl, hpre, hd, by rw [hp]; rfl, by rw [hc]; rfl⟩

theorem opStep_run (rx : String → String → Bool) (env : Env) (st : Recipe.State) (sIdx : Nat) (sg : Subgraph)
    (s : GState) (q : Op × Option String × Int) :
    Run (fun s' => ∃ rs, opReqs rx env st sIdx sg s.1 q = .ok (rs, s'.1) ∧ updateResults s.2 rs = .ok s'.2)
      (AnySite (StepSite rx env st sIdx sg s.1 s.2 q)) (opStep rx env st sIdx sg s q) := by
  unfold opStep
  cases ho : opReqs rx env st sIdx sg s.1 q with
  | error e => exact Run.error (opReqs_sited rx env st sIdx sg s.1 s.2 q e ho)
  | ok v =>
    obtain ⟨rs, qs'⟩ := v
    simp only []
    cases hu : updateResults s.2 rs with
    | ok res' => exact Run.ok ⟨rs, rfl, hu⟩
    | error e =>
      obtain ⟨rfl, pre, r, post, mid, cur, hl, hpre, hd, h1, h2⟩ := updateResults_sited s.2 rs e hu
      exact Run.error ⟨_, .conflict rs qs' pre post r cur mid ho hl hpre hd h1 h2⟩

theorem opStep_ok (rx : String → String → Bool) (env : Env) (st : Recipe.State) (sIdx : Nat) (sg : Subgraph)
    (s s' : GState) (q : Op × Option String × Int) (h : opStep rx env st sIdx sg s q = .ok s') :
    ∃ rs, opReqs rx env st sIdx sg s.1 q = .ok (rs, s'.1) ∧ updateResults s.2 rs = .ok s'.2 :=
  (opStep_run rx env st sIdx sg s q).of_ok h

theorem opStep_ok_iff {rx : String → String → Bool} {env : Env} {st : Recipe.State} {sIdx : Nat} {sg : Subgraph}
    {s s' : GState} {q : Op × Option String × Int} :
    opStep rx env st sIdx sg s q = .ok s' ↔
      ∃ rs, opReqs rx env st sIdx sg s.1 q = .ok (rs, s'.1) ∧ updateResults s.2 rs = .ok s'.2 := by
  refine ⟨opStep_ok rx env st sIdx sg s s' q, ?_⟩
  rintro ⟨rs, h1, h2⟩
  unfold opStep
  simp only [h1, h2]

theorem _root_.MatTotal.opStep_sited (rx : String → String → Bool) (env : Env) (st : Recipe.State) (sIdx : Nat)
    (sg : Subgraph) (s : GState) (q : Op × Option String × Int) :
    Sited (AnySite (StepSite rx env st sIdx sg s.1 s.2 q)) (opStep rx env st sIdx sg s q) :=
  fun _ he => (opStep_run rx env st sIdx sg s q).of_error he

theorem mergeReq_name (cur r : CReq) : (mergeReq cur r).name = cur.name := rfl

theorem mergeReq_consumer (cur : CReq) (n : String) (c : CO2T) :
    mergeReq cur (sideReq n true c) = { cur with consumers := some (cur.consumers.getD [] ++ [c]) } := by
  obtain ⟨cn, cp, cc⟩ := cur
  cases cc <;> rfl

theorem mergeReq_producer (cur : CReq) (n : String) (p : CO2T) :
    mergeReq cur (sideReq n false p) = { cur with producer := some p } := by
  obtain ⟨cn, cp, cc⟩ := cur
  rfl

theorem reqSides_mergeReq {Qp Qc : String → CO2T → Prop} {cur r : CReq} (hn : r.name = cur.name)
    (hcur : ReqSides Qp Qc cur) (hr : ReqSides Qp Qc r) : ReqSides Qp Qc (mergeReq cur r) := by
  obtain ⟨rn, rp, rc⟩ := r
  obtain ⟨cn, cp, cc⟩ := cur
  cases hn
  refine ⟨fun p hp => ?_, fun cs c hcs hc => ?_⟩
  · cases rp with
    | none => exact hcur.1 p hp
    | some p' => exact hr.1 p hp
  · cases rc with
    | none => exact hcur.2 cs c hcs hc
    | some c1 =>
      cases cc with
      | none => exact hr.2 cs c hcs hc
      | some c0 =>
        cases hcs
        exact (List.mem_append.1 hc).elim (hcur.2 c0 c rfl) (hr.2 c1 c rfl)

theorem _root_.MatTotal.generateLoop_flat (rx : String → String → Bool) (env : Env) (st : Recipe.State) (qsvs : Option Qsvs) :
    generateLoop rx env st qsvs = (flatOps env.model).foldlM (flatStep rx env st) (qsvs.getD [], []) := by
  unfold generateLoop flatOps
  rw [PyM.foldlM_flatMap]
  congr 1
  funext s p
  rw [List.foldlM_map]
  rfl

theorem _root_.MatTotal.reach_rule {rx : String → String → Bool} {env : Env} {st : Recipe.State} {qsvs : Option Qsvs}
    (J : List ((Subgraph × Nat) × (Op × Option String × Int)) → GState → Prop) (h0 : J [] (qsvs.getD [], []))
    (hstep : ∀ pre x s s', x ∈ flatOps env.model → J pre s → flatStep rx env st s x = .ok s' → J (pre ++ [x]) s')
    {pre post : List ((Subgraph × Nat) × (Op × Option String × Int))} {s : GState}
    (hl : flatOps env.model = pre ++ post) (h : Reach rx env st qsvs pre s) : J pre s := by
  have := foldlM_inv_pre (flatStep rx env st) J pre [] _ s h0
    (fun p x a b hx => hstep p x a b (by rw [hl]; exact List.mem_append_left _ hx)) h
  rwa [List.nil_append] at this

/-- the body of the inner loop of `generate`, with the branches of the `do` block: the continuation `updateResults`
    stands in each of the three of them (in `opStep` it stands once, behind `opReqs`); `jp x` for `pure x >>= jp`, the
    raise alone for `throw e >>= jp` -/
def opBody (rx : String → String → Bool) (env : Env) (st : Recipe.State) (sIdx : Nat) (sg : Subgraph)
    (q : Op × Option String × Int) (s : GState) : PyM (ForInStep GState) :=
  let jp := fun (key : Option String) =>
    match key with
    | none => do
      let r ← noQuantOp sg q.1 q.2.2
      let res ← updateResults s.2 r
      pure (ForInStep.yield (s.1, res))
    | some k => do
      let scope ← opScope sg q.1
      if (Recipe.resolve rx st k scope).1 == Tables.algNoQuantize then do
        let r ← noQuantOp sg q.1 q.2.2
        let res ← updateResults s.2 r
        pure (ForInStep.yield (s.1, res))
      else
        let jp2 := fun (fn : String) => do
          let x ← materializeOp env sg s.1
            { sgIdx := sIdx, op := q.1, opName := k, opId := q.2.2, cfg := (Recipe.resolve rx st k scope).2 }
            (Recipe.resolve rx st k scope).1 fn
          let res ← updateResults s.2 x.1
          pure (ForInStep.yield (x.2, res))
        match Py.dictGet? Tables.registry (Recipe.resolve rx st k scope).1 with
        | none => throw PyErr.valueError
        | some ops =>
          match Py.dictGet? ops k with
          | none => throw PyErr.valueError
          | some f => jp2 f
  match q.2.1 with
  | some k => jp (some k)
  | none =>
    match env.model.opcodes[q.1.code]? with
    | none => throw PyErr.indexError
    | some code => jp (opNameOfCode code)

set_option smartUnfolding false in
/-- the text of `generate` with its inner loop body named (see the note at `PyM.forIn_eq_foldlM`) -/
theorem generate_text (rx : String → String → Bool) (env : Env) (st : Recipe.State) (qsvs : Option Qsvs) :
    Mat.generate rx env st qsvs =
      if env.model.subgraphs.any (fun sg => sg.tensors.any (·.quant.isSome)) then throw .valueError
      else if !(env.model.subgraphs.flatMap fun sg => sg.tensors.map (·.name)).Nodup then throw .valueError
      else if Recipe.needCalibration st && qsvs.isNone then throw .runtimeError
      else (forIn env.model.subgraphs.zipIdx ((qsvs.getD [], []) : GState) fun p s =>
          (forIn (allOps p.1) s fun q s => opBody rx env st p.2 p.1 q s) >>= fun s => pure (ForInStep.yield s)) >>=
        fun s => checkBufferSharing env.model s.2 >>= fun _ => checkUnreadOwn env.model s.2 >>= fun _ =>
          pure (s.2.map (·.2)) := rfl

/-- the body of the loop is `opStep`: the continuation moves out of the branches, one `cases` per call -/
theorem opBody_eq (rx : String → String → Bool) (env : Env) (st : Recipe.State) (sIdx : Nat) (sg : Subgraph)
    (q : Op × Option String × Int) (s : GState) :
    opBody rx env st sIdx sg q s = opStep rx env st sIdx sg s q >>= fun c => pure (ForInStep.yield c) := by
  obtain ⟨op, io, opId⟩ := q
  obtain ⟨qs, res⟩ := s
  simp only [opBody, opStep, opReqs, keyOf, pure, Except.pure, bind, Except.bind, throw, throwThe,
    MonadExceptOf.throw]
  -- the key of the entry is given (INPUT / OUTPUT) or looked up; without a key the step is `noQuantOp`
  rcases io with _ | k
  case' none =>
    rcases env.model.opcodes[op.code]? with _ | code
    · rfl
    simp only []
    rcases opNameOfCode code with _ | k
    · simp only []
      cases noQuantOp sg op opId with
      | error e => rfl
      | ok r => simp only []; cases updateResults res r <;> rfl
  -- in both remaining goals the key `k` is known, and both sides run the same steps
  all_goals
    cases opScope sg op with
    | error e => rfl
    | ok scope =>
      by_cases h1 : ((Recipe.resolve rx st k scope).1 == Tables.algNoQuantize) = true
      · simp only [if_pos h1]
        cases noQuantOp sg op opId with
        | error e => rfl
        | ok r => simp only []; cases updateResults res r <;> rfl
      · simp only [if_neg h1]
        cases Py.dictGet? Tables.registry (Recipe.resolve rx st k scope).1 with
        | none => rfl
        | some ops =>
          simp only []
          cases Py.dictGet? ops k with
          | none => rfl
          | some fn =>
            simp only []
            cases materializeOp env sg qs
                { sgIdx := sIdx, op := op, opName := k, opId := opId, cfg := (Recipe.resolve rx st k scope).2 }
                (Recipe.resolve rx st k scope).1 fn with
            | error e => rfl
            | ok v => obtain ⟨r, qs'⟩ := v; simp only []; cases updateResults res r <;> rfl

theorem generate_eq (rx : String → String → Bool) (env : Env) (st : Recipe.State) (qsvs : Option Qsvs) :
    Mat.generate rx env st qsvs =
      if env.model.subgraphs.any (fun sg => sg.tensors.any (·.quant.isSome)) then .error .valueError
      else if !(env.model.subgraphs.flatMap fun sg => sg.tensors.map (·.name)).Nodup then .error .valueError
      else if Recipe.needCalibration st && qsvs.isNone then .error .runtimeError
      else generateLoop rx env st qsvs >>= fun s => checkBufferSharing env.model s.2 >>= fun _ =>
        checkUnreadOwn env.model s.2 >>= fun _ => pure (s.2.map (·.2)) := by
  have hin : ∀ (p : Subgraph × Nat) (s : GState),
      ((forIn (allOps p.1) s fun q s => opBody rx env st p.2 p.1 q s) >>= fun s => pure (ForInStep.yield s)) =
        (sgStep rx env st s p >>= fun c => pure (ForInStep.yield c)) := fun p s =>
    congrArg (· >>= _) (forIn_eq_foldlM _ (opStep rx env st p.2 p.1) (opBody_eq rx env st p.2 p.1) _ s)
  rw [generate_text, forIn_eq_foldlM _ (sgStep rx env st) hin]
  rfl

theorem generate_ok_iff {rx : String → String → Bool} {env : Env} {st : Recipe.State} {qsvs : Option Qsvs}
    {reqs : List CReq} :
    Mat.generate rx env st qsvs = .ok reqs ↔
      env.model.subgraphs.any (fun sg => sg.tensors.any (·.quant.isSome)) = false ∧
      (env.model.subgraphs.flatMap fun sg => sg.tensors.map (·.name)).Nodup ∧
      (Recipe.needCalibration st && qsvs.isNone) = false ∧
      ∃ qs res, generateLoop rx env st qsvs = .ok (qs, res) ∧ checkBufferSharing env.model res = .ok () ∧
        checkUnreadOwn env.model res = .ok () ∧ reqs = res.map (·.2) := by
  rw [generate_eq]
  by_cases h1 : env.model.subgraphs.any (fun sg => sg.tensors.any (·.quant.isSome)) = true
  · rw [if_pos h1]
    exact ⟨fun h => (by cases h), fun h => (by rw [h1] at h; cases h.1)⟩
  rw [if_neg h1]
  by_cases h2 : (!(env.model.subgraphs.flatMap fun sg => sg.tensors.map (·.name)).Nodup) = true
  · rw [if_pos h2]
    exact ⟨fun h => (by cases h), fun h => (by simp [h.2.1] at h2)⟩
  rw [if_neg h2]
  by_cases h3 : (Recipe.needCalibration st && qsvs.isNone) = true
  · rw [if_pos h3]
    exact ⟨fun h => (by cases h), fun h => (by rw [h3] at h; cases h.2.2.1)⟩
  rw [if_neg h3, bind_eq_ok_iff]
  have e1 : env.model.subgraphs.any (fun sg => sg.tensors.any (·.quant.isSome)) = false := Bool.eq_false_iff.2 h1
  have e2 : (env.model.subgraphs.flatMap fun sg => sg.tensors.map (·.name)).Nodup := by simpa using h2
  have e3 : (Recipe.needCalibration st && qsvs.isNone) = false := Bool.eq_false_iff.2 h3
  constructor
  · rintro ⟨⟨qs, res⟩, hl, h⟩
    obtain ⟨u, hc1, h⟩ := bind_eq_ok_iff.1 h
    obtain ⟨u', hc2, h⟩ := bind_eq_ok_iff.1 h
    exact ⟨e1, e2, e3, qs, res, hl, hc1, hc2, (pure_eq_ok_iff.1 h).symm⟩
  · rintro ⟨-, -, -, qs, res, hl, hc1, hc2, rfl⟩
    exact ⟨(qs, res), hl, bind_eq_ok_iff.2 ⟨(), hc1, bind_eq_ok_iff.2 ⟨(), hc2, rfl⟩⟩⟩

theorem generate_noQuant (rx : String → String → Bool) (env : Env) (st : Recipe.State) (qsvs : Option Qsvs)
    (reqs : List CReq) (h : Mat.generate rx env st qsvs = .ok reqs) :
    ∀ sg ∈ env.model.subgraphs, ∀ t ∈ sg.tensors, t.quant = none := by
  intro sg hsg t ht
  have hq := generate_ok_iff.1 h |>.1
  rw [List.any_eq_false] at hq
  have := hq sg hsg
  rw [Bool.not_eq_true, List.any_eq_false] at this
  exact Option.not_isSome_iff_eq_none.1 (this t ht)

theorem generate_inv {rx : String → String → Bool} {env : Env} {st : Recipe.State} {qsvs : Option Qsvs}
    (I : Nat → Nat → GState → Prop) (h0 : I 0 0 (qsvs.getD [], []))
    (hop : ∀ s sg j q x x', env.model.subgraphs[s]? = some sg → (allOps sg)[j]? = some q → I s j x →
      opStep rx env st s sg x q = .ok x' → I s (j + 1) x')
    (hnext : ∀ s sg x, env.model.subgraphs[s]? = some sg → I s (allOps sg).length x → I (s + 1) 0 x)
    {x : GState} (h : generateLoop rx env st qsvs = .ok x) : I env.model.subgraphs.length 0 x := by
  have := foldlM_inv_idx (sgStep rx env st) _ (fun s x => I s 0 x) _ _ h0 ?_ h
  · simpa using this
  intro s p x x' hp hI hstep
  rw [List.getElem?_zipIdx] at hp
  cases hsg : env.model.subgraphs[s]? with
  | none => rw [hsg] at hp; cases hp
  | some sg =>
    rw [hsg] at hp
    cases hp
    rw [Nat.zero_add] at hstep
    exact hnext s sg x' hsg
      (foldlM_inv_idx (opStep rx env st s sg) _ (fun j x => I s j x) _ _ hI (fun j q y y' => hop s sg j q y y' hsg) hstep)

theorem generate_inv_mem {rx : String → String → Bool} {env : Env} {st : Recipe.State} {qsvs : Option Qsvs}
    (I : GState → Prop) (h0 : I (qsvs.getD [], []))
    (hop : ∀ s sg q x x', env.model.subgraphs[s]? = some sg → q ∈ allOps sg → I x →
      opStep rx env st s sg x q = .ok x' → I x')
    {x : GState} (h : generateLoop rx env st qsvs = .ok x) : I x :=
  generate_inv (fun _ _ => I) h0 (fun s sg _ q x x' hsg hq => hop s sg q x x' hsg (List.mem_of_getElem? hq))
    (fun _ _ _ _ hI => hI) h

def DictSides (Qp Qc : String → CO2T → Prop) (res : List (String × CReq)) : Prop :=
  ∀ e ∈ res, (∀ p, e.2.producer = some p → Qp e.1 p) ∧ (∀ cs c, e.2.consumers = some cs → c ∈ cs → Qc e.1 c)

section Sides
variable {Qp Qc : String → CO2T → Prop}

/-- keys of the dictionary are the names of their requests (needed to merge under the key) -/
def Keyed (res : List (String × CReq)) : Prop := ∀ e ∈ res, e.2.name = e.1

theorem stepF_sides {res res' : List (String × CReq)} {r : CReq} (hk : Keyed res) (hd : DictSides Qp Qc res)
    (hr : ReqSides Qp Qc r) (h : stepF res r = .ok res') : Keyed res' ∧ DictSides Qp Qc res' := by
  rcases stepF_ok h with ⟨-, rfl⟩ | ⟨cur, hcur, -, rfl⟩
  · refine ⟨fun e he => ?_, fun e he => ?_⟩ <;> rcases List.mem_append.1 he with he | he
    · exact hk e he
    · rw [List.mem_singleton.1 he]
    · exact hd e he
    · rw [List.mem_singleton.1 he]; exact hr
  · have hmem := Py.dictGet?_mem _ _ _ hcur
    have hn : cur.name = r.name := hk _ hmem
    refine ⟨fun e he => ?_, fun e he => ?_⟩ <;> rcases Py.mem_dictSet _ _ _ _ he with he | rfl
    · exact hk e he
    · exact (mergeReq_name cur r).trans hn
    · exact hd e he
    · have hcs : ReqSides Qp Qc cur := by rw [ReqSides, hn]; exact hd _ hmem
      have := reqSides_mergeReq hn.symm hcs hr
      rw [ReqSides, mergeReq_name, hn] at this
      exact this

theorem updateResults_sides {rs : List CReq} {res res' : List (String × CReq)} (hk : Keyed res)
    (hd : DictSides Qp Qc res) (hrs : ∀ r ∈ rs, ReqSides Qp Qc r) (h : updateResults res rs = .ok res') :
    Keyed res' ∧ DictSides Qp Qc res' :=
  foldlM_inv stepF (fun d => Keyed d ∧ DictSides Qp Qc d) rs res res' ⟨hk, hd⟩
    (fun r hr _ _ hd hstep => stepF_sides hd.1 hd.2 (hrs r hr) hstep) h

/-- `generate_keyed_sides` with the position `j` and the statistics in force (`StatsAt`) at the disposal of the hypothesis -/
theorem generate_sides_at {rx : String → String → Bool} {env : Env} {st : Recipe.State} {qsvs : Option Qsvs}
    {x : GState}
    (hops : ∀ (s : Nat) (sg : Subgraph), env.model.subgraphs[s]? = some sg → ∀ (j : Nat) q, (allOps sg)[j]? = some q →
      ∀ qs0 rs qs1, ParamsSrc.StatsAt rx env st qsvs s sg j qs0 → opReqs rx env st s sg qs0 q = .ok (rs, qs1) →
      ∀ r ∈ rs, ReqSides Qp Qc r)
    (h : generateLoop rx env st qsvs = .ok x) : Keyed x.2 ∧ DictSides Qp Qc x.2 := by
  refine PyM.foldlM_inv_prefix (sgStep rx env st) (fun x : GState => Keyed x.2 ∧ DictSides Qp Qc x.2)
    (qsvs.getD [], []) ⟨fun e he => (by cases he), fun e he => (by cases he)⟩ _ x ?_ h
  intro s p g1 g2 hp hpre hP hstep
  rw [List.getElem?_zipIdx] at hp
  obtain ⟨sg, hsg, hp⟩ := Option.map_eq_some_iff.1 hp
  rw [Nat.zero_add] at hp
  subst hp
  refine PyM.foldlM_inv_prefix (opStep rx env st s sg) (fun x : GState => Keyed x.2 ∧ DictSides Qp Qc x.2)
    g1 hP _ g2 ?_ hstep
  intro j q y y' hq hprej hy hstepq
  obtain ⟨rs, hr, hu⟩ := opStep_ok rx env st s sg y y' q hstepq
  exact updateResults_sides hy.1 hy.2 (hops s sg hsg j q hq y.1 rs y'.1 ⟨g1, y.2, hpre, hprej⟩ hr) hu

theorem generate_keyed_sides {rx : String → String → Bool} {env : Env} {st : Recipe.State} {qsvs : Option Qsvs}
    {x : GState}
    (hops : ∀ (s : Nat) (sg : Subgraph), env.model.subgraphs[s]? = some sg → ∀ q ∈ allOps sg,
      ∀ qs0 rs qs1, opReqs rx env st s sg qs0 q = .ok (rs, qs1) → ∀ r ∈ rs, ReqSides Qp Qc r)
    (h : generateLoop rx env st qsvs = .ok x) : Keyed x.2 ∧ DictSides Qp Qc x.2 :=
  generate_sides_at (fun s sg hsg _ q hq qs0 rs qs1 _ => hops s sg hsg q (List.mem_of_getElem? hq) qs0 rs qs1) h

/-- the rule through which a property of every side of every emitted request reaches the result dictionary -/
theorem generate_sides {rx : String → String → Bool} {env : Env} {st : Recipe.State} {qsvs : Option Qsvs}
    {qs : Qsvs} {res : List (String × CReq)}
    (hops : ∀ (s : Nat) (sg : Subgraph), env.model.subgraphs[s]? = some sg → ∀ q ∈ allOps sg,
      ∀ qs0 rs qs1, opReqs rx env st s sg qs0 q = .ok (rs, qs1) → ∀ r ∈ rs, ReqSides Qp Qc r)
    (h : generateLoop rx env st qsvs = .ok (qs, res)) : DictSides Qp Qc res :=
  (generate_keyed_sides hops h).2

end Sides

theorem generate_keyed {rx : String → String → Bool} {env : Env} {st : Recipe.State} {qsvs : Option Qsvs} {x : GState}
    (h : generateLoop rx env st qsvs = .ok x) : Keyed x.2 :=
  (generate_keyed_sides (Qp := fun _ _ => True) (Qc := fun _ _ => True)
    (fun _ _ _ _ _ _ _ _ _ _ _ => ⟨fun _ _ => trivial, fun _ _ _ _ => trivial⟩) h).1

/-- origin of every request of one entry (`Mat.EmittedK` for the registered functions) -/
theorem opReqs_emitted {rx : String → String → Bool} {env : Env} {st : Recipe.State} {sIdx : Nat} {sg : Subgraph}
    {qs : Qsvs} {q : Op × Option String × Int} {rs : List CReq} {qs' : Qsvs}
    (h : opReqs rx env st sIdx sg qs q = .ok (rs, qs')) :
    ∀ r ∈ rs, ∃ t b, t ∈ sg.tensors ∧
      ((AtSlot sg q.1 b t ∧ r = noQuantReq t.name q.2.2 b) ∨
       ∃ k scope ops fn c, MatTotal.Selected rx env st sg q k scope ops fn ∧
        EmittedK env sg qs (opInfoAt rx st sIdx q k scope) (kindOf (Recipe.resolve rx st k scope).1 fn) t b c ∧
        r = sideReq t.name b c) := by
  intro r hr
  rcases opReqs_ok h with ⟨hn, -⟩ | ⟨k, scope, ops, fn, S, hrun⟩
  · obtain ⟨b, t, hslot, rfl⟩ := (noQuantOp_mem_iff hn r).1 hr
    exact ⟨t, b, hslot.mem, .inl ⟨hslot, rfl⟩⟩
  · obtain ⟨t, b, c, ht, he, rfl⟩ := runKind_emitted hrun r hr
    exact ⟨t, b, ht, .inr ⟨k, scope, ops, fn, c, S, he, rfl⟩⟩

/-- the keys of the result dictionary are distinct: every step of `updateResults` is a `dictSet` -/
theorem generate_keys {rx : String → String → Bool} {env : Env} {st : Recipe.State} {qsvs : Option Qsvs}
    {x : GState} (h : generateLoop rx env st qsvs = .ok x) : (x.2.map (·.1)).Nodup := by
  refine generate_inv_mem (fun x : GState => (x.2.map (·.1)).Nodup) List.nodup_nil ?_ h
  intro s sg q x x' _ _ hx hstep
  obtain ⟨rs, -, hu⟩ := opStep_ok rx env st s sg x x' q hstep
  rw [updateResults_eq] at hu
  refine PyM.foldlM_inv stepF (fun d => (d.map (·.1)).Nodup) rs _ _ hx (fun r _ d d' hd hstep => ?_) hu
  rcases stepF_ok hstep with ⟨hnone, rfl⟩ | ⟨cur, -, -, rfl⟩
  · rw [← Py.dictSet_of_not_mem d _ r ((Py.dictGet?_eq_none_iff _ _).1 hnone)]
    exact Py.nodup_dictSet _ _ _ hd
  · exact Py.nodup_dictSet _ _ _ hd

theorem generate_error_of_unreadOwn {rx : String → String → Bool} {env : Env} {st : Recipe.State} {qsvs : Option Qsvs}
    {qs : Qsvs} {res : List (String × CReq)} {e : PyErr}
    (h1 : env.model.subgraphs.any (fun sg => sg.tensors.any (·.quant.isSome)) = false)
    (h2 : (env.model.subgraphs.flatMap fun sg => sg.tensors.map (·.name)).Nodup)
    (h3 : (Recipe.needCalibration st && qsvs.isNone) = false)
    (hl : generateLoop rx env st qsvs = .ok (qs, res)) (hc : checkBufferSharing env.model res = .ok ())
    (ho : checkUnreadOwn env.model res = .error e) : Mat.generate rx env st qsvs = .error e := by
  rw [generate_eq, h1, if_neg (by simp), if_neg (by simpa using h2), h3, if_neg (by simp), hl]
  show (checkBufferSharing env.model res >>= fun _ => checkUnreadOwn env.model res >>= fun _ => _) = _
  rw [hc]
  show (checkUnreadOwn env.model res >>= fun _ => _) = _
  rw [ho]
  rfl

end Pipe
