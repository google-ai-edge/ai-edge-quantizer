import QProofs.SharingProofs
import QProofs.PipeAbs
/-!
# What a request side asks of the buffer (`want`), and the first loop of the sharing check in hub form (`ReadersOK.hub`)

`compatO2T` is not an equivalence (NO_QUANTIZE is compatible with ADD_QUANTIZE under any parameters), but compatible
sides ask the same of the tensor's buffer: leave the float data, or store the packed data of one parameter key.
Namespace `SharingProofs` for what is said of the checks alone (`compatReq_self_left`, `ReadersOK.hub`), `SharingGen`
(that of `quantSrc`) for `want` and `Asks`.
-/
open Graph Mat Pipe

namespace SharingProofs

theorem compatO2T_self (a : CO2T) : compatO2T a a = .ok true :=
  (compatO2T_ok_iff a a).2 (.inl ⟨rfl, (Pipe.optParamEq_iff _ _).2 rfl⟩)

theorem compatReq_self_left (a b : CReq) (h : compatReq a b = .ok true) : compatReq a a = .ok true := by
  obtain ⟨hp, hc⟩ := (compatReq_ok_iff a b).1 h
  refine (compatReq_ok_iff a a).2 ⟨?_, ?_⟩
  · rcases hp with ⟨h1, -⟩ | ⟨pa, -, h1, -, -⟩
    · exact .inl ⟨h1, h1⟩
    · exact .inr ⟨pa, pa, h1, h1, compatO2T_self pa⟩
  · rcases hc with ⟨h1, -⟩ | ⟨ca, -, h1, -, a0, -, h3, -, h5, -, -⟩
    · exact .inl ⟨h1, h1⟩
    · exact .inr ⟨ca, ca, h1, h1, a0, a0, h3, h3, h5, h5, compatO2T_self a0⟩

end SharingProofs

namespace SharingGen

/-- the transformation rewrites the tensor's own record / buffer -/
def quantSrc (x : Xf) : Bool := x == .quantTensor || x == .addDequant

theorem quantSrc_cases (x : Xf) (h : quantSrc x = true) : x = .quantTensor ∨ x = .addDequant := by
  cases x <;> simp [quantSrc] at h ⊢

/-- what a request side asks the tensor's buffer to hold: `none` = the float data stay,
    `some k` = the packed data of the parameter object(s) with key `k` -/
def want (c : CO2T) : Option (Option PKey) :=
  match c.xfs.head? with
  | some x => if quantSrc x = true then some (c.param.map pkey) else none
  | none => none

theorem want_single {c : CO2T} {x : Xf} (hx : c.xfs = [x]) :
    want c = if quantSrc x = true then some (c.param.map pkey) else none := by
  unfold want; rw [hx]; rfl

theorem want_ne_none {c : CO2T} (h : want c ≠ none) : ∃ x, c.xfs.head? = some x ∧ quantSrc x = true := by
  unfold want at h
  cases hx : c.xfs.head? with
  | none => rw [hx] at h; exact absurd rfl h
  | some x =>
    rw [hx] at h
    by_cases hq : quantSrc x = true
    · exact ⟨x, rfl, hq⟩
    · simp only [hq] at h; exact absurd rfl h

/-- **compatible sides ask the same of the buffer** (the only consequence of `compatO2T` that the graph stage needs) -/
theorem compatO2T_want {a b : CO2T} (h : compatO2T a b = .ok true) : want a = want b := by
  unfold want
  rcases (SharingProofs.compatO2T_ok_iff a b).1 h with ⟨hx, hp⟩ | ⟨x, y, hx, hy, hp, hcls⟩
  · rw [hx, (optParamEq_iff _ _).1 hp]
  · rw [hx, hy]
    dsimp only
    rcases Bool.or_eq_true_iff.1 hcls with h | h
    · -- both read the float data
      have hdis : ∀ z : Xf, (z == .addQuant || z == .noQuant) = true → quantSrc z = false := by
        intro z; cases z <;> decide
      rw [hdis _ (Bool.and_eq_true_iff.1 h).1, hdis _ (Bool.and_eq_true_iff.1 h).2]
      rfl
    · -- both rewrite: neither is NO_QUANTIZE, so the parameters were compared
      obtain ⟨hqx, hqy⟩ : quantSrc x = true ∧ quantSrc y = true := Bool.and_eq_true_iff.1 h
      rw [if_pos hqx, if_pos hqy]
      rcases hp with rfl | rfl | hp
      · cases hqx
      · cases hqy
      · rw [(optParamEq_iff _ _).1 hp]

def Asks (r : CReq) (w : Option (Option PKey)) : Prop :=
  r.consumers.getD [] ≠ [] ∧ ∀ c ∈ r.consumers.getD [], want c = w

theorem Asks.unique {r : CReq} {w w' : Option (Option PKey)} (h : Asks r w) (h' : Asks r w') : w = w' := by
  obtain ⟨c, hc⟩ := List.exists_mem_of_ne_nil _ h.1
  exact (h.2 c hc).symm.trans (h'.2 c hc)

theorem compatReq_asks {a b : CReq} (h : compatReq a b = .ok true) :
    (a.consumers = none ∧ b.consumers = none) ∨ ∃ w, Asks a w ∧ Asks b w := by
  rcases ((SharingProofs.compatReq_ok_iff a b).1 h).2 with h0 | ⟨ca, cb, h1, h2, a0, b0, h3, h4, h5, h6, h7⟩
  · exact .inl h0
  · refine .inr ⟨want a0, ?_, ?_⟩
    · rw [Asks, h1]
      exact ⟨List.ne_nil_of_mem (List.mem_of_mem_head? h3), fun c hc => compatO2T_want (h5 c hc)⟩
    · rw [Asks, h2]
      exact ⟨List.ne_nil_of_mem (List.mem_of_mem_head? h4),
        fun c hc => (compatO2T_want (h6 c hc)).trans (compatO2T_want h7).symm⟩

theorem Asks.of_compat {a b : CReq} {w : Option (Option PKey)} (h : compatReq a b = .ok true) :
    Asks a w ↔ Asks b w := by
  rcases compatReq_asks h with ⟨h0, h0'⟩ | ⟨w', ha', hb'⟩
  · exact ⟨fun ha => by rw [Asks, h0] at ha; exact absurd rfl ha.1,
      fun hb => by rw [Asks, h0'] at hb; exact absurd rfl hb.1⟩
  · exact ⟨fun ha => by rw [ha.unique ha']; exact hb', fun hb => by rw [hb.unique hb']; exact ha'⟩

end SharingGen

namespace SharingProofs

/-- **the first loop of the check in hub form**: the readers of a data buffer are all compared with the request
    of the first one (with itself when it is the only one), and all have requests when there are two or more -/
theorem ReadersOK.hub {res : List (String × CReq)} {first : String} {rest : List String}
    (h : ReadersOK res (first :: rest)) :
    (rest ≠ [] → ∀ n ∈ first :: rest, ∃ r, Py.dictGet? res n = some r) ∧
    ∀ fp, Py.dictGet? res first = some fp → ∀ n ∈ first :: rest, ∀ r, Py.dictGet? res n = some r →
      compatReq fp r = .ok true := by
  cases rest with
  | nil =>
    refine ⟨fun h => absurd rfl h, fun fp hfp n hn r hr => ?_⟩
    rw [List.mem_singleton.1 hn, hfp] at hr
    cases hr
    exact h fp hfp
  | cons second rest =>
    obtain ⟨fp, hfp, hall⟩ := h
    refine ⟨fun _ n hn => ?_, fun fp' hfp' n hn r hr => ?_⟩
    · rcases List.mem_cons.1 hn with rfl | hn
      · exact ⟨fp, hfp⟩
      · exact (hall n hn).imp fun _ h => h.1
    · rw [hfp] at hfp'; cases hfp'
      rcases List.mem_cons.1 hn with rfl | hn
      · rw [hfp] at hr; cases hr
        obtain ⟨tp, -, hc⟩ := hall second List.mem_cons_self
        exact compatReq_self_left fp tp hc
      · obtain ⟨tp, htp, hc⟩ := hall n hn
        rw [htp] at hr; cases hr
        exact hc

end SharingProofs
