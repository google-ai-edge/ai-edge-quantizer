import QProofs.ConstBytes
import QProofs.NumericArray
/-!
# `uniform_quantize` element by element, and the stored bytes of its result
`uniformQuantize_spec`: every code is the scalar core `quantize1` on the element and on the scale / zero point of its channel,
whatever the (rank-fixed) shape of the parameters; `uq_fit` is the case of parameters whose shape broadcasts into the tensor's. -/
open Arith Num Nd ConstBytes MatParams

set_option autoImplicit false

namespace ConstQuant


theorem fixRank_spec (shape : List Nat) (qp qp' : QParams) (h : fixRank shape qp = .ok qp') :
    qp'.bits = qp.bits ∧ qp'.symmetric = qp.symmetric ∧ qp'.qdim = qp.qdim ∧ qp'.scale.pr = qp.scale.pr ∧
    qp'.zp.w = qp.zp.w ∧ qp'.scale.arr.data = qp.scale.arr.data ∧ qp'.zp.arr.data = qp.zp.arr.data ∧
    (shape.length = qp.scale.arr.shape.length → qp' = qp) := by
  unfold fixRank at h
  by_cases h1 : shape.length = qp.scale.arr.rank
  · rw [if_pos h1] at h; cases h
    exact ⟨rfl, rfl, rfl, rfl, rfl, rfl, rfl, fun _ => rfl⟩
  · rw [if_neg h1] at h
    have hne : ¬ shape.length = qp.scale.arr.shape.length := h1
    split at h
    · split at h
      · cases h
      · cases h; exact ⟨rfl, rfl, rfl, rfl, rfl, rfl, rfl, fun e => absurd e hne⟩
    · split at h
      · cases h; exact ⟨rfl, rfl, rfl, rfl, rfl, rfl, rfl, fun e => absurd e hne⟩
      · cases h

/-- **every code of `uniform_quantize(x, qp)`** is the scalar core on the element (`x` broadcast to the result shape `rs`)
    and on the scale / zero point at its position in the parameters' rank-fixed shape `ss` -/
structure UqSpec (x : FArr) (qp : QParams) (q : IArr) (ss rs : List Nat) : Prop where
  own : x.arr.shape.length = qp.scale.arr.shape.length → ss = qp.scale.arr.shape
  result : bshape x.arr.shape ss = some rs
  width : q.w = storageBits qp.bits
  shape : q.arr.shape = rs
  len : q.arr.data.length = numel rs
  code : ∀ (i : Nat) (c : Int), q.arr.data[i]? = some c →
    quantize1 x.pr qp.scale.pr qp.zp.w qp.bits qp.symmetric
      (x.arr.data.getD (bindex rs x.arr.shape i) 0)
      (qp.scale.arr.data.getD (bindex rs ss i) 0)
      (qp.zp.arr.data.getD (bindex rs ss i) 0) = .ok c

theorem uniformQuantize_spec (x : FArr) (qp : QParams) (q : IArr) (h : uniformQuantize x qp = .ok q) :
    ∃ (ss rs : List Nat), UqSpec x qp q ss rs := by
  unfold uniformQuantize at h
  obtain ⟨qp', hfix, h⟩ := PyM.bind_eq_ok_iff.1 h
  obtain ⟨u, hval, h⟩ := PyM.bind_eq_ok_iff.1 h
  obtain ⟨sz, hsz, h⟩ := PyM.bind_eq_ok_iff.1 h
  obtain ⟨out, hout, h⟩ := PyM.bind_eq_ok_iff.1 h
  simp only [pure, Except.pure, Except.ok.injEq] at h
  subst h
  obtain ⟨f1, f2, _, f4, f5, f6, f7, f8⟩ := fixRank_spec _ _ _ hfix
  have hv : qp'.scale.arr.shape = qp'.zp.arr.shape ∧ x.arr.shape.length = qp'.scale.arr.shape.length := by
    unfold validParams at hval
    split at hval
    · cases hval
    · rename_i hs
      split at hval
      · cases hval
      · rename_i hr
        exact ⟨by simpa using hs, by simpa [Arr.rank] using hr⟩
  obtain ⟨rs0, hrs0, hsh0, hlen0, hel0⟩ := zipB_ok _ _ _ _ hsz
  rw [← hv.1, bshapeAny_self] at hrs0
  cases hrs0
  obtain ⟨rs, hrs, hsh, hlen, hel⟩ := zipB_ok _ _ _ _ hout
  rw [hsh0, bshapeAny_same_len _ _ hv.2] at hrs
  obtain ⟨-, i2⟩ := bshape_into _ _ _ hrs
  refine ⟨qp'.scale.arr.shape, rs, fun e => by rw [f8 e], hrs, by rw [f1], hsh, hlen, ?_⟩
  · intro i c hc
    have hi : i < numel rs := by
      have := (List.getElem?_eq_some_iff.1 hc).1
      rw [hlen] at this; exact this
    have hj := NumT.bindex_compat_lt i2 i hi
    have e := hel i c hc
    rw [hsh0] at e
    have hpair : sz.data.getD (bindex rs qp'.scale.arr.shape i) default =
        (qp'.scale.arr.data.getD (bindex rs qp'.scale.arr.shape i) 0,
         qp'.zp.arr.data.getD (bindex rs qp'.scale.arr.shape i) 0) := by
      have := hel0 _ _ (List.getElem?_eq_some_getD default (hlen0 ▸ hj))
      rw [← hv.1, bindex_self _ _ hj] at this
      exact (PyM.pure_eq_ok_iff.1 this).symm
    rw [hpair] at e
    rw [f1, f2, f4, f5, f6, f7] at e
    exact e

theorem uq_w (x : FArr) (qp : QParams) (q : IArr) (h : uniformQuantize x qp = .ok q) :
    q.w = storageBits qp.bits := by
  obtain ⟨_, _, U⟩ := uniformQuantize_spec x qp q h
  exact U.width

theorem uq_len (x : FArr) (qp : QParams) (q : IArr) (h : uniformQuantize x qp = .ok q) :
    q.arr.data.length = numel q.arr.shape := by
  obtain ⟨_, _, U⟩ := uniformQuantize_spec x qp q h
  rw [U.shape, U.len]

theorem uq_code (x : FArr) (qp : QParams) (q : IArr) (h : uniformQuantize x qp = .ok q)
    (i : Nat) (c : Int) (hc : q.arr.data[i]? = some c) :
    ∃ j k, qp.scale.arr.data.getD k 0 ≠ 0 ∧
      c = roundClip qp.bits qp.symmetric (qSum x.pr qp.scale.pr qp.zp.w (x.arr.data.getD j 0)
        (qp.scale.arr.data.getD k 0) (qp.zp.arr.data.getD k 0)) := by
  obtain ⟨ss, rs, U⟩ := uniformQuantize_spec x qp q h
  obtain ⟨hs, -, e⟩ := quantize1_ok_iff.1 (U.code i c hc)
  exact ⟨_, _, hs, e⟩

theorem uq_fit (x : FArr) (qp : QParams) (q : IArr) (h : uniformQuantize x qp = .ok q)
    (hr : x.arr.shape.length = qp.scale.arr.shape.length) (hi : Into qp.scale.arr.shape x.arr.shape) :
    q.arr.shape = x.arr.shape ∧
    ∀ i < numel x.arr.shape,
      q.arr.data.getD i 0 = roundClip qp.bits qp.symmetric (qSum x.pr qp.scale.pr qp.zp.w (x.arr.data.getD i 0)
        (qp.scale.arr.data.getD (bindex x.arr.shape qp.scale.arr.shape i) 0)
        (qp.zp.arr.data.getD (bindex x.arr.shape qp.scale.arr.shape i) 0)) := by
  obtain ⟨ss, rs, U⟩ := uniformQuantize_spec x qp q h
  obtain rfl := U.own hr
  obtain rfl : x.arr.shape = rs := Option.some.inj ((NumT.bshape_compat hi).symm.trans U.result)
  refine ⟨U.shape, fun i hilt => ?_⟩
  have e := U.code i _ (List.getElem?_eq_some_getD 0 (U.len ▸ hilt))
  rw [bindex_self _ _ hilt] at e
  exact (quantize1_ok_iff.1 e).2.2

theorem storageBits_pos (bits : Nat) : 1 ≤ storageBits bits := by
  obtain ⟨k, hk, e⟩ := storageBits_eq bits
  omega

/-- every code is a value of its storage type (the cast of `assign_quantized_type` wraps) -/
theorem roundClip_storage (bits : Nat) (narrow : Bool) (v : Rat) :
    -(2:Int)^(storageBits bits - 1) ≤ roundClip bits narrow v ∧
      roundClip bits narrow v < (2:Int)^(storageBits bits - 1) :=
  BytesProofs.wrapInt_range _ (storageBits_pos bits) _

theorem roundClip_nibble (bits : Nat) (hb : bits ≤ 4) (narrow : Bool) (v : Rat) :
    -8 ≤ roundClip bits narrow v ∧ roundClip bits narrow v < 8 := by
  unfold roundClip
  have hs : storageBits bits = 8 := if_pos (by omega)
  have hlo : -8 ≤ qLoI bits narrow ∧ qLoI bits narrow ≤ qHiI bits ∧ qHiI bits ≤ 7 := by
    have hcase : bits = 0 ∨ bits = 1 ∨ bits = 2 ∨ bits = 3 ∨ bits = 4 := by omega
    rcases hcase with rfl | rfl | rfl | rfl | rfl <;> cases narrow <;> decide
  have hc : qLoI bits narrow ≤ clipI (rhe v) (qLoI bits narrow) (qHiI bits) ∧
      clipI (rhe v) (qLoI bits narrow) (qHiI bits) ≤ qHiI bits := by
    unfold clipI; split_ifs <;> omega
  rw [hs, BytesProofs.wrapInt_id 8 (by decide) _ (by norm_num; omega) (by norm_num; omega)]
  omega

theorem codes_range (x : FArr) (qp : QParams) (q : IArr) (h : uniformQuantize x qp = .ok q) :
    (∀ c ∈ q.arr.data, -(2:Int)^(storageBits qp.bits - 1) ≤ c ∧ c < (2:Int)^(storageBits qp.bits - 1)) ∧
    (qp.bits ≤ 4 → ∀ c ∈ q.arr.data, -8 ≤ c ∧ c < 8) := by
  have key : ∀ c ∈ q.arr.data, ∃ v, c = roundClip qp.bits qp.symmetric v := by
    intro c hc
    obtain ⟨i, hi⟩ := List.mem_iff_getElem?.1 hc
    obtain ⟨_, _, _, e⟩ := uq_code x qp q h i c hi
    exact ⟨_, e⟩
  refine ⟨?_, ?_⟩
  · intro c hc
    obtain ⟨v, rfl⟩ := key c hc
    exact roundClip_storage _ _ _
  · intro hb c hc
    obtain ⟨v, rfl⟩ := key c hc
    exact roundClip_nibble _ hb _ _

/-- **length and round trip of the stored bytes of `uniform_quantize(x, qp)`** -/
theorem quantized_bytes (x : FArr) (qp : QParams) (q : IArr) (dt : Nat) (bs : List Nat)
    (h : uniformQuantize x qp = .ok q) (hdt : Perform.dtypeOf ⟨true, qp.bits, true⟩ = .ok dt)
    (hbs : paramBytes (.uniform qp (some q)) = some bs) :
    byteLen dt (numel q.arr.shape) = some bs.length ∧
      decodeInts dt (numel q.arr.shape) bs = q.arr.data := by
  obtain ⟨r1, r2⟩ := codes_range x qp q h
  cases hbs
  rw [uq_w x qp q h, ← uq_len x qp q h]
  exact ⟨storeInts_byteLen qp.bits true dt q.arr.data hdt,
    decodeInts_storeInts qp.bits true dt q.arr.data hdt r1 r2⟩

end ConstQuant
