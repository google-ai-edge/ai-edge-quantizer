import QProofs.MatTotalMain
import QProofs.NFCheckProofs
/-!
# The hypotheses `Hyp` and `Unshared` of the totality theorem can be checked by evaluation

What the two hypotheses quantify over (what resolution selects for an entry, the tensor at a slot, the float
operands of an operator, the readers of a tensor) are functions of the model and the recipe; `hypB` and
`unsharedB` compute them, and on a closed instance `hypB_sound … (by decide +kernel)` establishes `Hyp`.
-/
open Graph Mat Cfg Pipe GraphStep GenInstsOK

set_option autoImplicit false

namespace MatTotal

instance decOk {α} (x : PyM α) (P : α → Prop) [DecidablePred P] : Decidable (∀ a, x = .ok a → P a) :=
  match x with
  | .ok a => decidable_of_iff (P a) ⟨fun h _ e => by cases e; exact h, fun h => h a rfl⟩
  | .error _ => isTrue fun _ e => by cases e

instance decSome {α} (o : Option α) (P : α → Prop) [DecidablePred P] : Decidable (∀ a, o = some a → P a) :=
  match o with
  | some a => decidable_of_iff (P a) ⟨fun h _ e => by cases e; exact h, fun h => h a rfl⟩
  | none => isTrue fun _ e => by cases e

instance decSomeEx {α} (o : Option α) (P : α → Prop) [DecidablePred P] : Decidable (∃ a, o = some a ∧ P a) :=
  match o with
  | some a => decidable_of_iff (P a) ⟨fun h => ⟨a, rfl, h⟩, fun ⟨_, e, h⟩ => by cases e; exact h⟩
  | none => isFalse fun ⟨_, e, _⟩ => by cases e

instance (qs : Qsvs) (n : String) : Decidable (Present qs n) :=
  match h : Py.dictGet? qs n with
  | some (some mm) => isTrue ⟨mm, h⟩
  | some none => isFalse fun ⟨_, e⟩ => by rw [h] at e; cases e
  | none => isFalse fun ⟨_, e⟩ => by rw [h] at e; cases e

instance (m : Model) : Decidable (namesUnique m) := by unfold namesUnique; infer_instance

/-- the `(k, scope, ops, fn)` of `Selected`, which they determine -/
def selectedOf (rx : String → String → Bool) (env : Env) (st : Recipe.State) (sg : Subgraph)
    (q : Op × Option String × Int) : Option (String × String × List (String × String) × String) :=
  match keyOf env q, opScope sg q.1 with
  | .ok (some k), .ok scope =>
    match Py.dictGet? Tables.registry (Recipe.resolve rx st k scope).1 with
    | some ops =>
      match Py.dictGet? ops k with
      | some fn => if (Recipe.resolve rx st k scope).1 = Tables.algNoQuantize then none else some (k, scope, ops, fn)
      | none => none
    | none => none
  | _, _ => none

theorem Selected.selectedOf_eq {rx : String → String → Bool} {env : Env} {st : Recipe.State} {sg : Subgraph}
    {q : Op × Option String × Int} {k scope fn : String} {ops : List (String × String)}
    (S : Selected rx env st sg q k scope ops fn) : selectedOf rx env st sg q = some (k, scope, ops, fn) := by
  unfold selectedOf
  simp only [S.hkey, S.hscope, S.hops, S.hfn, if_neg S.halg]

def statsB (rx : String → String → Bool) (env : Env) (st : Recipe.State) (qs : Qsvs) : Bool :=
  env.model.subgraphs.all fun sg => (allOps sg).all fun q => (selectedOf rx env st sg q).all fun x =>
    decide ((Recipe.resolve rx st x.1 x.2.1).2.act.isSome = true →
      ∀ a ∈ q.1.inputs ++ q.1.outputs, a ≠ -1 → ∀ t, tensorAt sg a = .ok t → t.dtype = Tables.ttFloat32 →
        (constData env t = none ∨ (kindOf (Recipe.resolve rx st x.1 x.2.1).1 x.2.2.2).isPass = true) → Present qs t.name)

theorem statsB_sound (rx : String → String → Bool) (env : Env) (st : Recipe.State) (qs : Qsvs)
    (h : statsB rx env st qs = true) : StatsComplete rx env st qs := by
  intro sg hsg q hq k scope ops fn S
  have := List.all_eq_true.1 (List.all_eq_true.1 h sg hsg) q hq
  rw [S.selectedOf_eq] at this
  exact of_decide_eq_true this

/-- `FloatSlots` determines its list -/
def floatSlotsOf (sg : Subgraph) (slots : List Int) (given : List Nat) : Option (List Tensor) :=
  match ignoredSlots sg slots given with
  | .ok ign => match splitTensors sg slots ign with
    | .ok r => some r.2.1
    | .error _ => none
  | .error _ => none

theorem FloatSlots.floatSlotsOf_eq {sg : Subgraph} {slots : List Int} {given : List Nat} {ts : List Tensor}
    (h : FloatSlots sg slots given ts) : floatSlotsOf sg slots given = some ts := by
  obtain ⟨ign, sel, upd, h1, h2⟩ := h
  unfold floatSlotsOf
  simp only [h1, h2]

/-- `OpShape`, with the quantifiers in an order that instance search decides -/
def opShapeB (env : Env) (sg : Subgraph) (op : Op) (cfg : OpCfg) : Kind → Bool
  | .std .sameAsInput gi => decide (∀ inT, floatSlotsOf sg op.inputs gi = some inT → ∀ outT, floatSlotsOf sg op.outputs [] = some outT →
      (inT = [] ∧ outT = []) ∨ inT.length = 1)
  | .std .sameAsOutput gi => decide (∀ inT, floatSlotsOf sg op.inputs gi = some inT → ∀ outT, floatSlotsOf sg op.outputs [] = some outT →
      (inT = [] ∧ outT = []) ∨ outT.length = 1)
  | .std .none _ => true
  | .conv => convB 0 1 2
  | .convT => convB 2 1 3
  | .fixed _ => decide (op.outputs.length = 1 ∧ ∀ a ∈ op.outputs, a ≠ -1 → ∀ t, tensorAt sg a = .ok t → t.dtype = Tables.ttFloat32)
  | .cast iIn iW _ => decide ((∃ a, op.inputs[iIn]? = some a ∧ True) ∧ (∃ a, op.inputs[iW]? = some a ∧ True) ∧
      (∃ a, op.outputs[0]? = some a ∧ a ≠ -1) ∧
      ∀ a, op.inputs[iW]? = some a → ∀ tw, tensorAt sg a = .ok tw → constData env tw ≠ none)
  | .unknown => true
where
  convB (iIn iW iB : Nat) : Bool :=
    decide ((∀ i < iB, ∃ a, op.inputs[i]? = some a ∧ a ≠ -1) ∧
      (∀ i ∈ [iIn, iW], ∀ a, op.inputs[i]? = some a → ∀ t, tensorAt sg a = .ok t → t.dtype = Tables.ttFloat32) ∧
      (isSRQ cfg = true → ∀ a, op.inputs[iB]? = some a → a ≠ -1 → ∀ bt, tensorAt sg a = .ok bt → constData env bt ≠ none))

theorem convB_sound (env : Env) (sg : Subgraph) (op : Op) (cfg : OpCfg) (iIn iW iB : Nat)
    (h : opShapeB.convB env sg op cfg iIn iW iB = true) : ConvShape env sg op cfg iIn iW iB := by
  obtain ⟨h1, h2, h3⟩ := of_decide_eq_true h
  exact ⟨h1, fun i a t hi ha ht => h2 i (by rcases hi with rfl | rfl <;> simp) a ha t ht,
    fun hs a bt ha hne hbt => h3 hs a ha hne bt hbt⟩

theorem opShapeB_sound (env : Env) (sg : Subgraph) (op : Op) (cfg : OpCfg) (k : Kind)
    (h : opShapeB env sg op cfg k = true) : OpShape env sg op cfg k := by
  match k with
  | .std .sameAsInput gi => exact fun inT outT hi ho => of_decide_eq_true h inT hi.floatSlotsOf_eq outT ho.floatSlotsOf_eq
  | .std .sameAsOutput gi => exact fun inT outT hi ho => of_decide_eq_true h inT hi.floatSlotsOf_eq outT ho.floatSlotsOf_eq
  | .std .none _ => trivial
  | .conv => exact convB_sound env sg op cfg 0 1 2 h
  | .convT => exact convB_sound env sg op cfg 2 1 3 h
  | .fixed _ =>
    obtain ⟨h1, h2⟩ := of_decide_eq_true h
    exact ⟨h1, fun a t ha hne ht => h2 a ha hne t ht⟩
  | .cast iIn iW iB =>
    obtain ⟨⟨a, h1, _⟩, ⟨b, h2, _⟩, h3, h4⟩ := of_decide_eq_true h
    exact ⟨⟨a, h1⟩, ⟨b, h2⟩, h3, fun a tw ha ht => h4 a ha tw ht⟩
  | .unknown => trivial

def hypB (rx : String → String → Bool) (env : Env) (st : Recipe.State) (qsvs : Option Qsvs) : Bool :=
  NFCheck.nfOK env st && statsB rx env st (qsvs.getD []) &&
  decide ((env.model.subgraphs.any fun sg => sg.tensors.any (·.quant.isSome)) = false ∧ namesUnique env.model ∧
    (Recipe.needCalibration st = true → qsvs.isSome = true) ∧ NoSkip st ∧
    (∀ sg ∈ env.model.subgraphs, sg.inputs.Nodup) ∧ (∀ sg ∈ env.model.subgraphs, sg.tensors ≠ []) ∧
    (∀ sg ∈ env.model.subgraphs, ∀ t ∈ sg.tensors, ∀ d, constData env t = some d → d.data ≠ [])) &&
  env.model.subgraphs.all fun sg => sg.ops.zipIdx.all fun p => (selectedOf rx env st sg (p.1, none, (p.2 : Int))).all fun x =>
    opShapeB env sg p.1 (Recipe.resolve rx st x.1 x.2.1).2 (kindOf (Recipe.resolve rx st x.1 x.2.1).1 x.2.2.2)

theorem hypB_sound (rx : String → String → Bool) (env : Env) (st : Recipe.State) (qsvs : Option Qsvs)
    (h : hypB rx env st qsvs = true) : Hyp rx env st qsvs := by
  unfold hypB at h
  simp only [Bool.and_eq_true] at h
  obtain ⟨⟨⟨hnf, hstats⟩, hdec⟩, hshape⟩ := h
  obtain ⟨h1, h2, h3, h4, h5, h6, h7⟩ := of_decide_eq_true hdec
  refine ⟨NFCheckProofs.nfOK_sound env st hnf, h1, h2, h3, h4, h5, h6, h7, statsB_sound rx env st _ hstats, ?_⟩
  intro sg hsg j op hop k scope ops fn S
  have := List.all_eq_true.1 (List.all_eq_true.1 hshape sg hsg) (op, j) (List.mem_zipIdx_iff_getElem?.2 hop)
  rw [S.selectedOf_eq] at this
  exact opShapeB_sound env sg op _ _ this

def hasData (m : Model) (b : Nat) : Bool :=
  match m.buffers[b]? with
  | some (some _) => true
  | _ => false

/-- the ids under which tensor `i` is read: positions of operators, `-1` for the graph-output list -/
def readers (sg : Subgraph) (i : Nat) : List Int :=
  ((sg.ops.zipIdx.filter fun p => decide ((i : Int) ∈ p.1.inputs)).map fun p => (p.2 : Int)) ++
    if (i : Int) ∈ sg.outputs then [-1] else []

theorem mem_readers {sg : Subgraph} {i : Nat} {o : Int} (h : ConsumedAt sg i o) : o ∈ readers sg i := by
  unfold readers
  rcases h with ⟨h0, op, hop, hm⟩ | ⟨rfl, hm⟩
  · exact List.mem_append_left _ (List.mem_map.2 ⟨(op, o.toNat),
      List.mem_filter.2 ⟨List.mem_zipIdx_iff_getElem?.2 hop, decide_eq_true hm⟩, Int.toNat_of_nonneg h0⟩)
  · rw [if_pos hm]
    exact List.mem_append_right _ (List.mem_singleton_self _)

def unsharedB (m : Model) : Bool :=
  ((bufferToTensors m).all fun e => !hasData m e.1 || decide (e.2.length ≤ 1)) &&
  ((List.range m.buffers.length).all fun b =>
    !hasData m b || decide ((m.subgraphs.flatMap (·.tensors)).countP (fun u => u.buffer == b) ≤ 1)) &&
  m.subgraphs.all fun sg => (List.range sg.tensors.length).all fun i =>
    !isConst m sg (i : Int) || decide ((readers sg i).length ≤ 1)

theorem unsharedB_sound (m : Model) (h : unsharedB m = true) : Unshared m := by
  unfold unsharedB at h
  simp only [Bool.and_eq_true, List.all_eq_true, Bool.or_eq_true, Bool.not_eq_true', decide_eq_true_eq, List.mem_range] at h
  obtain ⟨⟨h1, h2⟩, h3⟩ := h
  have hd : ∀ b c, m.buffers[b]? = some (some c) → hasData m b ≠ false := by
    intro b c hb; unfold hasData; rw [hb]; exact Bool.noConfusion
  refine ⟨fun e he ⟨c, hc⟩ => (h1 e he).resolve_left (hd _ c hc),
    fun b c hb => (h2 b (List.getElem?_eq_some_iff.1 hb).1).resolve_left (hd b c hb), ?_⟩
  intro sg hsg i hc o o' ho ho'
  have hi : i < sg.tensors.length := by have := (isConst_valid m sg i hc).2; omega
  have hlen := (h3 sg hsg i hi).resolve_left (by rw [hc]; exact Bool.noConfusion)
  have h1 := mem_readers ho
  have h2 := mem_readers ho'
  match hr : readers sg i, hlen, h1, h2 with
  | [x], _, h1, h2 => rw [List.mem_singleton.1 h1, List.mem_singleton.1 h2]

end MatTotal
