import QProofs.PipeDefs
/-!
# `absReqs`: abstraction of concrete parameters to ids (first-appearance order)

`absReqs rs = (T, rs.map (absR T))` (`absReqs_eq`): `T = extendTbl [] (paramsOf rs)` numbers the parameter
objects of `rs` in traversal order, one id per `Param.eqv`-class, and `absR T` replaces a parameter by the
position of the first `eqv`-equal entry of `T`.  Ids stay valid because the table only grows at its end (`thread_eq`).
-/
open Graph Mat Pipeline

namespace Pipe

theorem arrEq_iff {α} [BEq α] [LawfulBEq α] (a b : Nd.Arr α) :
    arrEq a b = true ↔ (a.shape, a.data) = (b.shape, b.data) := by
  simp only [arrEq, Bool.and_eq_true, beq_iff_eq, Prod.mk.injEq]

theorem optEq_iff {α β} (f : α → α → Bool) (k : α → β) (hf : ∀ a b, f a b = true ↔ k a = k b) (x y : Option α) :
    optEq f x y = true ↔ x.map k = y.map k := by
  cases x <;> cases y <;> simp [optEq, hf]

theorem optEq_isSome {α} (f : α → α → Bool) (x y : Option α) (h : optEq f x y = true) : x.isSome = y.isSome := by
  cases x <;> cases y <;> simp_all [optEq]

abbrev AKey (α : Type) := List Nat × List α

theorem arr_ext {α} {a b : Nd.Arr α} (h : (a.shape, a.data) = (b.shape, b.data)) : a = b := by
  cases a; cases b; cases h; rfl

abbrev _root_.SharingGen.PKey := (Nat × Option Nat × AKey Rat × AKey Int × Bool × Option (AKey Int)) ⊕ (Nat × Option (AKey Rat))

/-- what `Param.eqv` compares -/
def pkey : Param → (Nat × Option Nat × AKey Rat × AKey Int × Bool × Option (AKey Int)) ⊕ (Nat × Option (AKey Rat))
  | .uniform p d => .inl (p.bits, p.qdim, (p.scale.arr.shape, p.scale.arr.data), (p.zp.arr.shape, p.zp.arr.data),
      p.symmetric, d.map fun a => (a.arr.shape, a.arr.data))
  | .nonlinear b d => .inr (b, d.map fun a => (a.shape, a.data))

theorem eqv_iff (p q : Param) : p.eqv q = true ↔ pkey p = pkey q := by
  cases p with
  | uniform p d =>
    cases q with
    | uniform q e =>
      -- `eqv` compares field by field; `pkey` is the tuple of those fields, arrays as `(shape, data)`
      simp only [Param.eqv, pkey, Bool.and_eq_true, beq_iff_eq, arrEq_iff, Sum.inl.injEq, Prod.mk.injEq, and_assoc,
        optEq_iff (fun a b : Arith.IArr => arrEq a.arr b.arr) (fun a => (a.arr.shape, a.arr.data))
          (fun a b => arrEq_iff a.arr b.arr)]
    | nonlinear b e => simp only [Param.eqv, pkey, reduceCtorEq, Bool.false_eq_true]
  | nonlinear b d =>
    cases q with
    | uniform q e => simp only [Param.eqv, pkey, reduceCtorEq, Bool.false_eq_true]
    | nonlinear c e =>
      simp only [Param.eqv, pkey, Bool.and_eq_true, beq_iff_eq, Sum.inr.injEq, Prod.mk.injEq,
        optEq_iff (fun a b : Nd.Arr Rat => arrEq a b) (fun a => (a.shape, a.data)) (fun a b => arrEq_iff a b)]

/-- an object `==`-equal to a uniform one is uniform with the same parameters and the same codes (the formats of the arrays
    are not compared) -/
theorem eqv_uniform {P0 : Param} {qp : Arith.QParams} {d : Option Arith.IArr} (h : P0.eqv (.uniform qp d) = true) :
    ∃ qp0 d0, P0 = .uniform qp0 d0 ∧ qp0.bits = qp.bits ∧ qp0.qdim = qp.qdim ∧ qp0.scale.arr = qp.scale.arr ∧
      qp0.zp.arr = qp.zp.arr ∧ qp0.symmetric = qp.symmetric ∧ d0.map (·.arr) = d.map (·.arr) := by
  have hk := (eqv_iff _ _).1 h
  cases P0 with
  | nonlinear b d0 => cases hk
  | uniform qp0 d0 =>
    simp only [pkey, Sum.inl.injEq, Prod.mk.injEq] at hk
    obtain ⟨h1, h2, h3, h4, h5, h6⟩ := hk
    refine ⟨qp0, d0, rfl, h1, h2, arr_ext (Prod.ext h3.1 h3.2), arr_ext (Prod.ext h4.1 h4.2), h5, ?_⟩
    cases d0 <;> cases d <;> first | rfl | cases h6 | exact congrArg some (arr_ext (Option.some.inj h6))

theorem optParamEq_iff (p q : Option Param) : optParamEq p q = true ↔ p.map pkey = q.map pkey :=
  optEq_iff Param.eqv pkey eqv_iff p q

theorem Param.eqv_refl (p : Param) : p.eqv p = true := (eqv_iff p p).2 rfl

theorem findIdx_eqv_congr (tbl : List Param) (p q : Param) (h : pkey p = pkey q) :
    tbl.findIdx? (fun x => x.eqv p) = tbl.findIdx? (fun x => x.eqv q) := by
  congr 1
  funext x
  rw [Bool.eq_iff_iff, eqv_iff, eqv_iff, h]

theorem eqv_hasData (q p : Param) (h : q.eqv p = true) : hasData q = hasData p := by
  cases q <;> cases p <;> simp only [Param.eqv, Bool.and_eq_true] at h
  · exact optEq_isSome _ _ _ h.2
  · exact absurd h (by simp)
  · exact absurd h (by simp)
  · exact optEq_isSome _ _ _ h.2

theorem eqv_pinfoOf (p q : Param) (h : p.eqv q = true) : pinfoOf p = pinfoOf q := by
  have hd := eqv_hasData p q h
  have hk := (eqv_iff p q).1 h
  cases p <;> cases q <;> simp only [pkey, Sum.inl.injEq, Sum.inr.injEq, Prod.mk.injEq, reduceCtorEq] at hk
  · simp only [hasData] at hd
    simp only [pinfoOf, hk.1, hd]
  · simp only [hasData] at hd
    simp only [pinfoOf, hk.1, hd]

theorem find?_zipIdx_snd {α} (l : List α) (k i : Nat) :
    (l.zipIdx k).find? (fun p => p.2 == k + i) = l[i]?.map fun a => (a, k + i) := by
  induction l generalizing k i with
  | nil => rfl
  | cons a l ih =>
    rw [List.zipIdx_cons, List.find?_cons]
    cases i with
    | zero => rw [show ((a, k).2 == k + 0) = true from beq_self_eq_true k]; rfl
    | succ i =>
      rw [show ((a, k).2 == k + (i + 1)) = false from beq_false_of_ne (by omega),
        show k + (i + 1) = k + 1 + i by omega]
      exact ih (k + 1) i

theorem pinfo_ptableOf (tbl : List Param) (i : Nat) : pinfo (ptableOf tbl) i = (tbl[i]?).map pinfoOf := by
  have h := find?_zipIdx_snd tbl 0 i
  rw [Nat.zero_add] at h
  unfold pinfo ptableOf
  rw [List.find?_map]
  show ((tbl.zipIdx.find? fun p => p.2 == i).map _).map _ = _
  rw [h]
  cases tbl[i]? <;> rfl

theorem pinfo_of_findIdx (tbl : List Param) (P : Param) (p : PId)
    (h : tbl.findIdx? (fun q => q.eqv P) = some p) : pinfo (ptableOf tbl) p = some (pinfoOf P) := by
  obtain ⟨hp, hq, -⟩ := List.findIdx?_eq_some_iff_getElem.1 h
  rw [pinfo_ptableOf, List.getElem?_eq_getElem hp]
  simp only [Option.map_some, Option.some.injEq]
  exact Pipe.eqv_pinfoOf _ _ hq

def HasId (tbl : List Param) (p : Param) : Prop := ∃ i, tbl.findIdx? (fun q => q.eqv p) = some i

theorem HasId.findIdx?_append {tbl : List Param} {p : Param} (h : HasId tbl p) (ext : List Param) :
    (tbl ++ ext).findIdx? (fun q => q.eqv p) = tbl.findIdx? (fun q => q.eqv p) := by
  obtain ⟨i, hi⟩ := h
  rw [List.findIdx?_append, hi]; rfl

theorem HasId.append {tbl : List Param} {p : Param} (h : HasId tbl p) (ext : List Param) :
    HasId (tbl ++ ext) p := by
  rw [HasId, h.findIdx?_append]; exact h

theorem pidOf_spec (tbl : List Param) (p : Param) :
    (∃ ext, (pidOf tbl p).1 = tbl ++ ext) ∧
      (pidOf tbl p).1.findIdx? (fun q => q.eqv p) = some (pidOf tbl p).2 := by
  unfold pidOf
  cases h : tbl.findIdx? (fun q => q.eqv p) with
  | some i => exact ⟨⟨[], by simp⟩, h⟩
  | none =>
    refine ⟨⟨[p], rfl⟩, ?_⟩
    simp [List.findIdx?_append, h, Param.eqv_refl]

/-- the table after the parameters `ps` have been given ids in turn, starting from `tbl` -/
def extendTbl (tbl : List Param) (ps : List Param) : List Param := ps.foldl (fun t p => (pidOf t p).1) tbl

theorem extendTbl_append (tbl ps qs : List Param) :
    extendTbl tbl (ps ++ qs) = extendTbl (extendTbl tbl ps) qs := List.foldl_append

theorem extendTbl_prefix (tbl ps : List Param) : ∃ ext, extendTbl tbl ps = tbl ++ ext := by
  induction ps generalizing tbl with
  | nil => exact ⟨[], (List.append_nil _).symm⟩
  | cons p ps ih =>
    obtain ⟨e1, h1⟩ := (pidOf_spec tbl p).1
    obtain ⟨e2, h2⟩ := ih (pidOf tbl p).1
    exact ⟨e1 ++ e2, by rw [← List.append_assoc, ← h1, ← h2]; rfl⟩

theorem hasId_extendTbl (tbl ps : List Param) (p : Param) (hp : p ∈ ps) : HasId (extendTbl tbl ps) p := by
  induction ps generalizing tbl with
  | nil => cases hp
  | cons q ps ih =>
    rcases List.mem_cons.1 hp with rfl | hp
    · obtain ⟨ext, he⟩ := extendTbl_prefix (pidOf tbl p).1 ps
      show HasId (extendTbl (pidOf tbl p).1 ps) p
      rw [he]
      exact HasId.append ⟨_, (pidOf_spec tbl p).2⟩ ext
    · exact ih _ hp

theorem mem_extendTbl {tbl ps : List Param} {x : Param} (h : x ∈ extendTbl tbl ps) : x ∈ tbl ∨ x ∈ ps := by
  induction ps generalizing tbl with
  | nil => exact .inl h
  | cons p ps ih =>
    rcases ih h with h | h
    · replace h : x ∈ (pidOf tbl p).1 := h
      unfold pidOf at h
      split at h
      · exact .inl h
      · exact (List.mem_append.1 h).imp id fun h => List.mem_cons.2 (.inl (List.mem_singleton.1 h))
    · exact .inr (List.mem_cons_of_mem _ h)

def absO (tbl : List Param) (c : CO2T) : O2T :=
  ⟨c.opId, c.xfs, c.param.bind fun p => tbl.findIdx? fun q => q.eqv p⟩

def absR (tbl : List Param) (r : CReq) : TReq :=
  ⟨r.name, r.producer.map (absO tbl), r.consumers.map (List.map (absO tbl))⟩

/-- the parameter objects occurring in a request, in the order in which `absReq` meets them -/
def paramsOfR (r : CReq) : List Param := r.sides.flatMap fun c => c.param.toList

def paramsOf (rs : List CReq) : List Param := rs.flatMap paramsOfR

theorem mem_paramsOfR {r : CReq} {p : Param} : p ∈ paramsOfR r ↔ ∃ c ∈ r.sides, c.param = some p := by
  simp only [paramsOfR, List.mem_flatMap, Option.mem_toList]

theorem absO_append {tbl : List Param} {c : CO2T} (h : ∀ p ∈ c.param.toList, HasId tbl p) (ext : List Param) :
    absO (tbl ++ ext) c = absO tbl c := by
  unfold absO
  cases hc : c.param with
  | none => rfl
  | some p => rw [Option.bind_some, Option.bind_some, (h p (by simp [hc])).findIdx?_append]

theorem absR_append {tbl : List Param} {r : CReq} (h : ∀ p ∈ paramsOfR r, HasId tbl p) (ext : List Param) :
    absR (tbl ++ ext) r = absR tbl r := by
  have hO : ∀ c ∈ r.sides, absO (tbl ++ ext) c = absO tbl c := fun c hc =>
    absO_append (fun p hp => h p (List.mem_flatMap.2 ⟨c, hc, hp⟩)) ext
  unfold absR
  congr 1
  · exact Option.map_congr fun c hc => hO c (mem_sides.2 (.inl hc))
  · exact Option.map_congr fun cs hcs => List.map_congr_left fun c hc => hO c (mem_sides.2 (.inr ⟨cs, hcs, hc⟩))

/-- threading the table through a loop is extending it first and mapping with the FINAL table: `g _ x` only reads the ids
    of `ps x` (`hg`), which later steps leave alone -/
theorem thread_eq {α β} (ps : α → List Param) (g : List Param → α → β) (f : List Param → α → List Param × β)
    (hf : ∀ t x, f t x = (extendTbl t (ps x), g (extendTbl t (ps x)) x))
    (hg : ∀ t ext x, (∀ p ∈ ps x, HasId t p) → g (t ++ ext) x = g t x)
    (xs : List α) (t0 : List Param) (acc : List β) :
    xs.foldl (fun st x => ((f st.1 x).1, st.2 ++ [(f st.1 x).2])) (t0, acc) =
      (extendTbl t0 (xs.flatMap ps), acc ++ xs.map (g (extendTbl t0 (xs.flatMap ps)))) := by
  induction xs generalizing t0 acc with
  | nil => simp [extendTbl]
  | cons x xs ih =>
    obtain ⟨ext, he⟩ := extendTbl_prefix (extendTbl t0 (ps x)) (xs.flatMap ps)
    have hx : g (extendTbl (extendTbl t0 (ps x)) (xs.flatMap ps)) x = g (extendTbl t0 (ps x)) x := by
      rw [he]; exact hg _ ext x (hasId_extendTbl t0 (ps x))
    rw [List.foldl_cons, hf, ih, List.flatMap_cons, extendTbl_append, List.map_cons, hx, List.append_assoc,
      List.singleton_append]

theorem absO2T_eq (tbl : List Param) (c : CO2T) :
    absO2T tbl c = (extendTbl tbl c.param.toList, absO (extendTbl tbl c.param.toList) c) := by
  unfold absO2T absO
  cases hc : c.param with
  | none => rfl
  | some p =>
    show ((pidOf tbl p).1, (⟨c.opId, c.xfs, some (pidOf tbl p).2⟩ : O2T)) =
      ((pidOf tbl p).1, ⟨c.opId, c.xfs, (pidOf tbl p).1.findIdx? fun q => q.eqv p⟩)
    rw [(pidOf_spec tbl p).2]

def prodStage (tbl : List Param) : Option CO2T → List Param × Option O2T
  | none => (tbl, none)
  | some o => ((absO2T tbl o).1, some (absO2T tbl o).2)

def consStage (t1 : List Param) : Option (List CO2T) → List Param × Option (List O2T)
  | none => (t1, none)
  | some cs =>
    let res := cs.foldl (fun (st : List Param × List O2T) c => ((absO2T st.1 c).1, st.2 ++ [(absO2T st.1 c).2])) (t1, [])
    (res.1, some res.2)

theorem absReq_eq (tbl : List Param) (r : CReq) :
    absReq tbl r = ((consStage (prodStage tbl r.producer).1 r.consumers).1,
      ⟨r.name, (prodStage tbl r.producer).2, (consStage (prodStage tbl r.producer).1 r.consumers).2⟩) := by
  unfold absReq
  cases r.producer <;> cases r.consumers <;> rfl

theorem prodStage_eq (tbl : List Param) (po : Option CO2T) :
    prodStage tbl po = (extendTbl tbl (po.toList.flatMap fun c => c.param.toList),
      po.map (absO (extendTbl tbl (po.toList.flatMap fun c => c.param.toList)))) := by
  cases po with
  | none => rfl
  | some o => simp only [prodStage, absO2T_eq, Option.toList_some, List.flatMap_singleton, Option.map_some]

theorem consStage_eq (t1 : List Param) (co : Option (List CO2T)) :
    consStage t1 co = (extendTbl t1 ((co.getD []).flatMap fun c => c.param.toList),
      co.map (List.map (absO (extendTbl t1 ((co.getD []).flatMap fun c => c.param.toList))))) := by
  cases co with
  | none => rfl
  | some cs =>
    simp only [consStage, Option.getD_some, Option.map_some,
      thread_eq (fun c : CO2T => c.param.toList) absO absO2T absO2T_eq (fun _ ext _ h => absO_append h ext),
      List.nil_append]

theorem absReq_eq_absR (tbl : List Param) (r : CReq) :
    absReq tbl r = (extendTbl tbl (paramsOfR r), absR (extendTbl tbl (paramsOfR r)) r) := by
  rw [absReq_eq, prodStage_eq, consStage_eq, ← extendTbl_append, ← List.flatMap_append]
  obtain ⟨ext, he⟩ := extendTbl_prefix (extendTbl tbl (r.producer.toList.flatMap fun c => c.param.toList))
    ((r.consumers.getD []).flatMap fun c => c.param.toList)
  rw [← extendTbl_append, ← List.flatMap_append] at he
  refine Prod.ext rfl (congrArg (TReq.mk r.name · _) ?_)
  show r.producer.map (absO _) = r.producer.map (absO (extendTbl tbl (paramsOfR r)))
  rw [paramsOfR, CReq.sides, he]
  refine (Option.map_congr fun c hc => absO_append (fun p hp => ?_) ext).symm
  exact hasId_extendTbl _ _ p (List.mem_flatMap.2 ⟨c, Option.mem_toList.2 hc, hp⟩)

theorem absReqs_eq (rs : List CReq) :
    absReqs rs = (extendTbl [] (paramsOf rs), rs.map (absR (extendTbl [] (paramsOf rs)))) :=
  thread_eq paramsOfR absR absReq absReq_eq_absR (fun _ ext _ h => absR_append h ext) rs [] []

theorem absReqs_snd (rs : List CReq) : (absReqs rs).2 = rs.map (absR (absReqs rs).1) := by rw [absReqs_eq]

theorem absReqs_hasId (rs : List CReq) (p : Param) (hp : p ∈ paramsOf rs) : HasId (absReqs rs).1 p := by
  rw [absReqs_eq]; exact hasId_extendTbl [] _ p hp

theorem absReqs_tbl_mem (rs : List CReq) (x : Param) (hx : x ∈ (absReqs rs).1) : x ∈ paramsOf rs := by
  rw [absReqs_eq] at hx
  exact (mem_extendTbl hx).resolve_left List.not_mem_nil

theorem _root_.Locality.pidOf_inv (tbl : List Param) (p : Param) (h : (tbl.map pkey).Nodup) :
    ((pidOf tbl p).1.map pkey).Nodup := by
  unfold pidOf
  cases hf : tbl.findIdx? (fun q => q.eqv p) with
  | some i => exact h
  | none =>
    rw [List.map_append, List.map_cons, List.map_nil]
    refine List.Nodup.append h (List.nodup_singleton _) ?_
    intro k hk hk'
    rw [List.mem_singleton] at hk'
    subst hk'
    obtain ⟨q, hq, hqk⟩ := List.mem_map.1 hk
    have := (List.findIdx?_eq_none_iff.1 hf) q hq
    rw [(eqv_iff q p).2 hqk] at this
    cases this

theorem _root_.Locality.extendTbl_inv (ps : List Param) : ∀ tbl, (tbl.map pkey).Nodup → ((extendTbl tbl ps).map pkey).Nodup := by
  induction ps with
  | nil => exact fun _ h => h
  | cons p ps ih => exact fun tbl h => ih _ (Locality.pidOf_inv tbl p h)

theorem _root_.Locality.absReqs_inv (reqs : List CReq) : ((absReqs reqs).1.map pkey).Nodup := by
  rw [absReqs_eq]
  exact Locality.extendTbl_inv _ [] List.nodup_nil

end Pipe
