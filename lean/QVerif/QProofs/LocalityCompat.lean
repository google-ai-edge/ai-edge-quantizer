import QProofs.LocalityShare
import QProofs.SharingHub
import QProofs.ReqTrace
/-!
# C19 — the buffer-sharing check is local for requests without ADD_QUANTIZE sides

On sides whose transformation list is a singleton other than ADD_QUANTIZE, `compatO2T` is an equivalence, so
`compatReq` is Euclidean; the check of the whole model compares every reader of a constant buffer with the
FIRST reader only, and this is what makes it imply the check of an extracted subgraph (`check_local_full`).  Second part: the requests
of `generate` have such sides (`emitted_oshape`), hence `generate_local_full`.
-/
open Graph Mat Pipe SharingProofs
namespace Locality

def NoAQ (o : CO2T) : Prop := ∃ x, o.xfs = [x] ∧ x ≠ .addQuant

/-- the compatibility class of a request side without ADD_QUANTIZE -/
def xcls : Xf → Nat
  | .noQuant => 0 | .quantTensor => 1 | .addDequant => 1 | .emulated => 2 | .addQuant => 3

/-- the table of `SharingProofs.compatO2T_ok_iff` on two singleton lists away from ADD_QUANTIZE; `e` is the
    outcome of the parameter comparison -/
theorem cls_table (x y : Xf) (e : Bool) (hx : x ≠ .addQuant) (hy : y ≠ .addQuant) :
    ((x = y ∧ e = true) ∨ ((x = .noQuant ∨ y = .noQuant ∨ e = true) ∧
      ((x == .addQuant || x == .noQuant) && (y == .addQuant || y == .noQuant) ||
        (x == .quantTensor || x == .addDequant) && (y == .quantTensor || y == .addDequant)) = true)) ↔
    (xcls x = xcls y ∧ (x = .noQuant ∨ e = true)) := by
  revert e hx hy
  cases x <;> cases y <;> decide

theorem compatO2T_iff (a b : CO2T) (x y : Xf) (ha : a.xfs = [x]) (hb : b.xfs = [y]) (hx : x ≠ .addQuant) (hy : y ≠ .addQuant) :
    compatO2T a b = .ok true ↔ (xcls x = xcls y ∧ (x = .noQuant ∨ a.param.map pkey = b.param.map pkey)) := by
  rw [compatO2T_ok_iff, ha, hb, ← Pipe.optParamEq_iff, ← cls_table x y _ hx hy]
  simp only [List.cons.injEq, and_true, List.head?_cons, Option.some.injEq, exists_and_left, exists_eq_left']

theorem compatO2T_euclid (f a b : CO2T) (hf : NoAQ f) (ha : NoAQ a) (hb : NoAQ b)
    (h1 : compatO2T f a = .ok true) (h2 : compatO2T f b = .ok true) : compatO2T a b = .ok true := by
  obtain ⟨z, hz, hz'⟩ := hf
  obtain ⟨x, hx, hx'⟩ := ha
  obtain ⟨y, hy, hy'⟩ := hb
  obtain ⟨c1, p1⟩ := (compatO2T_iff f a z x hz hx hz' hx').1 h1
  obtain ⟨c2, p2⟩ := (compatO2T_iff f b z y hz hy hz' hy').1 h2
  refine (compatO2T_iff a b x y hx hy hx' hy').2 ⟨c1.symm.trans c2, ?_⟩
  rcases p1 with p1 | p1
  · subst p1
    left
    cases x <;> simp [xcls] at c1 ⊢
  · rcases p2 with p2 | p2
    · subst p2
      left
      cases x <;> simp [xcls] at c1 ⊢
    · exact Or.inr (p1.symm.trans p2)

theorem compatO2T_symm (a b : CO2T) (ha : NoAQ a) (hb : NoAQ b) (h : compatO2T a b = .ok true) :
    compatO2T b a = .ok true :=
  compatO2T_euclid a b a ha hb ha h (compatO2T_self a)

def allO (r : CReq) : List CO2T := r.producer.toList ++ r.consumers.getD []

def RNoAQ (r : CReq) : Prop := ∀ o ∈ allO r, NoAQ o

theorem compatReq_euclid (f a b : CReq) (hf : RNoAQ f) (ha : RNoAQ a) (hb : RNoAQ b)
    (h1 : compatReq f a = .ok true) (h2 : compatReq f b = .ok true) : compatReq a b = .ok true := by
  obtain ⟨p1, c1⟩ := (compatReq_ok_iff f a).1 h1
  obtain ⟨p2, c2⟩ := (compatReq_ok_iff f b).1 h2
  refine (compatReq_ok_iff a b).2 ⟨?_, ?_⟩
  · rcases p1 with ⟨f1, a1⟩ | ⟨pf, pa, f1, a1, e1⟩
    · rcases p2 with ⟨_, b1⟩ | ⟨pf', pb, f1', _, _⟩
      · exact Or.inl ⟨a1, b1⟩
      · rw [f1] at f1'; cases f1'
    · rcases p2 with ⟨f1', _⟩ | ⟨pf', pb, f1', b1, e2⟩
      · rw [f1] at f1'; cases f1'
      · rw [f1] at f1'; cases f1'
        exact Or.inr ⟨pa, pb, a1, b1, compatO2T_euclid pf pa pb (hf _ (mem_sides.2 (.inl f1))) (ha _ (mem_sides.2 (.inl a1)))
          (hb _ (mem_sides.2 (.inl b1))) e1 e2⟩
  · rcases c1 with ⟨f1, a1⟩ | ⟨cf, ca, f1, a1, f0, a0, hf0, ha0, _, hA, e1⟩
    · rcases c2 with ⟨_, b1⟩ | ⟨cf', cb, f1', _, _⟩
      · exact Or.inl ⟨a1, b1⟩
      · rw [f1] at f1'; cases f1'
    · rcases c2 with ⟨f1', _⟩ | ⟨cf', cb, f1', b1, f0', b0, hf0', hb0, _, hB, e2⟩
      · rw [f1] at f1'; cases f1'
      · rw [f1] at f1'; cases f1'
        rw [hf0] at hf0'; cases hf0'
        exact Or.inr ⟨ca, cb, a1, b1, a0, b0, ha0, hb0, hA, hB,
          compatO2T_euclid f0 a0 b0 (hf _ (mem_sides.2 (.inr ⟨_, f1, List.mem_of_mem_head? hf0⟩)))
            (ha _ (mem_sides.2 (.inr ⟨_, a1, List.mem_of_mem_head? ha0⟩))) (hb _ (mem_sides.2 (.inr ⟨_, b1, List.mem_of_mem_head? hb0⟩))) e1 e2⟩

theorem compatReq_symm (a b : CReq) (ha : RNoAQ a) (hb : RNoAQ b) (h : compatReq a b = .ok true) :
    compatReq b a = .ok true :=
  compatReq_euclid a b a ha hb ha h (compatReq_self_left a b h)

/-- what the check of the whole model says about the readers of a data buffer: their requests are pairwise compatible
    (the check compares each with the first one only: Euclid), and all exist when there are two or more -/
theorem readers_pairwise {m : Model} {res : List (String × CReq)} (h : checkBufferSharing m res = .ok ()) (b : Nat)
    (hb : ∃ c, m.buffers[b]? = some (some c)) (hne : readers m b ≠ [])
    (hshape : ∀ n ∈ readers m b, ∀ r, Py.dictGet? res n = some r → RNoAQ r) :
    (∀ n ∈ readers m b, ∀ n' ∈ readers m b, ∀ p p', Py.dictGet? res n = some p →
      Py.dictGet? res n' = some p' → compatReq p p' = .ok true) ∧
    (2 ≤ (readers m b).length → ∀ n ∈ readers m b, ∃ p, Py.dictGet? res n = some p) := by
  have hE := ((checkBufferSharing_readers m res).1 h b hb).1
  generalize readers m b = L at hE hshape hne ⊢
  obtain ⟨first, rest, rfl⟩ := List.exists_cons_of_ne_nil hne
  obtain ⟨hex, hub⟩ := hE.hub
  refine ⟨fun n hn n' hn' p p' hp hp' => ?_, fun h2 => hex (fun h0 => by rw [h0] at h2; exact absurd h2 (Nat.not_succ_le_self 1))⟩
  obtain ⟨fp, hfp⟩ : ∃ fp, Py.dictGet? res first = some fp := by
    by_cases hr : rest = []
    · subst hr; rw [List.mem_singleton.1 hn] at hp; exact ⟨p, hp⟩
    · exact hex hr first List.mem_cons_self
  exact compatReq_euclid fp p p' (hshape first List.mem_cons_self fp hfp) (hshape n hn p hp) (hshape n' hn' p' hp')
    (hub fp hfp n hn p hp) (hub fp hfp n' hn' p' hp')

/-- **the buffer-sharing check of the extracted model follows from that of the whole model**, provided no
    request on a tensor over a constant buffer has an ADD_QUANTIZE side -/
theorem check_local_full (m : Model) (res : List (String × CReq)) (hnu : GenInstsOK.namesUnique m) (j : Nat)
    (sg : Subgraph) (hsg : m.subgraphs[j]? = some sg)
    (hconst : ∀ b n, (b, n) ∈ occ m → (∃ c, m.buffers[b]? = some (some c)) →
      ∀ r, Py.dictGet? res n = some r → RNoAQ r)
    (h : checkBufferSharing m res = .ok ()) :
    checkBufferSharing (extract m j sg) (keep (nameIn sg) res) = .ok () := by
  have hmemsg : sg ∈ m.subgraphs := List.mem_of_getElem? hsg
  have hget : ∀ b, ∀ n ∈ namesAt (occSg sg) b, Py.dictGet? (keep (nameIn sg) res) n = Py.dictGet? res n :=
    fun b n hn => dictGet?_keep (nameIn sg) res n (occSg_nameIn sg (b, n) ((mem_namesAt _ _ _).1 hn))
  refine (checkBufferSharing_readers _ _).2 fun b hd => ?_
  rw [readers, occ_extract]
  have hsub := namesAt_sublist hmemsg b
  refine ⟨?_, fun sg' hsg' t ht hbt hun n hn sp hsp => ?_⟩
  · -- first loop: the readers in subgraph `j` are a sublist of the readers in the model, which are pairwise compatible
    by_cases hne : namesAt (occSg sg) b = []
    · rw [hne]; trivial
    obtain ⟨B1, B2⟩ := readers_pairwise h b hd (fun h0 => hne (List.sublist_nil.1 (h0 ▸ hsub)))
      (fun n hn r hr => hconst b n ((mem_namesAt _ _ _).1 hn) hd r hr)
    refine .of_pairwise (fun n hn n' hn' p p' hp hp' => ?_) fun h2 n hn => ?_
    · rw [hget b n hn] at hp
      rw [hget b n' hn'] at hp'
      exact B1 n (hsub.subset hn) n' (hsub.subset hn') p p' hp hp'
    · rw [hget b n hn]
      exact B2 (Nat.le_trans h2 hsub.length_le) n (hsub.subset hn)
  · -- second loop: a tensor of `sg` that no operator of `sg` reads is read by no operator of the model
    obtain rfl : sg' = sg := List.mem_singleton.1 hsg'
    rw [hget b n hn] at hsp
    refine ((checkBufferSharing_readers m res).1 h b hd).2 sg' hmemsg t ht hbt (fun ⟨b', h'⟩ => hun ⟨b', ?_⟩) n
      (hsub.subset hn) sp hsp
    rw [occ_extract]
    exact occ_own m hnu j sg' hsg b' t.name (nameIn_of_mem sg' t ht) h'

/-!
## `generate` never gives a constant tensor an ADD_QUANTIZE side

Every request side built by the materialisation stage has a singleton transformation list, and the
transformation is ADD_QUANTIZE only for a tensor WITHOUT constant data (`tensorXfs` is called with the tensor's
own constness, the bias path never yields ADD_QUANTIZE): `emitted_oshape`, by cases on where an entry comes from.
-/
open Cfg

def OShape (env : Env) (sg : Subgraph) (n : String) (o : CO2T) : Prop :=
  ∃ x, o.xfs = [x] ∧ (x = .addQuant → ∃ t ∈ sg.tensors, t.name = n ∧ (constData env t).isSome = false)

theorem tensorXfs_shape (c : OpCfg) (inbound isC : Bool) (xfs : List Xf) (h : tensorXfs c inbound isC = .ok xfs) :
    ∃ x, xfs = [x] ∧ (x = .addQuant → isC = false) := by
  obtain ⟨x, rfl, hx⟩ := tensorXfs_ok h
  refine ⟨x, rfl, fun hq => ?_⟩
  subst hq
  cases hx
  rfl

theorem tensorXfs_bias (c : OpCfg) (xfs : List Xf) (h : tensorXfs c true (isSRQ c) = .ok xfs) :
    ∃ x, xfs = [x] ∧ x ≠ .addQuant := by
  obtain ⟨x, rfl, hx⟩ := tensorXfs_ok h
  refine ⟨x, rfl, fun hq => ?_⟩
  subst hq
  generalize hs : isSRQ c = s at hx
  cases hx with
  | srqIn h' => rw [h'] at hs; cases hs

theorem allO_noQuantReq (n : String) (o : Int) (b : Bool) : allO (noQuantReq n o b) = [⟨o, [.noQuant], none⟩] := by
  cases b <;> rfl

theorem mkReq_allO (n : String) (oi : OpInfo) (b : Bool) (p : Option Param) (isC : Bool) (r : CReq)
    (h : mkReq n oi b p isC = .ok r) :
    ∃ xfs, tensorXfs oi.cfg b isC = .ok xfs ∧ allO r = [⟨oi.opId, xfs, p⟩] := by
  obtain ⟨xfs, hx, hr⟩ := mkReq_ok.1 h
  refine ⟨xfs, hx, ?_⟩
  subst hr
  cases b <;> rfl

theorem stdEntry_oshape {env : Env} {sg : Subgraph} {qs : Qsvs} {oi : OpInfo} {con : Constraint} {t : Tensor}
    {b : Bool} {i : Nat} {c : CO2T} (he : StdEntry env sg qs oi con b i t c) : OShape env sg t.name c := by
  cases he with
  | noQuant _ => exact ⟨.noQuant, rfl, nofun⟩
  | wrapped g p xfs hs _ _ _ hx =>
    obtain ⟨x, rfl, hxa⟩ := tensorXfs_shape _ _ _ _ hx
    exact ⟨x, rfl, fun hq => ⟨t, hs.atSlot.mem, rfl, hxa hq⟩⟩

theorem emitted_oshape {env : Env} {sg : Subgraph} {qs : Qsvs} {oi : OpInfo} {k : MatTotal.Kind} {t : Tensor}
    {b : Bool} {c : CO2T} (he : EmittedK env sg qs oi k t b c) :
    OShape env sg t.name c := by
  cases he with
  | std _ i _ _ _ hs => exact stdEntry_oshape hs
  | biasPlain iI iW iB a _ xfs _ _ _ _ hsrq hx =>
    obtain ⟨x, rfl, hxa⟩ := tensorXfs_bias oi.cfg xfs (hsrq ▸ hx)
    exact ⟨x, rfl, fun hq => absurd hq hxa⟩
  | biasQuant iI iW iB a _ bd tI tW cI cW qi qw di dw qp q xfs _ _ _ _ hsrq _ _ _ _ _ _ hx =>
    obtain ⟨x, rfl, hxa⟩ := tensorXfs_bias oi.cfg xfs (hsrq ▸ hx)
    exact ⟨x, rfl, fun hq => absurd hq hxa⟩
  | fixed sl i _ c a fp _ hs _ _ => exact (stdEntry_oshape hs : OShape env sg t.name c)
  | castPlain => exact ⟨.noQuant, rfl, nofun⟩
  | f16 => exact ⟨.addDequant, rfl, nofun⟩

def MShape (env : Env) (n : String) (o : CO2T) : Prop := ∃ sg ∈ env.model.subgraphs, OShape env sg n o

theorem generateLoop_shape (rx : String → String → Bool) (env : Env) (st : Recipe.State) (qsvs : Option Qsvs)
    (qs : Qsvs) (res : List (String × CReq)) (h : generateLoop rx env st qsvs = .ok (qs, res)) :
    DictSides (MShape env) (MShape env) res := by
  refine generate_sides (fun s sg hsg q _ qs0 rs qs1 ho r hr => ?_) h
  have hm : sg ∈ env.model.subgraphs := List.mem_of_getElem? hsg
  obtain ⟨t, b, -, ⟨-, rfl⟩ | ⟨k, scope, ops, fn, c, -, he, rfl⟩⟩ := opReqs_emitted ho r hr
  · rw [noQuantReq_eq]
    exact reqSides_sideReq.2 (by cases b <;> exact ⟨sg, hm, .noQuant, rfl, nofun⟩)
  · exact reqSides_sideReq.2 (by cases b <;> exact ⟨sg, hm, emitted_oshape he⟩)

theorem dshape_const (env : Env) (res : List (String × CReq)) (hd : DictSides (MShape env) (MShape env) res)
    (hnu : GenInstsOK.namesUnique env.model) (b : Nat) (n : String) (hocc : (b, n) ∈ occ env.model)
    (hb : ∃ c, env.model.buffers[b]? = some (some c)) (r : CReq) (hr : Py.dictGet? res n = some r) : RNoAQ r := by
  obtain ⟨sgk, hk, he⟩ := List.mem_flatMap.1 hocc
  obtain ⟨t, ht, htb, htn⟩ := occSg_name sgk _ he
  have hconst : (constData env t).isSome = true := by
    obtain ⟨c, hc⟩ := hb
    unfold constData
    rw [htb, hc]
    cases List.find? (fun x => x.1 == b) env.consts <;> rfl
  intro o ho
  obtain ⟨sg', hsg', x, hx, hxa⟩ : MShape env n o := by
    have hd' := hd (n, r) (Py.dictGet?_mem _ _ _ hr)
    rcases Mat.mem_sides.1 ho with hp | ⟨cs, hcs, hc⟩
    · exact hd'.1 o hp
    · exact hd'.2 cs o hcs hc
  refine ⟨x, hx, ?_⟩
  intro hq
  obtain ⟨t', ht', htn', hnc⟩ := hxa hq
  obtain ⟨k, hk'⟩ := List.mem_iff_getElem?.1 hk
  obtain ⟨i, hi⟩ := List.mem_iff_getElem?.1 ht
  obtain ⟨rfl, rfl⟩ := ReqTrace.named_at_mem hnu hk' hi hsg' ht' (htn'.trans htn.symm)
  rw [hconst] at hnc
  cases hnc

/-- **`Mat.generate` is local** (in words: header of `QProps/C19c.lean`, `C19.generate_local_full`) -/
theorem generate_local_full (rx : String → String → Bool) (env : Env) (st : Recipe.State) (qsvs : Option Qsvs)
    (j : Nat) (sg : Subgraph) (hsg : env.model.subgraphs[j]? = some sg) (reqs : List CReq)
    (h : Mat.generate rx env st qsvs = .ok reqs) :
    Mat.generate rx (extractEnv env j sg) st qsvs = .ok (restrictCReqs reqs sg) := by
  obtain ⟨res, ⟨qs, hcore⟩, hchk, hchk2, _, heq⟩ := generate_local_core rx env st qsvs j sg hsg reqs h
  have hnu := (Pipe.generate_ok_iff.1 h).2.1
  have hd := generateLoop_shape rx env st qsvs qs res hcore
  rw [heq, check_local_full env.model res hnu j sg hsg
      (fun b n hocc hb r hr => dshape_const env res hd hnu b n hocc hb r hr) hchk,
    own_local env.model res hnu j sg hsg hchk2]

end Locality
