import QProofs.MatParams
import QProofs.ParamAPI
import QProofs.PipeMat
/-!
# C03 end to end, request stage: the requests of one operator, under any config

Every request made by `wrapper` is one-sided (`Mat.sideReq`) with the transformation list `tensorXfs` gives for the config and a
parameter object `ParamFor` the tensor config in force (`tcfgOf`): `materializeOp_minmax_slots` says so slot by slot for the min/max
algorithm (static-range, dynamic-range, weight-only).  `floatCastOp_unfold16`: the requests of float casting.
-/
open Graph Mat Cfg Pipe MatParams PipeNF

namespace TypingSrq

abbrev NoWo (k : String) : Prop := Tables.woOps.contains k = false ∧ Tables.drqOps.contains k = false

theorem tcfgOf_noWo (env : Env) (oi : OpInfo) (t : Tensor)
    (h : NoWo oi.opName) :
    tcfgOf env oi t = oi.cfg.act := by
  unfold tcfgOf
  rw [h.1, h.2]
  simp only [Bool.or_self, Bool.and_false, Bool.false_eq_true, if_false]

theorem sideReq_srq (name : String) (oi : OpInfo) (b isC : Bool) (xfs : List Xf) (p : Option Param)
    (hs : isSRQ oi.cfg = true) (hx : tensorXfs oi.cfg b isC = .ok xfs) :
    sideReq name b ⟨oi.opId, xfs, p⟩ = srqReq name oi.opId b isC p := by
  obtain ⟨xfs', hx', hr⟩ := mkReq_ok.1 (mkReq_srq name oi b p isC hs)
  rw [hx] at hx'
  cases hx'
  exact hr.symm

/-- the parameter object `wrapper` attaches to a request for tensor `t` -/
def ParamFor (env : Env) (oi : OpInfo) (t : Tensor) (prm : Option Param) : Prop :=
  (tcfgOf env oi t = none → prm = none) ∧
  ∀ tc, tcfgOf env oi t = some tc → ∃ qp d, prm = some (.uniform qp d) ∧ qp.bits = tc.bits.toNat

/-- a parameter object handed on under a same-as-input / same-as-output constraint -/
def GivenOK (oi : OpInfo) (g : Option Param) : Prop :=
  g = none ∨ (NoWo oi.opName ∧ ∃ a qp d, oi.cfg.act = some a ∧ g = some (.uniform qp d) ∧ qp.bits = a.bits.toNat)

theorem ParamFor.given {env : Env} {oi : OpInfo} {t : Tensor} {prm : Option Param} (h : ParamFor env oi t prm)
    (hnw : NoWo oi.opName) : GivenOK oi prm := by
  obtain ⟨h1, h2⟩ := h
  rw [tcfgOf_noWo env oi t hnw] at h1 h2
  cases ha : oi.cfg.act with
  | none => exact .inl (h1 ha)
  | some a =>
    obtain ⟨qp, d, rfl, hb⟩ := h2 a ha
    exact .inr ⟨hnw, a, qp, d, ha, rfl, hb⟩

theorem GivenOK.strip {oi : OpInfo} {g : Option Param} (h : GivenOK oi g) : GivenOK oi (stripData g) := by
  rcases h with rfl | ⟨hnw, a, qp, d, ha, rfl, hb⟩
  · exact .inl rfl
  · cases d with
    | none => exact .inr ⟨hnw, a, qp, none, ha, rfl, hb⟩
    | some v => exact .inr ⟨hnw, a, qp, none, ha, rfl, hb⟩

theorem ParamFor.ofAct {env : Env} {oi : OpInfo} {t : Tensor} (hnw : NoWo oi.opName) {a : TCfg}
    (ha : oi.cfg.act = some a) {qp : Arith.QParams} (hb : qp.bits = a.bits.toNat) (d : Option Arith.IArr) :
    ParamFor env oi t (some (.uniform qp d)) := by
  rw [ParamFor, tcfgOf_noWo env oi t hnw, ha]
  refine ⟨fun hn => (by cases hn), fun tc htc => ?_⟩
  cases htc
  exact ⟨qp, d, rfl, hb⟩

theorem wrapper_mode (env : Env) (qs : Qsvs) (oi : OpInfo) (t : Tensor) (b : Bool) (g : Option Param) (r : CReq)
    (hg : GivenOK oi g) (h : wrapper env qs oi t b g = .ok r) :
    ∃ xfs prm, tensorXfs oi.cfg b (constData env t).isSome = .ok xfs ∧ r = sideReq t.name b ⟨oi.opId, xfs, prm⟩ ∧
      ParamFor env oi t prm := by
  obtain ⟨p, xfs, hp, hx, rfl⟩ := wrapper_ok.1 h
  refine ⟨xfs, p, hx, rfl, ?_⟩
  cases wrapperParam_ok hp with
  | unconfigured hc =>
    exact ⟨fun _ => rfl, fun tc htc => (by rw [hc] at htc; cases htc)⟩
  | computed tc mm q hc _ hq =>
    obtain ⟨qp, d, rfl, -, hb, -⟩ := tensorQuantParams_ok hq
    refine ⟨fun hn => (by rw [hc] at hn; cases hn), fun tc' htc => ?_⟩
    rw [hc] at htc
    cases htc
    exact ⟨qp, d, rfl, hb⟩
  | requantized qp d q _ _ =>
    rcases hg with hg | ⟨hnw, a, qp', d', ha, hg, hb⟩
    · cases hg
    · cases hg
      exact .ofAct hnw ha hb _
  | kept P _ =>
    rcases hg with hg | ⟨hnw, a, qp', d', ha, hg, hb⟩
    · cases hg
    · cases hg
      exact .ofAct hnw ha hb _

def SlotCase (env : Env) (oi : OpInfo) (inbound : Bool) (isGiven : Prop) (tn : Tensor) (r : CReq) : Prop :=
  ((tn.dtype ≠ Tables.ttFloat32 ∨ isGiven) ∧ r = noQuantReq tn.name oi.opId inbound) ∨
  (tn.dtype = Tables.ttFloat32 ∧ ¬ isGiven ∧
    ∃ xfs prm, tensorXfs oi.cfg inbound (constData env tn).isSome = .ok xfs ∧
      r = sideReq tn.name inbound ⟨oi.opId, xfs, prm⟩ ∧ ParamFor env oi tn prm)

/-- the request of one non-`-1` slot `p = (tensor index, raw position)` -/
def ModeSlot (env : Env) (sg : Subgraph) (oi : OpInfo) (inbound : Bool) (given : List Nat)
    (p : Int × Nat) (r : CReq) : Prop :=
  ∃ tn, tensorAt sg p.1 = .ok tn ∧ SlotCase env oi inbound (p.2 ∈ given) tn r

theorem SlotCase.producer_none {env : Env} {oi : OpInfo} {G : Prop} {tn : Tensor} {r : CReq}
    (h : SlotCase env oi true G tn r) : r.producer = none := by
  rcases h with ⟨-, rfl⟩ | ⟨-, -, xfs, prm, -, rfl, -⟩ <;> rfl

theorem standardOp_slots (env : Env) (sg : Subgraph) (qs : Qsvs) (oi : OpInfo) (con : Constraint)
    (gIn gOut : List Nat) (rs0 : List CReq) (q0 : Qsvs) (hcon : con ≠ .none → NoWo oi.opName)
    (h : standardOp env sg qs oi con gIn gOut = .ok (rs0, q0)) :
    ∃ rin rout, rs0 = rin ++ rout ∧
      Pointwise (ModeSlot env sg oi true gIn) (cslots oi.op.inputs) rin ∧
      Pointwise (ModeSlot env sg oi false gOut) (cslots oi.op.outputs) rout := by
  obtain ⟨rin, rout, g, gO, hrs, hin, hout, hH⟩ := Mat.standardOp_slots h
  -- a parameter object is handed on only under a constraint, and then has the activation bit width
  have hgb : GivenOK oi g ∧ GivenOK oi gO := by
    cases hH with
    | none => exact ⟨.inl rfl, .inl rfl⟩
    | idle => exact ⟨.inl rfl, .inl rfl⟩
    | toResults p t ir p0 _ _ hw hp0 =>
      obtain ⟨xfs, prm, -, rfl, hpf⟩ := wrapper_mode env qs oi t true none ir (.inl rfl) hw
      cases hp0
      exact ⟨.inl rfl, (hpf.given (hcon (by decide))).strip⟩
    | toOperands p t orq _ _ hw =>
      obtain ⟨xfs, prm, -, rfl, hpf⟩ := wrapper_mode env qs oi t false none orq (.inl rfl) hw
      exact ⟨hpf.given (hcon (by decide)), .inl rfl⟩
  have key : ∀ (b : Bool) (given : List Nat) (g : Option Param), GivenOK oi g →
      ∀ p r, SlotOut env sg qs oi b given g p r → ModeSlot env sg oi b given p r := by
    rintro b given g hg p r ⟨t, ht, hr⟩
    refine ⟨t, ht, ?_⟩
    split at hr
    · rename_i hc
      exact .inr ⟨hc.1, hc.2, wrapper_mode env qs oi t b g r hg hr⟩
    · rename_i hc
      exact .inl ⟨Classical.not_and_iff_not_or_not.1 hc |>.imp_right Classical.not_not.1, hr⟩
  exact ⟨rin, rout, hrs, hin.imp fun p _ r => key true _ _ hgb.1 p r, hout.imp fun p _ r => key false _ _ hgb.2 p r⟩

theorem slot_of_pointwise {env : Env} {sg : Subgraph} {oi : OpInfo} {b : Bool} {given : List Nat}
    {slots : List Int} {rs : List CReq} (hP : Pointwise (ModeSlot env sg oi b given) (cslots slots) rs)
    {j : Nat} {t : Int} {tn : Tensor} (hj : slots[j]? = some t) (hne : t ≠ -1) (htn : tensorAt sg t = .ok tn) :
    ∃ (idx : Nat) (r : CReq), (cslots slots)[idx]? = some (t, j) ∧ rs[idx]? = some r ∧
      SlotCase env oi b (j ∈ given) tn r := by
  obtain ⟨idx, hidx⟩ := List.mem_iff_getElem?.1 ((mem_cslots slots (t, j)).2 ⟨hj, hne⟩)
  have hlt : idx < rs.length := by rw [← hP.1]; exact (List.getElem?_eq_some_iff.1 hidx).1
  obtain ⟨tn', htn', hcase⟩ := hP.2 idx _ _ hidx (List.getElem?_eq_getElem hlt)
  rw [htn] at htn'
  cases htn'
  exact ⟨idx, _, hidx, List.getElem?_eq_getElem hlt, hcase⟩

theorem role_of_bias (k : String) (b : Nat) (h : biasSlot k = some b) : slotRole k b ≠ 0 := by
  unfold slotRole
  by_cases hi : b ∈ indexSlots k
  · rw [if_pos hi]; decide
  · rw [if_neg hi, if_pos h]; decide

theorem role_zero (k : String) (j : Nat) (h : slotRole k j = 0) : j ∉ indexSlots k ∧ biasSlot k ≠ some j := by
  unfold slotRole at h
  by_cases h1 : j ∈ indexSlots k
  · rw [if_pos h1] at h; cases h
  · rw [if_neg h1] at h
    by_cases h2 : biasSlot k = some j
    · rw [if_pos h2] at h; cases h
    · exact ⟨h1, h2⟩

/-- the materialize function is not one of the two that process a bias -/
def NotConv (fn : String) : Prop := fn ≠ "materialize_fc_conv" ∧ fn ≠ "materialize_conv2d_transpose"

theorem role_of_index (k : String) (g : List Nat) (h : indexSlots k = g) : ∀ i ∈ g, slotRole k i ≠ 0 := by
  intro i hi
  unfold slotRole
  rw [h, if_pos hi]
  decide

theorem kindOf_float (fn : String) :
    (∃ a b c, MatTotal.kindOf Tables.algFloatCasting fn = .cast a b c) ∨
    MatTotal.kindOf Tables.algFloatCasting fn = .unknown := by
  unfold MatTotal.kindOf
  rw [if_pos (by decide)]
  split
  · exact .inl ⟨_, _, _, rfl⟩
  · split
    · exact .inl ⟨_, _, _, rfl⟩
    · exact .inr rfl

theorem minmax_biasSlot_conv : ∀ e ∈ minmaxOps, ∀ b, biasSlot e.1 = some b → e.1 ≠ "EMBEDDING_LOOKUP" →
    e.2 = "materialize_fc_conv" ∨ e.2 = "materialize_conv2d_transpose" := by
  intro e he b hb hne
  have T := minmaxOps_kindOK he
  cases hk : MatTotal.kindOf Tables.algMinMax e.2 <;> rw [hk] at T
  · rcases T.2.2.2 with h | h
    · rw [hb] at h; cases h
    · exact absurd h hne
  · exact .inl T.1
  · exact .inr T.1
  · have := T.2
    rw [hb] at this
    cases this
  · exact absurd hk (minmaxOps_ne_cast he _ _ _)
  · exact T.elim

theorem minmax_embedding_notConv : ∀ e ∈ minmaxOps, e.1 = "EMBEDDING_LOOKUP" → NotConv e.2 := by
  intro e he hemb
  have T := minmaxOps_kindOK he
  cases hk : MatTotal.kindOf Tables.algMinMax e.2 <;> rw [hk] at T
  · exact T.2.1
  · exact absurd hemb T.2.2.2.2
  · exact absurd hemb T.2.2.2.2
  · exact T.1
  · exact absurd hk (minmaxOps_ne_cast he _ _ _)
  · exact T.elim

/-- **the min/max algorithm** is `standardOp` on given slots that are all non-regular, followed by
    nothing, by `biasFor` (convolution-like operators) or by the fixed-range post-processing -/
theorem materializeOp_minmax_cases (env : Env) (sg : Subgraph) (qs : Qsvs) (oi : OpInfo) (fn : String)
    (rs : List CReq) (qs' : Qsvs) (hfn : (oi.opName, fn) ∈ minmaxOps)
    (h : materializeOp env sg qs oi Tables.algMinMax fn = .ok (rs, qs')) :
    ∃ con gIn rs0 q0, standardOp env sg qs oi con gIn [] = .ok (rs0, q0) ∧
      (∀ i ∈ gIn, slotRole oi.opName i ≠ 0) ∧
      (con ≠ .none → NoWo oi.opName) ∧
      ((rs = rs0 ∧ NotConv fn) ∨
       (∃ iIn iB, biasSlot oi.opName = some iB ∧ iB ∈ gIn ∧ iIn = dataSlot oi.opName ∧ iIn ∉ gIn ∧ iIn < iB ∧
          biasFor env sg oi rs0 iIn 1 iB = .ok rs ∧ ¬ NotConv fn) ∨
       (∃ b, oi.op.outputs.length = 1 ∧ fixLast oi b (rs0, q0) = .ok (rs, qs') ∧ NotConv fn)) := by
  rw [MatTotal.materializeOp_kind] at h
  have T := minmaxOps_kindOK hfn
  have hnone : Constraint.none ≠ Constraint.none → NoWo oi.opName := fun hne => absurd rfl hne
  cases hk : MatTotal.kindOf Tables.algMinMax fn with
  | std con gi =>
    rw [hk] at h T
    exact ⟨con, gi, rs, qs', h, role_of_index _ _ T.1, T.2.2.1, .inl ⟨rfl, T.2.1⟩⟩
  | conv =>
    rw [hk] at h T
    obtain ⟨hfc, -, hbs, hds, -⟩ := T
    obtain ⟨r, hs, hb⟩ := runKind_ok h
    refine ⟨.none, [2], r, _, hs, ?_, hnone, .inr (.inl ⟨0, 2, hbs, List.mem_singleton.2 rfl, hds.symm,
      by decide, by decide, hb, fun hn => hn.1 hfc⟩)⟩
    intro i hi
    rw [List.mem_singleton.1 hi]
    exact role_of_bias _ _ hbs
  | convT =>
    rw [hk] at h T
    obtain ⟨hct, hidx, hbs, hds, -⟩ := T
    obtain ⟨r, hs, -, hb⟩ := runKind_ok h
    refine ⟨.none, [0, 3], r, _, hs, ?_, hnone, .inr (.inl ⟨2, 3, hbs, by decide, hds.symm,
      by decide, by decide, hb, fun hn => hn.2 hct⟩)⟩
    intro i hi
    simp only [List.mem_cons, List.not_mem_nil, or_false] at hi
    rcases hi with rfl | rfl
    · exact role_of_index _ _ hidx 0 (List.mem_singleton.2 rfl)
    · exact role_of_bias _ _ hbs
  | fixed sl =>
    rw [hk] at h T
    obtain ⟨hlen, reqs, q0, hstd, hb⟩ := runKind_ok h
    exact ⟨.none, ([] : List Nat), reqs, q0, hstd, fun i hi => absurd hi List.not_mem_nil, hnone,
      .inr (.inr ⟨sl, hlen, hb, T.1⟩)⟩
  | cast a b c => exact absurd hk (minmaxOps_ne_cast hfn _ _ _)
  | unknown => rw [hk] at T; exact T.elim

theorem fixLast_cases (oi : OpInfo) (b : Bool) (rs0 rs : List CReq) (q0 qs' : Qsvs)
    (h : fixLast oi b (rs0, q0) = .ok (rs, qs')) :
    rs = rs0 ∨ ∃ last pr a fp, rs0.getLast? = some last ∧ last.producer = some pr ∧ oi.cfg.act = some a ∧
      fp.bits = a.bits.toNat ∧
      rs = rs0.dropLast ++ [{ last with producer := some { pr with param := some (.uniform fp none) } }] := by
  rcases fixLast_ok (oi := oi) (sl := b) h with ⟨-, rfl, -⟩ | ⟨last, pr, a, fp, mm, F⟩
  · exact .inl rfl
  · exact .inr ⟨last, pr, a, fp, F.getLast, F.prod, F.act, fixedParams_bits _ _ _ F.params, F.eq⟩

/-- **the requests of one operator of the min/max algorithm**, under any config: `rs` holds the `standardOp` request of every
    operand and result, except that the bias of a bias-processing function has `noQuantReq` or a request made by `mkReq`, and that
    the fixed-range post-processing may have replaced the parameter object of a result by a uniform one of the activation width.
    `gIn`: the positions the materialize function ignores. -/
theorem materializeOp_minmax_slots (env : Env) (sg : Subgraph) (qs : Qsvs) (oi : OpInfo) (fn : String)
    (rs : List CReq) (qs' : Qsvs) (hfn : (oi.opName, fn) ∈ minmaxOps)
    (hmand : ∀ b, biasSlot oi.opName = some b → ∀ i < b, oi.op.inputs[i]? ≠ some (-1))
    (h : materializeOp env sg qs oi Tables.algMinMax fn = .ok (rs, qs')) :
    ∃ gIn : List Nat, (∀ i ∈ gIn, slotRole oi.opName i ≠ 0) ∧
      (∀ (j : Nat) (t : Int) (tn : Tensor), oi.op.inputs[j]? = some t → t ≠ -1 → tensorAt sg t = .ok tn →
        (biasSlot oi.opName = some j → NotConv fn) →
        ∃ r ∈ rs, SlotCase env oi true (j ∈ gIn) tn r) ∧
      (∀ (j : Nat) (t : Int) (tn : Tensor), oi.op.inputs[j]? = some t → t ≠ -1 → tensorAt sg t = .ok tn →
        biasSlot oi.opName = some j → ¬ NotConv fn →
        ∃ r ∈ rs, r = noQuantReq tn.name oi.opId true ∨ ∃ bp, mkReq tn.name oi true bp (isSRQ oi.cfg) = .ok r) ∧
      (∀ (j : Nat) (t : Int) (tn : Tensor), oi.op.outputs[j]? = some t → t ≠ -1 → tensorAt sg t = .ok tn →
        (tn.dtype ≠ Tables.ttFloat32 ∧ ∃ prm, sideReq tn.name false ⟨oi.opId, [.noQuant], prm⟩ ∈ rs) ∨
        (tn.dtype = Tables.ttFloat32 ∧
          ∃ xfs prm, tensorXfs oi.cfg false (constData env tn).isSome = .ok xfs ∧
            sideReq tn.name false ⟨oi.opId, xfs, prm⟩ ∈ rs ∧
            (ParamFor env oi tn prm ∨
              ∃ a fp, oi.cfg.act = some a ∧ fp.bits = a.bits.toNat ∧ prm = some (.uniform fp none)))) := by
  obtain ⟨con, gIn, rs0, q0, hstd, hrole, hcon, hpost⟩ := materializeOp_minmax_cases env sg qs oi fn rs qs' hfn h
  obtain ⟨rin, rout, hrs0, hin, hout⟩ := standardOp_slots env sg qs oi con gIn [] rs0 q0 hcon hstd
  have hinL : ∀ (idx : Nat) (r : CReq), rin[idx]? = some r → rs0[idx]? = some r := by
    intro idx r hr
    rw [hrs0, List.getElem?_append_left (List.getElem?_eq_some_iff.1 hr).1]
    exact hr
  -- a present bias operand sits at its raw position also among the non-absent slots, before the results
  have hbiasIn : ∀ (iB : Nat) (bslot : Int), biasSlot oi.opName = some iB → oi.op.inputs[iB]? = some bslot → bslot ≠ -1 →
      (cslots oi.op.inputs)[iB]? = some (bslot, iB) ∧ iB < rin.length := by
    intro iB bslot hbs hbsl hbne
    have hci := cslots_get oi.op.inputs iB bslot (hmand iB hbs) hbsl hbne
    exact ⟨hci, by rw [← hin.1]; exact (List.getElem?_eq_some_iff.1 hci).1⟩
  -- the post-processing replaces at most ONE request of the `standardOp` list: the one at the position of a present
  -- bias (`biasFor`), or the last one when it is a result request (`fixLast` overrides its parameter object)
  have keep : ∀ (idx : Nat) (r : CReq), rs0[idx]? = some r → r ∈ rs ∨
      (¬ NotConv fn ∧ ∃ bslot, biasSlot oi.opName = some idx ∧ oi.op.inputs[idx]? = some bslot ∧ bslot ≠ -1) ∨
      ∃ pr a fp, r.producer = some pr ∧ oi.cfg.act = some a ∧ fp.bits = a.bits.toNat ∧
        ({ r with producer := some { pr with param := some (.uniform fp none) } } : CReq) ∈ rs := by
    intro idx r hr
    rcases hpost with ⟨rfl, -⟩ | ⟨iIn, iB, hbs, -, -, -, -, hb, hconv⟩ | ⟨b, -, hb, -⟩
    · exact .inl (List.mem_of_getElem? hr)
    · rcases biasFor_ok hb with ⟨-, rfl⟩ | ⟨bslot, _, _, rb, B⟩
      · exact .inl (List.mem_of_getElem? hr)
      · by_cases hi : iB = idx
        · exact .inr (.inl ⟨hconv, bslot, hi ▸ hbs, hi ▸ B.slot, B.present⟩)
        · exact .inl (List.mem_of_getElem? (by rw [B.eq, List.getElem?_set_ne hi]; exact hr))
    · rcases fixLast_cases oi b rs0 rs q0 qs' hb with rfl | ⟨last, pr, a, fp, hlast, hpr, ha, hfb, rfl⟩
      · exact .inl (List.mem_of_getElem? hr)
      · by_cases hel : r = last
        · exact .inr (.inr ⟨pr, a, fp, hel ▸ hpr, ha, hfb, hel ▸ List.mem_append_right _ (List.mem_singleton.2 rfl)⟩)
        · exact .inl (List.mem_append_left _ (List.mem_dropLast_of_ne rs0 last r hlast (List.mem_of_getElem? hr) hel))
  refine ⟨gIn, hrole, ?_, ?_, ?_⟩
  · -- an operand request outside the bias position is not the replaced one: it has no producer side
    intro j t tn hj hne htn hnb
    obtain ⟨idx, r, hidx, hr, hcase⟩ := slot_of_pointwise hin hj hne htn
    refine ⟨r, ?_, hcase⟩
    rcases keep idx r (hinL idx r hr) with hm | ⟨hconv, bslot, hbs, hbsl, hbne⟩ | ⟨pr, _, _, hpr, -⟩
    · exact hm
    · rw [(hbiasIn idx bslot hbs hbsl hbne).1] at hidx
      cases hidx
      exact absurd (hnb hbs) hconv
    · rw [hcase.producer_none] at hpr
      cases hpr
  · intro j t tn hj hne htn hbs hconv
    obtain ⟨idx, r, hidx, hr, hcase⟩ := slot_of_pointwise hin hj hne htn
    rcases hpost with ⟨-, hnc⟩ | ⟨iIn, iB, hbs', hbg, -, -, -, hbf, -⟩ | ⟨b, -, -, hnc⟩
    · exact absurd hnc hconv
    · rw [hbs] at hbs'
      cases hbs'
      rcases biasFor_ok hbf with ⟨-, rfl⟩ | ⟨bslot, bt, bp, rb, B⟩
      · -- untouched: the request of the (given) bias position is `noQuantReq`
        rcases hcase with ⟨-, rfl⟩ | ⟨-, hng, -⟩
        · exact ⟨_, List.mem_of_getElem? (hinL idx _ hr), .inl rfl⟩
        · exact absurd hbg hng
      · cases hj.symm.trans B.slot
        cases htn.symm.trans B.tensor
        exact ⟨rb, B.eq ▸ List.mem_of_getElem? (List.getElem?_set_self B.lt), .inr ⟨bp, B.req⟩⟩
    · exact absurd hnc hconv
  · -- a result request sits behind the operand requests, hence behind the bias position
    intro j t tn hj hne htn
    obtain ⟨idx, r0, hidx, hr, hcase⟩ := slot_of_pointwise hout hj hne htn
    have hr0 : rs0[rin.length + idx]? = some r0 := by
      rw [hrs0, List.getElem?_append_right (Nat.le_add_right _ _), Nat.add_sub_cancel_left]
      exact hr
    have hkeep := keep _ r0 hr0
    rcases hcase with ⟨hd | hg, rfl⟩ | ⟨hf, -, xfs, prm, hx, rfl, hpf⟩
    · left
      rcases hkeep with hm | ⟨-, bslot, hbs, hbsl, hbne⟩ | ⟨pr, a, fp, hpr, -, -, hm⟩
      · exact ⟨hd, none, hm⟩
      · have := (hbiasIn _ bslot hbs hbsl hbne).2
        omega
      · cases hpr
        exact ⟨hd, _, hm⟩
    · cases hg
    · right
      rcases hkeep with hm | ⟨-, bslot, hbs, hbsl, hbne⟩ | ⟨pr, a, fp, hpr, ha, hfb, hm⟩
      · exact ⟨hf, xfs, prm, hx, hm, .inl hpf⟩
      · have := (hbiasIn _ bslot hbs hbsl hbne).2
        omega
      · cases hpr
        exact ⟨hf, xfs, _, hx, hm, .inr ⟨a, fp, ha, hfb, rfl⟩⟩

/-- **the three requests behind a bias under a static-range config**: the requests of the data operand and of the
    weight, with uniform parameters `qi`, `qw` (`qi` of the width of the tensor config in force for the data operand),
    and the bias request `[QUANTIZE_TENSOR]`, whose parameters and values are
    `symmetric_quantize_bias_tensor(bias data, qi, qw)`.  `biasFor` reads the two by LIST position; these are the data
    slot and slot 1 because no slot before the bias slot is absent (`hmand`). -/
theorem srq_bias_requests (env : Env) (sg : Subgraph) (qs : Qsvs) (oi : OpInfo) (fn : String)
    (rs : List CReq) (qs' : Qsvs) (hfn : (oi.opName, fn) ∈ minmaxOps) (hs : isSRQ oi.cfg = true)
    (hmand : ∀ b, biasSlot oi.opName = some b → ∀ i < b, oi.op.inputs[i]? ≠ some (-1))
    (h : materializeOp env sg qs oi Tables.algMinMax fn = .ok (rs, qs'))
    (iB : Nat) (hbs : biasSlot oi.opName = some iB) (hnemb : oi.opName ≠ "EMBEDDING_LOOKUP")
    (bslot : Int) (hb : oi.op.inputs[iB]? = some bslot) (hne : bslot ≠ -1) :
    ∃ bt bd aIn tin aW tw qi di qw dw qp q, tensorAt sg bslot = .ok bt ∧ constData env bt = some bd ∧
      oi.op.inputs[dataSlot oi.opName]? = some aIn ∧ aIn ≠ -1 ∧ tensorAt sg aIn = .ok tin ∧
      oi.op.inputs[1]? = some aW ∧ aW ≠ -1 ∧ tensorAt sg aW = .ok tw ∧
      srqReq tin.name oi.opId true (constData env tin).isSome (some (.uniform qi di)) ∈ rs ∧
      srqReq tw.name oi.opId true (constData env tw).isSome (some (.uniform qw dw)) ∈ rs ∧
      srqReq bt.name oi.opId true true (some (.uniform qp (some q))) ∈ rs ∧
      Arith.quantizeBias ⟨bd, .f32⟩ qi qw = .ok (qp, q) ∧
      ∀ tc, tcfgOf env oi tin = some tc → qi.bits = tc.bits.toNat := by
  obtain ⟨con, gIn, rs0, q0, hstd, -, hcon, hpost⟩ := materializeOp_minmax_cases env sg qs oi fn rs qs' hfn h
  obtain ⟨rin, rout, hrs0, hin, -⟩ := standardOp_slots env sg qs oi con gIn [] rs0 q0 hcon hstd
  have hconv := minmax_biasSlot_conv _ hfn iB hbs hnemb
  rcases hpost with ⟨-, hnc⟩ | ⟨iIn, iB', hbs', -, hds, -, hlt, hbf, -⟩ | ⟨b, -, -, hnc⟩
  · exact (hconv.elim hnc.1 hnc.2).elim
  · rw [hbs] at hbs'
    cases hbs'
    obtain ⟨bt, bd, rq, rw', qi, di, qw, dw, qp, q, e1, e2, e3, e4, e5, e6, e7, e8, e9⟩ :=
      MatParams.biasFor_srq env sg oi rs0 rs iIn 1 iB bslot hs hb hne hbf
    have hpre := hmand iB hbs
    have hBlen : iB < oi.op.inputs.length := (List.getElem?_eq_some_iff.1 hb).1
    -- the request read at list position `n < iB` is the static-range request of raw slot `n`, and stays in the list
    have slot : ∀ n r qp' dat, n < iB → rs0[n]? = some r → reqParam0 r = .ok (some (.uniform qp' dat)) →
        ∃ a t, oi.op.inputs[n]? = some a ∧ a ≠ -1 ∧ tensorAt sg a = .ok t ∧
          srqReq t.name oi.opId true (constData env t).isSome (some (.uniform qp' dat)) ∈ rs ∧
          ∀ tc, tcfgOf env oi t = some tc → qp'.bits = tc.bits.toNat := by
      intro n r qp' dat hn hr hq
      obtain ⟨a, ha⟩ : ∃ a, oi.op.inputs[n]? = some a := ⟨_, List.getElem?_eq_getElem (by omega)⟩
      have hane : a ≠ -1 := fun e => hpre n hn (e ▸ ha)
      have hci := cslots_get oi.op.inputs n a (fun i hi => hpre i (by omega)) ha hane
      have hnl : n < rin.length := by rw [← hin.1]; exact (List.getElem?_eq_some_iff.1 hci).1
      rw [hrs0, List.getElem?_append_left hnl] at hr
      obtain ⟨t, ht, hcase⟩ := hin.2 n _ _ hci hr
      have hmem : r ∈ rs := by
        rw [e9]
        exact List.mem_of_getElem? (i := n) (by
          rw [List.getElem?_set_ne (show iB ≠ n by omega), hrs0, List.getElem?_append_left hnl]; exact hr)
      rcases hcase with ⟨-, rfl⟩ | ⟨-, -, xfs, prm, hx, rfl, hpf⟩
      · cases hq
      · obtain rfl : prm = some (.uniform qp' dat) := Except.ok.inj hq
        rw [sideReq_srq _ oi _ _ _ _ hs hx] at hmem
        refine ⟨a, t, ha, hane, ht, hmem, fun tc htc => ?_⟩
        obtain ⟨qp'', d'', e, hbits⟩ := hpf.2 tc htc
        cases e
        exact hbits
    obtain ⟨aIn, tin, i1, i2, i3, i4, i5⟩ := slot iIn rq qi di hlt e3 e5
    obtain ⟨aW, tw, w1, w2, w3, w4, -⟩ := slot 1 rw' qw dw (MatParams.biasSlot_gt_one _ _ hbs) e4 e6
    exact ⟨bt, bd, aIn, tin, aW, tw, qi, di, qw, dw, qp, q, e1, e2, hds ▸ i1, i2, i3, w1, w2, w3, i4, w4,
      by rw [e9]; exact List.mem_of_getElem? (List.getElem?_set_self e8), e7, i5⟩
  · exact (hconv.elim hnc.1 hnc.2).elim

/-- the config quantizes no activations: every side that is not a constant operand is `[NO_QUANTIZE]`
    (dynamic-range and weight-only configs) -/
def NoActMode (c : OpCfg) : Prop :=
  c.act = none ∧ ∀ b isC, (b && isC) = false → tensorXfs c b isC = .ok [.noQuant]

theorem isSRQ_noact (c : OpCfg) (h : c.act = none) : isSRQ c = false := by
  unfold isSRQ
  rw [h]
  simp only [Option.isSome_none, Bool.and_false]

/-- the requests of the float-casting algorithm: `[NO_QUANTIZE]` for the data operand, the result and a present
    bias, `[ADD_DEQUANTIZE]` with float16 values for the (constant) weight -/
theorem floatCastOp_unfold16 (env : Env) (sg : Subgraph) (oi : OpInfo) (iIn iW iB : Nat) (rs : List CReq)
    (h : floatCastOp env sg oi iIn iW iB = .ok rs) :
    ∃ sIn sW sOut tin tw tout d, oi.op.inputs[iIn]? = some sIn ∧ oi.op.inputs[iW]? = some sW ∧
      oi.op.outputs[0]? = some sOut ∧ tensorAt sg sIn = .ok tin ∧ tensorAt sg sW = .ok tw ∧
      tensorAt sg sOut = .ok tout ∧ (constData env tw).isSome = true ∧
      noQuantReq tin.name oi.opId true ∈ rs ∧
      (⟨tw.name, none, some [(⟨oi.opId, [.addDequant], some (.nonlinear 16 d)⟩ : CO2T)]⟩ : CReq) ∈ rs ∧
      noQuantReq tout.name oi.opId false ∈ rs ∧
      ∀ b tb, oi.op.inputs[iB]? = some b → b ≠ -1 → tensorAt sg b = .ok tb →
        noQuantReq tb.name oi.opId true ∈ rs := by
  obtain ⟨sIn, sW, sOut, tin, tw, tout, wd, hh, C⟩ := floatCastOp_ok h
  refine ⟨sIn, sW, sOut, tin, tw, tout, some ⟨wd.shape, hh⟩, C.inSlot, C.wSlot, C.outSlot, C.inT, C.wT, C.outT,
    by rw [C.const]; rfl, ?_⟩
  have h3 : ∀ l : List CReq, noQuantReq tin.name oi.opId true ∈
        [noQuantReq tin.name oi.opId true, f16Req oi.opId tw wd hh, noQuantReq tout.name oi.opId false] ++ l ∧
      f16Req oi.opId tw wd hh ∈
        [noQuantReq tin.name oi.opId true, f16Req oi.opId tw wd hh, noQuantReq tout.name oi.opId false] ++ l ∧
      noQuantReq tout.name oi.opId false ∈
        [noQuantReq tin.name oi.opId true, f16Req oi.opId tw wd hh, noQuantReq tout.name oi.opId false] ++ l :=
    fun l => ⟨List.mem_cons_self, List.mem_cons_of_mem _ List.mem_cons_self,
      List.mem_cons_of_mem _ (List.mem_cons_of_mem _ List.mem_cons_self)⟩
  rcases C.reqs with ⟨hno, rfl⟩ | ⟨b, tb, hb, hne, htb, rfl⟩
  · exact ⟨(h3 []).1, (h3 []).2.1, (h3 []).2.2, fun b' tb' hb' hne' _ => absurd (hno b' hb') hne'⟩
  · refine ⟨(h3 _).1, (h3 _).2.1, (h3 _).2.2, fun b' tb' hb' _ htb' => ?_⟩
    rw [hb] at hb'
    cases hb'
    rw [htb] at htb'
    cases htb'
    exact List.mem_append_right _ List.mem_cons_self

end TypingSrq
