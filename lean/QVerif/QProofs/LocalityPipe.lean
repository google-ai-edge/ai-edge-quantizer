import QProofs.LocalityCompat
import QProofs.LocalityRename
import QProofs.PipelineWF
/-!
# C19 — end to end: `Pipeline.quantizePure` treats every subgraph as if it stood alone

The big run and the stand-alone run number their parameter objects independently (ids = order of first
appearance, `Pipeline.absReqs`), so the results are compared up to the renaming `Locality.rho`: id `i` of the
stand-alone run ↦ the id of the `Param.eqv`-class of its parameter object in the table of the big run.
-/
open Graph Mat Pipe Pipeline Rename

namespace Locality

theorem paramsOf_restrict (reqs : List CReq) (sg : Subgraph) (p : Param)
    (hp : p ∈ paramsOf (restrictCReqs reqs sg)) : p ∈ paramsOf reqs := by
  obtain ⟨r, hr, hpr⟩ := List.mem_flatMap.1 hp
  exact List.mem_flatMap.2 ⟨r, (List.mem_filter.1 hr).1, hpr⟩

/-- id `i` of the table `tbl1` ↦ the id, in `tbl`, of the `eqv`-class of `tbl1[i]`
    (ids that are not in use are sent to fresh, pairwise different ids) -/
def rho (tbl tbl1 : List Param) (i : Nat) : Nat :=
  match tbl1[i]? with
  | some P =>
    match tbl.findIdx? (fun q => q.eqv P) with
    | some k => k
    | none => tbl.length + i
  | none => tbl.length + i

theorem findIdx_spec {tbl : List Param} {f : Param → Bool} {k : Nat} (h : tbl.findIdx? f = some k) :
    ∃ Q, tbl[k]? = some Q ∧ f Q = true := by
  obtain ⟨hlt, hf, _⟩ := List.findIdx?_eq_some_iff_getElem.1 h
  exact ⟨tbl[k], List.getElem?_eq_getElem hlt, hf⟩

theorem rho_cases (tbl tbl1 : List Param) (i : Nat) :
    (∃ P Q, tbl1[i]? = some P ∧ tbl[rho tbl tbl1 i]? = some Q ∧ Q.eqv P = true) ∨
      rho tbl tbl1 i = tbl.length + i := by
  unfold rho
  cases hi : tbl1[i]? with
  | none => exact Or.inr rfl
  | some P =>
    simp only []
    cases hf : tbl.findIdx? (fun q => q.eqv P) with
    | none => exact Or.inr rfl
    | some k =>
      obtain ⟨Q, hQ, hQP⟩ := findIdx_spec hf
      exact Or.inl ⟨P, Q, rfl, hQ, hQP⟩

theorem rho_injective (tbl tbl1 : List Param) (hnd : (tbl1.map pkey).Nodup) : Function.Injective (rho tbl tbl1) := by
  intro i i' h
  rcases rho_cases tbl tbl1 i with ⟨P, Q, hi, hQ, hQP⟩ | hi
  · have hlt := (List.getElem?_eq_some_iff.1 hQ).1
    rcases rho_cases tbl tbl1 i' with ⟨P', Q', hi', hQ', hQP'⟩ | hi'
    · rw [← h, hQ] at hQ'
      cases hQ'
      have hk : pkey P = pkey P' := ((eqv_iff Q P).1 hQP).symm.trans ((eqv_iff Q P').1 hQP')
      obtain ⟨hl, hPi⟩ := List.getElem?_eq_some_iff.1 hi
      obtain ⟨hl', hPi'⟩ := List.getElem?_eq_some_iff.1 hi'
      have h1 : (tbl1.map pkey)[i]'(by simpa using hl) = pkey P := by simp [hPi]
      have h2 : (tbl1.map pkey)[i']'(by simpa using hl') = pkey P' := by simp [hPi']
      exact (List.Nodup.getElem_inj_iff hnd).1 (h1.trans (hk.trans h2.symm))
    · omega
  · rcases rho_cases tbl tbl1 i' with ⟨P', Q', hi', hQ', hQP'⟩ | hi'
    · have hlt := (List.getElem?_eq_some_iff.1 hQ').1
      omega
    · omega

theorem rho_eqv (tbl tbl1 : List Param) (hfound : ∀ P ∈ tbl1, HasId tbl P)
    (i : PId) (P : Param) (hi : tbl1[i]? = some P) : ∃ Q, tbl[rho tbl tbl1 i]? = some Q ∧ Q.eqv P = true := by
  obtain ⟨k, hk⟩ := hfound P (List.mem_of_getElem? hi)
  unfold rho
  rw [hi]
  simp only [hk]
  exact findIdx_spec hk

theorem rho_pinfo (tbl tbl1 : List Param) (hfound : ∀ P ∈ tbl1, HasId tbl P)
    (i : PId) : pinfo (ptableOf tbl) (rho tbl tbl1 i) = pinfo (ptableOf tbl1) i := by
  rw [pinfo_ptableOf, pinfo_ptableOf]
  cases hi : tbl1[i]? with
  | none =>
    unfold rho
    rw [hi]
    simp only []
    rw [List.getElem?_eq_none (by omega)]
  | some P =>
    obtain ⟨Q, hQ, hQP⟩ := rho_eqv tbl tbl1 hfound i P hi
    rw [hQ]
    simp only [Option.map_some, Pipe.eqv_pinfoOf Q P hQP]

theorem rho_id (tbl tbl1 : List Param) (p : Param) (i i1 : PId)
    (h : tbl.findIdx? (fun q => q.eqv p) = some i) (h1 : tbl1.findIdx? (fun q => q.eqv p) = some i1) :
    rho tbl tbl1 i1 = i := by
  obtain ⟨P1, hP1, hP1p⟩ := findIdx_spec h1
  unfold rho
  rw [hP1]
  simp only []
  rw [findIdx_eqv_congr tbl P1 p ((eqv_iff P1 p).1 hP1p), h]

theorem absO_rho {tbl tbl1 : List Param} {c : CO2T} (h : ∀ p ∈ c.param.toList, HasId tbl p ∧ HasId tbl1 p) :
    absO tbl c = rnO (rho tbl tbl1) (absO tbl1 c) := by
  unfold absO rnO
  cases hc : c.param with
  | none => rfl
  | some p =>
    obtain ⟨⟨i, hi⟩, i1, hi1⟩ := h p (by rw [hc]; exact List.mem_singleton_self p)
    simp only [Option.bind_some, hi, hi1, Option.map_some, rho_id tbl tbl1 p i i1 hi hi1]

theorem absR_rho {tbl tbl1 : List Param} {r : CReq} (h : ∀ p ∈ paramsOfR r, HasId tbl p ∧ HasId tbl1 p) :
    absR tbl r = rnReq (rho tbl tbl1) (absR tbl1 r) := by
  have hO : ∀ c ∈ r.sides, absO tbl c = rnO (rho tbl tbl1) (absO tbl1 c) := fun c hc =>
    absO_rho fun p hp => h p (List.mem_flatMap.2 ⟨c, hc, hp⟩)
  unfold absR rnReq
  congr 1
  · rw [Option.map_map]
    exact Option.map_congr fun c hc => hO c (by simp [CReq.sides, hc])
  · rw [Option.map_map]
    refine Option.map_congr fun cs hcs => ?_
    rw [Function.comp_apply, List.map_map]
    exact List.map_congr_left fun c hc => hO c (by simp [CReq.sides, hcs, hc])

theorem absReqs_restrict (reqs : List CReq) (sg : Subgraph) :
    restrictReqs (absReqs reqs).2 sg =
      (absReqs (restrictCReqs reqs sg)).2.map
        (rnReq (rho (absReqs reqs).1 (absReqs (restrictCReqs reqs sg)).1)) := by
  have hid := absReqs_hasId reqs
  have hid1 := absReqs_hasId (restrictCReqs reqs sg)
  rw [absReqs_eq reqs, absReqs_eq (restrictCReqs reqs sg)] at *
  show (reqs.map (absR _)).filter (fun a => nameIn sg a.name) = ((reqs.filter fun r => nameIn sg r.name).map _).map _
  rw [List.filter_map, List.map_map]
  refine List.map_congr_left fun r hr => absR_rho fun p hp => ?_
  have hp1 : p ∈ paramsOf (restrictCReqs reqs sg) := List.mem_flatMap.2 ⟨r, hr, hp⟩
  exact ⟨hid p (paramsOf_restrict reqs sg p hp1), hid1 p hp1⟩

theorem rnSg_noQuant (ρ : PId → PId) (sg : Subgraph) (h : ∀ t ∈ sg.tensors, t.quant = none) : rnSg ρ sg = sg :=
  rnSg_eq_self sg fun t ht => by
    obtain ⟨n, d, s, b, q⟩ := t
    cases (h _ ht : q = none)
    rfl

/-- **C19, end to end** (in words: header of `QProps/C19c.lean`, `C19.quantize_local`) -/
theorem quantize_local_full (rx : String → String → Bool) (env : Env) (st : Recipe.State) (qsvs : Option Qsvs)
    (j : Nat) (sg : Subgraph) (hsg : env.model.subgraphs[j]? = some sg)
    (hcodes : ∀ o ∈ sg.ops, o.code < env.model.opcodes.length)
    (m' : Model) (tbl : List Param) (h : Pipeline.quantizePure rx env st qsvs = .ok (m', tbl)) :
    ∃ (m1' : Model) (tbl1 : List Param) (ρ : PId → PId),
      Pipeline.quantizePure rx (extractEnv env j sg) st qsvs = .ok (m1', tbl1) ∧
      Function.Injective ρ ∧
      (∀ i P, tbl1[i]? = some P → ∃ Q, tbl[ρ i]? = some Q ∧ Q.eqv P = true) ∧
      view m' j = view (Rename.rnModel ρ m1') 0 ∧ sigsOf m' j = m1'.sigs := by
  obtain ⟨hc, reqs, hgen, rfl, hmod⟩ := PipelineWF.quantizePure_ok_iff.1 h
  have hgen1 := generate_local_full rx env st qsvs j sg hsg reqs hgen
  have hnu := (generate_ok_iff.1 hgen).2.1
  have hnq := generate_noQuant rx env st qsvs reqs hgen sg (List.mem_of_getElem? hsg)
  generalize htbl : (absReqs reqs).1 = tbl at hmod ⊢
  generalize hareqs : (absReqs reqs).2 = areqs at hmod
  generalize htbl1 : (absReqs (restrictCReqs reqs sg)).1 = tbl1
  generalize hareqs1 : (absReqs (restrictCReqs reqs sg)).2 = areqs1
  have hrestr : restrictReqs areqs sg = areqs1.map (rnReq (rho tbl tbl1)) := by
    rw [← hareqs, ← hareqs1, ← htbl, ← htbl1]; exact absReqs_restrict reqs sg
  have hinv1 : (tbl1.map pkey).Nodup := htbl1 ▸ absReqs_inv _
  have hfound : ∀ P ∈ tbl1, HasId tbl P := fun P hP =>
    htbl ▸ absReqs_hasId reqs P (paramsOf_restrict reqs sg P (absReqs_tbl_mem _ P (htbl1 ▸ hP)))
  have hinj : Function.Injective (rho tbl tbl1) := rho_injective tbl tbl1 hinv1
  -- the instructions of the stand-alone run, renamed, are those of the big run for subgraph `j`
  obtain ⟨tis, htis, htg⟩ := PyM.bind_eq_ok_iff.1 hmod
  have hloc := genInsts_local env.model hnu j sg hsg areqs tis htis
  rw [hrestr, genInsts_rn hinj] at hloc
  obtain ⟨tis1, htis1, htis1'⟩ := PyM.map_eq_ok_iff.1 hloc
  obtain ⟨hl, h0⟩ := lift_of_restrict htis1'.symm
  obtain ⟨m1', hrun1, hview, hsigs⟩ := performer_sim (rho_pinfo tbl tbl1 hfound) env.model m'
    (extract env.model j sg) tis tis1 j sg sg hsg hcodes rfl (rnSg_noQuant _ sg hnq).symm rfl rfl rfl hl h0 htg
  refine ⟨m1', tbl1, rho tbl tbl1, PipelineWF.quantizePure_ok_iff.2 ⟨hc, _, hgen1, htbl1.symm, ?_⟩, hinj,
    rho_eqv tbl tbl1 hfound, hview, hsigs⟩
  rw [htbl1, hareqs1]
  exact PyM.bind_eq_ok_iff.2 ⟨tis1, htis1, hrun1⟩

end Locality
