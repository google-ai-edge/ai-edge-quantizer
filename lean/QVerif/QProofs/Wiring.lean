import QProofs.SkeletonProof
/-!
# The result of one transformation, carried through the run in ORIGINAL operator ids
Between the steps `Base` holds (`GraphInv.Inv`, `SkeletonProof.SkAll`, `WSg`); every `Applied` step keeps it (`Applied.base`), which is
what `RunDesc` runs its induction on; the other `Applied` lemmas say what else one step does.  `TensorsDisjoint`, `OneRetype` are the
hypotheses of `QProps/C03c`.  `Step`, `driver` (and `SharingE2E.StepB`, `StepB.digest`) state one step and a three-phase rule for one
distinguished instruction in these terms, for a per-step argument; nothing in the development uses them: every fact about a whole run
is read off `RunDesc.Ran`.
-/
open Graph Perform GraphStep GraphFrame GraphInv Skeleton SkeletonProof StepTypes Wiring

namespace Wiring

/-- the operator at position `origMap[k]` is the ORIGINAL operator `k` (it carries the tag);
    buffer indices of the original tensors never change -/
structure WSg (sg0 sg : Subgraph) (om : List Int) : Prop where
  pos : ∀ (k : Nat) (a : Int), om[k]? = some a → ∃ o, sg.ops[a.toNat]? = some o ∧ o.orig = some k
  buf : ∀ (i : Nat) tn0, sg0.tensors[i]? = some tn0 →
    ∃ tn, sg.tensors[i]? = some tn ∧ tn.buffer = tn0.buffer

structure Base (m0 : Model) (st : PState) : Prop where
  inv : Inv m0 st
  sk : SkAll m0 st.model
  w : ∀ (s : Nat) (sg0 sg : Subgraph) (om : List Int), m0.subgraphs[s]? = some sg0 →
    st.model.subgraphs[s]? = some sg → st.origMap[s]? = some om → WSg sg0 sg om

theorem initSt_map (m : Model) (s : Nat) (sg : Subgraph) (om : List Int)
    (hsg : m.subgraphs[s]? = some sg) (hom : (initSt m).origMap[s]? = some om) (k : Nat) (a : Int)
    (ha : om[k]? = some a) : k < sg.ops.length ∧ a = k := by
  simp only [initSt, List.getElem?_map, hsg, Option.map_some, Option.some.injEq] at hom
  subst hom
  exact range_map_get _ _ _ ha

theorem base_init (m : Model) (hwf : WF.modelOK m = true) (htag : origTagged m = true) :
    Base m (initSt m) := by
  refine ⟨inv_init m hwf, skAll_init m htag, ?_⟩
  intro s sg0 sg om h0 h1 h2
  have h1' : m.subgraphs[s]? = some sg := h1
  rw [h0] at h1'; cases h1'
  refine ⟨?_, fun i tn0 h => ⟨tn0, h, rfl⟩⟩
  intro k a ha
  obtain ⟨hk, rfl⟩ := initSt_map m s sg0 om h0 h2 k a ha
  refine ⟨sg0.ops[k], by simp, ?_⟩
  exact origTagged_get m htag s sg0 h0 k _ (List.getElem?_eq_getElem hk)

theorem Base.cur {m0 : Model} {st : PState} (B : Base m0 st) (s : Nat) (sg0 : Subgraph)
    (h0 : m0.subgraphs[s]? = some sg0) :
    ∃ sg om, st.model.subgraphs[s]? = some sg ∧ st.origMap[s]? = some om ∧
      om.length = sg0.ops.length := by
  obtain ⟨sg, om, -, h1, h2, -, I⟩ := B.inv.lookup h0
  exact ⟨sg, om, h1, h2, I.len⟩

/-- everything one successful `applySingle` of instruction `ins` on subgraph `s` does -/
structure Step (pt : PTable) (m0 : Model) (s : Nat) (ins : Inst) (st st' : PState) : Prop where
  base : Base m0 st
  base' : Base m0 st'
  others : ∀ s', s' ≠ s → st'.model.subgraphs[s']? = st.model.subgraphs[s']? ∧
    st'.origMap[s']? = st.origMap[s']?
  eff : ∃ (sg0 sg sg' : Subgraph) (om om' cons : List Int) (p : PId) (pi : PInfo) (ty : Nat)
      (tn : Tensor) (nm : String),
    m0.subgraphs[s]? = some sg0 ∧ st.model.subgraphs[s]? = some sg ∧
    st'.model.subgraphs[s]? = some sg' ∧ st.origMap[s]? = some om ∧ st'.origMap[s]? = some om' ∧
    om'.length = om.length ∧ InstOK pt m0 sg0 ins ∧
    ins.param = some p ∧ pinfo pt p = some pi ∧ dtypeOf pi = .ok ty ∧
    sg.tensors[ins.tensor.toNat]? = some tn ∧
    sg'.tensors =
      (if retypes ins.xf then sg.tensors.set ins.tensor.toNat (retype pi p ty tn) else sg.tensors) ++
      (if addsOp ins.xf then [if ins.xf = .addQuant then retype pi p ty (fresh nm tn) else fresh nm tn]
       else []) ∧
    (∀ a ∈ cons, 0 ≤ a → ∃ c ∈ ins.consumers, 0 ≤ c ∧ om[c.toNat]? = some a) ∧
    (∀ c ∈ ins.consumers, 0 ≤ c → ∃ a ∈ cons, om[c.toNat]? = some a) ∧
    (∀ (k : Nat) (a : Int) (o : Op), om[k]? = some a → sg.ops[a.toNat]? = some o →
      ∃ a', om'[k]? = some a' ∧
        sg'.ops[a'.toNat]? = some (if addsOp ins.xf = true ∧ a ∈ cons
          then rew ins.tensor (sg.tensors.length : Int) o else o))

theorem rew_orig (t n : Int) (o : Op) : (rew t n o).orig = o.orig := rfl

end Wiring

/-! Definitions that later files own by name: the suffix, record and opcode of an appended tensor (`IOStep`, `TypingGraph.insCode`), and
`SharingE2E.StepB`. -/
namespace IOStep

/-- the suffix of the name of the tensor appended by an op-adding transformation -/
def sfx (x : Xf) : String := if x = .addQuant then "_quantized" else "_dequant"

/-- the instruction lists the graph-output marker among its consumers -/
def ListsOut (ins : Inst) : Prop := ∃ c ∈ ins.consumers, c < 0

def listsOut (ins : Inst) : Bool := ins.consumers.any (· < 0)

theorem listsOut_iff (ins : Inst) : listsOut ins = true ↔ ListsOut ins := by
  simp only [listsOut, ListsOut, List.any_eq_true, decide_eq_true_eq]

/-- the record appended for the new tensor of an op-adding transformation `x` with parameter `p` on a
    tensor with record `tn`: float32 over the empty buffer 0 with the shape of `tn`; retyped when the
    new tensor is the result of a QUANTIZE -/
def newRecord (pi : PInfo) (p : PId) (ty : Nat) (x : Xf) (nm : String) (tn : Tensor) : Tensor :=
  if x = .addQuant then retype pi p ty (fresh nm tn) else fresh nm tn

theorem newRecord_congr (pi : PInfo) (p : PId) (ty : Nat) (x : Xf) (nm : String) (tn tn' : Tensor)
    (h : tn.shape = tn'.shape) : newRecord pi p ty x nm tn = newRecord pi p ty x nm tn' := by
  unfold newRecord fresh; rw [h]

theorem newRecord_name (pi : PInfo) (p : PId) (ty : Nat) (x : Xf) (nm : String) (tn : Tensor) :
    (newRecord pi p ty x nm tn).name = nm := by
  unfold newRecord; split
  · rw [retype_name]; rfl
  · rfl

theorem newRecord_shape (pi : PInfo) (p : PId) (ty : Nat) (x : Xf) (nm : String) (tn : Tensor) :
    (newRecord pi p ty x nm tn).shape = tn.shape := by
  unfold newRecord; split
  · rw [retype_shape]; rfl
  · rfl

theorem newRecord_buffer (pi : PInfo) (p : PId) (ty : Nat) (x : Xf) (nm : String) (tn : Tensor) :
    (newRecord pi p ty x nm tn).buffer = 0 := by
  unfold newRecord; split
  · rw [retype_buffer]; rfl
  · rfl

end IOStep

namespace TypingGraph

/-- the builtin code of the operator inserted by an op-adding transformation -/
def insCode (x : Xf) : Nat := if x = .addQuant then Tables.opQuantize else Tables.opDequantize

end TypingGraph

namespace SharingE2E

/-- one performer step, with its effect on the buffer table -/
structure StepB (pt : PTable) (m0 : Model) (s : Nat) (ins : Inst) (st st' : PState) : Prop where
  step : Step pt m0 s ins st st'
  bufs : ∃ sg tn p pi, st.model.subgraphs[s]? = some sg ∧ sg.tensors[ins.tensor.toNat]? = some tn ∧
    ins.param = some p ∧ pinfo pt p = some pi ∧
    st'.model.buffers =
      if retypes ins.xf = true then newBufs st.model.buffers tn pi p else st.model.buffers

end SharingE2E

namespace GraphInv.Applied
open IOStep SharingE2E TypingGraph

variable {pt : PTable} {m0 : Model} {s : Nat} {ins : Inst} {st st' : PState}

theorem tensors (A : Applied pt m0 s ins st st') :
    ∃ nm, A.sg'.tensors =
      (if retypes ins.xf then A.sg.tensors.set ins.tensor.toNat (retype A.pi A.p A.ty A.tn) else A.sg.tensors) ++
      (if addsOp ins.xf then
        [if ins.xf = .addQuant then retype A.pi A.p A.ty (fresh nm A.tn) else fresh nm A.tn]
       else []) := by
  refine ⟨uniqueName (A.sg.tensors.map (·.name))
    (A.tn.name ++ if ins.xf = .addQuant then "_quantized" else "_dequant"), ?_⟩
  rw [A.exact.tensors]
  by_cases hq : ins.xf = .addQuant <;> simp only [hq, if_true, if_false]

theorem wsg (A : Applied pt m0 s ins st st') (W : WSg A.sg0 A.sg A.om) :
    WSg A.sg0 A.sg' (shiftMap A.om A.info.opId A.info.added) := by
  constructor
  · intro k a' ha'
    have hk : k < A.om.length := by
      rw [← shiftMap_length A.om A.info.opId A.info.added]; exact (List.getElem?_eq_some_iff.1 ha').1
    obtain ⟨o, ho, horig⟩ := W.pos k _ (List.getElem?_eq_getElem hk)
    obtain ⟨a'', h3, h4⟩ := A.pos (List.getElem?_eq_getElem hk) ho
    rw [ha'] at h3; cases h3
    exact ⟨_, h4, by split <;> exact horig⟩
  · intro i tn0 hi
    obtain ⟨tnc, hc1, hc2⟩ := W.buf i tn0 hi
    have := A.frame.tbuf i (List.getElem?_eq_some_iff.1 hc1).1
    rw [hc1] at this
    cases hA : A.sg'.tensors[i]? with
    | none => simp [hA] at this
    | some tnA =>
      simp only [hA, Option.map_some, Option.some.injEq] at this
      exact ⟨tnA, rfl, this.trans hc2⟩

theorem base (A : Applied pt m0 s ins st st') (hwf0 : WF.modelOK m0 = true) (B : Base m0 st) :
    Base m0 st' := by
  refine ⟨A.inv B.inv, A.sk hwf0 B.inv B.sk, ?_⟩
  intro s' sg0s sgs oms h0 h1 h2
  by_cases hs : s' = s
  · subst hs
    rw [A.orig] at h0; cases h0
    rw [A.cur'] at h1; cases h1
    rw [A.omap'] at h2; cases h2
    exact A.wsg (B.w _ _ _ _ A.orig A.cur A.omap)
  · rw [(A.others hs).1] at h1
    rw [(A.others hs).2] at h2
    exact B.w s' sg0s sgs oms h0 h1 h2

theorem step (A : Applied pt m0 s ins st st') (hwf0 : WF.modelOK m0 = true) (B : Base m0 st) :
    Step pt m0 s ins st st' := by
  obtain ⟨nm, hT⟩ := A.tensors
  refine ⟨B, A.base hwf0 B, fun s' hs => A.others hs,
    A.sg0, A.sg, A.sg', A.om, _, A.consumers, A.p, A.pi, A.ty, A.tn, nm, A.orig, A.cur, A.cur', A.omap,
    A.omap', shiftMap_length _ _ _, A.ok, A.exact.param, A.exact.pinfo, A.exact.dtype, A.exact.get, hT,
    ?_, ?_, fun k a o hk ho => A.pos hk ho⟩
  · intro a ha ha0
    rcases xlatConsumers_mem A.cons ha with rfl | h
    · omega
    · exact h
  · intro c hc hc0
    rcases xlatConsumers_of_mem A.cons hc with ⟨h, -⟩ | ⟨-, h⟩
    · omega
    · exact h


theorem stepB (A : Applied pt m0 s ins st st') (hwf0 : WF.modelOK m0 = true) (B : Base m0 st) :
    StepB pt m0 s ins st st' :=
  ⟨A.step hwf0 B, A.sg, A.tn, A.p, A.pi, A.cur, A.exact.get, A.exact.param, A.exact.pinfo,
    by rw [A.model']; exact A.exact.bufs⟩

theorem codes_mono (A : Applied pt m0 s ins st st') (i c : Nat) (hi : st.model.opcodes[i]? = some c) :
    st'.model.opcodes[i]? = some c := by
  have hm : st'.model.opcodes = A.m'.opcodes := by rw [A.model']
  rw [hm, A.exact.codes]
  split
  · obtain ⟨-, ext, g⟩ := GraphBasics.addOpCode_spec st.model.opcodes (insCode ins.xf)
    rw [show (if ins.xf = .addQuant then Tables.opQuantize else Tables.opDequantize) =
      insCode ins.xf from rfl, g, List.getElem?_append_left (List.getElem?_eq_some_iff.1 hi).1]
    exact hi
  · exact hi

theorem outputs_eq (A : Applied pt m0 s ins st st') :
    A.sg'.outputs = if addsOp ins.xf = true ∧ listsOut ins = true
      then A.sg.outputs.map (fun o => if o == ins.tensor then (A.sg.tensors.length : Int) else o)
      else A.sg.outputs := by
  have hmem : memI (-1) A.consumers = true ↔ listsOut ins = true := by
    rw [memI_iff, listsOut_iff]
    constructor
    · intro hm
      obtain ⟨c, hc, hfc⟩ := PyM.mapM_ok _ _ _ A.cons (-1) hm
      by_cases hc0 : c < 0
      · exact ⟨c, hc, hc0⟩
      · rw [if_neg hc0] at hfc
        have := (A.rel.pos _ _ ((Py.index_nonneg (by omega)).1 hfc)).1
        omega
    · rintro ⟨c, hc, hc0⟩
      rcases xlatConsumers_of_mem A.cons hc with ⟨-, h⟩ | ⟨h, -⟩
      · exact h
      · omega
  rw [A.exact.outputs]
  by_cases hx : addsOp ins.xf = true
  · rw [if_pos hx, newOutputs]
    by_cases hl : listsOut ins = true
    · rw [if_pos (hmem.2 hl), if_pos ⟨hx, hl⟩]
    · rw [if_neg (fun h => hl (hmem.1 h)), if_neg (fun h => hl h.2)]
  · rw [if_neg hx, if_neg (fun h => hx h.1)]

/-- the record appended by an op-adding step; its name is made unique against the CURRENT tensor names -/
theorem new_get (A : Applied pt m0 s ins st st') (hx : addsOp ins.xf = true) :
    A.sg'.tensors[A.sg.tensors.length]? = some (newRecord A.pi A.p A.ty ins.xf
      (uniqueName (A.sg.tensors.map (·.name)) (A.tn.name ++ sfx ins.xf)) A.tn) := by
  have hl : (if retypes ins.xf = true then A.sg.tensors.set ins.tensor.toNat (retype A.pi A.p A.ty A.tn)
      else A.sg.tensors).length = A.sg.tensors.length := by split <;> simp
  rw [A.exact.tensors, List.getElem?_append_right (by rw [hl]; exact Nat.le_refl _), hl, Nat.sub_self,
    if_pos hx, newRecord, sfx]
  by_cases hq : ins.xf = .addQuant <;> simp only [hq, if_true, if_false, List.getElem?_cons_zero]

/-- the inserted operators after a step: those before (a listed consumer is an ORIGINAL operator, so none
    of them is rewired), and for an op-adding step the new `newOp ci t n`, `ci` resolving to its code -/
theorem inserted (A : Applied pt m0 s ins st st') (hwf0 : WF.modelOK m0 = true) (B : Base m0 st) :
    (∀ o ∈ A.sg.ops, o.orig = none → o ∈ A.sg'.ops) ∧
    if addsOp ins.xf = true then
      ∃ ci, newOp ci ins.tensor (A.sg.tensors.length : Int) ∈ A.sg'.ops ∧
        st'.model.opcodes[ci]? = some (insCode ins.xf) ∧
        ∀ o ∈ A.sg'.ops, o.orig = none → o ∈ A.sg.ops ∨ o = newOp ci ins.tensor (A.sg.tensors.length : Int)
    else A.sg'.ops = A.sg.ops := by
  have hnoCons : ∀ (j : Nat) (b : Op), A.sg.ops[j]? = some b → b.orig = none → (j : Int) ∉ A.consumers :=
    fun j b hb hn hjc => consumers_orig m0 A.sg0 st.model A.sg A.om ins A.consumers A.rel
      (B.sk.sgs _ _ _ A.orig A.cur) (SgOK.of_wf hwf0 (List.mem_of_getElem? A.orig))
      A.cons j b hjc hb hn
  have E := A.exact
  cases hx : addsOp ins.xf with
  | false =>
    have hO : A.sg'.ops = A.sg.ops := by rw [E.ops, hx]; rfl
    exact ⟨fun o ho _ => hO ▸ ho, by rw [if_neg Bool.false_ne_true]; exact hO⟩
  | true =>
    have hO : A.sg'.ops = (rewired A.consumers ins.tensor (A.sg.tensors.length : Int) A.sg.ops).insertIdx
        A.info.opId.toNat (newOp (addOpCode st.model.opcodes (insCode ins.xf)).2 ins.tensor
          (A.sg.tensors.length : Int)) := by rw [E.ops, if_pos hx]; rfl
    have hmem : ∀ o : Op, o.orig = none → (o ∈ A.sg'.ops ↔
        o = newOp (addOpCode st.model.opcodes (insCode ins.xf)).2 ins.tensor (A.sg.tensors.length : Int) ∨
          o ∈ A.sg.ops) := fun o hn =>
      hO ▸ mem_spliced_untagged _ (Int.toNat_le.2 E.opId.2.1) (fun j b hc hb hn' => hnoCons j b hb hn' hc) hn
    refine ⟨fun o ho hn => (hmem o hn).2 (.inr ho), ?_⟩
    rw [if_pos rfl]
    refine ⟨_, (hmem _ rfl).2 (.inl rfl), ?_, fun o ho hn => ((hmem o hn).1 ho).symm⟩
    rw [show st'.model.opcodes = A.m'.opcodes by rw [A.model'], E.codes, if_pos hx]
    exact (GraphBasics.addOpCode_spec _ _).1

/-- retyping keeps the names, so the names before position `j` are those of the state before -/
theorem names_take (A : Applied pt m0 s ins st st') {j : Nat} (hj : j ≤ A.sg.tensors.length) :
    (A.sg'.tensors.take j).map (·.name) = (A.sg.tensors.take j).map (·.name) := by
  rw [List.map_take, List.map_take, A.exact.map_tensors (·.name) (retype_name _ _ _),
    List.take_append_of_le_length (by simpa using hj)]

end GraphInv.Applied

namespace Wiring
open RunRule

def BaseStep (pt : PTable) (m0 : Model) (s : Nat) (ins : Inst) (st st' : PState) : Prop :=
  Base m0 st ∧ Nonempty (Applied pt m0 s ins st st')

theorem sound_base (pt : PTable) (m0 : Model) (hwf0 : WF.modelOK m0 = true) :
    Sound pt m0 (Base m0) (BaseStep pt m0) :=
  sound_of_applied (fun _ hb => hb.inv) fun _ _ _ _ hb A => A.base hwf0 hb

/-- three-phase invariant rule for the whole run: `Pre` holds up to the distinguished instruction
    (`idx` of `tis[I]`), that instruction establishes `Post`, every later instruction keeps `Post` -/
theorem driver (pt : PTable) (m0 : Model) (tis : List TInsts) (Pre Post : PState → Prop)
    (I idx : Nat) (ti : TInsts) (ins : Inst)
    (hwf : WF.modelOK m0 = true) (hok : ∀ ti ∈ tis, TInstsOK pt m0 ti)
    (hti : tis[I]? = some ti) (hins : ti.insts[idx]? = some ins) (hxf : isInsertion ins.xf = true)
    (hA : ∀ (i' idx' : Nat) (ti' : TInsts) (ins' : Inst) (st st' : PState), tis[i']? = some ti' →
      ti'.insts[idx']? = some ins' → (i' < I ∨ (i' = I ∧ idx' < idx)) →
      Step pt m0 ti'.sg ins' st st' → Pre st → Pre st')
    (hB : ∀ st st', Step pt m0 ti.sg ins st st' → Pre st → Post st')
    (hC : ∀ (i' idx' : Nat) (ti' : TInsts) (ins' : Inst) (st st' : PState), tis[i']? = some ti' →
      ti'.insts[idx']? = some ins' → (I < i' ∨ (i' = I ∧ idx < idx')) →
      Step pt m0 ti'.sg ins' st st' → Post st → Post st')
    (s0 st : PState) (hb0 : Base m0 s0) (h0 : Pre s0)
    (hfold : tis.foldlM (applyAll pt) s0 = .ok st) : Base m0 st ∧ Post st := by
  obtain ⟨hb, T⟩ := run_trace (sound_base pt m0 hwf) hok hb0 hfold
  obtain ⟨pre, post, he, hpre, hpost⟩ := performed_split hti hins hxf
  rw [he] at T
  obtain ⟨s1, T1, T2⟩ := T.split
  cases T2 with
  | cons r T3 =>
    obtain ⟨hb1, ⟨A1⟩⟩ := r
    have p1 : Pre s1 := T1.inv Pre (fun e he st st' ⟨hbs, ⟨A⟩⟩ =>
      let ⟨i', idx', g1, g2, g3⟩ := hpre e he
      hA i' idx' e.1 e.2 st st' g1 g2 g3 (A.step hwf hbs)) h0
    exact ⟨hb, T3.inv Post (fun e he st st' ⟨hbs, ⟨A⟩⟩ =>
      let ⟨i', idx', g1, g2, g3⟩ := hpost e he
      hC i' idx' e.1 e.2 st st' g1 g2 g3 (A.step hwf hbs)) (hB s1 _ (A1.step hwf hb1) p1)⟩

def TensorsDisjoint (tis : List TInsts) : Prop :=
  ∀ (i j : Nat) (a b : TInsts), i ≠ j → tis[i]? = some a → tis[j]? = some b → a.sg = b.sg →
    ∀ x ∈ a.insts, ∀ y ∈ b.insts, isInsertion x.xf = true → isInsertion y.xf = true →
      x.tensor ≠ y.tensor

def OneRetype (insts : List Inst) : Prop :=
  ∀ (i j : Nat) (a b : Inst), i < j → insts[i]? = some a → insts[j]? = some b →
    retypes a.xf = true → retypes b.xf = true → a.tensor ≠ b.tensor

def tensorsDisjointB (tis : List TInsts) : Bool :=
  tis.zipIdx.all fun a => tis.zipIdx.all fun b =>
    a.2 == b.2 || a.1.sg != b.1.sg ||
      a.1.insts.all fun x => b.1.insts.all fun y =>
        !isInsertion x.xf || !isInsertion y.xf || x.tensor != y.tensor

theorem tensorsDisjoint_of_b (tis : List TInsts) (h : tensorsDisjointB tis = true) :
    TensorsDisjoint tis := by
  intro i j a b hij hi hj hs x hx y hy hxi hyi
  unfold tensorsDisjointB at h
  rw [List.all_eq_true] at h
  have h1 := h (a, i) (List.mem_zipIdx_iff_getElem?.2 hi)
  rw [List.all_eq_true] at h1
  have h2 := h1 (b, j) (List.mem_zipIdx_iff_getElem?.2 hj)
  simp only [Bool.or_eq_true, beq_iff_eq, bne_iff_ne, ne_eq, List.all_eq_true,
    Bool.not_eq_true'] at h2
  rcases h2 with (h2 | h2) | h2
  · exact absurd h2 hij
  · exact absurd hs h2
  · rcases h2 x hx y hy with (h3 | h3) | h3
    · rw [hxi] at h3; cases h3
    · rw [hyi] at h3; cases h3
    · exact h3

def oneRetypeB (insts : List Inst) : Bool :=
  insts.zipIdx.all fun a => insts.zipIdx.all fun b =>
    !(decide (a.2 < b.2)) || !retypes a.1.xf || !retypes b.1.xf || a.1.tensor != b.1.tensor

theorem oneRetype_of_b (insts : List Inst) (h : oneRetypeB insts = true) : OneRetype insts := by
  intro i j a b hij hi hj ha hb
  unfold oneRetypeB at h
  rw [List.all_eq_true] at h
  have h1 := h (a, i) (List.mem_zipIdx_iff_getElem?.2 hi)
  rw [List.all_eq_true] at h1
  have h2 := h1 (b, j) (List.mem_zipIdx_iff_getElem?.2 hj)
  simp only [Bool.or_eq_true, Bool.not_eq_true', decide_eq_false_iff_not, bne_iff_ne, ne_eq] at h2
  rcases h2 with ((h2 | h2) | h2) | h2
  · exact absurd hij h2
  · rw [ha] at h2; cases h2
  · rw [hb] at h2; cases h2
  · exact h2

theorem final_op (m0 : Model) (st : PState) (B : Base m0 st) (htag : origTagged m0 = true) (s : Nat)
    (sg sg' : Subgraph) (hsg : m0.subgraphs[s]? = some sg) (hsg' : st.model.subgraphs[s]? = some sg')
    (k : Nat) (o : Op) (ho : sg.ops[k]? = some o) :
    ∃ om a o', st.origMap[s]? = some om ∧ om[k]? = some a ∧ sg'.ops[a.toNat]? = some o' ∧
      o'.orig = some k ∧ o'.inputs.map (root sg') = o.inputs := by
  obtain ⟨sgx, om, h1, h2, hlen⟩ := B.cur s sg hsg
  rw [hsg'] at h1; cases h1
  have hk : k < om.length := by rw [hlen]; exact (List.getElem?_eq_some_iff.1 ho).1
  have hka : om[k]? = some om[k] := List.getElem?_eq_getElem hk
  obtain ⟨o', ho', horig⟩ := (B.w s sg sg' om hsg hsg' h2).pos k _ hka
  refine ⟨om, _, o', h2, hka, ho', horig, ?_⟩
  have K := B.sk.sgs s sg sg' hsg hsg'
  have hmem : ({ o' with inputs := o'.inputs.map (root sg'), outputs := o'.outputs.map (root sg') } : Op)
      ∈ eraseOps sg' :=
    List.mem_map.2 ⟨o', List.mem_filter.2 ⟨List.mem_of_getElem? ho', by simp [horig]⟩, rfl⟩
  rw [K.ops] at hmem
  obtain ⟨i, hi⟩ := List.mem_iff_getElem?.1 hmem
  have e0 := origTagged_get m0 htag s sg hsg i _ hi
  have e : o'.orig = some i := e0
  rw [horig] at e
  cases e
  rw [ho] at hi
  cases hi
  rfl

end Wiring
