import QProofs.MatTotalPolicy
import QProofs.MatParams
/-!
# The structural raise sites of one operator's materialisation are excluded (C08)

Under the facts that recipe resolution and the normal form of the model provide (`KindCtx`), no
STRUCTURAL site (`… false e`) of `Mat.materializeOp` can fire; what remains are the numeric sites.
-/
open Graph Mat Arith Cfg Pipe GraphStep MatParams

set_option autoImplicit false

namespace MatTotal

theorem modeOK_facts (k : String) (c : OpCfg) (h : C13.modeOK k c = true) :
    ∃ w, c.weight = some w ∧ w.gran ≠ Gran.blockwise ∧ (w.bits = 4 ∨ w.bits = 8) ∧
      ((c.cp = .integer ∧ ∃ a, c.act = some a ∧ (a.bits = 8 ∨ a.bits = 16) ∧ a.gran = Gran.tensorwise) ∨
       (c.cp = .integer ∧ c.act = none ∧ Tables.drqOps.contains k = true) ∨
       (c.cp = .float ∧ c.act = none ∧ Tables.woOps.contains k = true ∧ c.explicitDeq = true)) := by
  unfold C13.modeOK at h
  cases hw : c.weight with
  | none => rw [hw] at h; cases h
  | some w =>
    rw [hw] at h
    simp only [Bool.and_eq_true, Bool.or_eq_true, beq_iff_eq, bne_iff_ne, ne_eq, Bool.not_eq_true'] at h
    obtain ⟨⟨⟨⟨⟨_, hb⟩, _⟩, hg⟩, _⟩, hmode⟩ := h
    refine ⟨w, rfl, hg, hb, ?_⟩
    cases hcp : c.cp <;> cases hact : c.act <;> rw [hcp, hact] at hmode <;> simp only [] at hmode
    · simp only [Bool.and_eq_true, Bool.not_eq_true'] at hmode
      exact .inr (.inl ⟨rfl, rfl, hmode.1.1⟩)
    · rename_i a
      simp only [Bool.and_eq_true, Bool.or_eq_true, beq_iff_eq] at hmode
      exact .inl ⟨rfl, a, rfl, hmode.1.1.1.1.2, hmode.1.1.1.2⟩
    · simp only [Bool.and_eq_true] at hmode
      exact .inr (.inr ⟨rfl, rfl, hmode.1, hmode.2⟩)
    · cases hmode

theorem tensorXfs_total (k : String) (c : OpCfg) (h : C13.modeOK k c = true) (inbound isC : Bool) :
    ∃ x, tensorXfs c inbound isC = .ok x := by
  obtain ⟨w, hw, hwg, _, hmodes⟩ := modeOK_facts _ _ h
  unfold tensorXfs
  rcases hmodes with ⟨hcp, a, ha, _, _⟩ | ⟨hcp, ha, _⟩ | ⟨hcp, ha, _, hed⟩
  · simp only [hcp, ha, beq_self_eq_true, Option.isSome_some, Bool.and_self, if_true]
    cases inbound <;> cases isC <;> exact ⟨_, rfl⟩
  · simp only [hcp, ha, beq_self_eq_true, Option.isSome_none, Bool.and_false, Bool.false_eq_true, if_false,
      Option.isNone_none, Bool.and_self, if_true]
    cases inbound <;> cases isC <;> exact ⟨_, rfl⟩
  · have hwg' : (w.gran == Gran.blockwise) = false := by
      cases hgg : w.gran <;> simp_all
    simp only [hcp, ha, hw, hed, hwg', show (CP.float == CP.integer) = false by decide, Bool.false_and, Bool.false_eq_true,
      if_false, beq_self_eq_true, Bool.and_self, if_true]
    cases inbound <;> cases isC <;> exact ⟨_, rfl⟩

theorem drq_eq_wo : Tables.drqOps = Tables.woOps := by decide

theorem act_legal {k : String} {c : OpCfg} {a : TCfg} (hmode : C13.modeOK k c = true) (ha : c.act = some a) :
    c.cp = .integer ∧ (a.bits = 8 ∨ a.bits = 16) ∧ a.gran = Gran.tensorwise := by
  obtain ⟨w, -, -, -, hmodes⟩ := modeOK_facts _ _ hmode
  rcases hmodes with ⟨hcp, a', ha', hb, hg⟩ | ⟨_, ha', _⟩ | ⟨_, ha', _⟩
  · rw [ha] at ha'; cases ha'
    exact ⟨hcp, hb, hg⟩
  · rw [ha] at ha'; cases ha'
  · rw [ha] at ha'; cases ha'

theorem srq_act {k : String} {c : OpCfg} (hmode : C13.modeOK k c = true) (hsrq : isSRQ c = true) :
    ∃ a, c.act = some a ∧ (a.bits = 8 ∨ a.bits = 16) := by
  unfold isSRQ at hsrq
  obtain ⟨a, ha⟩ := Option.isSome_iff_exists.1 (Bool.and_eq_true_iff.1 hsrq).2
  exact ⟨a, ha, (act_legal hmode ha).2.1⟩

theorem tcfgOf_legal {env : Env} {oi : OpInfo} {t : Tensor} {tc : TCfg} (hmode : C13.modeOK oi.opName oi.cfg = true)
    (h : tcfgOf env oi t = some tc) :
    (tc.bits = 4 ∨ tc.bits = 8 ∨ tc.bits = 16) ∧ tc.gran ≠ Gran.blockwise ∧
    (tc.gran = Gran.channelwise → (constData env t).isSome = true ∧ Tables.woOps.contains oi.opName = true) := by
  rcases tcfgOf_cases h with ⟨hwt, hc, hwo⟩ | ha
  · obtain ⟨w, hw, hwg, hwb, -⟩ := modeOK_facts _ _ hmode
    rw [hw] at hwt; cases hwt
    exact ⟨hwb.elim .inl (fun h => .inr (.inl h)), hwg, fun _ => ⟨hc, hwo.elim id (fun h1 => drq_eq_wo ▸ h1)⟩⟩
  · obtain ⟨-, hb, hag⟩ := act_legal hmode ha
    exact ⟨.inr hb, by rw [hag]; decide, fun hh => by rw [hag] at hh; cases hh⟩

theorem tc_bits (env : Env) (oi : OpInfo) (t : Tensor) (tc : TCfg) (hmode : C13.modeOK oi.opName oi.cfg = true)
    (htc : tcfgOf env oi t = some tc) : 2 ≤ tc.bits.toNat ∧ tc.bits.toNat ≤ 16 := by
  rcases (tcfgOf_legal hmode htc).1 with h | h | h
  · rw [h]; decide
  · rw [h]; decide
  · rw [h]; decide

theorem weightBlockwise_false {oi : OpInfo} (hmode : C13.modeOK oi.opName oi.cfg = true) :
    weightBlockwise oi = false := by
  obtain ⟨w, hw, hwg, -⟩ := modeOK_facts _ _ hmode
  unfold weightBlockwise
  rw [hw]
  simpa using hwg

/-- statistics entry present and non-empty -/
def Present (qs : Qsvs) (n : String) : Prop := ∃ mm, Py.dictGet? qs n = some (some mm)

theorem tensorSite_struct_absurd (env : Env) (qs : Qsvs) (oi : OpInfo) (t : Tensor) (inbound : Bool)
    (g : Option Param) (e : PyErr) (hmode : C13.modeOK oi.opName oi.cfg = true)
    (hstats : oi.cfg.act.isSome = true → constData env t = none → Present qs t.name)
    (hne : ∀ d, constData env t = some d → d.data ≠ []) :
    ¬ TensorSite env qs oi t inbound g false e := by
  -- a runtime tensor with a config belongs to an operator that quantizes activations
  have hrun : ∀ tc, tcfgOf env oi t = some tc → constData env t = none → Present qs t.name := fun tc htc hc =>
    hstats (by rw [← tcfgOf_nonconst env oi t hc, htc]; rfl) hc
  intro hsite
  cases hsite with
  | statsMissing tc hg htcf hc hq =>
    obtain ⟨mm, hmm⟩ := hrun tc htcf hc
    rw [hq] at hmm; cases hmm
  | statsEmpty tc hg htcf hs => exact statsOf_ne_none (hrun tc htcf) hne hs
  | constBlockwise tc d hg htcf hc hbw => rw [weightBlockwise_false hmode] at hbw; cases hbw
  | qdim tc e hg htcf hq =>
    obtain ⟨q, h⟩ := refQDim_total (env := env) (tcfgOf_legal hmode htcf).2.2
    rw [h] at hq; cases hq
  | quantBlockwise tc d hg htcf hc hbw => exact (tcfgOf_legal hmode htcf).2.1 hbw
  | xfs e hx =>
    obtain ⟨x, h⟩ := tensorXfs_total _ _ hmode inbound (constData env t).isSome
    rw [h] at hx; cases hx

theorem tensorAt_total (sg : Subgraph) (a : Int) (h : a = -1 ∨ ValidT sg a) (hT : sg.tensors ≠ []) :
    ∃ t, tensorAt sg a = .ok t := by
  have hlen : 0 < sg.tensors.length := List.length_pos_iff.2 hT
  rcases h with rfl | ⟨h0, h1⟩
  · unfold tensorAt Py.index
    simp only []
    have e1 : (if (-1 : Int) < 0 then (-1 : Int) + (sg.tensors.length : Int) else -1) = ((sg.tensors.length - 1 : Nat) : Int) := by
      simp only [show ((-1 : Int) < 0) by decide, if_true]; omega
    rw [e1]
    rw [if_neg (by omega)]
    simp only [Int.toNat_natCast]
    have : sg.tensors.length - 1 < sg.tensors.length := by omega
    rw [List.getElem?_eq_getElem this]
    exact ⟨_, rfl⟩
  · exact ⟨_, (Py.index_nonneg h0).2 (List.getElem?_eq_getElem (by omega))⟩

theorem slotSite_absurd (sg : Subgraph) (slots : List Int) (e : PyErr) (hv : SlotsValid sg slots)
    (hT : sg.tensors ≠ []) : ¬ SlotSite sg slots e := by
  rintro ⟨a, ha, he⟩
  obtain ⟨t, ht⟩ := tensorAt_total sg a (hv a ha) hT
  rw [ht] at he
  cases he

theorem slotsValid_append {sg : Subgraph} {a b : List Int} (ha : SlotsValid sg a) (hb : SlotsValid sg b) :
    SlotsValid sg (a ++ b) := by
  intro x hx
  rcases List.mem_append.1 hx with h | h
  · exact ha x h
  · exact hb x h

/-- the facts about one (pseudo-)operator that exclude the structural sites of `standardOp` -/
structure StdCtx (env : Env) (sg : Subgraph) (qs : Qsvs) (oi : OpInfo) (con : Constraint) (gi go : List Nat) : Prop where
  validIn : SlotsValid sg oi.op.inputs
  validOut : SlotsValid sg oi.op.outputs
  tensors : sg.tensors ≠ []
  mode : C13.modeOK oi.opName oi.cfg = true
  stats : oi.cfg.act.isSome = true → ∀ b t, SlotTensor sg oi.op b (if b then gi else go) t → constData env t = none →
    Present qs t.name
  constNE : ∀ t ∈ sg.tensors, ∀ d, constData env t = some d → d.data ≠ []
  /-- a same-as-input operator has exactly one float operand (or no float tensor at all), with statistics to copy -/
  arityIn : con = .sameAsInput → ∀ inT outT, FloatSlots sg oi.op.inputs gi inT → FloatSlots sg oi.op.outputs go outT →
    (inT = [] ∧ outT = []) ∨ (inT.length = 1 ∧ ∀ t ∈ inT, Present qs t.name)
  /-- a same-as-output operator has exactly one float result (or no float tensor at all) -/
  arityOut : con = .sameAsOutput → ∀ inT outT, FloatSlots sg oi.op.inputs gi inT → FloatSlots sg oi.op.outputs go outT →
    (inT = [] ∧ outT = []) ∨ outT.length = 1

theorem stdSite_struct_absurd (env : Env) (sg : Subgraph) (qs : Qsvs) (oi : OpInfo) (con : Constraint) (gi go : List Nat)
    (e : PyErr) (C : StdCtx env sg qs oi con gi go) : ¬ StdSite env sg qs oi con gi go false e := by
  intro hsite
  cases hsite with
  | slot e hs => exact slotSite_absurd sg _ e (slotsValid_append C.validIn C.validOut) C.tensors hs
  | arityIn inT outT hc hI hO hne hlen =>
    rcases C.arityIn hc inT outT hI hO with h | h
    · exact hne h
    · exact hlen h.1
  | arityOut inT outT hc hI hO hne hlen =>
    rcases C.arityOut hc inT outT hI hO with h | h
    · exact hne h
    · exact hlen h
  | tensor num t inbound g e ts hst _ _ hg hts =>
    have ⟨_, a, _, _, hat, _⟩ := hst
    exact tensorSite_struct_absurd env qs oi t inbound g e C.mode (fun hact => C.stats hact inbound t hst)
      (C.constNE t (Py.index_mem _ a t hat)) hts
  | copyStats t outT hc hI hO hq =>
    rcases C.arityIn hc [t] outT hI hO with h | h
    · cases h.1
    · obtain ⟨mm, hmm⟩ := h.2 t List.mem_cons_self
      rw [hq] at hmm
      cases hmm

theorem std_none_in_req {env : Env} {sg : Subgraph} {qs : Qsvs} {oi : OpInfo} {gi : List Nat} {r : List CReq} {q : Qsvs}
    (h : standardOp env sg qs oi .none gi [] = .ok (r, q)) {i : Nat} {a : Int}
    (hpre : ∀ j < i, oi.op.inputs[j]? ≠ some (-1)) (hi : oi.op.inputs[i]? = some a) (ha : a ≠ -1) :
    ∃ ri, r[i]? = some ri ∧ SlotOut env sg qs oi true gi none (a, i) ri := by
  obtain ⟨rin, rout, g, gO, rfl, hPin, -, hH⟩ := standardOp_slots h
  obtain rfl : g = none := by cases hH <;> rfl
  have hc := cslots_get oi.op.inputs i a hpre hi ha
  have hlt : i < rin.length := hPin.1 ▸ (List.getElem?_eq_some_iff.1 hc).1
  exact ⟨rin[i], by rw [List.getElem?_append_left hlt, List.getElem?_eq_getElem hlt],
    hPin.2 i (a, i) rin[i] hc (List.getElem?_eq_getElem hlt)⟩

/-- what the normal form says about a convolution-like operator -/
structure ConvCtx (env : Env) (sg : Subgraph) (oi : OpInfo) (gi : List Nat) (iIn iW iB : Nat) : Prop where
  validIn : SlotsValid sg oi.op.inputs
  validOut : SlotsValid sg oi.op.outputs
  tensors : sg.tensors ≠ []
  mode : C13.modeOK oi.opName oi.cfg = true
  lt : iIn < iB ∧ iW < iB
  notGiven : iIn ∉ gi ∧ iW ∉ gi
  mandatory : ∀ i < iB, ∃ a, oi.op.inputs[i]? = some a ∧ a ≠ -1
  float : ∀ i a t, (i = iIn ∨ i = iW) → oi.op.inputs[i]? = some a → tensorAt sg a = .ok t → t.dtype = Tables.ttFloat32
  biasConst : isSRQ oi.cfg = true → ∀ a bt, oi.op.inputs[iB]? = some a → a ≠ -1 → tensorAt sg a = .ok bt →
    constData env bt ≠ none
  weightOp : Tables.woOps.contains oi.opName = true

theorem ConvCtx.pre {env : Env} {sg : Subgraph} {oi : OpInfo} {gi : List Nat} {iIn iW iB : Nat}
    (C : ConvCtx env sg oi gi iIn iW iB) (i : Nat) (hi : i ≤ iB) : ∀ j < i, oi.op.inputs[j]? ≠ some (-1) := by
  intro j hj
  obtain ⟨a, ha, hne⟩ := C.mandatory j (by omega)
  rw [ha]
  intro hh
  cases hh
  exact hne rfl

theorem srq_operand_uniform (env : Env) (qs : Qsvs) (oi : OpInfo) (t : Tensor) (ri : CReq)
    (hsrq : isSRQ oi.cfg = true) (hmode : C13.modeOK oi.opName oi.cfg = true)
    (hw : wrapper env qs oi t true none = .ok ri) : ∃ qp dat, reqParam0 ri = .ok (some (.uniform qp dat)) := by
  obtain ⟨p, xfs, hp, -, rfl⟩ := wrapper_ok.1 hw
  have hc := wrapperParam_ok hp
  cases p with
  | some P =>
    obtain ⟨qp, dat, rfl⟩ := hc.uniform (fun _ h => nomatch h) P rfl
    exact ⟨qp, dat, reqParam0_sideReq ..⟩
  | none =>
    -- no parameters means no config; but both configs are there
    cases hc with
    | unconfigured h0 =>
      obtain ⟨w, hwc, -⟩ := modeOK_facts _ _ hmode
      obtain ⟨a, ha, -⟩ := srq_act hmode hsrq
      unfold tcfgOf at h0
      split at h0
      · rw [hwc] at h0; cases h0
      · rw [ha] at h0; cases h0

theorem ConvCtx.operand {env : Env} {sg : Subgraph} {qs : Qsvs} {oi : OpInfo} {gi : List Nat} {iIn iW iB : Nat}
    (C : ConvCtx env sg oi gi iIn iW iB) {r : List CReq} {q : Qsvs}
    (hstd : standardOp env sg qs oi .none gi [] = .ok (r, q)) {i : Nat} (hi : i = iIn ∨ i = iW) :
    ∃ a t ri, SlotTensor sg oi.op true gi t ∧ oi.op.inputs[i]? = some a ∧ tensorAt sg a = .ok t ∧
      r[i]? = some ri ∧ wrapper env qs oi t true none = .ok ri := by
  have hlt : i < iB := hi.elim (fun h => h ▸ C.lt.1) (fun h => h ▸ C.lt.2)
  have hng : i ∉ gi := hi.elim (fun h => h ▸ C.notGiven.1) (fun h => h ▸ C.notGiven.2)
  obtain ⟨a, ha, hne⟩ := C.mandatory i hlt
  obtain ⟨ri, hri, t, hat, hw⟩ := std_none_in_req hstd (C.pre i (Nat.le_of_lt hlt)) ha hne
  have hf := C.float i a t hi ha hat
  rw [if_pos ⟨hf, hng⟩] at hw
  exact ⟨a, t, ri, ⟨i, a, ha, hne, hat, hf, hng⟩, ha, hat, hri, hw⟩

theorem biasSite_struct_absurd (env : Env) (sg : Subgraph) (qs : Qsvs) (oi : OpInfo) (gi : List Nat) (iIn iW iB : Nat)
    (r : List CReq) (q : Qsvs) (e : PyErr) (C : ConvCtx env sg oi gi iIn iW iB)
    (hstd : standardOp env sg qs oi .none gi [] = .ok (r, q)) : ¬ BiasSite env sg oi r iIn iW iB false e := by
  obtain ⟨aIn, tIn, rIn, -, -, -, hrIn, hwIn⟩ := C.operand hstd (.inl rfl)
  obtain ⟨aW, tW, rW, -, -, -, hrW, hwW⟩ := C.operand hstd (.inr rfl)
  intro hsite
  cases hsite with
  | slot e hs => exact slotSite_absurd sg _ e C.validIn C.tensors hs
  | notConst a bt ha hne hat hsrq hc => exact C.biasConst hsrq a bt ha hne hat hc
  | reqIndex hsrq h =>
    rcases h with h | h
    · rw [hrIn] at h; cases h
    · rw [hrW] at h; cases h
  | reqShape r0 e hsrq h he =>
    rcases h with h | h
    · rw [hrIn] at h; cases h
      obtain ⟨p, hp⟩ := reqParam0_of_wrapper env qs oi tIn none _ hwIn
      rw [hp] at he; cases he
    · rw [hrW] at h; cases h
      obtain ⟨p, hp⟩ := reqParam0_of_wrapper env qs oi tW none _ hwW
      rw [hp] at he; cases he
  | params rin rw pin pw hsrq h1 h2 h3 h4 hno =>
    rw [hrIn] at h1; cases h1
    rw [hrW] at h2; cases h2
    obtain ⟨qi, di, hpi⟩ := srq_operand_uniform env qs oi tIn _ hsrq C.mode hwIn
    obtain ⟨qw, dw, hpw⟩ := srq_operand_uniform env qs oi tW _ hsrq C.mode hwW
    rw [hpi] at h3; cases h3
    rw [hpw] at h4; cases h4
    exact hno qi di qw dw ⟨rfl, rfl⟩
  | xfs e hx =>
    obtain ⟨x, hx'⟩ := tensorXfs_total _ _ C.mode true (isSRQ oi.cfg)
    rw [hx'] at hx; cases hx
  | position a ha hne hlen =>
    obtain ⟨ri, hri, -⟩ := std_none_in_req hstd (C.pre iB (Nat.le_refl _)) ha hne
    exact hlen (List.getElem?_eq_some_iff.1 hri).1

def finB (v : Rat) : Bool := decide (-1000000 ≤ v) && decide (v ≤ 1000000)

/-- sufficient for `StatGood` (`statGoodB_sound`; `10^6` is well inside `NumT.B`); here because `fixed_closed` serves the
    structural and the numeric refutations -/
def statGoodB (mm : FArr × FArr) : Bool :=
  (mm.1.pr == .f32 || mm.1.pr == .f64 || mm.1.pr == .exact) && (mm.2.pr == .f32 || mm.2.pr == .f64 || mm.2.pr == .exact) && mm.1.arr.shape == mm.2.arr.shape &&
    mm.1.arr.data.all finB && mm.2.arr.data.all finB && mm.1.arr.shape.all (· == 1)

/-- the eight hard-coded ranges (softmax-like or not, symmetric or not, 8 or 16 bits) exist, dequantize without overflow, and
    are good statistics: a closed computation -/
theorem fixed_closed (sl sym : Bool) (bits : Nat) (hb : bits = 8 ∨ bits = 16) :
    (match fixedParams sl bits with
     | none => false
     | some fp => (match minMaxFromParams bits sym fp with | .ok mm => statGoodB mm | .error _ => false)) = true := by
  rcases hb with rfl | rfl <;> cases sl <;> cases sym <;> decide +kernel

theorem fixedRange_total (sl sym : Bool) {bits : Nat} (hb : bits = 8 ∨ bits = 16) :
    ∃ fp mm, fixedParams sl bits = some fp ∧ minMaxFromParams bits sym fp = .ok mm ∧ statGoodB mm = true := by
  have := fixed_closed sl sym bits hb
  cases hf : fixedParams sl bits with
  | none => rw [hf] at this; cases this
  | some fp =>
    rw [hf] at this
    cases hm : minMaxFromParams bits sym fp with
    | error e => simp only [hm] at this; cases this
    | ok mm => simp only [hm] at this; exact ⟨fp, mm, rfl, hm, this⟩

structure FixedCtx (env : Env) (sg : Subgraph) (qs : Qsvs) (oi : OpInfo) : Prop where
  std : StdCtx env sg qs oi .none [] []
  outputs : oi.op.outputs.length = 1
  srq : isSRQ oi.cfg = true
  outFloat : ∀ a t, a ∈ oi.op.outputs → a ≠ -1 → tensorAt sg a = .ok t → t.dtype = Tables.ttFloat32 ∧ constData env t = none

theorem fixedSite_struct_absurd (env : Env) (sg : Subgraph) (qs : Qsvs) (oi : OpInfo) (sl : Bool) (e : PyErr)
    (C : FixedCtx env sg qs oi) : ¬ FixedSite env sg qs oi sl false e := by
  obtain ⟨a0, ha0, hb0⟩ := srq_act C.std.mode C.srq
  obtain ⟨fp0, mm0, hfp0, hmm0, -⟩ := fixedRange_total sl a0.symmetric (bits := a0.bits.toNat)
    (hb0.imp (fun h => by rw [h]; rfl) (fun h => by rw [h]; rfl))
  intro hsite
  cases hsite with
  | outputs h => exact h C.outputs
  | std num e h => exact stdSite_struct_absurd env sg qs oi .none [] [] e C.std h
  | bits a ha hf =>
    rw [ha0] at ha; cases ha
    rw [hfp0] at hf; cases hf
  | minMax a fp e ha hf hmm =>
    rw [ha0] at ha; cases ha
    rw [hfp0] at hf; cases hf
    rw [hmm0] at hmm; cases hmm
  | stats reqs qs' last hstd hl hp hd =>
    -- the last request with a producer entry is the request of a result slot: a float32 runtime tensor, with statistics
    cases (standardOp_qs env sg qs oi .none [] [] reqs qs' hstd).elim id (fun h => by cases h.1)
    obtain ⟨pr, hpr⟩ := Option.isSome_iff_exists.1 hp
    obtain ⟨i, t, he, rfl⟩ := (standardOp_stdReqs hstd).last hl hpr
    obtain ⟨a, ha, hane, hat⟩ := he.atIdx.atSlot
    obtain ⟨hf, hc⟩ := C.outFloat a t ha hane hat
    obtain ⟨j, hj⟩ := List.mem_iff_getElem?.1 ha
    obtain ⟨mm, hmm⟩ := C.std.stats (by rw [ha0]; rfl) false t ⟨j, a, hj, hane, hat, hf, by simp⟩ hc
    rw [sideReq_name, hmm] at hd
    cases hd

structure CastCtx (env : Env) (sg : Subgraph) (oi : OpInfo) (iIn iW iB : Nat) : Prop where
  validIn : SlotsValid sg oi.op.inputs
  validOut : SlotsValid sg oi.op.outputs
  tensors : sg.tensors ≠ []
  dataSlot : ∃ a, oi.op.inputs[iIn]? = some a
  weightSlot : ∃ a, oi.op.inputs[iW]? = some a
  out : ∃ a, oi.op.outputs[0]? = some a ∧ a ≠ -1
  weightConst : ∀ a tw, oi.op.inputs[iW]? = some a → tensorAt sg a = .ok tw → constData env tw ≠ none

theorem castSite_struct_absurd (env : Env) (sg : Subgraph) (oi : OpInfo) (iIn iW iB : Nat) (e : PyErr)
    (C : CastCtx env sg oi iIn iW iB) : ¬ CastSite env sg oi iIn iW iB false e := by
  intro hsite
  cases hsite with
  | noSlot h =>
    rcases h with h | h | h
    · obtain ⟨a, ha⟩ := C.dataSlot
      rw [ha] at h; cases h
    · obtain ⟨a, ha⟩ := C.weightSlot
      rw [ha] at h; cases h
    · obtain ⟨a, ha, _⟩ := C.out
      rw [ha] at h; cases h
  | slot e hs => exact slotSite_absurd sg _ e (slotsValid_append C.validIn C.validOut) C.tensors hs
  | weightNotConst a tw ha hat hc => exact C.weightConst a tw ha hat hc

/-- the literal arguments are those `materializeOp` passes (`materialize_fc_conv`: `standardOp … [2]`, `biasFor … 0 1 2`;
    `materialize_conv2d_transpose`: `[0, 3]`, `2 1 3`) -/
def KindCtx (env : Env) (sg : Subgraph) (qs : Qsvs) (oi : OpInfo) : Kind → Prop
  | .std con gi => StdCtx env sg qs oi con gi []
  | .conv => StdCtx env sg qs oi .none [2] [] ∧ ConvCtx env sg oi [2] 0 1 2
  | .convT => StdCtx env sg qs oi .none [0, 3] [] ∧ ConvCtx env sg oi [0, 3] 2 1 3
  | .fixed _ => FixedCtx env sg qs oi
  | .cast a b c => CastCtx env sg oi a b c
  | .unknown => False

theorem opSite_struct_absurd (env : Env) (sg : Subgraph) (qs : Qsvs) (oi : OpInfo) (k : Kind) (e : PyErr)
    (C : KindCtx env sg qs oi k) : ¬ OpSite env sg qs oi k false e := by
  intro hsite
  cases hsite with
  | unknown => exact C
  | std num con gi e h => exact stdSite_struct_absurd env sg qs oi con gi [] e C h
  | convStd num e h => exact stdSite_struct_absurd env sg qs oi .none [2] [] e C.1 h
  | convBias num r q e hstd h => exact biasSite_struct_absurd env sg qs oi [2] 0 1 2 r q e C.2 hstd h
  | convTStd num e h => exact stdSite_struct_absurd env sg qs oi .none [0, 3] [] e C.1 h
  | convTArity r q hstd hlen =>
    obtain ⟨a, ha, hne⟩ := C.2.mandatory 1 (by decide)
    obtain ⟨ri, hri, -⟩ := std_none_in_req hstd (C.2.pre 1 (by decide)) ha hne
    have := (List.getElem?_eq_some_iff.1 hri).1
    omega
  | convTBias num r q e hstd h => exact biasSite_struct_absurd env sg qs oi [0, 3] 2 1 3 r q e C.2 hstd h
  | fixed num sl e h => exact fixedSite_struct_absurd env sg qs oi sl e C h
  | cast num a b c e h => exact castSite_struct_absurd env sg oi a b c e C h

end MatTotal
