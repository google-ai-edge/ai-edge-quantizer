import QModel.Config
/-!
# Configs survive `to_dict` → `from_dict` (C12)
On a `to_dict` image every key is found, so `from_dict` is decoding the enums and running the constructor check. -/

namespace Cfg

theorem Gran.ofStr?_toStr (g : Gran) : Gran.ofStr? g.toStr = some g := by cases g <;> rfl
theorem DT.ofStr?_toStr (d : DT) : DT.ofStr? d.toStr = some d := by cases d <;> rfl
theorem CP.ofStr?_toStr (c : CP) : CP.ofStr? c.toStr = some c := by cases c <;> rfl

theorem TCfg.fromDict_toDict_eq (t : TCfg) :
    TCfg.fromDict t.toDict =
      (do let g ← (match Gran.ofStr? t.gran.toStr with | some g => .ok g | none => .error .unsupported : PyM Gran)
          let d ← (match DT.ofStr? t.dtype.toStr with | some d => .ok d | none => .error .unsupported : PyM DT)
          pure { bits := t.bits, symmetric := t.symmetric, gran := g, dtype := d, blockSize := t.blockSize }) :=
  rfl

theorem TCfg.fromDict_toDict (t : TCfg) : TCfg.fromDict t.toDict = .ok t := by
  rw [TCfg.fromDict_toDict_eq, Gran.ofStr?_toStr, DT.ofStr?_toStr]
  rfl

theorem TCfg.fromDict_toDict_opt (o : Option TCfg) :
    (match o with
      | none => (.ok none : PyM (Option TCfg))
      | some t => (TCfg.fromDict t.toDict).map some) = .ok o := by
  cases o with
  | none => rfl
  | some t => exact congrArg (Except.map some) (TCfg.fromDict_toDict t)

theorem OpCfg.fromDict_toDict_eq (c : OpCfg) :
    OpCfg.fromDict false c.toDict =
      (do let w ← (match c.weight with
            | none => (.ok none : PyM (Option TCfg))
            | some t => (TCfg.fromDict t.toDict).map some)
          let a ← (match c.act with
            | none => (.ok none : PyM (Option TCfg))
            | some t => (TCfg.fromDict t.toDict).map some)
          let cp ← (match CP.ofStr? c.cp.toStr with | some g => pure g | none => throw .unsupported : PyM CP)
          mkOpCfg { act := a, weight := w, cp := cp, explicitDeq := c.explicitDeq, skipChecks := c.skipChecks }) := by
  obtain ⟨a, w, cp, ed, sk⟩ := c
  cases a <;> cases w <;> rfl

theorem OpCfg.fromDict_toDict (c : OpCfg) (h : ctorOk c = true) : OpCfg.fromDict false c.toDict = .ok c := by
  rw [OpCfg.fromDict_toDict_eq, TCfg.fromDict_toDict_opt, TCfg.fromDict_toDict_opt, CP.ofStr?_toStr]
  exact if_pos h

end Cfg
