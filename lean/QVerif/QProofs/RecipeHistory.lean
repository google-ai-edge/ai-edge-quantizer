import QModel.Recipe
import QProofs.DictLemmas
import QProofs.ListLemmas
import QProofs.ConfigProofs
/-!
# Recipe histories: declarative characterisation of the state (C11) and reload of reachable states (C12)

An accepted call writes one scope: `add st … = .ok (Py.dictSet st regex (newRules (Py.dictGet? st regex) c))`
(`add_accepted`).  Everything about histories is read off this equation and the dictionary lemmas.  Reload: loading an
export is replaying its rules as calls (`loadFrom_export`, the only place that looks at the JSON), and replaying the rules
of a state that satisfies `StateInv` rebuilds it (`run_export`), so the invariant holds of exactly the reachable states.
-/
open Cfg Recipe

namespace Recipe

theorem loadFrom_rule_cons (r : Rule) (h : ctorOk r.cfg = true) (st : State) (rest : List J) :
    loadFrom false st (ruleToJ r :: rest) =
      (match add st r.regex r.operation (some r.cfg) r.alg with
       | .ok st' => loadFrom false st' rest
       | .error e => (.error e, st)) := by
  have e : loadFrom false st (ruleToJ r :: rest) =
      (match (if r.alg != Tables.algNoQuantize || true then (OpCfg.fromDict false r.cfg.toDict).map some
              else .ok none : PyM (Option OpCfg)) with
       | .error e => (.error e, st)
       | .ok c => match add st r.regex r.operation c r.alg with
          | .error e => (.error e, st)
          | .ok st' => loadFrom false st' rest) := rfl
  rw [e, Bool.or_true, if_pos rfl, OpCfg.fromDict_toDict _ h]
  show (match add st r.regex r.operation (some r.cfg) r.alg with
        | .error e => (.error e, st)
        | .ok st' => loadFrom false st' rest : PyM State × State) = _
  cases add st r.regex r.operation (some r.cfg) r.alg <;> rfl

end Recipe

namespace RecipeHistory

/-- one `update_quantization_recipe(regex, op, cfg, alg)` call (the config has already passed its
    constructor; `none` = default config) -/
structure Cmd where
  regex : String
  op : String
  cfg : Option OpCfg
  alg : String
  deriving Repr, DecidableEq

def ruleOf (c : Cmd) : Rule := ⟨c.regex, c.op, c.alg, c.cfg.getD {}⟩

/-- the state after a history; a rejected call (`ValueError`) leaves the state unchanged -/
def run (cmds : List Cmd) : State :=
  cmds.foldl (fun st c => match add st c.regex c.op c.cfg c.alg with | .ok st' => st' | .error _ => st) []

def accepted (c : Cmd) : Bool :=
  c.op == Tables.allOpsKey || c.alg == Tables.algNoQuantize || Policy.accepts c.alg c.op (c.cfg.getD {})

/-- a later accepted call `c'` replaces / resets the rule written by `c` -/
def overrides (c' c : Cmd) : Bool :=
  c'.regex == c.regex && (c'.op == Tables.allOpsKey || c'.op == c.op)

structure StateInv (st : State) : Prop where
  keysNodup : (st.map (·.1)).Nodup
  scopeNonempty : ∀ e ∈ st, e.2 ≠ []
  regexOfKey : ∀ e ∈ st, ∀ r ∈ e.2, r.regex = e.1
  opsNodup : ∀ e ∈ st, (e.2.map (·.operation)).Nodup
  starFirst : ∀ e ∈ st, ∀ (i : Nat) r, e.2[i]? = some r → r.operation = Tables.allOpsKey → i = 0
  supported : ∀ e ∈ st, ∀ r ∈ e.2, r.operation = Tables.allOpsKey ∨ r.alg = Tables.algNoQuantize ∨
    Policy.accepts r.alg r.operation r.cfg = true

theorem upsert_of_not_mem (rules : List Rule) (r : Rule)
    (h : r.operation ∉ rules.map (·.operation)) : upsert rules r = rules ++ [r] := by
  refine if_neg fun h' => ?_
  obtain ⟨e, he, heq⟩ := List.any_eq_true.mp h'
  exact h (List.mem_map.mpr ⟨e, he, beq_iff_eq.mp heq⟩)

theorem upsert_cases (rules : List Rule) (r : Rule) :
    (r.operation ∈ rules.map (·.operation) ∧
      upsert rules r = rules.map fun e => if e.operation == r.operation then r else e) ∨
    (r.operation ∉ rules.map (·.operation) ∧ upsert rules r = rules ++ [r]) := by
  by_cases h : r.operation ∈ rules.map (·.operation)
  · obtain ⟨e, he, heq⟩ := List.mem_map.mp h
    have hany : rules.any (·.operation == r.operation) = true :=
      List.any_eq_true.mpr ⟨e, he, beq_iff_eq.mpr heq⟩
    exact .inl ⟨h, if_pos hany⟩
  · exact .inr ⟨h, upsert_of_not_mem _ _ h⟩

theorem mem_upsert (rules : List Rule) (r r' : Rule) :
    r' ∈ upsert rules r ↔ r' = r ∨ (r' ∈ rules ∧ r'.operation ≠ r.operation) := by
  rcases upsert_cases rules r with ⟨hm, heq⟩ | ⟨hm, heq⟩
  · rw [heq, List.mem_map]
    constructor
    · rintro ⟨e, he, rfl⟩
      by_cases hop : e.operation = r.operation
      · exact .inl (if_pos (beq_iff_eq.mpr hop))
      · rw [if_neg (fun h => hop (beq_iff_eq.mp h))]
        exact .inr ⟨he, hop⟩
    · rintro (rfl | ⟨hin, hne⟩)
      · obtain ⟨e, he, heq'⟩ := List.mem_map.mp hm
        exact ⟨e, he, if_pos (beq_iff_eq.mpr heq')⟩
      · exact ⟨r', hin, if_neg fun h => hne (beq_iff_eq.mp h)⟩
  · rw [heq, List.mem_append, List.mem_singleton]
    exact ⟨fun h => h.elim (fun h => .inr ⟨h, fun h' => hm (h' ▸ List.mem_map_of_mem h)⟩) .inl,
      fun h => h.elim .inr fun h => .inl h.1⟩

def stepOf (st : State) (c : Cmd) : State :=
  match add st c.regex c.op c.cfg c.alg with | .ok st' => st' | .error _ => st

theorem run_snoc (cs : List Cmd) (c : Cmd) : run (cs ++ [c]) = stepOf (run cs) c := by
  simp only [run, List.foldl_append, List.foldl_cons, List.foldl_nil, stepOf]

theorem accepted_iff (c : Cmd) :
    accepted c = true ↔ c.op = Tables.allOpsKey ∨ c.alg = Tables.algNoQuantize ∨
      Policy.accepts c.alg c.op (c.cfg.getD {}) = true := by
  simp only [accepted, Bool.or_eq_true, beq_iff_eq, or_assoc]

def newRules (old : Option (List Rule)) (c : Cmd) : List Rule :=
  match old with
  | some rules => if c.op = Tables.allOpsKey then [ruleOf c] else upsert rules (ruleOf c)
  | none => [ruleOf c]

theorem newRules_none (c : Cmd) : newRules none c = [ruleOf c] := rfl

theorem newRules_some (old : List Rule) (c : Cmd) :
    newRules (some old) c = if c.op = Tables.allOpsKey then [ruleOf c] else upsert old (ruleOf c) := rfl

theorem add_rejected (st : State) (c : Cmd) (hacc : accepted c = false) :
    add st c.regex c.op c.cfg c.alg = .error .valueError := by
  simp only [accepted, Bool.or_eq_false_iff] at hacc
  simp only [add, hacc.1.1, bne, hacc.1.2, hacc.2, Bool.not_false, Bool.and_self, Bool.false_eq_true, if_false,
    if_true]

theorem add_accepted (st : State) (c : Cmd) (hacc : accepted c = true) :
    add st c.regex c.op c.cfg c.alg =
      .ok (Py.dictSet st c.regex (newRules (Py.dictGet? st c.regex) c)) := by
  unfold add
  by_cases h1 : c.op = Tables.allOpsKey
  · rw [if_pos (beq_iff_eq.mpr h1)]
    cases Py.dictGet? st c.regex with
    | none => rfl
    | some old => rw [newRules_some, if_pos h1]; rfl
  · have h2 : (c.alg != Tables.algNoQuantize && !Policy.accepts c.alg c.op (c.cfg.getD {})) = false := by
      rcases (accepted_iff c).mp hacc with h | h | h
      · exact absurd h h1
      · rw [h]; exact Bool.and_eq_false_imp.mpr fun h' => absurd rfl (bne_iff_ne.mp h')
      · rw [h]; exact Bool.and_false _
    rw [if_neg (fun h => h1 (beq_iff_eq.mp h)), h2, if_neg Bool.false_ne_true]
    cases hg : Py.dictGet? st c.regex with
    | none => exact congrArg _ (Py.dictSet_of_not_mem st _ _ ((Py.dictGet?_eq_none_iff st _).1 hg)).symm
    | some old => rw [newRules_some, if_neg h1]; rfl

theorem stepOf_rejected (st : State) (c : Cmd) (hacc : accepted c = false) : stepOf st c = st := by
  rw [stepOf, add_rejected st c hacc]

theorem stepOf_accepted (st : State) (c : Cmd) (hacc : accepted c = true) :
    stepOf st c = Py.dictSet st c.regex (newRules (Py.dictGet? st c.regex) c) := by
  rw [stepOf, add_accepted st c hacc]

structure ScopeOK (k : String) (rules : List Rule) : Prop where
  nonempty : rules ≠ []
  regex : ∀ r ∈ rules, r.regex = k
  ops : (rules.map (·.operation)).Nodup
  star : ∀ (i : Nat) r, rules[i]? = some r → r.operation = Tables.allOpsKey → i = 0
  supp : ∀ r ∈ rules, r.operation = Tables.allOpsKey ∨ r.alg = Tables.algNoQuantize ∨
    Policy.accepts r.alg r.operation r.cfg = true

theorem stateInv_iff (st : State) :
    StateInv st ↔ (st.map (·.1)).Nodup ∧ ∀ e ∈ st, ScopeOK e.1 e.2 :=
  ⟨fun h => ⟨h.keysNodup, fun e he => ⟨h.scopeNonempty e he, h.regexOfKey e he, h.opsNodup e he,
      h.starFirst e he, h.supported e he⟩⟩,
    fun ⟨h1, h2⟩ => ⟨h1, fun e he => (h2 e he).nonempty, fun e he => (h2 e he).regex,
      fun e he => (h2 e he).ops, fun e he => (h2 e he).star, fun e he => (h2 e he).supp⟩⟩

theorem scopeOK_single (c : Cmd) (hacc : accepted c = true) : ScopeOK c.regex [ruleOf c] := by
  refine ⟨List.cons_ne_nil _ _, ?_, List.pairwise_singleton _ _, ?_, ?_⟩
  · intro r hr; rw [List.mem_singleton.mp hr]; rfl
  · intro i r hi _
    cases i with
    | zero => rfl
    | succ n => cases hi
  · intro r hr; rw [List.mem_singleton.mp hr]; exact (accepted_iff c).mp hacc

theorem scopeOK_upsert (k : String) (old : List Rule) (r : Rule) (hold : ScopeOK k old)
    (hr : r.regex = k) (hop : r.operation ≠ Tables.allOpsKey)
    (hs : r.alg = Tables.algNoQuantize ∨ Policy.accepts r.alg r.operation r.cfg = true) :
    ScopeOK k (upsert old r) := by
  have hmem := mem_upsert old r
  refine ⟨?_, ?_, ?_, ?_, ?_⟩
  · obtain ⟨e, he⟩ := List.exists_mem_of_ne_nil _ hold.nonempty
    by_cases h : e.operation = r.operation
    · exact List.ne_nil_of_mem ((hmem r).mpr (.inl rfl))
    · exact List.ne_nil_of_mem ((hmem e).mpr (.inr ⟨he, h⟩))
  · intro r' hr'
    rcases (hmem r').mp hr' with rfl | ⟨h, _⟩
    · exact hr
    · exact hold.regex r' h
  · rcases upsert_cases old r with ⟨_, heq⟩ | ⟨hn, heq⟩
    · -- replacing in place keeps the list of operations
      have : (old.map fun e => if e.operation == r.operation then r else e).map (·.operation) =
          old.map (·.operation) := by
        rw [List.map_map]
        refine List.map_congr_left fun e _ => ?_
        by_cases h : e.operation = r.operation
        · exact (congrArg _ (if_pos (beq_iff_eq.mpr h))).trans h.symm
        · exact congrArg _ (if_neg fun h' => h (beq_iff_eq.mp h'))
      rw [heq, this]; exact hold.ops
    · rw [heq, List.map_append, List.nodup_append]
      refine ⟨hold.ops, List.pairwise_singleton _ _, fun a ha b hb hab => hn ?_⟩
      have hb' : b = r.operation := List.mem_singleton.mp hb
      rw [← hb', ← hab]; exact ha
  · intro i x hi hx
    rcases upsert_cases old r with ⟨_, heq⟩ | ⟨_, heq⟩
    · rw [heq, List.getElem?_map] at hi
      obtain ⟨e, hoi, rfl⟩ := Option.map_eq_some_iff.mp hi
      refine hold.star i e hoi ?_
      by_cases he : e.operation = r.operation
      · rw [if_pos (beq_iff_eq.mpr he)] at hx; exact absurd hx hop
      · rwa [if_neg fun h => he (beq_iff_eq.mp h)] at hx
    · rw [heq] at hi
      rcases (List.getElem?_snoc old r x i).mp hi with h | ⟨_, rfl⟩
      · exact hold.star i x h hx
      · exact absurd hx hop
  · intro r' hr'
    rcases (hmem r').mp hr' with rfl | ⟨h, _⟩
    · exact Or.inr hs
    · exact hold.supp r' h

theorem scopeOK_newRules (st : State) (c : Cmd) (hinv : StateInv st) (hacc : accepted c = true) :
    ScopeOK c.regex (newRules (Py.dictGet? st c.regex) c) := by
  cases hg : Py.dictGet? st c.regex with
  | none => exact scopeOK_single c hacc
  | some old =>
    rw [newRules_some]
    by_cases h1 : c.op = Tables.allOpsKey
    · rw [if_pos h1]; exact scopeOK_single c hacc
    · rw [if_neg h1]
      refine scopeOK_upsert c.regex old (ruleOf c)
        (((stateInv_iff _).mp hinv).2 _ (Py.dictGet?_mem st _ _ hg)) rfl h1 ?_
      exact ((accepted_iff c).mp hacc).resolve_left h1

theorem stepOf_inv (st : State) (c : Cmd) (hinv : StateInv st) : StateInv (stepOf st c) := by
  cases hacc : accepted c with
  | false => rw [stepOf_rejected st c hacc]; exact hinv
  | true =>
    have hok := scopeOK_newRules st c hinv hacc
    rw [stepOf_accepted st c hacc]
    rw [stateInv_iff] at hinv ⊢
    refine ⟨Py.nodup_dictSet st _ _ hinv.1, fun e he => ?_⟩
    rcases Py.mem_dictSet st _ _ e he with h | rfl
    · exact hinv.2 e h
    · exact hok

theorem run_inv (cmds : List Cmd) : StateInv (run cmds) := by
  induction cmds using List.rev_ind with
  | nil => exact ⟨List.nodup_nil, nofun, nofun, nofun, nofun, nofun⟩
  | snoc cs c ih => rw [run_snoc]; exact stepOf_inv _ c ih

theorem mem_stepOf (st : State) (c : Cmd) (hinv : StateInv st) (hacc : accepted c = true) (r' : Rule) :
    r' ∈ (stepOf st c).flatMap (·.2) ↔
      r' = ruleOf c ∨ (r' ∈ st.flatMap (·.2) ∧
        ¬ (r'.regex = c.regex ∧ (c.op = Tables.allOpsKey ∨ c.op = r'.operation))) := by
  have hother : (∃ e, (e ∈ st ∧ e.1 ≠ c.regex) ∧ r' ∈ e.2) ↔ r' ∈ st.flatMap (·.2) ∧ r'.regex ≠ c.regex := by
    rw [List.mem_flatMap]
    exact ⟨fun ⟨e, ⟨he, hne⟩, hr⟩ => ⟨⟨e, he, hr⟩, by rw [hinv.regexOfKey e he r' hr]; exact hne⟩,
      fun ⟨⟨e, he, hr⟩, hne⟩ => ⟨e, ⟨he, by rw [← hinv.regexOfKey e he r' hr]; exact hne⟩, hr⟩⟩
  rw [stepOf_accepted st c hacc, List.mem_flatMap]
  simp only [Py.mem_dictSet_iff st hinv.keysNodup, or_and_right, exists_or, exists_eq_left, hother]
  cases hg : Py.dictGet? st c.regex with
  | none =>
    -- a new scope: no stored rule has this regex
    have hno : r' ∈ st.flatMap (·.2) → r'.regex ≠ c.regex := by
      intro hr h
      obtain ⟨e, he, hre⟩ := List.mem_flatMap.mp hr
      refine (Py.dictGet?_eq_none_iff st c.regex).1 hg (List.mem_map.mpr ⟨e, he, ?_⟩)
      rw [← hinv.regexOfKey e he r' hre, h]
    rw [newRules_none, List.mem_singleton]
    exact or_congr_right ⟨fun h => ⟨h.1, fun hh => h.2 hh.1⟩, fun h => ⟨h.1, hno h.1⟩⟩
  | some old =>
    have hold : r' ∈ old → r' ∈ st.flatMap (·.2) ∧ r'.regex = c.regex := fun h =>
      have he := Py.dictGet?_mem st _ _ hg
      ⟨List.mem_flatMap.mpr ⟨_, he, h⟩, hinv.regexOfKey _ he r' h⟩
    have hold' : r' ∈ st.flatMap (·.2) → r'.regex = c.regex → r' ∈ old := by
      intro hr h
      obtain ⟨e, he, hre⟩ := List.mem_flatMap.mp hr
      obtain ⟨k, rules⟩ := e
      have hk : k = c.regex := by rw [← h]; exact (hinv.regexOfKey _ he r' hre).symm
      subst hk
      rw [(Py.mem_iff_dictGet? st hinv.keysNodup _ _).1 he] at hg
      exact Option.some.inj hg ▸ hre
    rw [newRules_some]
    by_cases h1 : c.op = Tables.allOpsKey
    · rw [if_pos h1, List.mem_singleton]
      exact or_congr_right ⟨fun h => ⟨h.1, fun hh => h.2 hh.1⟩, fun h => ⟨h.1, fun hh => h.2 ⟨hh, .inl h1⟩⟩⟩
    · rw [if_neg h1, mem_upsert]
      constructor
      · rintro ((h | ⟨h, hop⟩) | h)
        · exact .inl h
        · exact .inr ⟨(hold h).1, fun hh => hh.2.elim h1 fun hh => hop hh.symm⟩
        · exact .inr ⟨h.1, fun hh => h.2 hh.1⟩
      · rintro (h | ⟨h, hne⟩)
        · exact .inl (.inl h)
        · by_cases hreg : r'.regex = c.regex
          · exact .inl (.inr ⟨hold' h hreg, fun hh => hne ⟨hreg, .inr hh.symm⟩⟩)
          · exact .inr ⟨h, hreg⟩

theorem overrides_eq_false (c' c : Cmd) :
    overrides c' c = false ↔
      ¬ ((ruleOf c).regex = c'.regex ∧ (c'.op = Tables.allOpsKey ∨ c'.op = (ruleOf c).operation)) := by
  rw [← Bool.not_eq_true]
  simp only [overrides, Bool.and_eq_true, Bool.or_eq_true, beq_iff_eq]
  exact not_congr (and_congr_left fun _ => eq_comm)

theorem mem_run_iff (cmds : List Cmd) (r : Rule) :
    r ∈ (run cmds).flatMap (·.2) ↔
      ∃ (i : Nat) (c : Cmd), cmds[i]? = some c ∧ accepted c = true ∧ ruleOf c = r ∧
        ∀ (j : Nat) (c' : Cmd), i < j → cmds[j]? = some c' → accepted c' = true → overrides c' c = false := by
  induction cmds using List.rev_ind with
  | nil => exact ⟨(nomatch ·), fun ⟨_, _, h, _⟩ => nomatch h⟩
  | snoc cs c ih =>
    rw [run_snoc]
    cases hacc : accepted c with
    | false =>
      rw [stepOf_rejected _ c hacc, ih]
      constructor
      · rintro ⟨i, c0, hi, ha, hr, hlater⟩
        refine ⟨i, c0, (List.getElem?_snoc cs c c0 i).mpr (Or.inl hi), ha, hr, ?_⟩
        intro j c' hij hj ha'
        rcases (List.getElem?_snoc cs c c' j).mp hj with h | ⟨_, h⟩
        · exact hlater j c' hij h ha'
        · subst h; rw [hacc] at ha'; cases ha'
      · rintro ⟨i, c0, hi, ha, hr, hlater⟩
        rcases (List.getElem?_snoc cs c c0 i).mp hi with h | ⟨_, h⟩
        · refine ⟨i, c0, h, ha, hr, ?_⟩
          intro j c' hij hj ha'
          exact hlater j c' hij ((List.getElem?_snoc cs c c' j).mpr (Or.inl hj)) ha'
        · subst h; rw [hacc] at ha; cases ha
    | true =>
      -- after an accepted call: its own rule, and the earlier rules it does not override
      rw [mem_stepOf _ c (run_inv cs) hacc, ih]
      constructor
      · rintro (h | ⟨⟨i, c0, hi, ha, hr, hlater⟩, hno⟩)
        · refine ⟨cs.length, c, (List.getElem?_snoc cs c c _).mpr (Or.inr ⟨rfl, rfl⟩), hacc, h.symm, ?_⟩
          intro j c' hij hj _
          rcases (List.getElem?_snoc cs c c' j).mp hj with h' | ⟨h', _⟩
          · exact absurd (List.getElem?_eq_some_iff.mp h').1 (Nat.not_lt_of_gt hij)
          · exact absurd h' (Nat.ne_of_gt hij)
        · refine ⟨i, c0, (List.getElem?_snoc cs c c0 i).mpr (Or.inl hi), ha, hr, ?_⟩
          intro j c' hij hj ha'
          rcases (List.getElem?_snoc cs c c' j).mp hj with h | ⟨_, h⟩
          · exact hlater j c' hij h ha'
          · subst h; subst hr
            exact (overrides_eq_false c' c0).mpr hno
      · rintro ⟨i, c0, hi, ha, hr, hlater⟩
        rcases (List.getElem?_snoc cs c c0 i).mp hi with h | ⟨_, h⟩
        · right
          have hil : i < cs.length := (List.getElem?_eq_some_iff.mp h).1
          refine ⟨⟨i, c0, h, ha, hr, ?_⟩, ?_⟩
          · intro j c' hij hj ha'
            exact hlater j c' hij ((List.getElem?_snoc cs c c' j).mpr (Or.inl hj)) ha'
          · subst hr
            exact (overrides_eq_false c c0).mp
              (hlater cs.length c hil ((List.getElem?_snoc cs c c _).mpr (Or.inr ⟨rfl, rfl⟩)) hacc)
        · left; subst h; exact hr.symm

/-- the `add` call replayed by `loadFrom` for an exported rule -/
def cmdOf (r : Rule) : Cmd := ⟨r.regex, r.operation, some r.cfg, r.alg⟩

theorem ruleOf_cmdOf (r : Rule) : ruleOf (cmdOf r) = r := by cases r; rfl

theorem accepted_cmdOf (k : String) (rules : List Rule) (hok : ScopeOK k rules) (r : Rule) (hr : r ∈ rules) :
    accepted (cmdOf r) = true :=
  (accepted_iff _).mpr (hok.supp r hr)

def replay (st : State) (rs : List Rule) : State := rs.foldl (fun s r => stepOf s (cmdOf r)) st

theorem loadFrom_export (rs : List Rule) : ∀ (st : State), (∀ r ∈ rs, ctorOk r.cfg = true) →
    (∀ r ∈ rs, accepted (cmdOf r) = true) →
    loadFrom false st (rs.map ruleToJ) = (.ok (replay st rs), replay st rs) := by
  induction rs with
  | nil => intro st _ _; rfl
  | cons r rs ih =>
    intro st hc ha
    have hacc := ha r List.mem_cons_self
    rw [List.map_cons, loadFrom_rule_cons r (hc r List.mem_cons_self),
      show add st r.regex r.operation (some r.cfg) r.alg = .ok (stepOf st (cmdOf r)) from
        (add_accepted st (cmdOf r) hacc).trans (congrArg _ (stepOf_accepted st (cmdOf r) hacc).symm)]
    exact ih _ (fun r' hr' => hc r' (List.mem_cons_of_mem _ hr')) (fun r' hr' => ha r' (List.mem_cons_of_mem _ hr'))

theorem stepOf_last (pre : State) (k : String) (done : List Rule) (r : Rule) (hk : k ∉ pre.map (·.1))
    (hreg : r.regex = k) (hacc : accepted (cmdOf r) = true) (hop : r.operation ≠ Tables.allOpsKey)
    (hfresh : r.operation ∉ done.map (·.operation)) :
    stepOf (pre ++ [(k, done)]) (cmdOf r) = pre ++ [(k, done ++ [r])] := by
  rw [stepOf_accepted _ _ hacc, show (cmdOf r).regex = k from hreg, Py.dictGet?_append_cons pre [] k done hk,
    Py.dictSet_append_cons pre [] k done _ hk, newRules_some, if_neg (show ¬ (cmdOf r).op = _ from hop), ruleOf_cmdOf,
    upsert_of_not_mem done r hfresh]

theorem replay_scope_rest (pre : State) (k : String) (rest : List Rule) :
    ∀ (done : List Rule), k ∉ pre.map (·.1) → ScopeOK k (done ++ rest) → done ≠ [] →
      replay (pre ++ [(k, done)]) rest = pre ++ [(k, done ++ rest)] := by
  induction rest with
  | nil => intro done _ _ _; rw [List.append_nil]; rfl
  | cons r rest ih =>
    intro done hk hok hdone
    have hr : r ∈ done ++ r :: rest := List.mem_append_right _ List.mem_cons_self
    have hget : (done ++ r :: rest)[done.length]? = some r := by
      rw [List.getElem?_append_right (Nat.le_refl _), Nat.sub_self]; rfl
    have hop : r.operation ≠ Tables.allOpsKey := fun h =>
      hdone (List.eq_nil_of_length_eq_zero (hok.star done.length r hget h))
    have hfresh : r.operation ∉ done.map (·.operation) := by
      have := hok.ops
      rw [List.map_append, List.nodup_append] at this
      exact fun hm => this.2.2 _ hm _ List.mem_cons_self rfl
    show replay (stepOf _ (cmdOf r)) rest = _
    rw [stepOf_last pre k done r hk (hok.regex r hr) (accepted_cmdOf k _ hok r hr) hop hfresh,
      ih (done ++ [r]) hk (by rwa [List.append_assoc]) (List.append_ne_nil_of_right_ne_nil _ (List.cons_ne_nil _ _)),
      List.append_assoc]
    rfl

theorem replay_scope (pre : State) (k : String) (rules : List Rule)
    (hk : k ∉ pre.map (·.1)) (hok : ScopeOK k rules) : replay pre rules = pre ++ [(k, rules)] := by
  cases rules with
  | nil => exact absurd rfl hok.nonempty
  | cons r rest =>
    have hacc := accepted_cmdOf k _ hok r List.mem_cons_self
    show replay (stepOf pre (cmdOf r)) rest = _
    rw [stepOf_accepted _ _ hacc, show (cmdOf r).regex = k from hok.regex r List.mem_cons_self,
      (Py.dictGet?_eq_none_iff pre k).2 hk, Py.dictSet_of_not_mem pre k _ hk, newRules_none, ruleOf_cmdOf]
    exact replay_scope_rest pre k rest [r] hk hok (List.cons_ne_nil _ _)

theorem replay_all (post : State) :
    ∀ (pre : State), StateInv (pre ++ post) → replay pre (post.flatMap (·.2)) = pre ++ post := by
  induction post with
  | nil => intro pre _; rw [List.append_nil]; rfl
  | cons e post ih =>
    intro pre hinv
    obtain ⟨k, rules⟩ := e
    have hinv' := (stateInv_iff _).mp hinv
    have hk : k ∉ pre.map (·.1) := by
      have := hinv'.1
      rw [List.map_append, List.nodup_append] at this
      exact fun hm => this.2.2 _ hm _ List.mem_cons_self rfl
    have hok : ScopeOK k rules := hinv'.2 (k, rules) (List.mem_append_right _ List.mem_cons_self)
    rw [List.flatMap_cons, replay, List.foldl_append]
    show replay (replay pre rules) _ = _
    rw [replay_scope pre k rules hk hok, List.append_cons pre (k, rules) post]
    exact ih _ (List.append_cons pre _ _ ▸ hinv)

theorem replay_nil (rs : List Rule) : replay [] rs = run (rs.map cmdOf) := List.foldl_map.symm

/-- the invariant is exact: a state that satisfies it is reached by replaying its own rules, scope by scope
    (the converse of `run_inv`) -/
theorem run_export (st : State) (hinv : StateInv st) : run ((st.flatMap (·.2)).map cmdOf) = st :=
  (replay_nil _).symm.trans (replay_all st [] hinv)

/-- **C12, state reload**: a recipe exported from a state satisfying the reachable-state invariant
    (all of whose configs pass the constructor) loads back to exactly that state -/
theorem reload_state (st : State) (hinv : StateInv st)
    (hctor : ∀ e ∈ st, ∀ r ∈ e.2, ctorOk r.cfg = true) :
    load false (getRecipe st) = (.ok st, st) := by
  have hmem : ∀ r ∈ st.flatMap (·.2), ∃ e ∈ st, r ∈ e.2 := fun r hr => List.mem_flatMap.1 hr
  rw [load, show getRecipe st = (st.flatMap (·.2)).map ruleToJ from (List.map_flatMap ..).symm,
    loadFrom_export _ [] (fun r hr => let ⟨e, he, hre⟩ := hmem r hr; hctor e he r hre)
      (fun r hr => let ⟨e, he, hre⟩ := hmem r hr; (accepted_iff _).mpr (hinv.supported e he r hre)),
    replay_nil, run_export st hinv]

theorem reload_reachable (cmds : List Cmd) (hctor : ∀ c ∈ cmds, ctorOk (c.cfg.getD {}) = true) :
    load false (getRecipe (run cmds)) = (.ok (run cmds), run cmds) := by
  apply reload_state _ (run_inv cmds)
  intro e he r hr
  have hmem : r ∈ (run cmds).flatMap (·.2) := List.mem_flatMap.mpr ⟨e, he, hr⟩
  obtain ⟨i, c, hi, _, hrc, _⟩ := (mem_run_iff cmds r).mp hmem
  rw [← hrc]
  exact hctor c (List.mem_of_getElem? hi)

end RecipeHistory
