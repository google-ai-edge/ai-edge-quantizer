import QProofs.MatLoop
import QProofs.GenInstsOK
/-!
# Raise sites of the loop of `Mat.generate` (C08)

`GenSite` (the stage) over `StepSite` (one entry of the operator list; `MatLoop`); `generate_sited` is the inventory: every
error of `Mat.generate` sits at a site.  The sites of the functions below the loop are in `MatSites`.
-/
open Graph Mat Pipe

set_option autoImplicit false

namespace MatTotal

inductive GenSite (rx : String → String → Bool) (env : Env) (st : Recipe.State) (qsvs : Option Qsvs) : Bool → PyErr → Prop
  /-- the model is already quantized (ValueError) -/
  | notFloat : (env.model.subgraphs.any fun sg => sg.tensors.any (·.quant.isSome)) = true →
      GenSite rx env st qsvs false .valueError
  /-- two tensors of the model have the same name (ValueError) -/
  | dupNames : ¬ GenInstsOK.namesUnique env.model → GenSite rx env st qsvs false .valueError
  /-- the recipe needs calibration and no statistics were given (RuntimeError) -/
  | noStats : Recipe.needCalibration st = true → qsvs = none → GenSite rx env st qsvs false .runtimeError
  /-- at one entry of the operator list (a `StepSite`), from the state reached on the entries before it -/
  | atOp (num : Bool) (pre post : List ((Subgraph × Nat) × (Op × Option String × Int))) (sg : Subgraph) (sIdx : Nat)
      (q : Op × Option String × Int) (s : GState) (e : PyErr) : flatOps env.model = pre ++ ((sg, sIdx), q) :: post →
      Reach rx env st qsvs pre s → StepSite rx env st sIdx sg s.1 s.2 q num e → GenSite rx env st qsvs num e
  /-- `_check_buffer_sharing` refuses the result dictionary -/
  | sharing (s : GState) (e : PyErr) : Reach rx env st qsvs (flatOps env.model) s →
      checkBufferSharing env.model s.2 = .error e → GenSite rx env st qsvs false e
  /-- the unread-constant check refuses the result dictionary -/
  | unreadOwn (s : GState) (e : PyErr) : Reach rx env st qsvs (flatOps env.model) s →
      checkBufferSharing env.model s.2 = .ok () → checkUnreadOwn env.model s.2 = .error e → GenSite rx env st qsvs false e

theorem generate_sited (rx : String → String → Bool) (env : Env) (st : Recipe.State) (qsvs : Option Qsvs) :
    Sited (AnySite (GenSite rx env st qsvs)) (Mat.generate rx env st qsvs) := by
  rw [Pipe.generate_eq]
  refine Sited.ite _ (fun h => Sited.error ⟨_, .notFloat h⟩) (fun _ => ?_)
  refine Sited.ite _ (fun h => Sited.error ⟨_, .dupNames ?_⟩) (fun _ => ?_)
  · intro hn
    unfold GenInstsOK.namesUnique at hn
    simp only [hn, decide_true, Bool.not_true, Bool.false_eq_true] at h
  refine Sited.ite _ (fun h => Sited.error ?_) (fun _ => ?_)
  · simp only [Bool.and_eq_true, Option.isNone_iff_eq_none] at h
    exact ⟨_, .noStats h.1 h.2⟩
  rw [generateLoop_flat]
  cases hf : (flatOps env.model).foldlM (flatStep rx env st) (qsvs.getD [], []) with
  | error e =>
    simp only [bind, Except.bind]
    refine Sited.error ?_
    obtain ⟨pre, x, post, s, hl, hpre, hx⟩ := PyM.foldlM_error_split _ _ _ _ hf
    obtain ⟨⟨sg, sIdx⟩, q⟩ := x
    obtain ⟨num, hsite⟩ := opStep_sited rx env st sIdx sg s q e hx
    exact ⟨num, .atOp num pre post sg sIdx q s e hl hpre hsite⟩
  | ok s =>
    simp only [bind, Except.bind]
    cases hc : checkBufferSharing env.model s.2 with
    | error e => exact Sited.error ⟨_, .sharing s e hf hc⟩
    | ok u =>
      cases hc2 : checkUnreadOwn env.model s.2 with
      | error e => exact Sited.error ⟨_, .unreadOwn s e hf hc hc2⟩
      | ok u2 => exact Sited.ok _

end MatTotal
