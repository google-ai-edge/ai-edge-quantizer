import QProofs.PipeMat
import QProps.C11
import QProofs.PipeUpdate
/-!
# The result dictionary of `Mat.generate` satisfies `EntryOK`

Per-operator shape (`materializeOp_reqs`, `noQuantOp_reqs`) + preservation by `updateResults` (`stepF_inv`),
as an invariant of the loop (`generate_inv`).
-/
open Graph Mat Cfg GenInstsOK GraphStep PipeNF MatTotal

namespace Pipe

/-- hypotheses on the input used by the materialisation stage (= `PipelineWF.NF` without `tagged`) -/
structure GenHyp (env : Env) (st : Recipe.State) : Prop where
  wf : WF.modelOK env.model = true
  noBlockwise : ∀ e ∈ st, ∀ r ∈ e.2, ∀ w, r.cfg.weight = some w → w.gran ≠ Gran.blockwise
  inputsNotConst : ∀ sg ∈ env.model.subgraphs, ∀ t ∈ sg.inputs, isConst env.model sg t = false
  slotRoles : ∀ sg ∈ env.model.subgraphs, ∀ op ∈ sg.ops, ∀ k, OpNamed env.model op k →
    ∀ (i j : Nat) a, op.inputs[i]? = some a → op.inputs[j]? = some a → a ≠ -1 → slotRole k i = slotRole k j
  constWeight : ∀ sg ∈ env.model.subgraphs, ∀ op ∈ sg.ops, ∀ k, OpNamed env.model op k →
    ∀ b a, biasSlot k = some b → op.inputs[1]? = some a → op.inputs[dataSlot k]? = some a → a ≠ -1 →
      isConst env.model sg a = false
  mandatory : ∀ sg ∈ env.model.subgraphs, ∀ op ∈ sg.ops, ∀ k, OpNamed env.model op k →
    ∀ b, biasSlot k = some b → (∀ i < b, op.inputs[i]? ≠ some (-1)) ∧ op.outputs[0]? ≠ some (-1)

theorem resolve_noBlockwise (rx : String → String → Bool) (st : Recipe.State) (k scope : String)
    (h : ∀ e ∈ st, ∀ r ∈ e.2, ∀ w, r.cfg.weight = some w → w.gran ≠ Gran.blockwise) :
    NoBlockwise (Recipe.resolve rx st k scope).2 :=
  C11.resolve_cfg NoBlockwise rx st k scope (fun _ hw => nomatch hw) h

theorem opHyp_pseudo (m : Model) (sg : Subgraph) (op : Op) (k : String) (h1 : indexSlots k = [])
    (h2 : biasSlot k = none) : OpHyp m sg op k := by
  refine ⟨?_, ?_, ?_⟩
  · intro i j a _ _ _
    unfold slotRole
    rw [h1, h2]
    simp
  · intro b a hb; rw [h2] at hb; cases hb
  · intro b hb; rw [h2] at hb; cases hb

theorem keyOf_real (env : Env) (op : Op) (j : Int) (k : String)
    (h : keyOf env (op, none, j) = .ok (some k)) : OpNamed env.model op k := by
  unfold keyOf at h
  simp only [] at h
  split at h
  · cases h
  · rename_i code hc
    simp only [pure, Except.pure, Except.ok.injEq] at h
    exact ⟨code, hc, h⟩

theorem opReqs_core (rx : String → String → Bool) (env : Env) (st : Recipe.State) (hg : GenHyp env st)
    (sIdx : Nat) (sg : Subgraph) (qs : Qsvs) (q : Op × Option String × Int) (rs : List CReq) (qs' : Qsvs)
    (hnames : (sg.tensors.map (·.name)).Nodup)
    (hin : SlotsValid sg q.1.inputs) (hout : SlotsValid sg q.1.outputs)
    (houtNC : ∀ a ∈ q.1.outputs, a ≠ -1 → isConst env.model sg a = false)
    (hop : ∀ k, keyOf env q = .ok (some k) → OpHyp env.model sg q.1 k)
    (h : opReqs rx env st sIdx sg qs q = .ok (rs, qs')) : OpReqs env.model sg q.1 q.2.2 rs := by
  rcases opReqs_ok h with ⟨hn, -⟩ | ⟨k, scope, ops, fn, ⟨hk, -, -, hops, hfn⟩, hrun⟩
  · exact noQuantOp_reqs _ sg _ _ _ hin hout hn
  · rw [← materializeOp_kind] at hrun
    exact materializeOp_reqs env sg qs _ _ fn rs qs' ops hops hfn hnames hin hout
      (resolve_noBlockwise rx st k scope hg.noBlockwise) houtNC (hop k hk) hrun

/-- one entry of the operator list of a well-formed subgraph: a real operator, INPUT or OUTPUT -/
theorem allOps_entry (rx : String → String → Bool) (env : Env) (st : Recipe.State) (hg : GenHyp env st)
    (sIdx : Nat) (sg : Subgraph) (hmem : sg ∈ env.model.subgraphs) (hSg : SgOK env.model sg)
    (q : Op × Option String × Int) (hq : q ∈ allOps sg) :
    (∀ qs rs qs', opReqs rx env st sIdx sg qs q = .ok (rs, qs') → OpReqs env.model sg q.1 q.2.2 rs) ∧
    (∀ i : Nat, (i : Int) ∈ q.1.inputs → ConsumedAt sg i q.2.2) ∧
    (∀ i : Nat, (i : Int) ∈ q.1.outputs → ProducedAt sg i q.2.2) := by
  rcases mem_allOps_iff.1 hq with ⟨j, op, hop, rfl⟩ | rfl | rfl
  · have hO := hSg.ops j op hop
    have hopm : op ∈ sg.ops := List.mem_of_getElem? hop
    refine ⟨fun qs rs qs' hr => ?_, fun i hi => .inl ⟨Int.natCast_nonneg j, op, by simpa using hop, hi⟩,
      fun i hi => .inl ⟨Int.natCast_nonneg j, op, by simpa using hop, hi⟩⟩
    refine opReqs_core rx env st hg sIdx sg qs _ rs qs' hSg.names
      (fun a ha => (hO.ins a ha).imp id (·.1)) (fun a ha => (hO.outs a ha).imp id (·.1))
      (fun a ha hne => ((hO.outs a ha).resolve_left hne).2.2.1) (fun k hk => ?_) hr
    have hn := keyOf_real env op _ k hk
    exact ⟨hg.slotRoles sg hmem op hopm k hn, hg.constWeight sg hmem op hopm k hn, hg.mandatory sg hmem op hopm k hn⟩
  · refine ⟨fun qs rs qs' hr => ?_, fun i hi => (by cases hi), fun i hi => .inr ⟨rfl, hi⟩⟩
    refine opReqs_core rx env st hg sIdx sg qs _ rs qs' hSg.names (fun a ha => (by cases ha))
      (fun a ha => .inr (hSg.ins a ha)) (fun a ha _ => hg.inputsNotConst sg hmem a ha) (fun k hk => ?_) hr
    cases PyM.pure_eq_ok_iff.1 hk
    exact opHyp_pseudo _ _ _ _ (by decide) (by decide)
  · refine ⟨fun qs rs qs' hr => ?_, fun i hi => .inr ⟨rfl, hi⟩, fun i hi => (by cases hi)⟩
    refine opReqs_core rx env st hg sIdx sg qs _ rs qs' hSg.names (fun a ha => .inr (hSg.outs a ha))
      (fun a ha => (by cases ha)) (fun a ha => (by cases ha)) (fun k hk => ?_) hr
    cases PyM.pure_eq_ok_iff.1 hk
    exact opHyp_pseudo _ _ _ _ (by decide) (by decide)

/-- the bookkeeping argument of `EntryOK` during the loop: `D` holds of the operator ids of subgraph `sIdx` walked so far -/
def WkAt (m : Model) (sIdx : Nat) (D : Int → Prop) (n : String) (c : CO2T) : Prop :=
  ∀ s sg i, Loc m n s sg i → s < sIdx ∨ (s = sIdx ∧ D c.opId)

theorem step_gen (rx : String → String → Bool) (env : Env) (st : Recipe.State)
    (hnu : namesUnique env.model) (sIdx : Nat) (sg : Subgraph) (hsg : env.model.subgraphs[sIdx]? = some sg)
    (q : Op × Option String × Int) (D D' : Int → Prop)
    (hreqs : ∀ qs rs qs', opReqs rx env st sIdx sg qs q = .ok (rs, qs') → OpReqs env.model sg q.1 q.2.2 rs)
    (hcons : ∀ i : Nat, (i : Int) ∈ q.1.inputs → ConsumedAt sg i q.2.2)
    (hprod : ∀ i : Nat, (i : Int) ∈ q.1.outputs → ProducedAt sg i q.2.2)
    (hfr : ¬ D q.2.2) (hDD' : ∀ o, D o → D' o) (hnew : ∀ i : Nat, (i : Int) ∈ q.1.inputs → D' q.2.2)
    (s s' : GState) (hInv : ∀ e ∈ s.2, EntryOK env.model (WkAt env.model sIdx D) e.1 e.2)
    (h : opStep rx env st sIdx sg s q = .ok s') :
    ∀ e ∈ s'.2, EntryOK env.model (WkAt env.model sIdx D') e.1 e.2 := by
  obtain ⟨rs, hr, hu⟩ := opStep_ok rx env st sIdx sg s s' q h
  have hR := hreqs _ _ _ hr
  have hlocOf : ∀ r ∈ rs, ∃ i, Loc env.model r.name sIdx sg i := by
    intro r hr
    obtain ⟨i, t, ht, hn, _⟩ := hR.each r hr
    exact ⟨i, hsg, t, ht, hn.symm⟩
  have hfresh : ∀ r ∈ rs, ∀ c, WkAt env.model sIdx D r.name c → c.opId ≠ q.2.2 := by
    intro r hr c hW heq
    obtain ⟨i, hloc⟩ := hlocOf r hr
    rcases hW sIdx sg i hloc with h | ⟨_, h⟩
    · omega
    · exact hfr (heq ▸ h)
  have := updateResults_inv' env.model hnu sIdx sg hsg q.1 q.2.2 rs hR hcons hprod _ hfresh s.2 s'.2 hInv hu
  intro e he
  refine (this e he).mono ?_
  rintro c (hW | ⟨r0, hr0, hn0, hc0⟩)
  · intro s1 sg1 i1 hloc
    rcases hW s1 sg1 i1 hloc with h | ⟨h1, h2⟩
    · exact .inl h
    · exact .inr ⟨h1, hDD' _ h2⟩
  · intro s1 sg1 i1 hloc
    obtain ⟨i, t, ht, hname, hform⟩ := hR.each r0 hr0
    have hloc0 : Loc env.model e.1 sIdx sg i := ⟨hsg, t, ht, hname.symm.trans hn0⟩
    obtain ⟨hs, _, _⟩ := loc_unique env.model hnu e.1 s1 sIdx sg1 sg i1 i hloc hloc0
    rcases hform with ⟨_, c', hc', hcid, him, _⟩ | ⟨hcn, _⟩
    · rw [hc0] at hc'
      simp only [Option.some.injEq, List.cons.injEq, and_true] at hc'
      subst hc'
      exact .inr ⟨hs, hcid ▸ hnew i him⟩
    · rw [hc0] at hcn; cases hcn

/-- position `j` of the operator list holds the real operator with id `j`, or a pseudo-operator (id `-1`): INPUT, which
    has no operands, or OUTPUT, the last entry -/
theorem allOps_getElem? {sg : Subgraph} {j : Nat} {q : Op × Option String × Int} (h : (allOps sg)[j]? = some q) :
    q.2.2 = (j : Int) ∨ (q.2.2 = -1 ∧ (q.1.inputs = [] ∨ (allOps sg).length = j + 1)) := by
  rw [allOps_eq_append] at h ⊢
  by_cases hj : j < sg.ops.length
  · rw [List.getElem?_append_left (by simpa using hj), List.getElem?_map, List.getElem?_zipIdx] at h
    obtain ⟨⟨op, k⟩, hk, rfl⟩ := Option.map_eq_some_iff.1 h
    obtain ⟨op', -, hk⟩ := Option.map_eq_some_iff.1 hk
    cases hk
    exact .inl (by simp)
  · rw [List.getElem?_append_right (by simpa using hj)] at h
    simp only [List.length_map, List.length_zipIdx] at h
    obtain ⟨d, hd⟩ : ∃ d, j = sg.ops.length + d := ⟨j - sg.ops.length, by omega⟩
    subst hd
    rw [Nat.add_sub_cancel_left] at h
    rcases d with _ | _ | d
    · cases h; exact .inr ⟨rfl, .inl rfl⟩
    · cases h; exact .inr ⟨rfl, .inr (by simp)⟩
    · cases h

/-- the operator ids walked after `j` entries of the operator list of subgraph `s`: the real operators before `j`,
    and `-1` (OUTPUT is the only pseudo-operator with operands) once the list is through -/
def Walked (m : Model) (s j : Nat) (o : Int) : Prop :=
  (0 ≤ o ∧ o < (j : Int)) ∨ (o = -1 ∧ ∀ sg, m.subgraphs[s]? = some sg → (allOps sg).length ≤ j)

/-- by `generate_inv`; the bookkeeping predicate says which operators have been walked -/
theorem generateLoop_entryOK (rx : String → String → Bool) (env : Env) (st : Recipe.State) (qsvs : Option Qsvs)
    (hg : GenHyp env st) (hnu : namesUnique env.model) (x : GState) (h : generateLoop rx env st qsvs = .ok x) :
    ∀ e ∈ x.2, EntryOK env.model (fun _ _ => True) e.1 e.2 := by
  have := generate_inv
    (fun s j (x : GState) => ∀ e ∈ x.2, EntryOK env.model (WkAt env.model s (Walked env.model s j)) e.1 e.2)
    (by intro e he; cases he) ?_ ?_ h
  · exact fun e he => (this e he).mono (fun _ _ => trivial)
  · intro s sg j q x x' hsg hq hI hstep
    have hmem : sg ∈ env.model.subgraphs := List.mem_of_getElem? hsg
    obtain ⟨hreqs, hcons, hprod⟩ := allOps_entry rx env st hg s sg hmem (((modelOK_iff _).1 hg.wf).2.1 sg hmem) q
      (List.mem_of_getElem? hq)
    have hlt : j < (allOps sg).length := (List.getElem?_eq_some_iff.1 hq).1
    have hpos := allOps_getElem? hq
    refine step_gen rx env st hnu s sg hsg q _ _ hreqs hcons hprod ?_ ?_ ?_ x x' hI hstep
    · rintro (⟨h0, h1⟩ | ⟨-, h1⟩)
      · rcases hpos with h | ⟨h, -⟩ <;> omega
      · exact absurd (h1 sg hsg) (by omega)
    · rintro o (⟨h0, h1⟩ | ⟨h0, h1⟩)
      · exact .inl ⟨h0, by omega⟩
      · exact .inr ⟨h0, fun sg' h' => Nat.le_succ_of_le (h1 sg' h')⟩
    · intro i hi
      rcases hpos with h | ⟨h, h' | h'⟩
      · exact .inl (by omega)
      · rw [h'] at hi; cases hi
      · exact .inr ⟨h, fun sg' hsg' => by cases hsg.symm.trans hsg'; omega⟩
  · intro s sg x _ hI e he
    refine (hI e he).mono ?_
    intro c hW s0 sg0 i0 hloc
    rcases hW s0 sg0 i0 hloc with h | ⟨h, -⟩ <;> exact .inl (by omega)

theorem generate_entryOK (rx : String → String → Bool) (env : Env) (st : Recipe.State) (qsvs : Option Qsvs)
    (reqs : List CReq) (hg : GenHyp env st) (h : Mat.generate rx env st qsvs = .ok reqs) :
    namesUnique env.model ∧ ∀ r ∈ reqs, EntryOK env.model (fun _ _ => True) r.name r := by
  obtain ⟨-, hnu, -, qs, res, hl, -, -, rfl⟩ := generate_ok_iff.1 h
  refine ⟨hnu, fun r hr => ?_⟩
  obtain ⟨e, he, rfl⟩ := List.mem_map.1 hr
  have hE := generateLoop_entryOK rx env st qsvs hg hnu (qs, res) hl e he
  rw [hE.name]
  exact hE

end Pipe

namespace ConstProv
open Pipe

/-- results of the operator are not constants -/
def OutNC (env : Env) (sg : Subgraph) (outs : List Int) : Prop :=
  ∀ p ∈ cslots outs, ∀ t, tensorAt sg p.1 = .ok t → constData env t = none

theorem OutNC.atSlot {env : Env} {sg : Subgraph} {op : Op} {t : Tensor} (h : OutNC env sg op.outputs)
    (ht : AtSlot sg op false t) : constData env t = none := by
  obtain ⟨a, ha, hne, hat⟩ := ht
  obtain ⟨i, hi⟩ := List.getElem?_of_mem ha
  exact h (a, i) ((mem_cslots _ _).2 ⟨hi, hne⟩) t hat


theorem outNC_allOps (env : Env) (st : Recipe.State) (hg : GenHyp env st) (sg : Subgraph)
    (hsg : sg ∈ env.model.subgraphs) (q : Op × Option String × Int) (hq : q ∈ allOps sg) :
    OutNC env sg q.1.outputs := by
  have hSg : SgOK env.model sg := ((modelOK_iff _).1 hg.wf).2.1 sg hsg
  have key : ∀ a ∈ q.1.outputs, a ≠ -1 → ValidT sg a ∧ isConst env.model sg a = false := by
    rcases mem_allOps_iff.1 hq with ⟨k, op, hop, rfl⟩ | rfl | rfl
    · intro a ha hne
      obtain ⟨hv, -, hc, -⟩ := ((hSg.ops k op hop).outs a ha).resolve_left hne
      exact ⟨hv, hc⟩
    · exact fun a ha _ => ⟨hSg.ins a ha, hg.inputsNotConst sg hsg a ha⟩
    · exact fun a ha => nomatch ha
  intro p hp t ht
  obtain ⟨hp1, hp2⟩ := (mem_cslots _ _).1 hp
  obtain ⟨hv, hc⟩ := key p.1 (List.mem_of_getElem? hp1) hp2
  obtain ⟨h1, h2⟩ := tensorAt_valid sg p.1 t hv ht
  have := constData_isSome env sg p.1.toNat t h1
  rw [h2, hc] at this
  cases hcd : constData env t with
  | none => rfl
  | some d => rw [hcd] at this; cases this

end ConstProv
