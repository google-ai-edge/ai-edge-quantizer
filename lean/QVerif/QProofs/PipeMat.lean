import QProofs.PipeOps
/-!
# `materializeOp`: the dispatch on the registered materialisation function
-/
open Graph Mat PipeNF MatTotal

namespace Pipe

/-- what the normal form says about one operator `op` (named `k`) of subgraph `sg` -/
structure OpHyp (m : Model) (sg : Subgraph) (op : Op) (k : String) : Prop where
  roles : ∀ (i j : Nat) a, op.inputs[i]? = some a → op.inputs[j]? = some a → a ≠ -1 →
    slotRole k i = slotRole k j
  constWeight : ∀ b a, biasSlot k = some b → op.inputs[1]? = some a → op.inputs[dataSlot k]? = some a →
    a ≠ -1 → isConst m sg a = false
  mandatory : ∀ b, biasSlot k = some b → (∀ i < b, op.inputs[i]? ≠ some (-1)) ∧ op.outputs[0]? ≠ some (-1)

theorem role_index (k : String) (i j : Nat) (h : slotRole k i = slotRole k j) :
    (i ∈ indexSlots k ↔ j ∈ indexSlots k) := by
  unfold slotRole at h
  constructor
  · intro hi
    rw [if_pos hi] at h
    by_contra hj
    rw [if_neg hj] at h
    split at h <;> cases h
  · intro hj
    rw [if_pos hj] at h
    by_contra hi
    rw [if_neg hi] at h
    split at h <;> cases h

theorem role_special (k : String) (i j : Nat) (h : slotRole k i = slotRole k j) :
    ((i ∈ indexSlots k ∨ biasSlot k = some i) ↔ (j ∈ indexSlots k ∨ biasSlot k = some j)) := by
  have key : ∀ x, (x ∈ indexSlots k ∨ biasSlot k = some x) ↔ slotRole k x ≠ 0 := by
    intro x
    unfold slotRole
    by_cases h1 : x ∈ indexSlots k
    · simp [h1]
    · by_cases h2 : biasSlot k = some x
      · simp [h1, h2]
      · simp [h1, h2]
  rw [key, key, h]

theorem role_bias_inj (k : String) (b j : Nat) (hb : biasSlot k = some b) (hnb : b ∉ indexSlots k)
    (h : slotRole k j = slotRole k b) : j = b := by
  unfold slotRole at h
  rw [if_neg hnb, if_pos hb] at h
  split at h
  · cases h
  · split at h
    · rename_i h2
      rw [hb] at h2
      cases h2; rfl
    · cases h

/-- what the registration `(nm, fn)` of a function of kind `kd` for the operator named `nm` promises about the
    slot tables of `nm`: the operand positions `standardOp` is told to ignore are the index slots (with the bias
    slot, for the two bias-processing functions, which are registered exactly for the operators with a bias
    slot, EMBEDDING_LOOKUP apart); `.unknown` is excluded: every registered function is modelled -/
def KindOK (nm fn : String) : Kind → Prop
  | .std con g => indexSlots nm = g ∧ (fn ≠ "materialize_fc_conv" ∧ fn ≠ "materialize_conv2d_transpose") ∧
      (con ≠ .none → Tables.woOps.contains nm = false ∧ Tables.drqOps.contains nm = false) ∧
      (biasSlot nm = none ∨ nm = "EMBEDDING_LOOKUP")
  | .conv => fn = "materialize_fc_conv" ∧ indexSlots nm = [] ∧ biasSlot nm = some 2 ∧ dataSlot nm = 0 ∧
      nm ≠ "EMBEDDING_LOOKUP"
  | .convT => fn = "materialize_conv2d_transpose" ∧ indexSlots nm = [0] ∧ biasSlot nm = some 3 ∧ dataSlot nm = 2 ∧
      nm ≠ "EMBEDDING_LOOKUP"
  | .fixed _ => (fn ≠ "materialize_fc_conv" ∧ fn ≠ "materialize_conv2d_transpose") ∧ biasSlot nm = none
  | .cast i w b => w = 1 ∧ i < b ∧ 1 < b ∧ biasSlot nm = some b ∧ b ∉ indexSlots nm ∧ dataSlot nm = i
  | .unknown => False

instance (nm fn : String) (kd : Kind) : Decidable (KindOK nm fn kd) := by
  cases kd <;> unfold KindOK <;> infer_instance

/-- what the registration promises beyond the slot tables (the dispatch of `kindOf`, read backwards): the bias-processing
    functions are for weight-only operators, the fixed-range ones for operators without weight support, the
    pseudo-operators INPUT / OUTPUT are plain `standardOp` -/
def KindAlg (alg nm fn : String) : Kind → Prop
  | .std con g => alg = Tables.algMinMax ∧ ((nm = "INPUT" ∨ nm = "OUTPUT") → con = .none ∧ g = []) ∧
      (con = .sameAsInput → fn ∈ ["materialize_reshape", "materialize_transpose", "materialize_average_pool_2d",
        "materialize_strided_slice", "materialize_split"])
  | .conv | .convT => alg = Tables.algMinMax ∧ Tables.woOps.contains nm = true ∧ nm ≠ "INPUT" ∧ nm ≠ "OUTPUT"
  | .fixed sl => alg = Tables.algMinMax ∧ Tables.woOps.contains nm = false ∧ Tables.drqOps.contains nm = false ∧
      nm ≠ "INPUT" ∧ nm ≠ "OUTPUT" ∧ fn ∈ ["materialize_softmax_and_logistic", "materialize_tanh"] ∧
      sl = (fn == "materialize_softmax_and_logistic")
  | .cast _ _ _ => alg = Tables.algFloatCasting ∧ nm ≠ "INPUT" ∧ nm ≠ "OUTPUT"
  | .unknown => False

instance (alg nm fn : String) (kd : Kind) : Decidable (KindAlg alg nm fn kd) := by
  cases kd <;> unfold KindAlg <;> infer_instance

/-- what the dispatch `kindOf` does, in one evaluation of its string comparisons (a finite table: 2 algorithms, 23 + 5
    registrations): the registry keeps both promises; the ten min/max functions that have a constraint, a fixed range or a
    bias; the table of kinds (`C08.registry_kinds`) -/
theorem kind_facts :
    (∀ a ∈ Tables.registry, ∀ e ∈ a.2, KindOK e.1 e.2 (kindOf a.1 e.2) ∧ KindAlg a.1 e.1 e.2 (kindOf a.1 e.2)) ∧
    (kindOf Tables.algMinMax "materialize_reshape" = .std .sameAsInput [1] ∧
    kindOf Tables.algMinMax "materialize_transpose" = .std .sameAsInput [1] ∧
    kindOf Tables.algMinMax "materialize_split" = .std .sameAsInput [0] ∧
    kindOf Tables.algMinMax "materialize_strided_slice" = .std .sameAsInput [1, 2, 3] ∧
    kindOf Tables.algMinMax "materialize_average_pool_2d" = .std .sameAsInput [] ∧
    kindOf Tables.algMinMax "materialize_concatenation" = .std .sameAsOutput [] ∧
    kindOf Tables.algMinMax "materialize_softmax_and_logistic" = .fixed true ∧
    kindOf Tables.algMinMax "materialize_tanh" = .fixed false ∧
    kindOf Tables.algMinMax "materialize_fc_conv" = .conv ∧
    kindOf Tables.algMinMax "materialize_conv2d_transpose" = .convT) ∧
    (Tables.registry.map (fun e => (e.1, e.2.map (fun p => (p.1, kindOf e.1 p.2)))) =
    [("min_max_uniform_quantize",
       [("INPUT", .std .none []), ("OUTPUT", .std .none []), ("FULLY_CONNECTED", .conv), ("BATCH_MATMUL", .std .none []),
        ("CONV_2D", .conv), ("DEPTHWISE_CONV_2D", .conv), ("CONV_2D_TRANSPOSE", .convT), ("RESHAPE", .std .sameAsInput [1]),
        ("AVERAGE_POOL_2D", .std .sameAsInput []), ("EMBEDDING_LOOKUP", .std .none [0]), ("SOFTMAX", .fixed true),
        ("TANH", .fixed false), ("TRANSPOSE", .std .sameAsInput [1]), ("GELU", .std .none []), ("ADD", .std .none []),
        ("SUB", .std .none []), ("MUL", .std .none []), ("MEAN", .std .none [1]), ("RSQRT", .std .none []),
        ("CONCATENATION", .std .sameAsOutput []), ("STRIDED_SLICE", .std .sameAsInput [1, 2, 3]),
        ("SPLIT", .std .sameAsInput [0]), ("LOGISTIC", .fixed true)]),
     ("float_casting",
       [("FULLY_CONNECTED", .cast 0 1 2), ("CONV_2D", .cast 0 1 2), ("DEPTHWISE_CONV_2D", .cast 0 1 2),
        ("CONV_2D_TRANSPOSE", .cast 2 1 3), ("EMBEDDING_LOOKUP", .cast 0 1 2)])]) := by
  decide +kernel

theorem kindAlg_of_registry {alg k fn : String} {ops : List (String × String)}
    (hr : Py.dictGet? Tables.registry alg = some ops) (hf : Py.dictGet? ops k = some fn) :
    KindOK k fn (kindOf alg fn) ∧ KindAlg alg k fn (kindOf alg fn) :=
  kind_facts.1 (alg, ops) (Py.dictGet?_mem _ _ _ hr) (k, fn) (Py.dictGet?_mem _ _ _ hf)

theorem minmaxOps_ne_cast {e : String × String} (he : e ∈ minmaxOps) (a b c : Nat) :
    kindOf Tables.algMinMax e.2 ≠ .cast a b c := by
  intro hk
  have := (kind_facts.1 (Tables.algMinMax, minmaxOps) (Py.dictGet?_mem _ _ _ registry_minmax) e he).2
  rw [hk] at this
  exact absurd this.1 (by decide)

theorem minmaxOps_kindOK {e : String × String} (he : e ∈ minmaxOps) : KindOK e.1 e.2 (kindOf Tables.algMinMax e.2) :=
  (kind_facts.1 (Tables.algMinMax, minmaxOps) (Py.dictGet?_mem _ _ _ registry_minmax) e he).1

theorem materializeOp_reqs (env : Env) (sg : Subgraph) (qsvs : Qsvs) (oi : OpInfo) (alg fn : String)
    (rs : List CReq) (qs' : Qsvs) (ops : List (String × String))
    (hreg1 : Py.dictGet? Tables.registry alg = some ops) (hreg2 : Py.dictGet? ops oi.opName = some fn)
    (hnames : (sg.tensors.map (·.name)).Nodup)
    (hin : SlotsValid sg oi.op.inputs) (hout : SlotsValid sg oi.op.outputs)
    (hnb : NoBlockwise oi.cfg)
    (houtNC : ∀ a ∈ oi.op.outputs, a ≠ -1 → isConst env.model sg a = false)
    (hop : OpHyp env.model sg oi.op oi.opName)
    (h : materializeOp env sg qsvs oi alg fn = .ok (rs, qs')) :
    OpReqs env.model sg oi.op oi.opId rs := by
  have hK := (kindAlg_of_registry hreg1 hreg2).1
  rw [materializeOp_kind] at h
  -- `standardOp`, told to ignore the index slots
  have std : ∀ (con : Constraint) r q,
      standardOp env sg qsvs oi con (indexSlots oi.opName) [] = .ok (r, q) → OpReqs env.model sg oi.op oi.opId r :=
    fun con r q hs => (standardOp_opReqs env sg qsvs oi con _ [] r q hnames hin hout hnb houtNC
      (fun i j a h1 h2 h3 => role_index _ i j (hop.roles i j a h1 h2 h3)) hs).1
  -- convolution-like operators: `standardOp` ignoring the index slots and the bias slot `iB`, then `biasFor`
  have conv : ∀ (g : List Nat) (iIn iB : Nat) r q, biasSlot oi.opName = some iB → iB ∉ indexSlots oi.opName →
      (∀ i, i ∈ g ↔ (i ∈ indexSlots oi.opName ∨ biasSlot oi.opName = some i)) →
      standardOp env sg qsvs oi .none g [] = .ok (r, q) → biasFor env sg oi r iIn 1 iB = .ok rs →
      OpReqs env.model sg oi.op oi.opId rs := by
    intro g iIn iB r q hbs hnidx hg hs hb
    obtain ⟨hR, rin, rout, g0, hsplit, hpos, hrout⟩ :=
      standardOp_opReqs env sg qsvs oi .none g [] r q hnames hin hout hnb houtNC
        (fun i j a h1 h2 h3 => by rw [hg, hg]; exact role_special _ i j (hop.roles i j a h1 h2 h3)) hs
    exact biasFor_reqs env sg oi r rin rout rs iIn 1 iB hnames hin hnb hR hsplit hpos hrout
      (hop.mandatory iB hbs).1 (fun j a h1 h2 hne => role_bias_inj _ iB j hbs hnidx (hop.roles j iB a h2 h1 hne)) hb
  generalize kindOf alg fn = kd at hK h
  have hrun := runKind_ok h
  cases kd with
  | std con g => cases hK.1; exact std con rs qs' hrun
  | conv =>
    obtain ⟨r0, hs, hb⟩ := hrun
    obtain ⟨-, hidx, hbs, -⟩ := hK
    exact conv [2] 0 2 r0 qs' hbs (by rw [hidx]; simp) (fun i => by rw [hidx, hbs]; simp [eq_comm]) hs hb
  | convT =>
    obtain ⟨r0, hs, -, hb⟩ := hrun
    obtain ⟨-, hidx, hbs, -⟩ := hK
    exact conv [0, 3] 2 3 r0 qs' hbs (by rw [hidx]; simp) (fun i => by rw [hidx, hbs]; simp [eq_comm]) hs hb
  | fixed sl =>
    obtain ⟨-, r0, q0, hs, hf⟩ := hrun
    refine fixLast_reqs (standardOp_opReqs env sg qsvs oi .none [] [] r0 q0 hnames hin hout hnb houtNC ?_ hs).1 hf
    intro i j a _ _ _
    simp
  | cast iIn iW iB =>
    obtain ⟨rfl, hIB, h1B, hb, hnb', hds⟩ := hK
    obtain ⟨hm1, hm2⟩ := hop.mandatory iB hb
    refine floatCastOp_reqs env sg oi iIn 1 iB rs hnames hin hout (hm1 iIn hIB) (hm1 1 h1B) hm2 ?_ ?_ hrun.1
    · intro a h1 h2 hne
      exact hop.constWeight iB a hb h1 (hds ▸ h2) hne
    · intro a h1 h2
      by_contra hne
      have := role_bias_inj _ iB 1 hb hnb' (hop.roles 1 iB a h1 h2 hne)
      omega
  | unknown => exact hK.elim

end Pipe

namespace MatParams

/-! what `materializeOp` runs for the ten min/max functions with a constraint, a fixed range or a bias: `materializeOp_kind`
    at the kinds evaluated in `Pipe.kind_facts` -/

theorem materializeOp_reshape (env : Env) (sg : Subgraph) (qsvs : Qsvs) (oi : OpInfo) :
    materializeOp env sg qsvs oi Tables.algMinMax "materialize_reshape" =
      standardOp env sg qsvs oi .sameAsInput [1] [] := by
  rw [materializeOp_kind, Pipe.kind_facts.2.1.1]; rfl

theorem materializeOp_transpose (env : Env) (sg : Subgraph) (qsvs : Qsvs) (oi : OpInfo) :
    materializeOp env sg qsvs oi Tables.algMinMax "materialize_transpose" =
      standardOp env sg qsvs oi .sameAsInput [1] [] := by
  rw [materializeOp_kind, Pipe.kind_facts.2.1.2.1]; rfl

theorem materializeOp_split (env : Env) (sg : Subgraph) (qsvs : Qsvs) (oi : OpInfo) :
    materializeOp env sg qsvs oi Tables.algMinMax "materialize_split" =
      standardOp env sg qsvs oi .sameAsInput [0] [] := by
  rw [materializeOp_kind, Pipe.kind_facts.2.1.2.2.1]; rfl

theorem materializeOp_strided_slice (env : Env) (sg : Subgraph) (qsvs : Qsvs) (oi : OpInfo) :
    materializeOp env sg qsvs oi Tables.algMinMax "materialize_strided_slice" =
      standardOp env sg qsvs oi .sameAsInput [1, 2, 3] [] := by
  rw [materializeOp_kind, Pipe.kind_facts.2.1.2.2.2.1]; rfl

theorem materializeOp_average_pool (env : Env) (sg : Subgraph) (qsvs : Qsvs) (oi : OpInfo) :
    materializeOp env sg qsvs oi Tables.algMinMax "materialize_average_pool_2d" =
      standardOp env sg qsvs oi .sameAsInput [] [] := by
  rw [materializeOp_kind, Pipe.kind_facts.2.1.2.2.2.2.1]; rfl

theorem materializeOp_concatenation (env : Env) (sg : Subgraph) (qsvs : Qsvs) (oi : OpInfo) :
    materializeOp env sg qsvs oi Tables.algMinMax "materialize_concatenation" =
      standardOp env sg qsvs oi .sameAsOutput [] [] := by
  rw [materializeOp_kind, Pipe.kind_facts.2.1.2.2.2.2.2.1]; rfl

theorem materializeOp_softmax_logistic (env : Env) (sg : Subgraph) (qsvs : Qsvs) (oi : OpInfo) :
    materializeOp env sg qsvs oi Tables.algMinMax "materialize_softmax_and_logistic" =
      fixedRangeOp env sg qsvs oi true := by
  rw [materializeOp_kind, Pipe.kind_facts.2.1.2.2.2.2.2.2.1]; rfl

theorem materializeOp_tanh (env : Env) (sg : Subgraph) (qsvs : Qsvs) (oi : OpInfo) :
    materializeOp env sg qsvs oi Tables.algMinMax "materialize_tanh" =
      fixedRangeOp env sg qsvs oi false := by
  rw [materializeOp_kind, Pipe.kind_facts.2.1.2.2.2.2.2.2.2.1]; rfl

theorem materializeOp_fc_conv (env : Env) (sg : Subgraph) (qsvs : Qsvs) (oi : OpInfo) :
    materializeOp env sg qsvs oi Tables.algMinMax "materialize_fc_conv" =
      (standardOp env sg qsvs oi .none [2] [] >>= fun rq =>
        biasFor env sg oi rq.1 0 1 2 >>= fun r' => pure (r', rq.2)) := by
  rw [materializeOp_kind, Pipe.kind_facts.2.1.2.2.2.2.2.2.2.2.1]; rfl

theorem materializeOp_conv2d_transpose (env : Env) (sg : Subgraph) (qsvs : Qsvs) (oi : OpInfo) :
    materializeOp env sg qsvs oi Tables.algMinMax "materialize_conv2d_transpose" =
      (do let (r, q) ← standardOp env sg qsvs oi .none [0, 3] []
          if r.length < 2 then throw PyErr.valueError
          let r' ← biasFor env sg oi r 2 1 3
          pure (r', q)) := by
  rw [materializeOp_kind, Pipe.kind_facts.2.1.2.2.2.2.2.2.2.2.2]; rfl

end MatParams
