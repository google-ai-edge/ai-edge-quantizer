import QProofs.KernelSigBits
import QProofs.KernelSigOps
/-!
# Kernel signatures (C01b): the inserted operators
The parameter id of every performed instruction is the id of the parameter object of a request side (`ReqTrace.inst_side`),
whose width is known from `Bits.generate_bits` (`inst_bits`), hence the tensor type it stands for (`inst_type`).  The types at an inserted
operator are those of the QUANTIZE / DEQUANTIZE row of the table (`inserted_rows`); `ins_sig` and `inserted_widths` are read off that row. -/
open Graph Mat Pipeline GenInstsOK Pipe SharingGen Perform

set_option autoImplicit false

namespace KernelSig

theorem constNamed_isConst {env : Env} (hnu : namesUnique env.model) (s : Nat) (sg : Subgraph) (i : Nat) (tn : Tensor)
    (hsg : env.model.subgraphs[s]? = some sg) (htn : sg.tensors[i]? = some tn) (sg2 : Subgraph)
    (hsg2 : sg2 ∈ env.model.subgraphs) (h : Bits.ConstNamed env sg2 tn.name) :
    isConst env.model sg (i : Int) = true := by
  obtain ⟨t2, ht2, hn, hc⟩ := h
  obtain ⟨rfl, rfl⟩ := ReqTrace.named_at_mem hnu hsg htn hsg2 ht2 hn
  rw [← constData_isSome env sg i tn htn]
  exact hc

theorem uniform_of_pinfoOf (P : Param) (h : (pinfoOf P).uniform = true) : ∃ qp d, P = .uniform qp d := by
  cases P with
  | uniform qp d => exact ⟨qp, d, rfl⟩
  | nonlinear b d => cases h

theorem inst_bits {rx : String → String → Bool} {env : Env} {st : Recipe.State} {qsvs : Option Qsvs}
    {m' : Model} {res : List (String × CReq)} {tis : List TInsts}
    (S : TypingE2E.Stages rx env st qsvs m' (tblOf res) res tis)
    (hbits : Pipe.DictSides (Bits.Side env) (Bits.Side env) res)
    (ti : TInsts) (hti : ti ∈ tis) (ins : Inst) (hins : ins ∈ ti.insts) (hx : isInsertion ins.xf = true)
    (p : PId) (pi : PInfo) (hp : ins.param = some p) (hpi : pinfo (ptableOf (tblOf res)) p = some pi)
    (hu : pi.uniform = true) (sg : Subgraph) (hsg : env.model.subgraphs[ti.sg]? = some sg) :
    ∃ (i : Nat) (tn : Tensor), ins.tensor = (i : Int) ∧ sg.tensors[i]? = some tn ∧
      (pi.bits = 8 ∨ pi.bits = 16 ∨
        (isConst env.model sg (i : Int) = true ∧ (pi.bits = 4 ∨ ins.xf = .quantTensor))) := by
  obtain ⟨i, tn, e, c, P, I⟩ := ReqTrace.inst_side S.ctx S.gen ti hti ins hins hx p hp sg hsg
  refine ⟨i, tn, I.tensor, I.record, ?_⟩
  rw [Pipe.pinfo_of_findIdx _ _ _ I.pid] at hpi
  cases hpi
  obtain ⟨qp, d, rfl⟩ := uniform_of_pinfoOf P hu
  -- the width recorded for the side; on a constant a `[QUANTIZE_TENSOR]` side is carried out by a QUANTIZE_TENSOR
  obtain ⟨sg2, hsg2, hS⟩ : Bits.Side env tn.name c := (I.carries.side hbits I.entry).elim id id
  rcases hS qp d I.param with hb | hb | ⟨hcn, hb⟩
  · exact .inl hb
  · exact .inr (.inl hb)
  · have hc := constNamed_isConst S.ctx.nu ti.sg sg i tn hsg I.record sg2 hsg2 hcn
    obtain ⟨_, _, _, hcx, _⟩ := I.carries.of_const S.ctx hsg I.record I.entry hc
    refine .inr (.inr ⟨hc, hb.imp id fun hq => ?_⟩)
    rw [hq] at hcx
    exact (List.cons.inj hcx).1.symm

theorem dtypeOf_bits (pi : PInfo) (ty : Nat) (hu : pi.uniform = true) (h : dtypeOf pi = .ok ty) :
    (pi.bits = 4 → ty = Tables.ttInt4) ∧ (pi.bits = 8 → ty = Tables.ttInt8) ∧ (pi.bits = 16 → ty = Tables.ttInt16) := by
  obtain ⟨u, b, d⟩ := pi
  subst hu
  have := TypingE2E.dtypeOf_intOfBits b d ty h
  refine ⟨?_, ?_, ?_⟩ <;> intro hb <;> simp only at hb <;> subst hb <;> exact this

/-- **the tensor type that the parameter of a performed instruction stands for**: int8 or int16; on a constant also float16,
    int4, or -- a QUANTIZE_TENSOR instruction: the bias -- any integer type.  An ADD_QUANTIZE instruction acts on a float32
    runtime tensor -/
theorem inst_type {rx : String → String → Bool} {env : Env} {st : Recipe.State} {qsvs : Option Qsvs}
    {m' : Model} {res : List (String × CReq)} {tis : List TInsts}
    (S : TypingE2E.Stages rx env st qsvs m' (tblOf res) res tis)
    (hbits : Pipe.DictSides (Bits.Side env) (Bits.Side env) res)
    (ti : TInsts) (hti : ti ∈ tis) (ins : Inst) (hins : ins ∈ ti.insts) (hx : isInsertion ins.xf = true)
    (p : PId) (pi : PInfo) (ty : Nat) (hp : ins.param = some p) (hpi : pinfo (ptableOf (tblOf res)) p = some pi)
    (hty : dtypeOf pi = .ok ty) (sg : Subgraph) (hsg : env.model.subgraphs[ti.sg]? = some sg) :
    ∃ (i : Nat) (tn : Tensor), ins.tensor = (i : Int) ∧ sg.tensors[i]? = some tn ∧
      (ty = Tables.ttInt8 ∨ ty = Tables.ttInt16 ∨ (isConst env.model sg (i : Int) = true ∧
        (ty = Tables.ttFloat16 ∨ ty = Tables.ttInt4 ∨ ins.xf = .quantTensor))) ∧
      (ins.xf = .addQuant → tn.dtype = Tables.ttFloat32 ∧ isConst env.model sg (i : Int) = false) := by
  obtain ⟨i, tn, g1, g2, g3, g4⟩ := TypingE2E.inst_facts S ti hti ins hins hx p pi hp hpi sg hsg
  refine ⟨i, tn, g1, g2, ?_, fun hq => (g4 hq).2⟩
  rcases g3 with hu | ⟨hu, hb16, hc⟩
  · obtain ⟨i3, tn3, k1, k2, k3⟩ := inst_bits S hbits ti hti ins hins hx p pi hp hpi hu sg hsg
    obtain rfl : i3 = i := by omega
    obtain ⟨b4, b8, b16⟩ := dtypeOf_bits pi ty hu hty
    rcases k3 with k | k | ⟨kc, k | k⟩
    · exact .inl (b8 k)
    · exact .inr (.inl (b16 k))
    · exact .inr (.inr ⟨kc, .inr (.inl (b4 k))⟩)
    · exact .inr (.inr ⟨kc, .inr (.inr k)⟩)
  · exact .inr (.inr ⟨hc, .inl (TypingE2E.dtypeOf_f16 pi ty hu hb16 hty)⟩)

theorem quantDequantRows :
    (∀ a ∈ [Tables.ttFloat32, Tables.ttInt8, Tables.ttInt16], ∀ b ∈ [Tables.ttInt8, Tables.ttInt16],
      quantizeSig [some a] [some b] = true) ∧
    (∀ a ∈ [Tables.ttInt4, Tables.ttInt8, Tables.ttInt16, Tables.ttFloat16],
      dequantizeSig [some a] [some Tables.ttFloat32] = true) := by decide

/-- **C01b, inserted operators**: under a recipe without `skip_checks` an inserted operator is a QUANTIZE float32 | int8 | int16 →
    int8 | int16 or a DEQUANTIZE int4 | int8 | int16 | float16 → float32 (`C03.inserted_ops_typed` says "an integer type"; the
    widths come from the configs: activations have 8 or 16 bits, weights 4 or 8, only a bias has 32 or 64 bits and a bias is
    never read through an inserted operator) -/
theorem inserted_rows (rx : String → String → Bool) (env : Env) (st : Recipe.State)
    (qsvs : Option Qsvs) (m' : Model) (tbl : List Param) (hnf : PipelineWF.NF env st) (hns : MatTotal.NoSkip st)
    (h : quantizePure rx env st qsvs = .ok (m', tbl))
    (sg' : Subgraph) (hsg'm : sg' ∈ m'.subgraphs) (o : Op) (ho : o ∈ sg'.ops) (hn : o.orig = none) :
    ∃ t n : Int, o.inputs = [t] ∧ o.outputs = [n] ∧
      ((m'.opcodes[o.code]? = some Tables.opQuantize ∧ quantizeSig [dtypeAt sg' t] [dtypeAt sg' n] = true) ∨
       (m'.opcodes[o.code]? = some Tables.opDequantize ∧ dequantizeSig [dtypeAt sg' t] [dtypeAt sg' n] = true)) := by
  obtain ⟨res, tis, stF, rfl, rfl, S, F, R⟩ := TypingE2E.run rx env st qsvs m' tbl hnf h
  obtain ⟨qs, hfold⟩ := S.fold
  have hbits := Bits.generate_bits (qsvs := qsvs) hns hfold
  obtain ⟨s, hsg'⟩ := List.mem_iff_getElem?.1 hsg'm
  obtain ⟨sg, hsg⟩ := F.source hsg'
  obtain ⟨ci, n, ti, ins, e1, N, e5⟩ := IOInv.inserted_final F.base R s sg sg' hsg hsg' o ho hn
  obtain rfl := N.hs
  obtain ⟨tout, e6, p, pi, ty, nm, tn0, hp, hpi, hty, hrec⟩ := N.newRec
  obtain ⟨i, tn, f1, f2, f3, f4⟩ :=
    inst_type S hbits ti N.hti ins N.hins (Wiring.addsOp_insertion _ N.adds) p pi ty hp hpi hty _ hsg
  obtain ⟨tin, T⟩ := TypingGraph.tensor_final _ env.model tis stF F ti.sg sg sg' hsg hsg' i tn f2
  have hdin : dtypeAt sg' (i : Int) = some tin.dtype :=
    dtypeAt_some sg' _ (Int.natCast_nonneg i) tin (by simpa using T.get)
  have hdout : dtypeAt sg' (n : Int) = some tout.dtype :=
    dtypeAt_some sg' _ (Int.natCast_nonneg n) tout (by simpa using e6)
  -- the operator is `newOp ci i n`
  have hcode : stF.model.opcodes[o.code]? = some (TypingGraph.insCode ins.xf) := by rw [e1]; exact e5
  refine ⟨(i : Int), (n : Int), by rw [e1, f1]; rfl, by rw [e1]; rfl, ?_⟩
  rw [hdin, hdout, hcode]
  rcases Wiring.addsOp_cases _ N.adds with hq | hd
  · obtain ⟨hf32, hnc⟩ := f4 hq
    refine .inl ⟨by rw [TypingGraph.insCode, if_pos hq], quantDequantRows.1 _ ?_ _ ?_⟩
    · -- its operand: the original float32 tensor, or a runtime tensor produced quantized
      rcases T.typed with rfl | ⟨p', ⟨ti', hti', ins', hins', hs', hten', hr', hpar'⟩, ⟨pi', ty', t1, t2, t3, t4⟩⟩
      · rw [hf32]; decide
      · obtain ⟨i2, -, g1, -, g3, -⟩ := inst_type S hbits ti' hti' ins' hins' (Wiring.retypes_insertion _ hr') p' pi' ty'
          hpar' t1 t2 sg (by rw [hs']; exact hsg)
        obtain rfl : i2 = i := by omega
        rcases g3 with h | h | ⟨hc, -⟩
        · rw [t3, h]; decide
        · rw [t3, h]; decide
        · rw [hnc] at hc; cases hc
    · -- its result: the type of the instruction's parameter
      rw [if_pos hq] at hrec
      have hdt : tout.dtype = ty := by rw [hrec, StepTypes.retype_dtype]
      rcases f3 with k | k | ⟨k, -⟩
      · rw [hdt, k]; decide
      · rw [hdt, k]; decide
      · rw [hnc] at k; cases k
  · rw [if_neg (by rw [hd]; decide)] at hrec
    have hdt : tout.dtype = Tables.ttFloat32 := by rw [hrec]; rfl
    rw [hdt]
    refine .inr ⟨by rw [TypingGraph.insCode, if_neg (by rw [hd]; decide)], quantDequantRows.2 _ ?_⟩
    -- its operand was retyped by `ins'`
    obtain ⟨p', ⟨ti', hti', ins', hins', hs', hten', hr', hpar'⟩, ⟨pi', ty', t1, t2, t3, t4⟩⟩ :=
      T.written ⟨p, ti, N.hti, ins, N.hins, rfl, f1, by rw [hd]; rfl, hp⟩
    have hsgi : env.model.subgraphs[ti'.sg]? = some sg := by rw [hs']; exact hsg
    obtain ⟨i2, -, g1, -, g3, -⟩ := inst_type S hbits ti' hti' ins' hins' (Wiring.retypes_insertion _ hr') p' pi' ty'
      hpar' t1 t2 sg hsgi
    obtain rfl : i2 = i := by omega
    rcases g3 with h | h | ⟨kc, h | h | -⟩
    · rw [t3, h]; decide
    · rw [t3, h]; decide
    · rw [t3, h]; decide
    · rw [t3, h]; decide
    · -- a QUANTIZE_TENSOR instruction on the same constant carries the parameter of this ADD_DEQUANTIZE
      obtain ⟨c, hc⟩ := (GraphStep.isConst_nat env.model sg _ tn f2).1 kc
      have hsame := (S.sa.same tn.buffer c hc) ti'.sg _ p' ti.sg _ p ⟨sg, tn, hsgi, f2, rfl⟩
        ⟨sg, tn, hsg, f2, rfl⟩ ⟨ti', hti', ins', hins', rfl, hten', hr', hpar'⟩
        ⟨ti, N.hti, ins, N.hins, rfl, f1, by rw [hd]; rfl, hp⟩
      subst hsame
      rw [hpi] at t1
      cases t1
      obtain rfl : ty = ty' := Except.ok.inj (hty.symm.trans t2)
      rcases f3 with l | l | ⟨-, l | l | l⟩
      · rw [t3, l]; decide
      · rw [t3, l]; decide
      · rw [t3, l]; decide
      · rw [t3, l]; decide
      · rw [hd] at l; cases l

theorem ins_sig (rx : String → String → Bool) (env : Env) (st : Recipe.State)
    (qsvs : Option Qsvs) (m' : Model) (tbl : List Param) (hnf : PipelineWF.NF env st) (hns : MatTotal.NoSkip st)
    (h : quantizePure rx env st qsvs = .ok (m', tbl))
    (sg' : Subgraph) (hsg' : sg' ∈ m'.subgraphs) (o : Op) (ho : o ∈ sg'.ops) (hn : o.orig = none) :
    opOK m' sg' o = true := by
  obtain ⟨t, n, hi, hout, hrow⟩ := inserted_rows rx env st qsvs m' tbl hnf hns h sg' hsg' o ho hn
  unfold opOK opSig
  rw [hi, hout]
  rcases hrow with ⟨hc, hr⟩ | ⟨hc, hr⟩
  · rw [hc]; exact hr
  · rw [hc]; exact hr

/-- what `C03.inserted_ops_typed` does not pin: no inserted operator reads or writes an int32 / int64 tensor,
    and no inserted QUANTIZE reads or writes an int4 tensor.  Proved for every run under a recipe without
    `skip_checks`: `KernelSig.inserted_widths`. -/
def InsertedWidths (m' : Model) : Prop :=
  ∀ sg' ∈ m'.subgraphs, ∀ o ∈ sg'.ops, o.orig = none → ∀ t ∈ o.inputs ++ o.outputs,
    dtypeAt sg' t ≠ some Tables.ttInt32 ∧ dtypeAt sg' t ≠ some Tables.ttInt64 ∧
    (m'.opcodes[o.code]? = some Tables.opQuantize → dtypeAt sg' t ≠ some Tables.ttInt4)

theorem rows_widths (x y : DT) :
    (quantizeSig [x] [y] = true → ∀ d ∈ [x, y], d ≠ some Tables.ttInt32 ∧ d ≠ some Tables.ttInt64 ∧ d ≠ some Tables.ttInt4) ∧
    (dequantizeSig [x] [y] = true → ∀ d ∈ [x, y], d ≠ some Tables.ttInt32 ∧ d ≠ some Tables.ttInt64) := by
  cases x with
  | none => exact ⟨nofun, nofun⟩
  | some a =>
    cases y with
    | none => exact ⟨nofun, nofun⟩
    | some b =>
      simp only [quantizeSig, dequantizeSig, Bool.and_eq_true, Bool.or_eq_true, beq_iff_eq]
      constructor
      · rintro ⟨(rfl | rfl) | rfl, rfl | rfl⟩ <;> decide
      · rintro ⟨((rfl | rfl) | rfl) | rfl, rfl⟩ <;> decide

theorem inserted_widths (rx : String → String → Bool) (env : Env) (st : Recipe.State)
    (qsvs : Option Qsvs) (m' : Model) (tbl : List Param) (hnf : PipelineWF.NF env st) (hns : MatTotal.NoSkip st)
    (h : quantizePure rx env st qsvs = .ok (m', tbl)) : InsertedWidths m' := by
  intro sg' hsg' o ho hn d hd
  obtain ⟨t, n, hi, hout, hrow⟩ := inserted_rows rx env st qsvs m' tbl hnf hns h sg' hsg' o ho hn
  rw [hi, hout] at hd
  have hmem : dtypeAt sg' d ∈ [dtypeAt sg' t, dtypeAt sg' n] := by
    rcases List.mem_append.1 hd with e | e <;> rw [List.mem_singleton.1 e] <;> simp
  rcases hrow with ⟨hc, hr⟩ | ⟨hc, hr⟩
  · obtain ⟨a, b, c⟩ := (rows_widths _ _).1 hr _ hmem
    exact ⟨a, b, fun _ => c⟩
  · obtain ⟨a, b⟩ := (rows_widths _ _).2 hr _ hmem
    exact ⟨a, b, fun hq => by rw [hc] at hq; cases hq⟩

end KernelSig
