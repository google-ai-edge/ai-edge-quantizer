import QProofs.RunStages
import QProofs.TypingReq
/-!
# C03 end to end: what the output holds where a request asked for a transformation
The table `OperandTyped` / `ResultTyped`: per transformation `x`, what the output holds in a slot for which `[x]` was requested.
`op_sides_typed`: every request made for an original operator is carried out (`OpImage`).
-/
open Graph Mat Pipeline InstGen GenInstsOK GenInstsInfo Pipe SharingGen Perform

namespace TypingE2E

/-- the record `tn` has the type of the parameter object `P` and (uniform `P`) carries its id -/
def HoldsParam (tbl : List Param) (P : Param) (tn : Tensor) : Prop :=
  ∃ pid ty, tbl.findIdx? (fun q => q.eqv P) = some pid ∧ dtypeOf (pinfoOf P) = .ok ty ∧ tn.dtype = ty ∧
    ((pinfoOf P).uniform = true → tn.quant = some pid)

theorem holds_of_typedBy (tbl : List Param) (P : Param) (pid : PId) (tn : Tensor)
    (hidx : tbl.findIdx? (fun q => q.eqv P) = some pid)
    (h : SharingE2E.TypedBy (ptableOf tbl) pid tn) : HoldsParam tbl P tn := by
  obtain ⟨pi, ty, t1, t2, t3, t4⟩ := h
  rw [pinfo_of_findIdx _ _ _ hidx] at t1
  cases t1
  exact ⟨pid, ty, hidx, t2, t3, t4⟩

theorem holds_uniform {tbl : List Param} {qp : Arith.QParams} {d : Option Arith.IArr} {tn : Tensor}
    (h : HoldsParam tbl (.uniform qp d) tn) :
    tn.dtype = intOfBits qp.bits ∧
      ∃ pid, tbl.findIdx? (fun q => q.eqv (.uniform qp d)) = some pid ∧ tn.quant = some pid := by
  obtain ⟨pid, ty, h1, h2, h3, h4⟩ := h
  exact ⟨h3.trans (dtypeOf_intOfBits _ _ _ h2), pid, h1, h4 rfl⟩

/-- operator `o'` reads, in slot `j`, the NEW float32 tensor `z` without parameters over buffer 0 that an inserted
    `DEQUANTIZE(t)` (opcode index `ci`) produces -/
abbrev ReadsDequant (m' : Model) (sg sg' : Subgraph) (o' : Op) (j : Nat) (t z : Int) (tz : Tensor) (ci : Nat) : Prop :=
  o'.inputs[j]? = some z ∧ (sg.tensors.length : Int) ≤ z ∧
    sg'.tensors[z.toNat]? = some tz ∧ tz.dtype = Tables.ttFloat32 ∧ tz.quant = none ∧ tz.buffer = 0 ∧
    ({ code := ci, inputs := [t], outputs := [z], orig := none } : Op) ∈ sg'.ops ∧
    m'.opcodes[ci]? = some Tables.opDequantize ∧ Skeleton.root sg' z = t

/-- the constant `t` (original record `tn`) holds `P` in the output (record `tz`), and its buffer the packed data
    of `P` -/
abbrev ConstHolds (m' : Model) (tbl : List Param) (sg' : Subgraph) (t : Int) (tn : Tensor) (P : Param)
    (tz : Tensor) (pid : PId) : Prop :=
  sg'.tensors[t.toNat]? = some tz ∧ HoldsParam tbl P tz ∧ tbl.findIdx? (fun q => q.eqv P) = some pid ∧
    m'.buffers[tn.buffer]? = some (some (.inr pid))

theorem ConstHolds.uniform {m' : Model} {tbl : List Param} {sg' : Subgraph} {t : Int} {tn tz : Tensor}
    {qp : Arith.QParams} {d : Option Arith.IArr} {pid : PId} {b : Nat}
    (h : ConstHolds m' tbl sg' t tn (.uniform qp d) tz pid) (hb : qp.bits = b) :
    sg'.tensors[t.toNat]? = some tz ∧ tz.dtype = intOfBits b ∧ tz.quant = some pid ∧
      m'.buffers[tn.buffer]? = some (some (.inr pid)) := by
  obtain ⟨c1, c2, c3, c4⟩ := h
  obtain ⟨u1, pid', hi', u2⟩ := holds_uniform c2
  rw [c3] at hi'
  cases hi'
  exact ⟨c1, hb ▸ u1, u2, c4⟩

/-- what a reader holds (`z`) in place of the original tensor `t` (record `tn`) when its request side is `[NO_QUANTIZE]`:
    `t` itself with its original record (for a constant also the original buffer content), or the NEW float32 tensor
    that the one inserted `DEQUANTIZE(t)` produces -/
def Untouched (env : Env) (m' : Model) (sg sg' : Subgraph) (t : Int) (tn : Tensor) (z : Int) : Prop :=
  (z = t ∧ sg'.tensors[t.toNat]? = some tn ∧
      (isConst env.model sg t = true → m'.buffers[tn.buffer]? = env.model.buffers[tn.buffer]?)) ∨
  (isConst env.model sg t = false ∧ tn.dtype = Tables.ttFloat32 ∧
    ∃ (n ci : Nat), z = (n : Int) ∧ sg.tensors.length ≤ n ∧
      sg'.tensors[n]? = some (Wiring.fresh (uniqueName ((sg'.tensors.take n).map (·.name)) (tn.name ++ "_dequant")) tn) ∧
      SkeletonProof.newOp ci t (n : Int) ∈ sg'.ops ∧ m'.opcodes[ci]? = some Tables.opDequantize ∧
      (∀ d ∈ sg'.ops, d.orig = none → d.outputs = [(n : Int)] → d = SkeletonProof.newOp ci t (n : Int)) ∧
      Skeleton.root sg' (n : Int) = t)

/-- `Untouched`, said of operand slot `j` of `o'`; an absent operand stays absent (see `C03.UntouchedOperand`) -/
def UntouchedOperand (env : Env) (m' : Model) (sg sg' : Subgraph) (o' : Op) (j : Nat) (t : Int) : Prop :=
  (t = -1 ∧ o'.inputs[j]? = some (-1)) ∨
  ∃ tn, 0 ≤ t ∧ sg.tensors[t.toNat]? = some tn ∧
    ((o'.inputs[j]? = some t ∧ sg'.tensors[t.toNat]? = some tn ∧
        (isConst env.model sg t = true → m'.buffers[tn.buffer]? = env.model.buffers[tn.buffer]?)) ∨
     (isConst env.model sg t = false ∧ tn.dtype = Tables.ttFloat32 ∧
       ∃ x tx ci, o'.inputs[j]? = some x ∧ (sg.tensors.length : Int) ≤ x ∧
         sg'.tensors[x.toNat]? = some tx ∧ tx.dtype = Tables.ttFloat32 ∧ tx.quant = none ∧ tx.buffer = 0 ∧
         ({ code := ci, inputs := [t], outputs := [x], orig := none } : Op) ∈ sg'.ops ∧ m'.opcodes[ci]? = some Tables.opDequantize ∧
         (∀ d ∈ sg'.ops, d.orig = none → d.outputs = [x] → d = { code := ci, inputs := [t], outputs := [x], orig := none }) ∧
         Skeleton.root sg' x = t))

theorem Untouched.operand {env : Env} {m' : Model} {sg sg' : Subgraph} {o' : Op} {j i : Nat} {tn : Tensor} {z : Int}
    (U : Untouched env m' sg sg' (i : Int) tn z) (htn : sg.tensors[i]? = some tn) (hz : o'.inputs[j]? = some z) :
    UntouchedOperand env m' sg sg' o' j (i : Int) := by
  refine .inr ⟨tn, Int.natCast_nonneg i, by rw [Int.toNat_natCast]; exact htn, ?_⟩
  rcases U with ⟨rfl, h1, h2⟩ | ⟨hnc, hf, n, ci, rfl, hl, hrec, hop, hcode, hu, hroot⟩
  · exact .inl ⟨hz, h1, h2⟩
  · exact .inr ⟨hnc, hf, n, _, ci, hz, by omega, by rw [Int.toNat_natCast]; exact hrec, rfl, rfl, rfl, hop, hcode, hu, hroot⟩

/-- **the operand column of the table of modes** (`Mat.tensorXfs cfg true isConst`): what the output holds in
    operand slot `j` (original tensor `t`, record `tn`) of `o'` when the operator requested `[x]` with parameter
    object `prm` for it.
    * `NO_QUANTIZE`: `UntouchedOperand`;
    * `ADD_QUANTIZE`: `o'` reads a tensor that stands for `t` and holds the parameter object: `t` itself (produced
      quantized with the same parameters) or the result of an inserted QUANTIZE;
    * `QUANTIZE_TENSOR` / `ADD_DEQUANTIZE` (constants): the tensor holds the parameter object, its buffer the packed
      data, and `o'` reads it directly resp. through an inserted DEQUANTIZE.
    The quantizing rows speak about a request that carries a parameter object. -/
def OperandTyped (env : Env) (m' : Model) (tbl : List Param) (sg sg' : Subgraph) (o' : Op) (j : Nat) (t : Int)
    (tn : Tensor) (x : Xf) (prm : Option Param) : Prop :=
  match x with
  | .noQuant => UntouchedOperand env m' sg sg' o' j t
  | .addQuant => ∀ P, prm = some P →
      ∃ z tz, o'.inputs[j]? = some z ∧ Skeleton.root sg' z = t ∧ sg'.tensors[z.toNat]? = some tz ∧
        HoldsParam tbl P tz ∧
        (z = t ∨ ((sg.tensors.length : Int) ≤ z ∧
          ∃ ci, ({ code := ci, inputs := [t], outputs := [z], orig := none } : Op) ∈ sg'.ops ∧
            m'.opcodes[ci]? = some Tables.opQuantize))
  | .quantTensor => ∀ P, prm = some P → ∃ tz pid, ConstHolds m' tbl sg' t tn P tz pid ∧ o'.inputs[j]? = some t
  | .addDequant => ∀ P, prm = some P →
      ∃ tz pid z tzz ci, ConstHolds m' tbl sg' t tn P tz pid ∧ ReadsDequant m' sg sg' o' j t z tzz ci
  | .emulated => True

/-- **the result column** (`Mat.tensorXfs cfg false _`): `NO_QUANTIZE` keeps the record, `ADD_DEQUANTIZE` makes
    the tensor hold the parameter object -/
def ResultTyped (tbl : List Param) (sg' : Subgraph) (t : Int) (tn : Tensor) (x : Xf) (prm : Option Param) : Prop :=
  match x with
  | .noQuant => sg'.tensors[t.toNat]? = some tn
  | .addDequant => ∀ P, prm = some P → ∃ tn', sg'.tensors[t.toNat]? = some tn' ∧ HoldsParam tbl P tn'
  | _ => True

/-- the instructions of `tis` on tensor `i` of subgraph `s` are those of its dictionary entry `e` -/
structure EntryAt (m : Model) (res : List (String × CReq)) (tis : List TInsts) (s : Nat) (sg : Subgraph) (i : Nat)
    (e : CReq) : Prop where
  ok : ReqOK (ptableOf (tblOf res)) m (absR (tblOf res) e)
  valid : instsValid (Locality.instsList (tensorInfo s sg i) (absR (tblOf res) e)) = true
  mem : (⟨e.name, s, Locality.instsList (tensorInfo s sg i) (absR (tblOf res) e)⟩ : TInsts) ∈ tis
  all : ∀ ti ∈ tis, ti.sg = s → ∀ ins ∈ ti.insts, ins.tensor = (i : Int) →
    ins ∈ Locality.instsList (tensorInfo s sg i) (absR (tblOf res) e)

theorem tensor_entry {m : Model} {res : List (String × CReq)} (C : Ctx m res) (tis : List TInsts)
    (hgen : genInsts m (areqsOf res) = .ok tis) (e : String × CReq) (he : e ∈ res)
    (s : Nat) (sg : Subgraph) (i : Nat) (hloc : Loc m e.1 s sg i) : EntryAt m res tis s sg i e.2 := by
  obtain ⟨hreq, -, hvalid, hti⟩ := ReqTrace.ti_of_entry C hgen he hloc
  refine ⟨hreq, hvalid, hti, ?_⟩
  intro ti' hti' hs' ins hins hten
  obtain ⟨hsg, t, ht, hn⟩ := hloc
  obtain ⟨e2, he2, hin⟩ := ReqTrace.inst_entry C hgen hsg ht hti' hs' hins hten
  -- same name, hence same key, hence same entry
  have h1 := (Py.mem_iff_dictGet? res C.keys _ _).1 he2
  rw [hn, (Py.mem_iff_dictGet? res C.keys e.1 e.2).1 he] at h1
  cases h1
  exact hin

theorem tensor_noEntry {m : Model} {res : List (String × CReq)} (C : Ctx m res) (tis : List TInsts)
    (hgen : genInsts m (areqsOf res) = .ok tis) (s : Nat) (sg : Subgraph) (i : Nat) (tn : Tensor)
    (hsg : m.subgraphs[s]? = some sg) (htn : sg.tensors[i]? = some tn)
    (hno : Py.dictGet? res tn.name = none) :
    ∀ ti ∈ tis, ti.sg = s → ∀ ins ∈ ti.insts, ins.tensor ≠ (i : Int) := by
  intro ti' hti' hs' ins hins hten
  obtain ⟨e, he, -⟩ := ReqTrace.inst_entry C hgen hsg htn hti' hs' hins hten
  have := (Py.mem_iff_dictGet? res C.keys _ _).1 he
  rw [hno] at this
  cases this

theorem prod_not_const {m : Model} {res : List (String × CReq)} (C : Ctx m res) {s : Nat} {sg : Subgraph}
    {i : Nat} {tn : Tensor} {e : CReq} {p : CO2T} (hsg : m.subgraphs[s]? = some sg)
    (htn : sg.tensors[i]? = some tn) (he : (tn.name, e) ∈ res) (hp : e.producer = some p) :
    isConst m sg (i : Int) = false := by
  cases hc : isConst m sg (i : Int) with
  | false => rfl
  | true =>
    have := const_noProd C (tn.name, e) he s sg i ⟨hsg, tn, htn, rfl⟩ hc
    rw [hp] at this
    cases this

theorem tensor_unretyped {pt : PTable} {m : Model} {tis : List TInsts} {stF : PState}
    (F : TypingGraph.Final pt m tis stF) {s : Nat} {sg sg' : Subgraph} (hsg : m.subgraphs[s]? = some sg)
    (hsg' : stF.model.subgraphs[s]? = some sg') {i : Nat} {tn : Tensor} (htn : sg.tensors[i]? = some tn)
    (hnr : ∀ p, ¬ SharingE2E.Retyped tis s i p) : sg'.tensors[i]? = some tn := by
  obtain ⟨tn', T⟩ := TypingGraph.tensor_final pt m tis stF F s sg sg' hsg hsg' i tn htn
  rcases T.typed with rfl | ⟨p, hr, -⟩
  · exact T.get
  · exact absurd hr (hnr p)

/-- an op-adding instruction on tensor `t` lists consumer id `kk`: an operator position, or `-1`, the id that the OUTPUT
    pseudo-operator of `Mat.generate` gives its request sides -/
def WiresI (tis : List TInsts) (s : Nat) (t : Int) (kk : Int) : Prop :=
  ∃ ti ∈ tis, ∃ ins ∈ ti.insts, ti.sg = s ∧ ins.tensor = t ∧ Wiring.addsOp ins.xf = true ∧ kk ∈ ins.consumers

theorem noQuant_consumer_insts {m : Model} {res : List (String × CReq)} (C : Ctx m res) (tis : List TInsts)
    (hgen : genInsts m (areqsOf res) = .ok tis)
    (s : Nat) (sg : Subgraph) (hsg : m.subgraphs[s]? = some sg)
    (i : Nat) (tn : Tensor) (htn : sg.tensors[i]? = some tn) (e : CReq) (he : (tn.name, e) ∈ res)
    (cs : List CO2T) (hcs : e.consumers = some cs) (kk : Int)
    (c : CO2T) (hc : c ∈ cs) (hck : c.opId = kk) (hcx : c.xfs = [.noQuant]) :
    ((e.producer = none ∨ ∃ p, e.producer = some p ∧ p.xfs = [.noQuant]) ∧
      ¬ WiresI tis s (i : Int) kk ∧ ∀ p, ¬ SharingE2E.Retyped tis s i p) ∨
    ((∃ p, e.producer = some p ∧ p.xfs = [.addDequant]) ∧ WiresI tis s (i : Int) kk ∧
      ∀ ti ∈ tis, ti.sg = s → ∀ ins ∈ ti.insts, ins.tensor = (i : Int) → Wiring.addsOp ins.xf = true →
        kk ∈ ins.consumers → ins.xf = .addDequant) := by
  have E := tensor_entry C tis hgen (tn.name, e) he s sg i ⟨hsg, tn, htn, rfl⟩
  have hos := ReqTrace.absR_consumers (tbl := tblOf res) hcs
  have ho := List.mem_map_of_mem (f := absO (tblOf res)) hc
  subst hck
  have hfloat : ((absR (tblOf res) e).producer = none ∨ ∃ p, (absR (tblOf res) e).producer = some p ∧ p.xfs = [.noQuant]) →
      ¬ WiresI tis s (i : Int) c.opId ∧ ∀ p, ¬ SharingE2E.Retyped tis s i p := by
    intro hfl
    obtain ⟨hnq, hnw⟩ := GenInstsOK.noQuant_float (tensorInfo s sg i) _ E.ok.consShape E.ok.consSameOp _ hos _ ho hcx hfl
    refine ⟨?_, ?_⟩
    · rintro ⟨ti, hti', ins, hins, hs, ht, hadd, hk⟩
      exact hnw ins (E.all ti hti' hs ins hins ht) hadd hk
    · rintro p ⟨ti, hti', ins, hins, hs, ht, hr, -⟩
      have := GenInstsOK.instsValid_noRetype _ E.valid hnq ins (E.all ti hti' hs ins hins ht)
      rw [hr] at this; cases this
  cases hp : e.producer with
  | none => exact .inl ⟨.inl rfl, hfloat (.inl (ReqTrace.absR_producer hp))⟩
  | some p =>
    have hpo := ReqTrace.absR_producer (tbl := tblOf res) hp
    rcases E.ok.prodShape _ hpo with hpx | hpx
    · exact .inl ⟨.inr ⟨p, rfl, hpx⟩, hfloat (.inr ⟨_, hpo, hpx⟩)⟩
    · obtain ⟨⟨ins, hins, h1, h2, h3⟩, hu⟩ := GenInstsOK.noQuant_dequant (tensorInfo s sg i) _ E.ok.consShape
        E.ok.consSameOp _ hos _ ho hcx _ hpo hpx
      refine .inr ⟨⟨p, rfl, hpx⟩, ⟨_, E.mem, ins, hins, rfl, h3, by rw [h1]; rfl, h2⟩, ?_⟩
      intro ti hti' hs ins' hins' ht hadd hk
      exact hu ins' (E.all ti hti' hs ins' hins' ht) hadd hk

theorem noQuant_producer_insts {m : Model} {res : List (String × CReq)} (C : Ctx m res) (tis : List TInsts)
    (hgen : genInsts m (areqsOf res) = .ok tis)
    (s : Nat) (sg : Subgraph) (hsg : m.subgraphs[s]? = some sg)
    (i : Nat) (tn : Tensor) (htn : sg.tensors[i]? = some tn) (e : CReq) (he : (tn.name, e) ∈ res)
    (p : CO2T) (hp : e.producer = some p) (hpx : p.xfs = [.noQuant]) :
    ∀ q, ¬ SharingE2E.Retyped tis s i q := by
  have hloc : Loc m tn.name s sg i := ⟨hsg, tn, htn, rfl⟩
  have E := tensor_entry C tis hgen (tn.name, e) he s sg i hloc
  have hpo := ReqTrace.absR_producer (tbl := tblOf res) hp
  have hnc : isConst m sg i = false := prod_not_const C hsg htn he hp
  have hcons : ∀ os o, (absR (tblOf res) e).consumers = some os → o ∈ os → o.xfs = [.noQuant] ∨ o.xfs = [.addQuant] := by
    intro os o hos ho
    obtain ⟨cs, hcs, rfl⟩ := Option.map_eq_some_iff.1 hos
    obtain ⟨c, hc, rfl⟩ := List.mem_map.1 ho
    obtain ⟨⟨x, hx, hne, hq⟩, -⟩ := ((C.entries _ he).cons cs c hcs hc s sg i hloc).1
    show c.xfs = _ ∨ c.xfs = _
    rw [hx]
    cases x
    · exact .inl rfl
    · exact .inr rfl
    · have := hq (.inr rfl); rw [hnc] at this; cases this
    · have := hq (.inl rfl); rw [hnc] at this; cases this
    · exact absurd rfl hne
  have hno := GenInstsOK.prod_noQuant_noRetype (tensorInfo s sg i) _ E.ok.consShape _ hpo hpx hcons
  rintro q ⟨ti, hti', ins, hins, hs, ht, hr, -⟩
  have := hno ins (E.all ti hti' hs ins hins ht)
  rw [hr] at this; cases this

theorem f32_loc {m : Model} (hnu : namesUnique m) (s : Nat) (sg : Subgraph) (i : Nat) (tn : Tensor)
    (hsg : m.subgraphs[s]? = some sg) (htn : sg.tensors[i]? = some tn)
    (h : ∃ sg' ∈ m.subgraphs, TypingShape.F32 sg' tn.name) : tn.dtype = Tables.ttFloat32 := by
  obtain ⟨sg', hsg', t', ht', hn, hf⟩ := h
  obtain ⟨-, rfl⟩ := ReqTrace.named_at_mem hnu hsg htn hsg' ht' hn
  exact hf

/-- **the row `[NO_QUANTIZE]`, for any reader** `kk` (an operator position, or `-1` for the graph outputs) -/
theorem noQuant_reader {rx : String → String → Bool} {env : Env} {st : Recipe.State} {qsvs : Option Qsvs}
    {res : List (String × CReq)} {tis : List TInsts} {stF : PState}
    (S : Stages rx env st qsvs stF.model (tblOf res) res tis)
    (F : TypingGraph.Final (ptableOf (tblOf res)) env.model tis stF)
    {s : Nat} {sg sg' : Subgraph} (hsg : env.model.subgraphs[s]? = some sg)
    (hsg' : stF.model.subgraphs[s]? = some sg') {kk : Int} {i : Nat} {z : Int}
    (hread : IOInv.Reads (ptableOf (tblOf res)) tis stF s sg sg' (fun ins => kk ∈ ins.consumers) (i : Int) z)
    {tn : Tensor} (htn : sg.tensors[i]? = some tn) {e : CReq} (he : (tn.name, e) ∈ res)
    {cs : List CO2T} (hcs : e.consumers = some cs) {c : CO2T} (hc : c ∈ cs) (hck : c.opId = kk)
    (hcx : c.xfs = [.noQuant]) : Untouched env stF.model sg sg' (i : Int) tn z := by
  have C := S.ctx
  rcases noQuant_consumer_insts C tis S.gen s sg hsg i tn htn e he cs hcs kk c hc hck hcx with
    ⟨-, hnw, hnr⟩ | ⟨⟨p, hp, hpx⟩, hw, hu⟩
  · -- not produced quantized: the reader holds the original tensor, untouched
    refine .inl ⟨hread.same hnw, by rw [Int.toNat_natCast]; exact tensor_unretyped F hsg hsg' htn hnr, fun hconst => ?_⟩
    obtain ⟨c0, hc0⟩ := (GraphStep.isConst_nat env.model sg i tn htn).1 hconst
    rcases F.binv.bufs tn.buffer c0 hc0 with hb | ⟨s1, i1, p, pi, r1, r2, -⟩
    · rw [hb, hc0]
    · obtain ⟨p', hp'⟩ := S.sa.all tn.buffer c0 hc0 s1 i1 p s i r1 ⟨sg, tn, hsg, htn, rfl⟩ r2
      exact absurd hp' (hnr p')
  · -- produced quantized: the reader holds the result of an inserted DEQUANTIZE
    obtain ⟨n, ti, ins, rfl, g2, g3, N, c0, huq⟩ := hread.new hw
    have hxf : ins.xf = .addDequant := hu ti N.hti N.hs ins N.hins g2 N.adds g3
    obtain ⟨ci, tn', A⟩ :=
      IOInv.newT_slot N (F.base.sk.sgs s sg sg' hsg hsg') tn (by rw [g2, Int.toNat_natCast]; exact htn)
    have a1 := A.get
    have a6 := A.op
    have a7 := A.root
    rw [A.fresh (by rw [hxf]; decide), show IOStep.sfx ins.xf = "_dequant" by rw [hxf]; rfl] at a1
    rw [g2] at a6 a7
    -- `ci` is the opcode index of the one inserted operator that produces `n`
    obtain rfl : ci = c0 := congrArg Op.code (huq _ a6 rfl rfl)
    exact .inr ⟨prod_not_const C hsg htn he hp,
      f32_loc C.nu s sg i tn hsg htn (((S.typ _ he).1 p hp).elim fun sgq hq => ⟨sgq, hq.1, hq.2.1 hpx⟩),
      n, ci, rfl, N.ge, a1, a6, by rw [A.code, hxf]; rfl, huq, a7⟩

/-- what the row lemmas about one original operator `k` share -/
structure OpCtx (rx : String → String → Bool) (env : Env) (st : Recipe.State) (qsvs : Option Qsvs)
    (res : List (String × CReq)) (tis : List TInsts) (stF : PState) (s : Nat) (sg sg' : Subgraph) (k : Nat)
    (op : Op) (rs : List CReq) (o' : Op) : Prop where
  S : Stages rx env st qsvs stF.model (tblOf res) res tis
  F : TypingGraph.Final (ptableOf (tblOf res)) env.model tis stF
  hsg : env.model.subgraphs[s]? = some sg
  hsg' : stF.model.subgraphs[s]? = some sg'
  hop : sg.ops[k]? = some op
  /-- every request made for `k` is in the dictionary: its sides are sides of the entry of its tensor -/
  has : ∀ r ∈ rs, TypingReq.Has res r
  image : KernelSig.Same sg' k op o'
  /-- what `o'` reads in place of operand `t`: `t`, or the tensor appended by an op-adding instruction on `t` that lists `k` -/
  slot : ∀ (j : Nat) (t : Int), op.inputs[j]? = some t → ∃ z, o'.inputs[j]? = some z ∧
    IOInv.Reads (ptableOf (tblOf res)) tis stF s sg sg' (fun ins => (k : Int) ∈ ins.consumers) t z

section Ctx

variable {rx : String → String → Bool} {env : Env} {st : Recipe.State} {qsvs : Option Qsvs}
  {res : List (String × CReq)} {tis : List TInsts} {stF : PState} {s : Nat} {sg sg' : Subgraph} {k : Nat}
  {op : Op} {rs : List CReq} {o' : Op} (X : OpCtx rx env st qsvs res tis stF s sg sg' k op rs o')

include X

theorem OpCtx.opOK : GraphStep.OpOK env.model sg k op :=
  (GraphStep.SgOK.of_wf X.S.ctx.wf (List.mem_of_getElem? X.hsg)).ops k op X.hop

theorem OpCtx.operand_nat {j : Nat} {t : Int} (hj : op.inputs[j]? = some t) (hne : t ≠ -1) :
    ∃ i : Nat, t = (i : Int) ∧ i < sg.tensors.length := by
  rcases X.opOK.ins t (List.mem_of_getElem? hj) with h | h
  · exact absurd h hne
  · obtain ⟨h0, hlt⟩ := h.1
    exact ⟨t.toNat, by omega, by omega⟩

theorem OpCtx.result_nat {j : Nat} {t : Int} (hj : op.outputs[j]? = some t) (hne : t ≠ -1) :
    ∃ i : Nat, t = (i : Int) ∧ i < sg.tensors.length ∧ isConst env.model sg (i : Int) = false := by
  rcases X.opOK.outs t (List.mem_of_getElem? hj) with h | h
  · exact absurd h hne
  · obtain ⟨⟨h0, hlt⟩, -, hnc, -⟩ := h
    have hcast : ((t.toNat : Nat) : Int) = t := by omega
    exact ⟨t.toNat, hcast.symm, by omega, by rw [hcast]; exact hnc⟩

theorem OpCtx.consumer_entry {n : String} {c : CO2T} (hr : sideReq n true c ∈ rs) :
    ∃ e cs, (n, e) ∈ res ∧ e.consumers = some cs ∧ c ∈ cs := by
  obtain ⟨e, he, -, h⟩ := X.has _ hr
  obtain ⟨cs, hcs, hsub⟩ := h [c] rfl
  exact ⟨e, cs, Py.dictGet?_mem _ _ _ he, hcs, hsub c List.mem_cons_self⟩

theorem OpCtx.producer_entry {n : String} {p : CO2T} (hr : sideReq n false p ∈ rs) :
    ∃ e, (n, e) ∈ res ∧ e.producer = some p := by
  obtain ⟨e, he, h, -⟩ := X.has _ hr
  exact ⟨e, Py.dictGet?_mem _ _ _ he, h p rfl⟩

theorem OpCtx.root_slot {j : Nat} {t z : Int} (hj : op.inputs[j]? = some t) (hz : o'.inputs[j]? = some z) :
    Skeleton.root sg' z = t := by
  have := congrArg (·[j]?) X.image.root
  simpa only [List.getElem?_map, hz, hj, Option.map_some, Option.some.injEq] using this

theorem OpCtx.absent_operand {j : Nat} (hj : op.inputs[j]? = some (-1)) :
    UntouchedOperand env stF.model sg sg' o' j (-1) := by
  obtain ⟨z, hz, hread⟩ := X.slot j _ hj
  obtain rfl := hread.same (by
    rintro ⟨ti, hti, ins, hins, hs, ht, -, -⟩
    obtain ⟨sgx, hsgx, hall⟩ := (X.S.ok ti hti).insts
    have hv := ((GraphStep.validT_iff _ _).1 (hall ins hins).tvalid).1
    omega)
  exact .inl ⟨rfl, hz⟩

theorem OpCtx.noQuant_result {i : Nat} {tn : Tensor} (htn : sg.tensors[i]? = some tn) {p : CO2T}
    (hr : sideReq tn.name false p ∈ rs) (hpx : p.xfs = [.noQuant]) : sg'.tensors[i]? = some tn := by
  obtain ⟨e, he, hpe⟩ := X.producer_entry hr
  exact tensor_unretyped X.F X.hsg X.hsg' htn
    (noQuant_producer_insts X.S.ctx tis X.S.gen s sg X.hsg i tn htn e he p hpe hpx)

theorem OpCtx.dequant_result {i : Nat} {tn : Tensor} (htn : sg.tensors[i]? = some tn) {c : CO2T}
    (hr : sideReq tn.name false c ∈ rs) (hcx : c.xfs = [.addDequant]) {P : Param}
    (hP : c.param = some P) : ∃ tn', sg'.tensors[i]? = some tn' ∧ HoldsParam (tblOf res) P tn' := by
  obtain ⟨e, he, hc⟩ := X.producer_entry hr
  have E := tensor_entry X.S.ctx tis X.S.gen (tn.name, e) he s sg i ⟨X.hsg, tn, htn, rfl⟩
  have hpo := ReqTrace.absR_producer (tbl := tblOf res) hc
  obtain ⟨pid, hpid, hidx⟩ := ReqTrace.side_pid he (mem_sides.2 (.inl hc)) hP
  obtain ⟨⟨ins, hins, hr, hten⟩, hu⟩ := GenInstsOK.prod_dequant_retype (tensorInfo s sg i) _ E.ok.consShape _ hpo hcx
    (fun cs c' h1 h2 => E.ok.prodCons _ cs c' hpo hcx h1 h2)
  obtain ⟨pp, -, -, hpp, -, -⟩ := X.F.params _ E.mem ins hins (Wiring.retypes_insertion _ hr)
  obtain ⟨tn', T⟩ := TypingGraph.tensor_final _ env.model tis stF X.F s sg sg' X.hsg X.hsg' i tn htn
  obtain ⟨p', ⟨ti', hti', ins', hins', hs', ht', hr', hp'⟩, hty⟩ := T.written ⟨pp, _, E.mem, ins, hins, rfl, hten, hr, hpp⟩
  have := hu ins' (E.all ti' hti' hs' ins' hins' ht') hr'
  rw [hp', hpid] at this
  cases this
  exact ⟨tn', T.get, holds_of_typedBy _ P pid tn' hidx hty⟩

theorem OpCtx.addQuant_operand {j i : Nat} {tn : Tensor} (hj : op.inputs[j]? = some (i : Int))
    (htn : sg.tensors[i]? = some tn) {c : CO2T} (hr : sideReq tn.name true c ∈ rs) (hck : c.opId = (k : Int))
    (hcx : c.xfs = [.addQuant]) :
    OperandTyped env stF.model (tblOf res) sg sg' o' j (i : Int) tn .addQuant c.param := by
  intro P hP
  obtain ⟨e, cs, he, hcs, hc⟩ := X.consumer_entry hr
  have F := X.F
  have hsg := X.hsg
  have hsg' := X.hsg'
  obtain ⟨z, hz, hread⟩ := X.slot j _ hj
  have E := tensor_entry X.S.ctx tis X.S.gen (tn.name, e) he s sg i ⟨hsg, tn, htn, rfl⟩
  have hos := ReqTrace.absR_consumers (tbl := tblOf res) hcs
  have ho := List.mem_map_of_mem (f := absO (tblOf res)) hc
  obtain ⟨pid, hpid, hidx⟩ := ReqTrace.side_pid he (mem_sides.2 (.inr ⟨cs, hcs, hc⟩)) hP
  have hoid : (absO (tblOf res) c).opId = (k : Int) := hck
  obtain ⟨hu, hsame, hdiff⟩ := GenInstsOK.addQuant_consumer (tensorInfo s sg i) _ E.ok.consShape E.ok.consSameOp
    (tensorInfo_consumers s sg i).2 _ hos _ ho hcx E.ok.prodShape
  by_cases hcase : ∃ p, (absR (tblOf res) e).producer = some p ∧ p.xfs = [.addDequant] ∧
      p.param = (absO (tblOf res) c).param
  · obtain ⟨po, hpo, hpox, hpar⟩ := hcase
    have hnw : ¬ WiresI tis s (i : Int) k := by
      rintro ⟨ti', hti', ins', hins', hs', ht', hadd, hk⟩
      exact hsame ⟨po, hpo, hpox, hpar⟩ ins' (E.all ti' hti' hs' ins' hins' ht') hadd (hoid ▸ hk)
    obtain ⟨⟨ins, hins, hr, hten⟩, hup⟩ := GenInstsOK.prod_dequant_retype (tensorInfo s sg i) _ E.ok.consShape po hpo hpox
      (fun cs' c' h1 h2 => E.ok.prodCons po cs' c' hpo hpox h1 h2)
    obtain ⟨pp, -, -, hpp, -, -⟩ := F.params _ E.mem ins hins (Wiring.retypes_insertion _ hr)
    obtain ⟨tn', T⟩ := TypingGraph.tensor_final _ env.model tis stF F s sg sg' hsg hsg' i tn htn
    obtain ⟨p', ⟨ti', hti', ins', hins', hs', ht', hr', hp'⟩, hty⟩ := T.written ⟨pp, _, E.mem, ins, hins, rfl, hten, hr, hpp⟩
    have := hup ins' (E.all ti' hti' hs' ins' hins' ht') hr'
    rw [hp', hpar, hpid] at this
    cases this
    obtain rfl := hread.same hnw
    exact ⟨(i : Int), tn', hz, X.root_slot hj hz, by rw [Int.toNat_natCast]; exact T.get,
      holds_of_typedBy _ P pid tn' hidx hty, .inl rfl⟩
  · obtain ⟨ins, hins, h1, h2, h3, h4⟩ := hdiff hcase
    obtain ⟨n, ti', ins', rfl, w4, w6, N, -⟩ :=
      hread.new ⟨_, E.mem, ins, hins, rfl, h4, by rw [h1]; rfl, hoid ▸ h2⟩
    obtain ⟨g1, g2⟩ := hu ins' (E.all ti' N.hti N.hs ins' N.hins w4) N.adds (hoid ▸ w6)
    obtain ⟨tn0, pp, pi, ty, -, e1, e2, e3, hrec⟩ := N.record
    rw [g2, hpid] at e1
    cases e1
    obtain ⟨ci, hop', hcode⟩ := N.op
    rw [IOStep.newRecord, if_pos g1] at hrec
    refine ⟨n, _, hz, X.root_slot hj hz, by rw [Int.toNat_natCast]; exact hrec, ?_,
      .inr ⟨by exact_mod_cast N.ge, ci, w4 ▸ hop', by rw [hcode, g1]; rfl⟩⟩
    exact holds_of_typedBy _ P pid _ hidx ⟨pi, ty, e2, e3, StepTypes.retype_dtype .., fun hun => by
      rw [StepTypes.retype_quant, if_pos hun]⟩

theorem OpCtx.const_operand {j i : Nat} {tn : Tensor} (hj : op.inputs[j]? = some (i : Int))
    (htn : sg.tensors[i]? = some tn) {c : CO2T} (hr : sideReq tn.name true c ∈ rs) (hck : c.opId = (k : Int))
    {x : Xf} (hcx : c.xfs = [x]) (hxr : x = .quantTensor ∨ x = .addDequant) {P : Param} (hP : c.param = some P) :
    ∃ tz pid, ConstHolds stF.model (tblOf res) sg' (i : Int) tn P tz pid ∧
      (x = .quantTensor → o'.inputs[j]? = some (i : Int)) ∧
      (x = .addDequant → ∃ z tzz ci, ReadsDequant stF.model sg sg' o' j (i : Int) z tzz ci) := by
  obtain ⟨e, cs, he, hcs, hc⟩ := X.consumer_entry hr
  have S := X.S
  have F := X.F
  have hsg := X.hsg
  have hsg' := X.hsg'
  obtain ⟨z, hz, hread⟩ := X.slot j _ hj
  have C := S.ctx
  have hloc : Loc env.model tn.name s sg i := ⟨hsg, tn, htn, rfl⟩
  -- the tensor is a constant, so nothing produces it
  obtain ⟨⟨x', hx', -, hq⟩, -⟩ := ((C.entries _ he).cons cs c hcs hc s sg i hloc).1
  rw [hcx] at hx'
  cases hx'
  have hconst : isConst env.model sg (i : Int) = true := hq hxr
  have hprod : e.producer = none := const_noProd C (tn.name, e) he s sg i hloc hconst
  have E := tensor_entry C tis S.gen (tn.name, e) he s sg i hloc
  obtain ⟨pid, hpid, hidx⟩ := ReqTrace.side_pid he (mem_sides.2 (.inr ⟨cs, hcs, hc⟩)) hP
  have hoid : (absO (tblOf res) c).opId = (k : Int) := hck
  obtain ⟨⟨ins, hins, h1, h2, h3, h4⟩, hu⟩ := GenInstsOK.consumer_noProd (tensorInfo s sg i) _ E.ok.consShape
    E.ok.consSameOp (ReqTrace.absR_producer hprod) _ (ReqTrace.absR_consumers hcs) _ (List.mem_map_of_mem hc) x hcx
  have hr : Wiring.retypes ins.xf = true := by rcases hxr with rfl | rfl <;> rw [h1] <;> rfl
  have hcast : ins.tensor.toNat = i := by
    have : ins.tensor = (i : Int) := h4
    omega
  obtain ⟨c0, hc0⟩ := (GraphStep.isConst_nat env.model sg i tn htn).1 hconst
  have hRet : SharingE2E.Retyped tis s i pid := ⟨_, E.mem, ins, hins, rfl, h4, hr, by rw [h3, hpid]⟩
  obtain ⟨sgw, tnw, p', w1, w2, w3, w4, w5⟩ := F.done _ E.mem ins hins hr sg tn hsg (by rw [hcast]; exact htn)
  rw [hsg'] at w1; cases w1
  rw [hcast] at w2 w3
  -- sharing (`S.sa.same`): every instruction that retypes a tensor over this buffer carries one parameter id; hence `p' = pid`,
  -- and the buffer is packed with that id (`w5`)
  have hSame := S.sa.same tn.buffer c0 hc0
  have hRef : SharingE2E.Referent env.model tn.buffer s i := ⟨sg, tn, hsg, htn, rfl⟩
  have hpp : p' = pid := hSame s i p' s i pid hRef hRef w3 hRet
  subst hpp
  obtain ⟨q, hq1, hq2⟩ := w5 c0 hc0
  have hqp := hq2 hSame
  subst hqp
  refine ⟨tnw, q, ⟨w2, holds_of_typedBy _ P q tnw hidx w4, hidx, hq1⟩, ?_, ?_⟩
  · intro hxq
    obtain rfl := hread.same (by
      rintro ⟨ti', hti', ins', hins', hs', ht', hadd, hk⟩
      have := (hu ins' (E.all ti' hti' hs' ins' hins' ht') (hoid ▸ hk)).1
      rw [this, hxq] at hadd
      cases hadd)
    exact hz
  · intro hxd
    obtain ⟨n, ti', ins', rfl, v4, v6, N, -⟩ :=
      hread.new ⟨_, E.mem, ins, hins, rfl, h4, by rw [h1, hxd]; rfl, hoid ▸ h2⟩
    have hxf' : ins'.xf = .addDequant := (hu ins' (E.all ti' N.hti N.hs ins' N.hins v4) (hoid ▸ v6)).1.trans hxd
    obtain ⟨ci, tn', A⟩ :=
      IOInv.newT_slot N (F.base.sk.sgs s sg sg' hsg hsg') tn (by rw [v4, Int.toNat_natCast]; exact htn)
    have a1 := A.get
    rw [A.fresh (by rw [hxf']; decide)] at a1
    exact ⟨n, _, ci, hz, by exact_mod_cast N.ge, by rw [Int.toNat_natCast]; exact a1, rfl, rfl, rfl, v4 ▸ A.op,
      by rw [A.code, hxf']; rfl, v4 ▸ A.root⟩

theorem OpCtx.noQuant_operand {j i : Nat} {tn : Tensor} (hj : op.inputs[j]? = some (i : Int))
    (htn : sg.tensors[i]? = some tn) {c : CO2T} (hr : sideReq tn.name true c ∈ rs) (hck : c.opId = (k : Int))
    (hcx : c.xfs = [.noQuant]) : UntouchedOperand env stF.model sg sg' o' j (i : Int) := by
  obtain ⟨e, cs, he, hcs, hc⟩ := X.consumer_entry hr
  obtain ⟨z, hz, hread⟩ := X.slot j _ hj
  exact (noQuant_reader X.S X.F X.hsg X.hsg' hread htn he hcs hc hck hcx).operand htn hz

theorem OpCtx.operand_typed {j i : Nat} {tn : Tensor} (hj : op.inputs[j]? = some (i : Int))
    (htn : sg.tensors[i]? = some tn) {c : CO2T} (hr : sideReq tn.name true c ∈ rs) (hck : c.opId = (k : Int))
    {x : Xf} (hcx : c.xfs = [x]) : OperandTyped env stF.model (tblOf res) sg sg' o' j (i : Int) tn x c.param := by
  cases x with
  | noQuant => exact X.noQuant_operand hj htn hr hck hcx
  | addQuant => exact X.addQuant_operand hj htn hr hck hcx
  | quantTensor =>
    intro P hP
    obtain ⟨tz, pid, hC, hq, -⟩ := X.const_operand hj htn hr hck hcx (.inl rfl) hP
    exact ⟨tz, pid, hC, hq rfl⟩
  | addDequant =>
    intro P hP
    obtain ⟨tz, pid, hC, -, hd⟩ := X.const_operand hj htn hr hck hcx (.inr rfl) hP
    obtain ⟨z, tzz, ci, hz⟩ := hd rfl
    exact ⟨tz, pid, z, tzz, ci, hC, hz⟩
  | emulated => trivial

theorem OpCtx.result_typed {i : Nat} {tn : Tensor} (htn : sg.tensors[i]? = some tn) {c : CO2T}
    (hr : sideReq tn.name false c ∈ rs) {x : Xf} (hcx : c.xfs = [x]) :
    ResultTyped (tblOf res) sg' (i : Int) tn x c.param := by
  cases x with
  | noQuant => exact X.noQuant_result htn hr hcx
  | addDequant => exact fun P hP => X.dequant_result htn hr hcx hP
  | addQuant | quantTensor | emulated => trivial

end Ctx

/-- **the image `o'` of the original operator `k` in the output**, with the requests `rs` the materialisation made for `k` under
    the statistics `qs0` in force: every one-sided request that `rs` holds for a slot's tensor is carried out -/
structure OpImage (rx : String → String → Bool) (env : Env) (st : Recipe.State) (qsvs : Option Qsvs) (m' : Model)
    (tbl : List Param) (s : Nat) (sg sg' : Subgraph) (k : Nat) (op o' : Op) (rs : List CReq) (qs0 qs1 : Qsvs) : Prop where
  same : KernelSig.Same sg' k op o'
  grows : sg.tensors.length ≤ sg'.tensors.length
  stats : ParamsSrc.StatsAt rx env st qsvs s sg k qs0
  reqs : opReqs rx env st s sg qs0 (op, none, (k : Int)) = .ok (rs, qs1)
  absent : ∀ j : Nat, op.inputs[j]? = some (-1) → o'.inputs[j]? = some (-1)
  operand : ∀ (j : Nat) (t : Int), op.inputs[j]? = some t → t ≠ -1 →
    ∃ tn, 0 ≤ t ∧ tensorAt sg t = .ok tn ∧ sg.tensors[t.toNat]? = some tn ∧
      (constData env tn).isSome = isConst env.model sg t ∧
      ∀ (c : CO2T) (x : Xf), sideReq tn.name true c ∈ rs → c.opId = (k : Int) → c.xfs = [x] →
        OperandTyped env m' tbl sg sg' o' j t tn x c.param
  result : ∀ (j : Nat) (t : Int), op.outputs[j]? = some t → t ≠ -1 →
    ∃ tn, tensorAt sg t = .ok tn ∧ sg.tensors[t.toNat]? = some tn ∧ constData env tn = none ∧
      ∀ (c : CO2T) (x : Xf), sideReq tn.name false c ∈ rs → c.xfs = [x] → ResultTyped tbl sg' t tn x c.param

/-- **every original operator, whatever the recipe selected for it, has its image in the output**; the statements per
    algorithm and mode (`TypingModes`) say which requests `rs` holds and read the rows -/
theorem op_sides_typed (rx : String → String → Bool) (env : Env) (st : Recipe.State)
    (qsvs : Option Qsvs) (m' : Model) (tbl : List Param) (hnf : PipelineWF.NF env st)
    (h : quantizePure rx env st qsvs = .ok (m', tbl))
    (s : Nat) (sg sg' : Subgraph) (hsg : env.model.subgraphs[s]? = some sg) (hsg' : m'.subgraphs[s]? = some sg')
    (k : Nat) (op : Op) (hop : sg.ops[k]? = some op) :
    ∃ (o' : Op) (rs : List CReq) (qs0 qs1 : Qsvs), OpImage rx env st qsvs m' tbl s sg sg' k op o' rs qs0 qs1 := by
  obtain ⟨res, tis, stF, rfl, rfl, S, F, R⟩ := run rx env st qsvs m' tbl hnf h
  obtain ⟨qs, hfold⟩ := S.fold
  obtain ⟨qs0, rs, qs1, hstat, hreq, hhas⟩ := TypingReq.generate_has_at rx env st qsvs qs res hfold s sg hsg k _
    (allOps_real sg k op hop)
  obtain ⟨o', I, m8⟩ := IOInv.op_final F.base R hnf.tagged s sg sg' hsg hsg' k op hop
  have X : OpCtx rx env st qsvs res tis stF s sg sg' k op rs o' :=
    ⟨S, F, hsg, hsg', hop, hhas, I, m8⟩
  -- `tensor_final` at index `sg'.tensors.length`
  have hlen : sg.tensors.length ≤ sg'.tensors.length := by
    by_contra hlt
    obtain ⟨tn', T⟩ := TypingGraph.tensor_final _ env.model tis stF F s sg sg' hsg hsg' sg'.tensors.length _
      (List.getElem?_eq_getElem (by omega))
    exact absurd (List.getElem?_eq_some_iff.1 T.get).1 (Nat.lt_irrefl _)
  refine ⟨o', rs, qs0, qs1, I, hlen, hstat, hreq, ?_, ?_, ?_⟩
  · intro j hj
    rcases X.absent_operand hj with ⟨-, h2⟩ | ⟨tn, h0, -⟩
    · exact h2
    · omega
  · intro j t hj hne
    obtain ⟨i, rfl, hlt⟩ := X.operand_nat hj hne
    obtain ⟨tn, htn⟩ : ∃ tn, sg.tensors[i]? = some tn := ⟨_, List.getElem?_eq_getElem hlt⟩
    exact ⟨tn, Int.natCast_nonneg i, (tensorAt_nat sg i tn).2 htn, by rw [Int.toNat_natCast]; exact htn,
      constData_isSome env sg i tn htn, fun c x hr hck hcx => X.operand_typed hj htn hr hck hcx⟩
  · intro j t hj hne
    obtain ⟨i, rfl, hlt, hnc⟩ := X.result_nat hj hne
    obtain ⟨tn, htn⟩ : ∃ tn, sg.tensors[i]? = some tn := ⟨_, List.getElem?_eq_getElem hlt⟩
    exact ⟨tn, (tensorAt_nat sg i tn).2 htn, by rw [Int.toNat_natCast]; exact htn, constData_none env sg i tn htn hnc,
      fun c x hr hcx => X.result_typed htn hr hcx⟩

/-- the recipe leaves operator `op` unquantized (see `C03.ResolvesNoQuant`) -/
def ResolvesNoQuant (rx : String → String → Bool) (env : Env) (st : Recipe.State) (sg : Subgraph) (op : Op) : Prop :=
  ∃ code, env.model.opcodes[op.code]? = some code ∧
    (opNameOfCode code = none ∨
     ∃ k scope, opNameOfCode code = some k ∧ opScope sg op = .ok scope ∧
       (Recipe.resolve rx st k scope).1 = Tables.algNoQuantize)

theorem opReqs_noquant (rx : String → String → Bool) (env : Env) (st : Recipe.State) (s : Nat) (sg : Subgraph)
    (op : Op) (k : Int) (hnq : ResolvesNoQuant rx env st sg op) (qs0 qs1 : Qsvs) (rs : List CReq)
    (h : opReqs rx env st s sg qs0 (op, none, k) = .ok (rs, qs1)) : noQuantOp sg op k = .ok rs := by
  obtain ⟨code, hcode, hn | ⟨nm, scope, hn, hsc, hres⟩⟩ := hnq
  · rcases opReqs_ok h with ⟨hq, -⟩ | ⟨k', scope', ops, fn, S, -⟩
    · exact hq
    · have := (keyOf_code hcode k).symm.trans S.hkey
      rw [hn] at this
      cases this
  · rcases opReqs_keyed (by rw [keyOf_code hcode, hn]) hsc h with ⟨-, hq⟩ | ⟨ops, fn, S, -⟩
    · exact hq
    · exact absurd hres S.halg

theorem noquant_op_untouched (rx : String → String → Bool) (env : Env) (st : Recipe.State)
    (qsvs : Option Qsvs) (m' : Model) (tbl : List Param) (hnf : PipelineWF.NF env st)
    (h : quantizePure rx env st qsvs = .ok (m', tbl))
    (s : Nat) (sg sg' : Subgraph) (hsg : env.model.subgraphs[s]? = some sg) (hsg' : m'.subgraphs[s]? = some sg')
    (k : Nat) (op : Op) (hop : sg.ops[k]? = some op) (hnq : ResolvesNoQuant rx env st sg op) :
    ∃ o', o' ∈ sg'.ops ∧ o'.orig = some k ∧ (∀ o'' ∈ sg'.ops, o''.orig = some k → o'' = o') ∧
      o'.code = op.code ∧ o'.outputs = op.outputs ∧ o'.inputs.length = op.inputs.length ∧
      o'.inputs.map (Skeleton.root sg') = op.inputs ∧
      (∀ t ∈ op.outputs, t ≠ -1 →
        ∃ tn, sg.tensors[t.toNat]? = some tn ∧ sg'.tensors[t.toNat]? = some tn) ∧
      ∀ (j : Nat) (t : Int), op.inputs[j]? = some t → UntouchedOperand env m' sg sg' o' j t := by
  obtain ⟨o', rs, qs0, qs1, M⟩ := op_sides_typed rx env st qsvs m' tbl hnf h s sg sg' hsg hsg' k op hop
  obtain ⟨rin, rout⟩ := TypingReq.noQuantOp_mem sg op k rs (opReqs_noquant rx env st s sg op k hnq qs0 qs1 rs M.reqs)
  refine ⟨o', M.same.mem, M.same.orig, M.same.uniq, M.same.code, M.same.outs, M.same.len, M.same.root, ?_, ?_⟩
  · intro t ht hne
    obtain ⟨j, hj⟩ := List.mem_iff_getElem?.1 ht
    obtain ⟨tn, hat, htn, -, hT⟩ := M.result j t hj hne
    obtain ⟨tn', hat', hr⟩ := rout t ht hne
    obtain rfl : tn = tn' := Except.ok.inj (hat.symm.trans hat')
    exact ⟨tn, htn, hT _ _ hr rfl⟩
  · intro j t hj
    by_cases hneg : t = -1
    · subst hneg
      exact .inl ⟨rfl, M.absent j hj⟩
    · obtain ⟨tn, -, hat, -, -, hT⟩ := M.operand j t hj hneg
      obtain ⟨tn', hat', hr⟩ := rin t (List.mem_of_getElem? hj) hneg
      obtain rfl : tn = tn' := Except.ok.inj (hat.symm.trans hat')
      exact hT _ _ hr rfl rfl

theorem inst_facts {rx : String → String → Bool} {env : Env} {st : Recipe.State} {qsvs : Option Qsvs}
    {m' : Model} {res : List (String × CReq)} {tis : List TInsts}
    (S : Stages rx env st qsvs m' (tblOf res) res tis) (ti : TInsts) (hti : ti ∈ tis) (ins : Inst)
    (hins : ins ∈ ti.insts) (hx : isInsertion ins.xf = true) (p : PId) (pi : PInfo)
    (hp : ins.param = some p) (hpi : pinfo (ptableOf (tblOf res)) p = some pi)
    (sg : Subgraph) (hsg : env.model.subgraphs[ti.sg]? = some sg) :
    ∃ (i : Nat) (tn : Tensor), ins.tensor = (i : Int) ∧ sg.tensors[i]? = some tn ∧
      (pi.uniform = true ∨ (pi.uniform = false ∧ pi.bits = 16 ∧ isConst env.model sg (i : Int) = true)) ∧
      (ins.xf = .addQuant → pi.uniform = true ∧ tn.dtype = Tables.ttFloat32 ∧
        isConst env.model sg (i : Int) = false) := by
  have C := S.ctx
  obtain ⟨i, tn, e, c, P, I⟩ := ReqTrace.inst_side C S.gen ti hti ins hins hx p hp sg hsg
  rw [pinfo_of_findIdx _ _ _ I.pid] at hpi
  cases hpi
  obtain ⟨hPT, hCT⟩ := S.typ _ I.entry
  refine ⟨i, tn, I.tensor, I.record, ?_⟩
  cases I.carries with
  | result hc _ hr =>
    obtain ⟨sgq, -, -, hu⟩ := hPT c hc
    obtain ⟨qp, d, rfl⟩ := hu P I.param
    refine ⟨.inl rfl, fun hq => ?_⟩
    rw [hq] at hr
    cases hr
  | operand cs hcs hc hcx _ _ =>
    obtain ⟨sgq, hsgq, hf, hu⟩ := hCT cs c hcs hc
    refine ⟨?_, fun hq => ?_⟩
    · rcases hu P I.param with ⟨qp, d, rfl⟩ | ⟨hxd, d, rfl⟩
      · exact .inl rfl
      · right
        refine ⟨rfl, rfl, ?_⟩
        obtain ⟨⟨x', hx', -, hq⟩, -⟩ := ((C.entries _ I.entry).cons cs c hcs hc ti.sg sg i ⟨hsg, tn, I.record, rfl⟩).1
        rw [hxd] at hx'
        cases hx'
        exact hq (.inr rfl)
    · rw [hq] at hcx
      obtain ⟨t', ht', hn', hf', hnc'⟩ := hf hcx
      obtain ⟨-, rfl⟩ := ReqTrace.named_at_mem C.nu hsg I.record hsgq ht' hn'
      refine ⟨?_, hf', ?_⟩
      · rcases hu P I.param with ⟨qp, d, rfl⟩ | ⟨hxd, -⟩
        · rfl
        · rw [hcx] at hxd
          cases hxd
      · rw [← constData_isSome env sg i tn I.record]
        exact hnc'

theorem typedBy_facts {rx : String → String → Bool} {env : Env} {st : Recipe.State} {qsvs : Option Qsvs}
    {m' : Model} {res : List (String × CReq)} {tis : List TInsts}
    (S : Stages rx env st qsvs m' (tblOf res) res tis) (s : Nat) (sg : Subgraph)
    (hsg : env.model.subgraphs[s]? = some sg) (i : Nat) (p : PId) (tn' : Tensor)
    (hr : SharingE2E.Retyped tis s i p) (ht : SharingE2E.TypedBy (ptableOf (tblOf res)) p tn') :
    (IsIntType tn'.dtype ∧ tn'.quant = some p) ∨
    (tn'.dtype = Tables.ttFloat16 ∧ isConst env.model sg (i : Int) = true) := by
  obtain ⟨ti, hti, ins, hins, rfl, e2, hrt, e4⟩ := hr
  obtain ⟨pi, ty, t1, t2, t3, t4⟩ := ht
  obtain ⟨i', tn, f1, f2, f3, -⟩ := inst_facts S ti hti ins hins (Wiring.retypes_insertion _ hrt) p pi e4 t1 sg hsg
  have hii : i' = i := by omega
  subst hii
  rcases f3 with hu | ⟨hu, hb, hc⟩
  · exact .inl ⟨t3 ▸ dtypeOf_uniform pi ty hu t2, t4 hu⟩
  · exact .inr ⟨t3 ▸ dtypeOf_f16 pi ty hu hb t2, hc⟩

theorem inserted_ops_typed (rx : String → String → Bool) (env : Env) (st : Recipe.State)
    (qsvs : Option Qsvs) (m' : Model) (tbl : List Param) (hnf : PipelineWF.NF env st)
    (h : quantizePure rx env st qsvs = .ok (m', tbl))
    (s : Nat) (sg' : Subgraph) (hsg' : m'.subgraphs[s]? = some sg') (o : Op) (ho : o ∈ sg'.ops)
    (hn : o.orig = none) :
    ∃ (sg : Subgraph) (ci t n : Nat) (tin tout : Tensor), env.model.subgraphs[s]? = some sg ∧
      o = { code := ci, inputs := [(t : Int)], outputs := [(n : Int)], orig := none } ∧
      t < sg.tensors.length ∧ sg.tensors.length ≤ n ∧
      sg'.tensors[t]? = some tin ∧ sg'.tensors[n]? = some tout ∧
      ((m'.opcodes[ci]? = some Tables.opQuantize ∧
          ((tin.dtype = Tables.ttFloat32 ∧ tin.quant = none) ∨ (IsIntType tin.dtype ∧ tin.quant.isSome = true)) ∧
          IsIntType tout.dtype ∧ tout.quant.isSome = true) ∨
       (m'.opcodes[ci]? = some Tables.opDequantize ∧
          ((IsIntType tin.dtype ∧ tin.quant.isSome = true) ∨ tin.dtype = Tables.ttFloat16) ∧
          tout.dtype = Tables.ttFloat32 ∧ tout.quant = none)) := by
  obtain ⟨res, tis, stF, rfl, rfl, S, F, R⟩ := run rx env st qsvs m' tbl hnf h
  obtain ⟨sg, hsg⟩ := F.source hsg'
  obtain ⟨ci, n, ti, ins, e1, N, e5⟩ := IOInv.inserted_final F.base R s sg sg' hsg hsg' o ho hn
  obtain rfl := N.hs
  obtain ⟨tout, e6, p, pi, ty, nm, tn0, hp, hpi, hty, hrec⟩ := N.newRec
  obtain ⟨i, tn, f1, f2, f3, f4⟩ := inst_facts S ti N.hti ins N.hins (Wiring.addsOp_insertion _ N.adds) p pi hp hpi _ hsg
  obtain ⟨tin, T⟩ := TypingGraph.tensor_final _ env.model tis stF F ti.sg _ sg' hsg hsg' i tn f2
  refine ⟨_, ci, i, n, tin, tout, hsg, by rw [e1, f1]; rfl, (List.getElem?_eq_some_iff.1 f2).1, N.ge, T.get, e6, ?_⟩
  rcases Wiring.addsOp_cases _ N.adds with hq | hd
  · left
    obtain ⟨hu, hf32, hnc⟩ := f4 hq
    rw [if_pos hq] at hrec
    refine ⟨by rw [e5, TypingGraph.insCode, if_pos hq], ?_, ?_, ?_⟩
    · rcases T.typed with rfl | ⟨p', hr', ht'⟩
      · exact .inl ⟨hf32, S.noq _ (List.mem_of_getElem? hsg) _ (List.mem_of_getElem? f2)⟩
      · rcases typedBy_facts S ti.sg _ hsg i p' tin hr' ht' with ⟨a, b⟩ | ⟨-, b⟩
        · exact .inr ⟨a, by rw [b]; rfl⟩
        · rw [hnc] at b; cases b
    · rw [hrec, StepTypes.retype_dtype]; exact dtypeOf_uniform pi ty hu hty
    · rw [hrec, StepTypes.retype_quant, if_pos hu]; rfl
  · right
    rw [if_neg (by rw [hd]; decide)] at hrec
    refine ⟨by rw [e5, TypingGraph.insCode, if_neg (by rw [hd]; decide)], ?_, by rw [hrec]; rfl, by rw [hrec]; rfl⟩
    obtain ⟨p', hr', ht'⟩ := T.written ⟨p, ti, N.hti, ins, N.hins, rfl, f1, by rw [hd]; rfl, hp⟩
    rcases typedBy_facts S ti.sg _ hsg i p' tin hr' ht' with ⟨a, b⟩ | ⟨a, -⟩
    · exact .inl ⟨a, by rw [b]; rfl⟩
    · exact .inr a

end TypingE2E
