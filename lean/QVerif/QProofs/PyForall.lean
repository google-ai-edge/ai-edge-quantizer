import Batteries.Data.List.Basic
import QProofs.PyLemmas
/-!
# a successful `mapM` in `PyM` as `List.Forall₂` (`Forall₂` lives in Batteries, hence a separate file)
-/

namespace PyM

theorem mapM_ok_iff {α β} (f : α → PyM β) : ∀ (l : List α) (vs : List β),
    l.mapM f = .ok vs ↔ List.Forall₂ (fun a v => f a = .ok v) l vs := by
  intro l
  induction l with
  | nil =>
    intro vs
    rw [mapM_nil_ok_iff]
    exact ⟨fun h => h ▸ .nil, fun h => (by cases h; rfl)⟩
  | cons a as ih =>
    intro vs
    rw [mapM_cons_ok_iff]
    constructor
    · rintro ⟨b, bs, hb, hbs, rfl⟩
      exact .cons hb ((ih bs).1 hbs)
    · intro h
      cases h with
      | cons h1 h2 => exact ⟨_, _, h1, (ih _).2 h2, rfl⟩

theorem mapM_bind_pure_ok_iff {α β γ} (f : α → PyM β) (g : β → γ) (l : List α) (vs : List γ) :
    l.mapM (fun a => f a >>= fun b => pure (g b)) = .ok vs ↔
      ∃ bs, List.Forall₂ (fun a b => f a = .ok b) l bs ∧ vs = bs.map g := by
  rw [mapM_ok_iff]
  constructor
  · intro h
    induction h with
    | nil => exact ⟨[], .nil, rfl⟩
    | cons h1 _ ih =>
      obtain ⟨b, hb, h1⟩ := bind_ok _ _ _ h1
      obtain ⟨bs, hbs, rfl⟩ := ih
      exact ⟨b :: bs, .cons hb hbs, by rw [← pure_eq_ok_iff.1 h1]; rfl⟩
  · rintro ⟨bs, h, rfl⟩
    induction h with
    | nil => exact .nil
    | cons h1 _ ih => exact .cons (by rw [h1]; rfl) ih

end PyM
