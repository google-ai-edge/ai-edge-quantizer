import QProofs.StepTypes
/-!
# One step of `transform_graph` on a state whose op-id map is right
Instructions are in ORIGINAL operator ids; the performer translates them through its op-id map, which is the correct position map
at every step (`SgInv`, `Inv`).  On such a state a successful `applySingle` is an `Applied` record (`applySingle_run`), which keeps
`Inv` (`Applied.inv`); the whole run is in `RunRule`. -/
open Graph Perform GraphStep GraphFrame

namespace Locality

def optGet {α} (o : Option α) : PyM α := match o with | some a => pure a | none => throw .indexError

theorem optGet_ok_iff {α} {o : Option α} {a : α} : optGet o = .ok a ↔ o = some a := by
  cases o with
  | none => exact ⟨fun h => (nomatch h), fun h => (nomatch h)⟩
  | some b => exact ⟨fun h => by cases h; rfl, fun h => by cases h; rfl⟩

end Locality

namespace GraphInv
open Locality (optGet optGet_ok_iff)

/-- instruction `ins` (in original op ids) is consistent with the ORIGINAL subgraph `sg` of `m` -/
structure InstOK (pt : PTable) (m : Model) (sg : Subgraph) (ins : Inst) : Prop where
  notEmulated : ins.xf ≠ .emulated
  tvalid : WF.validT sg ins.tensor = true
  prodRange : -1 ≤ ins.producer ∧ ins.producer < sg.ops.length
  tavail : WF.avail m sg (ins.producer + 1).toNat ins.tensor = true
  consAfter : ∀ c ∈ ins.consumers, c < 0 ∨ (ins.producer < c ∧ c < sg.ops.length)
  dataConst : ∀ p pi, ins.param = some p → pinfo pt p = some pi → pi.hasData = true →
    isConst m sg ins.tensor = true

/-- no chains: an op-adding instruction shares no consumer (not even the graph-output marker -1)
    with a later instruction of the same tensor, so `_update_instructions` never rewrites anything -/
def NoChain (insts : List Inst) : Prop :=
  ∀ (i j : Nat) (a b : Inst), i < j → insts[i]? = some a → insts[j]? = some b →
    (a.xf = .addQuant ∨ a.xf = .addDequant) → ∀ c ∈ b.consumers, c ∉ a.consumers

structure TInstsOK (pt : PTable) (m : Model) (ti : TInsts) : Prop where
  insts : ∃ sg, m.subgraphs[ti.sg]? = some sg ∧ ∀ ins ∈ ti.insts, InstOK pt m sg ins
  noChain : NoChain ti.insts

/-! `TInstsOK` of a closed instruction list is a finite fact: `tinstsOKB` checks it (`tinstsOK_of_b`), so an instance
evaluates it together with its run. -/

def instOKB (pt : PTable) (m : Model) (sg : Subgraph) (ins : Inst) : Bool :=
  decide (ins.xf ≠ .emulated) && WF.validT sg ins.tensor &&
  decide (-1 ≤ ins.producer ∧ ins.producer < sg.ops.length) &&
  WF.avail m sg (ins.producer + 1).toNat ins.tensor &&
  ins.consumers.all (fun c => decide (c < 0 ∨ (ins.producer < c ∧ c < sg.ops.length))) &&
  (match ins.param.bind (pinfo pt) with
   | some pi => !pi.hasData || isConst m sg ins.tensor
   | none => true)

def noChainB (insts : List Inst) : Bool :=
  insts.zipIdx.all fun a => insts.zipIdx.all fun b =>
    !(decide (a.2 < b.2)) || !(decide (a.1.xf = .addQuant ∨ a.1.xf = .addDequant)) ||
      b.1.consumers.all fun c => decide (c ∉ a.1.consumers)

def tinstsOKB (pt : PTable) (m : Model) (ti : TInsts) : Bool :=
  match m.subgraphs[ti.sg]? with
  | some sg => ti.insts.all (instOKB pt m sg) && noChainB ti.insts
  | none => false

theorem instOK_of_b {pt : PTable} {m : Model} {sg : Subgraph} {ins : Inst}
    (h : instOKB pt m sg ins = true) : InstOK pt m sg ins := by
  unfold instOKB at h
  simp only [Bool.and_eq_true, decide_eq_true_eq, List.all_eq_true] at h
  obtain ⟨⟨⟨⟨⟨h1, h2⟩, h3⟩, h4⟩, h5⟩, h6⟩ := h
  refine ⟨h1, h2, h3, h4, h5, fun p pi e1 e2 e3 => ?_⟩
  rw [e1, Option.bind_some, e2] at h6
  simpa [e3] using h6

theorem noChain_of_b {insts : List Inst} (h : noChainB insts = true) : NoChain insts := by
  intro i j a b hij hi hj hx c hc
  unfold noChainB at h
  rw [List.all_eq_true] at h
  have h1 := h (a, i) (List.mem_zipIdx_iff_getElem?.2 hi)
  rw [List.all_eq_true] at h1
  have h2 := h1 (b, j) (List.mem_zipIdx_iff_getElem?.2 hj)
  simp only [Bool.or_eq_true, Bool.not_eq_true', decide_eq_false_iff_not, List.all_eq_true,
    decide_eq_true_eq] at h2
  rcases h2 with (h2 | h2) | h2
  · exact absurd hij h2
  · exact absurd hx h2
  · exact h2 c hc

theorem tinstsOK_of_b {pt : PTable} {m : Model} {tis : List TInsts}
    (h : tis.all (tinstsOKB pt m) = true) : ∀ ti ∈ tis, TInstsOK pt m ti := by
  intro ti hti
  have h' := List.all_eq_true.1 h ti hti
  unfold tinstsOKB at h'
  split at h'
  · rename_i sg hsg
    rw [Bool.and_eq_true, List.all_eq_true] at h'
    exact ⟨⟨sg, hsg, fun ins hins => instOK_of_b (h'.1 ins hins)⟩, noChain_of_b h'.2⟩
  · cases h'

/-- relation between an ORIGINAL subgraph `sg0` (of `m0`) and its current version `sg` (of `m`)
    through the op-id map `om` -/
structure SgInv (m0 : Model) (sg0 : Subgraph) (m : Model) (sg : Subgraph) (om : List Int) : Prop where
  len : om.length = sg0.ops.length
  mono : Mono om
  outs : ∀ (j : Nat) (a : Int) (o0 : Op), om[j]? = some a → sg0.ops[j]? = some o0 →
    0 ≤ a ∧ ∃ o, sg.ops[a.toNat]? = some o ∧ o.outputs = o0.outputs
  inputs : sg.inputs = sg0.inputs
  tlen : sg0.tensors.length ≤ sg.tensors.length
  const : ∀ t, isConst m0 sg0 t = true → isConst m sg t = true

structure Inv (m0 : Model) (st : PState) : Prop where
  wf : WF.modelOK st.model = true
  nsg : st.model.subgraphs.length = m0.subgraphs.length
  nom : st.origMap.length = m0.subgraphs.length
  nam : st.addedMap.length = m0.subgraphs.length
  sg : ∀ (s : Nat) (sg0 sg : Subgraph) (om : List Int), m0.subgraphs[s]? = some sg0 →
    st.model.subgraphs[s]? = some sg → st.origMap[s]? = some om → SgInv m0 sg0 st.model sg om

theorem range_map_get (n j : Nat) (a : Int)
    (h : ((List.range n).map (fun (i : Nat) => (i : Int)))[j]? = some a) : j < n ∧ a = j := by
  have hj : j < n := by
    have := (List.getElem?_eq_some_iff.1 h).1
    simpa using this
  rw [List.getElem?_map, List.getElem?_range hj] at h
  simp at h
  exact ⟨hj, h.symm⟩

/-- the state in which `transformGraph` starts: every operator sits at its own position -/
def initSt (m : Model) : PState :=
  { model := m,
    origMap := m.subgraphs.map (fun sg => (List.range sg.ops.length).map (fun (i : Nat) => (i : Int))),
    addedMap := m.subgraphs.map (fun _ => []) }

theorem transformGraph_ok_iff (pt : PTable) (m m' : Model) (tis : List TInsts) :
    transformGraph pt m tis = .ok m' ↔
      ∃ st, tis.foldlM (applyAll pt) (initSt m) = .ok st ∧ st.model = m' := by
  show (tis.foldlM (applyAll pt) (initSt m) >>= fun st => pure st.model) = .ok m' ↔ _
  rw [PyM.bind_eq_ok_iff]
  exact exists_congr fun st => and_congr_right fun _ => PyM.pure_eq_ok_iff

theorem inv_init (m : Model) (hwf : WF.modelOK m = true) : Inv m (initSt m) := by
  refine ⟨hwf, rfl, by simp [initSt], by simp [initSt], ?_⟩
  intro s sg0 sg om h0 h1 h2
  simp only [initSt] at h1 h2
  rw [h0] at h1; cases h1
  rw [List.getElem?_map, h0] at h2
  simp only [Option.map_some, Option.some.injEq] at h2
  subst h2
  refine ⟨by simp, ?_, ?_, rfl, Nat.le_refl _, fun _ h => h⟩
  · intro i j a b hij ha hb
    obtain ⟨_, rfl⟩ := range_map_get _ _ _ ha
    obtain ⟨_, rfl⟩ := range_map_get _ _ _ hb
    omega
  · intro j a o0 ha ho
    obtain ⟨_, rfl⟩ := range_map_get _ _ _ ha
    exact ⟨by omega, o0, by simpa using ho, rfl⟩

def xlatProducer (ins : Inst) (om am : List Int) : PyM Int :=
  if ins.producer < 0 then pure (-1 : Int)
  else if ins.producer < om.length then Py.index om ins.producer
  else Py.index am (ins.producer - om.length)

/-- `-1` (graph output) stays `-1` -/
def xlatConsumers (ins : Inst) (om : List Int) : PyM (List Int) :=
  ins.consumers.mapM fun c => if c < 0 then pure (-1 : Int) else Py.index om c

theorem xlatConsumers_mem {ins : Inst} {om cons : List Int} (h : xlatConsumers ins om = .ok cons)
    {a : Int} (ha : a ∈ cons) :
    a = -1 ∨ ∃ c ∈ ins.consumers, 0 ≤ c ∧ om[c.toNat]? = some a := by
  obtain ⟨c, hc, hfc⟩ := PyM.mapM_ok _ _ _ h a ha
  by_cases hc0 : c < 0
  · rw [if_pos hc0] at hfc
    exact .inl (PyM.pure_eq_ok_iff.1 hfc).symm
  · rw [if_neg hc0] at hfc
    exact .inr ⟨c, hc, by omega, (Py.index_nonneg (by omega)).1 hfc⟩

theorem xlatConsumers_of_mem {ins : Inst} {om cons : List Int} (h : xlatConsumers ins om = .ok cons)
    {c : Int} (hc : c ∈ ins.consumers) :
    (c < 0 ∧ (-1 : Int) ∈ cons) ∨ (0 ≤ c ∧ ∃ a ∈ cons, om[c.toNat]? = some a) := by
  obtain ⟨a, ha, hfa⟩ := PyM.mapM_ok' _ _ _ h c hc
  by_cases hc0 : c < 0
  · rw [if_pos hc0] at hfa
    cases PyM.pure_eq_ok_iff.1 hfa
    exact .inl ⟨hc0, ha⟩
  · rw [if_neg hc0] at hfa
    exact .inr ⟨by omega, a, ha, (Py.index_nonneg (by omega)).1 hfa⟩

/-- new op-id map, new added-op map, updated instruction list -/
def postMaps (insts : List Inst) (idx : Nat) (ins : Inst) (omap amap : List Int) (info : TInfoOut) :
    List Int × List Int × List Inst :=
  let p : List Int × List Inst :=
    if info.added = 0 then (amap, insts)
    else
      let amap' := amap ++ [info.opId + info.added - 1]
      let newProd : Int := (omap.length : Int) + amap'.length - 1
      (amap', insts.take (idx + 1) ++ updateInsts (insts.drop (idx + 1)) ins.consumers newProd info.outTensor)
  let first := (omap.findIdx? (fun cur => decide (cur ≥ info.opId))).getD omap.length
  let omap' : List Int := omap.zipIdx.map fun (p : Int × Nat) => if p.2 ≥ first then p.1 + (info.added : Int) else p.1
  (omap', p.1, p.2)

def post (st : PState) (ti : TInsts) (pm : List Int × List Int × List Inst) (sgBefore : Subgraph)
    (m' : Model) (sgAfter : Subgraph) : PState × TInsts :=
  ({ model := { m' with sigs := updateSigs m'.sigs ti.sg sgBefore.outputs sgAfter.outputs },
     origMap := st.origMap.set ti.sg pm.1, addedMap := st.addedMap.set ti.sg pm.2.1 },
   { ti with insts := pm.2.2 })

/-- `applySingle` as a plain sequence of its phases -/
def applySingle2 (pt : PTable) (st : PState) (ti : TInsts) (idx : Nat) : PyM (PState × TInsts) := do
  let ins ← optGet ti.insts[idx]?
  let omap ← optGet st.origMap[ti.sg]?
  let amap ← optGet st.addedMap[ti.sg]?
  let producer ← xlatProducer ins omap amap
  let consumers ← xlatConsumers ins omap
  let sgBefore ← optGet st.model.subgraphs[ti.sg]?
  let r ← runXf pt st.model ti.sg ins.xf ⟨ins.tensor, producer, consumers, ins.param⟩
  match r.1.subgraphs[ti.sg]? with
  | some sgAfter => pure (post st ti (postMaps ti.insts idx ins omap amap r.2) sgBefore r.1 sgAfter)
  | none => throw .indexError

/-- a look-up, a producer id, a transformation, each with the continuation `k` in its branches as the `do` block of
    `applySingle` has them (in reduced form: `k a` for `pure a >>= k`, the raise alone for `throw e >>= k`, so that a
    continuation is compared once) -/
def getK {α β} (o : Option α) (k : α → PyM β) : PyM β :=
  match o with
  | some a => k a
  | none => throw PyErr.indexError

def prodK {β} (ins : Inst) (om am : List Int) (k : Int → PyM β) : PyM β :=
  if ins.producer < 0 then k (-1)
  else if ins.producer < om.length then Py.index om ins.producer >>= k
  else Py.index am (ins.producer - om.length) >>= k

def xfK {β} (pt : PTable) (m : Model) (s : Nat) (x : Xf) (inp : TIn) (k : Model × TInfoOut → PyM β) : PyM β :=
  match x with
  | .addDequant => insertDequant pt m s inp >>= k
  | .quantTensor => quantizeOnly pt m s inp >>= k
  | .addQuant => insertQuant pt m s inp >>= k
  | .emulated => throw PyErr.unsupported
  | .noQuant => throw PyErr.keyError

theorem getK_eq {α β} (o : Option α) (k : α → PyM β) : getK o k = optGet o >>= k := by
  cases o <;> rfl

theorem prodK_eq {β} (ins : Inst) (om am : List Int) (k : Int → PyM β) :
    prodK ins om am k = xlatProducer ins om am >>= k := by
  unfold prodK xlatProducer
  split
  · rfl
  · split <;> rfl

theorem xfK_eq {β} (pt : PTable) (m : Model) (s : Nat) (x : Xf) (inp : TIn) (k : Model × TInfoOut → PyM β) :
    xfK pt m s x inp k = runXf pt m s x inp >>= k := by
  cases x <;> rfl

set_option smartUnfolding false in
/-- the text of `applySingle` with its pieces named (see the note at `PyM.forIn_eq_foldlM`) -/
theorem applySingle_text (pt : PTable) (st : PState) (ti : TInsts) (idx : Nat) :
    applySingle pt st ti idx =
      getK ti.insts[idx]? fun ins => getK st.origMap[ti.sg]? fun omap => getK st.addedMap[ti.sg]? fun amap =>
      prodK ins omap amap fun producer =>
      (ins.consumers.mapM fun c => if c < 0 then pure (-1 : Int) else Py.index omap c) >>= fun consumers =>
      getK st.model.subgraphs[ti.sg]? fun sgBefore =>
      xfK pt st.model ti.sg ins.xf ⟨ins.tensor, producer, consumers, ins.param⟩ fun r =>
      match r.1.subgraphs[ti.sg]? with
      | some sgAfter => pure (post st ti (postMaps ti.insts idx ins omap amap r.2) sgBefore r.1 sgAfter)
      | none => throw .indexError := rfl

theorem applySingle_eq (pt : PTable) (st : PState) (ti : TInsts) (idx : Nat) :
    applySingle pt st ti idx = applySingle2 pt st ti idx := by
  rw [applySingle_text]
  simp only [getK_eq, prodK_eq, xfK_eq]
  rfl

theorem applySingle_ok_iff {pt : PTable} {st : PState} {ti : TInsts} {idx : Nat} {r : PState × TInsts} :
    applySingle pt st ti idx = .ok r ↔
      ∃ ins om am producer consumers sgc m' info sg', ti.insts[idx]? = some ins ∧
        st.origMap[ti.sg]? = some om ∧ st.addedMap[ti.sg]? = some am ∧
        xlatProducer ins om am = .ok producer ∧ xlatConsumers ins om = .ok consumers ∧
        st.model.subgraphs[ti.sg]? = some sgc ∧
        runXf pt st.model ti.sg ins.xf ⟨ins.tensor, producer, consumers, ins.param⟩ = .ok (m', info) ∧
        m'.subgraphs[ti.sg]? = some sg' ∧
        r = post st ti (postMaps ti.insts idx ins om am info) sgc m' sg' := by
  rw [applySingle_eq]
  unfold applySingle2
  simp only [PyM.bind_eq_ok_iff, optGet_ok_iff]
  constructor
  · rintro ⟨ins, hins, om, hom, am, ham, producer, hprod, consumers, hcons, sgc, hsgc, ⟨m', info⟩, hrun, h⟩
    cases hsa : m'.subgraphs[ti.sg]? with
    | none => simp only [hsa] at h; cases h
    | some sg' =>
      simp only [hsa] at h
      exact ⟨ins, om, am, producer, consumers, sgc, m', info, sg', hins, hom, ham, hprod, hcons, hsgc, hrun,
        hsa, (PyM.pure_eq_ok_iff.1 h).symm⟩
  · rintro ⟨ins, om, am, producer, consumers, sgc, m', info, sg', hins, hom, ham, hprod, hcons, hsgc, hrun,
      hsa, rfl⟩
    refine ⟨ins, hins, om, hom, am, ham, producer, hprod, consumers, hcons, sgc, hsgc, (m', info), hrun, ?_⟩
    simp only [hsa]
    rfl

theorem SgInv.pos {m0 : Model} {sg0 : Subgraph} {m : Model} {sg : Subgraph} {om : List Int}
    (I : SgInv m0 sg0 m sg om) (j : Nat) (a : Int) (h : om[j]? = some a) :
    0 ≤ a ∧ a < sg.ops.length := by
  have hj : j < sg0.ops.length := by rw [← I.len]; exact (List.getElem?_eq_some_iff.1 h).1
  obtain ⟨h0, o, ho, -⟩ := I.outs j a _ h (List.getElem?_eq_getElem hj)
  have := (List.getElem?_eq_some_iff.1 ho).1
  omega

theorem SgInv.avail {m0 : Model} {sg0 : Subgraph} {m : Model} {sg : Subgraph} {om : List Int}
    (I : SgInv m0 sg0 m sg om) (p a t : Int)
    (hp : (p < 0 ∧ a = -1) ∨ (0 ≤ p ∧ om[p.toNat]? = some a))
    (h : Avail m0 sg0 (p + 1).toNat t) : Avail m sg (a + 1).toNat t := by
  rcases h with h | h | h
  · exact .inl (by rw [I.inputs]; exact h)
  · exact .inr (.inl (I.const t h))
  · obtain ⟨j, o0, hj, ho0, ht⟩ := h
    rcases hp with ⟨hp, rfl⟩ | ⟨hp, ha⟩
    · omega
    · have hjl : j < om.length := by rw [I.len]; exact (List.getElem?_eq_some_iff.1 ho0).1
      obtain ⟨hb0, o, ho, hout⟩ := I.outs j _ o0 (List.getElem?_eq_getElem hjl) ho0
      have hle : om[j] ≤ a := by
        by_cases hjp : j = p.toNat
        · subst hjp
          rw [List.getElem?_eq_getElem hjl] at ha
          cases ha; exact Int.le_refl _
        · have := I.mono j p.toNat _ _ (by omega) (List.getElem?_eq_getElem hjl) ha
          omega
      exact .inr (.inr ⟨om[j].toNat, o, by omega, ho, hout ▸ ht⟩)

theorem xlatProducer_spec (ins : Inst) (om am : List Int) (producer : Int)
    (hr : -1 ≤ ins.producer ∧ ins.producer < om.length)
    (h : xlatProducer ins om am = .ok producer) :
    (ins.producer < 0 ∧ producer = -1) ∨ (0 ≤ ins.producer ∧ om[ins.producer.toNat]? = some producer) := by
  unfold xlatProducer at h
  by_cases h0 : ins.producer < 0
  · rw [if_pos h0] at h
    cases h
    exact .inl ⟨h0, rfl⟩
  · rw [if_neg h0, if_pos hr.2] at h
    exact .inr ⟨by omega, (Py.index_nonneg (by omega)).1 h⟩

theorem inpOK_of_inv (pt : PTable) (m0 : Model) (sg0 : Subgraph) (m : Model) (sg : Subgraph)
    (om am : List Int) (ins : Inst) (producer : Int) (consumers : List Int)
    (I : SgInv m0 sg0 m sg om) (hok : InstOK pt m0 sg0 ins)
    (hprod : xlatProducer ins om am = .ok producer)
    (hcons : xlatConsumers ins om = .ok consumers) :
    InpOK pt m sg ⟨ins.tensor, producer, consumers, ins.param⟩ := by
  have hp := xlatProducer_spec ins om am producer (by rw [I.len]; exact hok.prodRange) hprod
  have hpr : -1 ≤ producer ∧ producer < sg.ops.length := by
    rcases hp with ⟨_, rfl⟩ | ⟨_, ha⟩
    · omega
    · have := I.pos _ _ ha; omega
  refine ⟨?_, hpr, ?_, ?_, ?_⟩
  · have hv := (validT_iff _ _).1 hok.tvalid
    rw [validT_iff]
    have hl := I.tlen
    unfold ValidT at hv ⊢
    show 0 ≤ ins.tensor ∧ ins.tensor < sg.tensors.length
    omega
  · rw [avail_iff]
    exact I.avail _ _ _ hp ((avail_iff _ _ _ _).1 hok.tavail)
  · intro c' hc'
    rcases xlatConsumers_mem hcons hc' with rfl | ⟨c, hc, hc0, hget⟩
    · exact .inl (by omega)
    · have hpos := I.pos _ _ hget
      right
      refine ⟨?_, hpos.2⟩
      show producer < c'
      rcases hp with ⟨_, rfl⟩ | ⟨hp0, ha⟩
      · omega
      · rcases hok.consAfter c hc with h1 | h1
        · omega
        · exact I.mono _ _ _ _ (by omega) ha hget
  · intro p pi h1 h2 h3
    exact I.const _ (hok.dataConst p pi h1 h2 h3)

theorem updateInsts_noChain (insts : List Inst) (idx : Nat) (ins : Inst) (newProd newT : Int)
    (hnc : NoChain insts) (hins : insts[idx]? = some ins)
    (hxf : ins.xf = .addQuant ∨ ins.xf = .addDequant) :
    insts.take (idx + 1) ++ updateInsts (insts.drop (idx + 1)) ins.consumers newProd newT = insts := by
  have : updateInsts (insts.drop (idx + 1)) ins.consumers newProd newT = insts.drop (idx + 1) := by
    unfold updateInsts
    conv => rhs; rw [← List.map_id (insts.drop (idx + 1))]
    apply List.map_congr_left
    intro t ht
    obtain ⟨k, hk, rfl⟩ := List.mem_drop_iff_getElem.1 ht
    have hnone := hnc idx (idx + 1 + k) ins _ (by omega) hins (List.getElem?_eq_getElem (by omega)) hxf
    rw [if_neg]
    · rfl
    · simp only [List.any_eq_true, memI_iff, not_exists, not_and]
      exact hnone
  rw [this, List.take_append_drop]

theorem Inv.lookup {m0 : Model} {st : PState} (hinv : Inv m0 st) {s : Nat} {sg0 : Subgraph}
    (h0 : m0.subgraphs[s]? = some sg0) :
    ∃ sg om am, st.model.subgraphs[s]? = some sg ∧ st.origMap[s]? = some om ∧
      st.addedMap[s]? = some am ∧ SgInv m0 sg0 st.model sg om := by
  have hlt : s < m0.subgraphs.length := (List.getElem?_eq_some_iff.1 h0).1
  have h1 : st.model.subgraphs[s]? = some _ := List.getElem?_eq_getElem (by rw [hinv.nsg]; exact hlt)
  have h2 : st.origMap[s]? = some _ := List.getElem?_eq_getElem (by rw [hinv.nom]; exact hlt)
  have h3 : st.addedMap[s]? = some _ := List.getElem?_eq_getElem (by rw [hinv.nam]; exact hlt)
  exact ⟨_, _, _, h1, h2, h3, hinv.sg _ _ _ _ h0 h1 h2⟩

/-- the Python dict that `_update_signature_outputs` builds from the graph outputs that changed, applied to
    tensor `t`: the new value of the LAST pair with key `t`, else `t` itself -/
def upd (before after : List Int) (t : Int) : Int :=
  match ((before.zip after).filter fun p => p.1 != p.2).reverse.find? (·.1 == t) with
  | some p => p.2
  | none => t

theorem upd_cases (before after : List Int) (t : Int) :
    upd before after t = t ∨ (t ∈ before ∧ upd before after t ∈ after) := by
  unfold upd
  split
  · rename_i p hp
    have hz := (List.mem_filter.1 (List.mem_reverse.1 (List.mem_of_find?_eq_some hp))).1
    have hk : p.1 = t := by simpa using List.find?_some hp
    exact .inr ⟨hk ▸ (List.of_mem_zip (a := p.1) (b := p.2) hz).1, (List.of_mem_zip (a := p.1) (b := p.2) hz).2⟩
  · exact .inl rfl

def updSig (sgi : Nat) (before after : List Int) (s : Sig) : Sig :=
  if s.sg != sgi then s else { s with outputs := s.outputs.map fun e => (e.1, upd before after e.2) }

theorem updateSigs_eq (sigs : List Sig) (sgi : Nat) (before after : List Int) :
    updateSigs sigs sgi before after = sigs.map (updSig sgi before after) := by
  unfold updateSigs
  simp only
  split
  · -- nothing changed: the dict is empty
    rename_i hemp
    have hid : ∀ t, upd before after t = t := fun t => by
      unfold upd; rw [List.isEmpty_iff.1 hemp]; rfl
    refine (List.map_id' sigs).symm.trans (List.map_congr_left fun s _ => ?_)
    unfold updSig
    split
    · rfl
    · simp only [hid, List.map_id']
  · refine List.map_congr_left fun s _ => ?_
    unfold updSig
    split
    · rfl
    · congr 1
      refine List.map_congr_left fun e _ => ?_
      unfold upd
      cases ((before.zip after).filter fun p => p.1 != p.2).reverse.find? (·.1 == e.2) with
      | none => rfl
      | some p => rfl

theorem updSig_other (sgi : Nat) (before after : List Int) (s : Sig) (h : s.sg ≠ sgi) :
    updSig sgi before after s = s :=
  if_pos (by simpa using h)

theorem updSig_basic (sgi : Nat) (before after : List Int) (s : Sig) :
    (updSig sgi before after s).key = s.key ∧ (updSig sgi before after s).sg = s.sg ∧
    (updSig sgi before after s).inputs = s.inputs ∧
    (updSig sgi before after s).outputs.map (·.1) = s.outputs.map (·.1) := by
  unfold updSig
  split
  · exact ⟨rfl, rfl, rfl, rfl⟩
  · exact ⟨rfl, rfl, rfl, List.map_map⟩

theorem modelOK_updateSigs (m : Model) (sgi : Nat) (sg : Subgraph) (before : List Int)
    (hsg : m.subgraphs[sgi]? = some sg) (hwf : WF.modelOK m = true) :
    WF.modelOK { m with sigs := updateSigs m.sigs sgi before sg.outputs } = true := by
  rw [modelOK_iff] at *
  obtain ⟨h0, h1, h2⟩ := hwf
  have hsgok := h1 sg (List.mem_of_getElem? hsg)
  refine ⟨h0, fun x hx => (h1 x hx).congr rfl (fun _ => rfl) (Nat.le_refl _) rfl rfl rfl rfl rfl, ?_⟩
  intro s hs
  show WF.sigOK m s = true
  simp only [updateSigs_eq] at hs
  obtain ⟨s0, hs0, rfl⟩ := List.mem_map.1 hs
  have h20 := h2 s0 hs0
  unfold updSig
  split
  · exact h20
  · rename_i hne
    have heq : s0.sg = sgi := by simpa using hne
    unfold WF.sigOK at h20 ⊢
    simp only [heq, hsg] at h20 ⊢
    simp only [Bool.and_eq_true, List.all_eq_true] at h20 ⊢
    refine ⟨h20.1, fun e he => ?_⟩
    obtain ⟨e0, he0, rfl⟩ := List.mem_map.1 he
    -- the entry is as before, or one of the new graph outputs
    rcases upd_cases before sg.outputs e0.2 with h | ⟨-, h⟩
    · rw [h]; exact h20.2 e0 he0
    · exact (validT_iff _ _).2 (hsgok.outs _ h)

/-- a successful `applySingle` on a state with `Inv`, as data (built by `applySingle_run`, which returns `Nonempty (Applied …)`
    because this is a `Type`): `sg0` ORIGINAL, `sg` / `sg'` current before / after, `exact` the closed form of the transformation run -/
structure Applied (pt : PTable) (m0 : Model) (s : Nat) (ins : Inst) (st st' : PState) where
  sg0 : Subgraph
  sg : Subgraph
  sg' : Subgraph
  om : List Int
  producer : Int
  consumers : List Int
  m' : Model
  info : TInfoOut
  p : PId
  pi : PInfo
  ty : Nat
  tn : Tensor
  orig : m0.subgraphs[s]? = some sg0
  cur : st.model.subgraphs[s]? = some sg
  omap : st.origMap[s]? = some om
  ok : InstOK pt m0 sg0 ins
  rel : SgInv m0 sg0 st.model sg om
  cons : xlatConsumers ins om = .ok consumers
  inpOK : InpOK pt st.model sg ⟨ins.tensor, producer, consumers, ins.param⟩
  run : runXf pt st.model s ins.xf ⟨ins.tensor, producer, consumers, ins.param⟩ = .ok (m', info)
  exact : StepTypes.Exact pt st.model s sg ins.xf ⟨ins.tensor, producer, consumers, ins.param⟩ m' info
    p pi ty tn sg'
  model' : st'.model = { m' with sigs := updateSigs m'.sigs s sg.outputs sg'.outputs }
  origMap' : st'.origMap = st.origMap.set s (shiftMap om info.opId info.added)
  addedLen : st'.addedMap.length = st.addedMap.length

namespace Applied

variable {pt : PTable} {m0 : Model} {s : Nat} {ins : Inst} {st st' : PState}

theorem frame (A : Applied pt m0 s ins st st') : Frame st.model A.m' s A.sg A.sg' A.info :=
  A.exact.frame A.inpOK

theorem tvalid (A : Applied pt m0 s ins st st') : 0 ≤ ins.tensor ∧ ins.tensor < A.sg0.tensors.length :=
  (validT_iff _ _).1 A.ok.tvalid

theorem after (A : Applied pt m0 s ins st st') : A.m'.subgraphs[s]? = some A.sg' :=
  A.exact.sub A.cur

theorem cur' (A : Applied pt m0 s ins st st') : st'.model.subgraphs[s]? = some A.sg' := by
  rw [A.model']; exact A.after

theorem omap' (A : Applied pt m0 s ins st st') :
    st'.origMap[s]? = some (shiftMap A.om A.info.opId A.info.added) := by
  rw [A.origMap']; exact List.getElem?_set_self (List.getElem?_eq_some_iff.1 A.omap).1

theorem others (A : Applied pt m0 s ins st st') {s' : Nat} (hs : s' ≠ s) :
    st'.model.subgraphs[s']? = st.model.subgraphs[s']? ∧ st'.origMap[s']? = st.origMap[s']? := by
  rw [A.model', A.origMap']
  exact ⟨by rw [A.frame.subs]; exact List.getElem?_set_ne (Ne.symm hs), List.getElem?_set_ne (Ne.symm hs)⟩

theorem sigs (A : Applied pt m0 s ins st st') :
    st'.model.sigs = updateSigs st.model.sigs s A.sg.outputs A.sg'.outputs := by
  rw [A.model', ← A.frame.sigs]

theorem pos (A : Applied pt m0 s ins st st') {k : Nat} {a : Int} {o : Op} (hk : A.om[k]? = some a)
    (ho : A.sg.ops[a.toNat]? = some o) :
    ∃ a', (shiftMap A.om A.info.opId A.info.added)[k]? = some a' ∧
      A.sg'.ops[a'.toNat]? = some (if Wiring.addsOp ins.xf = true ∧ a ∈ A.consumers
        then rew ins.tensor (A.sg.tensors.length : Int) o else o) := by
  have h := A.exact.ops_get ho
  rw [Int.toNat_of_nonneg (A.rel.pos k a hk).1] at h
  exact ⟨_, shiftMap_get A.om _ _ A.rel.mono k a hk, h⟩

/-- the op-id map is injective (`mono`) -/
theorem cons_iff (A : Applied pt m0 s ins st st') {k : Nat} {a : Int} (hka : A.om[k]? = some a) :
    a ∈ A.consumers ↔ (k : Int) ∈ ins.consumers := by
  constructor
  · intro hm
    rcases xlatConsumers_mem A.cons hm with rfl | ⟨c, hc, hc0, hca⟩
    · have := (A.rel.pos k _ hka).1
      omega
    · have hkc : k = c.toNat := by
        rcases Nat.lt_trichotomy k c.toNat with h | h | h
        · have := A.rel.mono _ _ _ _ h hka hca
          omega
        · exact h
        · have := A.rel.mono _ _ _ _ h hca hka
          omega
      rw [show (k : Int) = c by omega]
      exact hc
  · intro hkc
    rcases xlatConsumers_of_mem A.cons hkc with ⟨h, -⟩ | ⟨-, a2, ha2, hget⟩
    · omega
    · rw [Int.toNat_natCast, hka] at hget
      cases hget
      exact ha2

theorem rel' (A : Applied pt m0 s ins st st') :
    SgInv m0 A.sg0 st'.model A.sg' (shiftMap A.om A.info.opId A.info.added) := by
  have hget : ∀ (j : Nat) (a' : Int), (shiftMap A.om A.info.opId A.info.added)[j]? = some a' →
      ∃ a, A.om[j]? = some a ∧ a' = StepTypes.shift A.info.opId A.info.added a := by
    intro j a' h
    have hj : j < A.om.length := by
      rw [← shiftMap_length A.om A.info.opId A.info.added]; exact (List.getElem?_eq_some_iff.1 h).1
    refine ⟨A.om[j], List.getElem?_eq_getElem hj, ?_⟩
    rw [shiftMap_get A.om _ _ A.rel.mono j _ (List.getElem?_eq_getElem hj)] at h
    exact (Option.some.inj h).symm
  rw [A.model']
  refine ⟨by rw [shiftMap_length]; exact A.rel.len, ?_, ?_, by rw [A.frame.inputs, A.rel.inputs],
    Nat.le_trans A.rel.tlen A.frame.tlen, ?_⟩
  · intro i j a b hij ha hb
    obtain ⟨a0, ha0, rfl⟩ := hget i a ha
    obtain ⟨b0, hb0, rfl⟩ := hget j b hb
    exact StepTypes.shift_lt _ _ (A.rel.mono i j a0 b0 hij ha0 hb0)
  · intro j a' o0 ha' ho0
    obtain ⟨a, ha, rfl⟩ := hget j a' ha'
    obtain ⟨h0, o, ho, hout⟩ := A.rel.outs j a o0 ha ho0
    have h := A.exact.ops_get ho
    rw [Int.toNat_of_nonneg h0] at h
    refine ⟨Int.le_trans h0 (StepTypes.le_shift ..), _, h, ?_⟩
    rw [← hout]
    split <;> rfl
  · intro t ht
    have h1 := A.rel.const t ht
    have hv := isConst_valid _ _ _ h1
    rw [← h1]
    apply isConst_congr _ _ _ _ _ A.frame.cst
    unfold ValidT at hv
    exact A.frame.tbuf t.toNat (by omega)

theorem inv (A : Applied pt m0 s ins st st') (hinv : Inv m0 st) : Inv m0 st' := by
  have hwf' := StepTypes.runXf_ok A.cur hinv.wf A.inpOK A.run
  refine ⟨by rw [A.model']; exact modelOK_updateSigs A.m' s A.sg' _ A.after hwf', ?_, ?_, ?_, ?_⟩
  · rw [A.model']
    show A.m'.subgraphs.length = _
    rw [A.frame.subs, List.length_set]; exact hinv.nsg
  · rw [A.origMap']; exact (List.length_set ..).trans hinv.nom
  · exact A.addedLen.trans hinv.nam
  · intro s' sg0s sgs oms h0 h1 h2
    by_cases hs : s' = s
    · subst hs
      rw [A.orig] at h0; cases h0
      rw [A.cur'] at h1; cases h1
      rw [A.omap'] at h2; cases h2
      exact A.rel'
    · rw [(A.others hs).1] at h1
      rw [(A.others hs).2] at h2
      have J := hinv.sg s' sg0s sgs oms h0 h1 h2
      refine ⟨J.len, J.mono, J.outs, J.inputs, J.tlen, fun t ht => ?_⟩
      rw [← J.const t ht, A.model']
      exact isConst_congr _ _ _ _ _ A.frame.cst rfl

end Applied

theorem applySingle_run (pt : PTable) (m0 : Model) (st st' : PState) (ti ti' : TInsts) (idx : Nat)
    (sg0 : Subgraph) (ins : Inst)
    (hinv : Inv m0 st) (hsg0 : m0.subgraphs[ti.sg]? = some sg0) (hins : ti.insts[idx]? = some ins)
    (hok : InstOK pt m0 sg0 ins) (hnc : NoChain ti.insts)
    (h : applySingle pt st ti idx = .ok (st', ti')) :
    ti' = ti ∧ Nonempty (Applied pt m0 ti.sg ins st st') := by
  obtain ⟨sgc, om, am, hsgc, hom, ham, I⟩ := hinv.lookup hsg0
  obtain ⟨ins', om', am', producer, consumers, sgc', m', info, sg', h1, h2, h3, hprod, hcons, h4, hrun, hsa, h⟩ :=
    applySingle_ok_iff.1 h
  cases hins.symm.trans h1
  cases hom.symm.trans h2
  cases ham.symm.trans h3
  cases hsgc.symm.trans h4
  obtain ⟨rfl, rfl⟩ := Prod.mk.inj h
  have hinp := inpOK_of_inv pt m0 sg0 st.model sgc om am ins producer consumers I hok hprod hcons
  obtain ⟨p, pi, ty, tn, sgE, E⟩ := StepTypes.runXf_exact hsgc hinp hrun
  cases hsa.symm.trans (E.sub hsgc)
  refine ⟨?_, ⟨⟨sg0, sgc, sg', om, producer, consumers, m', info, p, pi, ty, tn, hsg0, hsgc, hom,
    hok, I, hcons, hinp, hrun, E, rfl, rfl, List.length_set⟩⟩⟩
  -- under `NoChain` the instruction list comes back as it was
  show ({ ti with insts := (postMaps ti.insts idx ins om am info).2.2 } : TInsts) = ti
  unfold postMaps
  by_cases h0 : info.added = 0
  · simp only [h0, if_true]
  · have hx : ins.xf = .addQuant ∨ ins.xf = .addDequant := by
      rw [E.added] at h0
      generalize ins.xf = x at h0 ⊢
      cases x <;> simp [Wiring.addsOp] at h0 ⊢
    simp only [h0, if_false, updateInsts_noChain ti.insts idx ins _ _ hnc hins hx]

/-- the loop body of `applyAll` -/
def applyStep (pt : PTable) (cur : PState × TInsts) (idx : Nat) : PyM (PState × TInsts) :=
  match cur.2.insts[idx]? with
  | some i => if isInsertion i.xf = true then applySingle pt cur.1 cur.2 idx else pure cur
  | none => pure cur

theorem applyStep_ok_iff {pt : PTable} {c c' : PState × TInsts} {idx : Nat} :
    applyStep pt c idx = .ok c' ↔
      (∃ i, c.2.insts[idx]? = some i ∧ isInsertion i.xf = true ∧ applySingle pt c.1 c.2 idx = .ok c') ∨
      ((∀ i, c.2.insts[idx]? = some i → isInsertion i.xf = false) ∧ c' = c) := by
  unfold applyStep
  cases hi : c.2.insts[idx]? with
  | none => exact ⟨fun h => .inr ⟨nofun, (PyM.pure_eq_ok_iff.1 h).symm⟩, fun h => h.elim (fun ⟨_, h, _⟩ => nomatch h)
      fun h => h.2 ▸ rfl⟩
  | some i =>
    by_cases hx : isInsertion i.xf = true
    · simp only [hx, if_true]
      exact ⟨fun h => .inl ⟨i, rfl, hx, h⟩, fun h => h.elim (fun ⟨_, _, _, h⟩ => h)
        fun h => absurd hx (by rw [h.1 i rfl]; exact Bool.false_ne_true)⟩
    · simp only [hx]
      exact ⟨fun h => .inr ⟨fun j hj => by cases hj; simpa using hx, (PyM.pure_eq_ok_iff.1 h).symm⟩,
        fun h => h.elim (fun ⟨j, hj, hj', _⟩ => by cases hj; exact absurd hj' hx) fun h => h.2 ▸ rfl⟩

theorem applyAll_eq (pt : PTable) (st : PState) (ti : TInsts) :
    applyAll pt st ti =
      ((List.range ti.insts.length).foldlM (applyStep pt) (st, ti) >>= fun cur =>
        if cur.2.insts.any (·.xf == .emulated) then throw .unsupported else pure cur.1) := by
  have hbody : ∀ (idx : Nat) (cur : PState × TInsts),
      (match cur.2.insts[idx]? with
        | some i =>
          if isInsertion i.xf = true then
            applySingle pt cur.1 cur.2 idx >>= fun c => pure (ForInStep.yield c)
          else pure (ForInStep.yield cur)
        | none => pure (ForInStep.yield cur)) =
      (applyStep pt cur idx >>= fun c => pure (ForInStep.yield c)) := by
    intro idx cur
    unfold applyStep
    cases cur.2.insts[idx]? with
    | none => rfl
    | some i => by_cases hx : isInsertion i.xf = true <;> simp only [hx, if_true] <;> rfl
  rw [← PyM.forIn_eq_foldlM _ (applyStep pt) hbody]
  rfl

end GraphInv
