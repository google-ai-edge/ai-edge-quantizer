import QProofs.Locality
import QProofs.PipeNameMap
/-!
# C19 — instruction generation is local

`InstGen.genInsts` looks every request up in the name map of the WHOLE model.  With model-wide unique tensor
names the entry found for a tensor of subgraph `j` is its graph information inside subgraph `j`, and the
extracted model finds the same information with subgraph index `0`.
-/
open Graph InstGen GenInstsOK

namespace Locality

def nameIn (sg : Subgraph) (n : String) : Bool := sg.tensors.any (·.name == n)

def restrictReqs (reqs : List TReq) (sg : Subgraph) : List TReq := reqs.filter fun r => nameIn sg r.name

theorem nameIn_iff (sg : Subgraph) (n : String) :
    nameIn sg n = true ↔ ∃ (i : Nat) (t : Tensor), sg.tensors[i]? = some t ∧ t.name = n := by
  unfold nameIn
  simp only [List.any_eq_true, List.mem_iff_getElem?, beq_iff_eq]
  exact ⟨fun ⟨t, ⟨i, hi⟩, hn⟩ => ⟨i, t, hi, hn⟩, fun ⟨i, t, hi, hn⟩ => ⟨t, ⟨i, hi⟩, hn⟩⟩

theorem namesUnique_extract (m : Model) (hnu : namesUnique m) (j : Nat) (sg : Subgraph)
    (hsg : m.subgraphs[j]? = some sg) : namesUnique (extract m j sg) := by
  unfold namesUnique at hnu ⊢
  have := (List.nodup_flatMap.1 hnu).1 sg (List.mem_of_getElem? hsg)
  simpa [extract] using this

theorem instsList_reindex (info : TInfo) (req : TReq) (s : Nat) :
    instsList { info with sg := s } req = instsList info req := rfl

theorem tensorInsts_same (m : Model) (hnu : namesUnique m) (j : Nat) (sg : Subgraph)
    (hsg : m.subgraphs[j]? = some sg) (req : TReq) (ti : TInsts) (hin : nameIn sg req.name = true)
    (h : tensorInsts (nameMap m) req = .ok ti) :
    tensorInsts (nameMap (extract m j sg)) req = .ok { ti with sg := 0 } ∧ ti.sg = j := by
  obtain ⟨i, t, ht, hn⟩ := (nameIn_iff sg req.name).1 hin
  have h1 := Pipe.nameMap_loc m hnu req.name j sg i ⟨hsg, t, ht, hn⟩
  -- the two look-ups differ in the subgraph index only, which `instsList` does not read
  have h2 : Py.dictGet? (nameMap (extract m j sg)) req.name = some { tensorInfo j sg i with sg := 0 } :=
    Pipe.nameMap_loc (extract m j sg) (namesUnique_extract m hnu j sg hsg) req.name 0 sg i ⟨rfl, t, ht, hn⟩
  obtain ⟨info, hi, hv, rfl⟩ := tensorInsts_ok_iff.1 h
  cases h1.symm.trans hi
  exact ⟨tensorInsts_ok_iff.2 ⟨_, h2, hv, rfl⟩, rfl⟩

theorem tensorInsts_other (m : Model) (j : Nat) (sg : Subgraph)
    (hsg : m.subgraphs[j]? = some sg) (req : TReq) (ti : TInsts) (hin : nameIn sg req.name = false)
    (h : tensorInsts (nameMap m) req = .ok ti) : ti.sg ≠ j := by
  obtain ⟨info, hg, -, rfl⟩ := tensorInsts_ok_iff.1 h
  obtain ⟨s, sg', i, hloc, rfl⟩ := Pipe.nameMap_some m req.name info hg
  intro hs
  have hs' : s = j := hs
  subst hs'
  obtain ⟨hsg', t, ht, hn⟩ := hloc
  rw [hsg] at hsg'
  cases hsg'
  have := (nameIn_iff sg req.name).2 ⟨i, t, ht, hn⟩
  rw [hin] at this
  cases this

theorem genInsts_local (m : Model) (hnu : namesUnique m) (j : Nat) (sg : Subgraph)
    (hsg : m.subgraphs[j]? = some sg) (reqs : List TReq) (tis : List TInsts)
    (h : genInsts m reqs = .ok tis) :
    genInsts (extract m j sg) (restrictReqs reqs sg) = .ok (restrict tis j) := by
  refine PyM.mapM_filter _ _ (fun r => nameIn sg r.name) (·.sg == j) (fun t => { t with sg := 0 }) reqs tis
    (fun r _ ti hr => ?_) h
  cases hin : nameIn sg r.name with
  | true =>
    obtain ⟨h1, h2⟩ := tensorInsts_same m hnu j sg hsg r ti hin hr
    exact ⟨by simpa using h2, fun _ => h1⟩
  | false => exact ⟨by simpa using tensorInsts_other m j sg hsg r ti hin hr, nofun⟩

end Locality
