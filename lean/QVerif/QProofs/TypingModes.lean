import QProofs.TypingE2E
import QProofs.TypingSrq
/-!
# C03 end to end, per algorithm and mode: which requests the materialisation makes, read through `op_sides_typed`
-/
open Graph Mat Cfg Pipeline Pipe

namespace TypingE2E

def ResolvesMinMax (rx : String → String → Bool) (env : Env) (st : Recipe.State) (sg : Subgraph) (op : Op)
    (nm : String) (cfg : OpCfg) : Prop :=
  ∃ code scope, env.model.opcodes[op.code]? = some code ∧ opNameOfCode code = some nm ∧
    opScope sg op = .ok scope ∧ Recipe.resolve rx st nm scope = (Tables.algMinMax, cfg)

theorem opReqs_minmax (rx : String → String → Bool) (env : Env) (st : Recipe.State) (s : Nat) (sg : Subgraph)
    (op : Op) (k : Int) (nm : String) (cfg : OpCfg) (hr : ResolvesMinMax rx env st sg op nm cfg)
    (qs0 qs1 : Qsvs) (rs : List CReq) (h : opReqs rx env st s sg qs0 (op, none, k) = .ok (rs, qs1)) :
    ∃ fn, Py.dictGet? minmaxOps nm = some fn ∧
      materializeOp env sg qs0 { sgIdx := s, op := op, opName := nm, opId := k, cfg := cfg } Tables.algMinMax fn
        = .ok (rs, qs1) := by
  obtain ⟨code, scope, hcode, hnm, hsc, hres⟩ := hr
  rcases opReqs_keyed (by rw [keyOf_code hcode, hnm]) hsc h with ⟨hnq, -⟩ | ⟨ops, fn, S, hrun⟩
  · rw [hres] at hnq
    exact absurd hnq (show Tables.algMinMax ≠ Tables.algNoQuantize by decide)
  · have hops := S.hops
    rw [hres, registry_minmax] at hops
    cases hops
    refine ⟨fn, S.hfn, ?_⟩
    rw [MatTotal.materializeOp_kind]
    unfold opInfoAt at hrun
    rw [hres] at hrun
    exact hrun

theorem ResolvesMinMax.named {rx : String → String → Bool} {env : Env} {st : Recipe.State} {sg : Subgraph}
    {op : Op} {nm : String} {cfg : OpCfg} (h : ResolvesMinMax rx env st sg op nm cfg) :
    PipeNF.OpNamed env.model op nm := by
  obtain ⟨code, scope, h1, h2, -⟩ := h
  exact ⟨code, h1, h2⟩

/-- **every operator of the min/max algorithm, under any config.**  Per slot, the transformation `x` is
    `NO_QUANTIZE` (tensor not float32, or a position that the materialize function ignores: index / shape / axis
    slots and the bias slot) or the entry of the table `tensorXfs cfg`; the parameter object is one for the tensor
    config in force (`TypingSrq.ParamFor`; for a result the activation config, also when the range is a fixed one);
    and the output holds the row `x` of `OperandTyped` / `ResultTyped`.  The bias of a convolution-like operator
    is requested as a constant exactly under a static-range config (`tensorXfs cfg true (isSRQ cfg)`). -/
theorem minmax_op_typed (rx : String → String → Bool) (env : Env) (st : Recipe.State)
    (qsvs : Option Qsvs) (m' : Model) (tbl : List Param) (hnf : PipelineWF.NF env st)
    (h : quantizePure rx env st qsvs = .ok (m', tbl))
    (s : Nat) (sg sg' : Subgraph) (hsg : env.model.subgraphs[s]? = some sg) (hsg' : m'.subgraphs[s]? = some sg')
    (k : Nat) (op : Op) (hop : sg.ops[k]? = some op) (nm : String) (cfg : OpCfg)
    (hres : ResolvesMinMax rx env st sg op nm cfg) :
    ∃ o', KernelSig.Same sg' k op o' ∧
      sg.tensors.length ≤ sg'.tensors.length ∧
      (∀ (j : Nat) (t : Int) (tn : Tensor), op.inputs[j]? = some t → t ≠ -1 → sg.tensors[t.toNat]? = some tn →
        ¬ (PipeNF.biasSlot nm = some j ∧ nm ≠ "EMBEDDING_LOOKUP") →
        (constData env tn).isSome = isConst env.model sg t ∧
        ∃ x prm, OperandTyped env m' tbl sg sg' o' j t tn x prm ∧
          (((tn.dtype ≠ Tables.ttFloat32 ∨ PipeNF.slotRole nm j ≠ 0) ∧ x = .noQuant) ∨
           (tn.dtype = Tables.ttFloat32 ∧ tensorXfs cfg true (isConst env.model sg t) = .ok [x] ∧
             TypingSrq.ParamFor env { sgIdx := s, op := op, opName := nm, opId := (k : Int), cfg := cfg } tn prm))) ∧
      (∀ (j : Nat) (t : Int) (tn : Tensor), op.inputs[j]? = some t → t ≠ -1 → sg.tensors[t.toNat]? = some tn →
        PipeNF.biasSlot nm = some j → nm ≠ "EMBEDDING_LOOKUP" →
        ∃ x prm, OperandTyped env m' tbl sg sg' o' j t tn x prm ∧
          (x = .noQuant ∨ tensorXfs cfg true (isSRQ cfg) = .ok [x])) ∧
      (∀ (j : Nat) (t : Int), op.outputs[j]? = some t → t ≠ -1 →
        ∃ tn, sg.tensors[t.toNat]? = some tn ∧ ∃ x prm, ResultTyped tbl sg' t tn x prm ∧
          ((tn.dtype ≠ Tables.ttFloat32 ∧ x = .noQuant) ∨
           (tn.dtype = Tables.ttFloat32 ∧ tensorXfs cfg false false = .ok [x] ∧
             ∀ a, cfg.act = some a → ∃ qp d, prm = some (.uniform qp d) ∧ qp.bits = a.bits.toNat))) := by
  obtain ⟨o', rs, qs0, qs1, M⟩ := op_sides_typed rx env st qsvs m' tbl hnf h s sg sg' hsg hsg' k op hop
  obtain ⟨fn, hget, hmat⟩ := opReqs_minmax rx env st s sg op k nm cfg hres qs0 qs1 rs M.reqs
  have hfn := Py.dictGet?_mem _ _ _ hget
  have hmand := hnf.mandatory sg (List.mem_of_getElem? hsg) op (List.mem_of_getElem? hop) nm hres.named
  obtain ⟨gIn, hrole, hops, hbias, hress⟩ := TypingSrq.materializeOp_minmax_slots env sg qs0
    { sgIdx := s, op := op, opName := nm, opId := (k : Int), cfg := cfg } fn rs qs1 hfn
    (fun b hb => (hmand b hb).1) hmat
  refine ⟨o', M.same, M.grows, ?_, ?_, ?_⟩
  · intro j t tn hj hne htn hnbias
    obtain ⟨tn0, -, hat, htn0, hcs, hT⟩ := M.operand j t hj hne
    obtain rfl : tn0 = tn := Option.some.inj (htn0.symm.trans htn)
    -- EMBEDDING_LOOKUP has a bias slot, but its min/max function treats the operand as an ordinary one
    obtain ⟨r, hr, hcase⟩ := hops j t tn0 hj hne hat fun hb =>
      TypingSrq.minmax_embedding_notConv _ hfn (Classical.byContradiction fun hne' => hnbias ⟨hb, hne'⟩)
    refine ⟨hcs, ?_⟩
    rcases hcase with ⟨hwhy, rfl⟩ | ⟨hf, -, xfs, prm, hx, rfl, hpf⟩
    · exact ⟨.noQuant, none, hT _ _ hr rfl rfl, .inl ⟨hwhy.imp_right (hrole j), rfl⟩⟩
    · obtain ⟨x, rfl, -⟩ := tensorXfs_ok hx
      exact ⟨x, prm, hT _ _ hr rfl rfl, .inr ⟨hf, hcs ▸ hx, hpf⟩⟩
  · intro j t tn hj hne htn hbs hnemb
    obtain ⟨tn0, -, hat, htn0, -, hT⟩ := M.operand j t hj hne
    obtain rfl : tn0 = tn := Option.some.inj (htn0.symm.trans htn)
    have hconv : ¬ TypingSrq.NotConv fn := fun hn =>
      (TypingSrq.minmax_biasSlot_conv _ hfn j hbs hnemb).elim hn.1 hn.2
    obtain ⟨r, hr, rfl | ⟨bp, hmk⟩⟩ := hbias j t tn0 hj hne hat hbs hconv
    · exact ⟨.noQuant, none, hT _ _ hr rfl rfl, .inl rfl⟩
    · obtain ⟨xfs, hx, rfl⟩ := mkReq_ok.1 hmk
      obtain ⟨x, rfl, -⟩ := tensorXfs_ok hx
      exact ⟨x, bp, hT _ _ hr rfl rfl, .inr hx⟩
  · intro j t hj hne
    obtain ⟨tn, hat, htn, hcd, hT⟩ := M.result j t hj hne
    refine ⟨tn, htn, ?_⟩
    rcases hress j t tn hj hne hat with ⟨hd, prm, hr⟩ | ⟨hf, xfs, prm, hx, hr, hprm⟩
    · exact ⟨.noQuant, prm, hT _ _ hr rfl, .inl ⟨hd, rfl⟩⟩
    · obtain ⟨x, rfl, -⟩ := tensorXfs_ok hx
      rw [hcd] at hx
      refine ⟨x, prm, hT _ _ hr rfl, .inr ⟨hf, hx, fun a ha => ?_⟩⟩
      -- a result is no constant, so the config in force is the activation config
      rcases hprm with hpf | ⟨a', fp, ha', hfb, rfl⟩
      · exact hpf.2 a ((MatParams.tcfgOf_nonconst _ _ _ hcd).trans ha)
      · obtain rfl : a' = a := Option.some.inj (ha'.symm.trans ha)
        exact ⟨fp, none, rfl, hfb⟩

theorem srq_op_typed (rx : String → String → Bool) (env : Env) (st : Recipe.State)
    (qsvs : Option Qsvs) (m' : Model) (tbl : List Param) (hnf : PipelineWF.NF env st)
    (h : quantizePure rx env st qsvs = .ok (m', tbl))
    (s : Nat) (sg sg' : Subgraph) (hsg : env.model.subgraphs[s]? = some sg) (hsg' : m'.subgraphs[s]? = some sg')
    (k : Nat) (op : Op) (hop : sg.ops[k]? = some op) (nm : String) (cfg : OpCfg)
    (hres : ResolvesMinMax rx env st sg op nm cfg) (hsrq : isSRQ cfg = true) (a : TCfg) (ha : cfg.act = some a) :
    ∃ o', o' ∈ sg'.ops ∧ o'.orig = some k ∧ (∀ o'' ∈ sg'.ops, o''.orig = some k → o'' = o') ∧
      o'.code = op.code ∧ o'.outputs = op.outputs ∧ o'.inputs.length = op.inputs.length ∧
      o'.inputs.map (Skeleton.root sg') = op.inputs ∧
      (∀ (j : Nat) (t : Int) (tn : Tensor), op.outputs[j]? = some t → t ≠ -1 → sg.tensors[t.toNat]? = some tn →
        tn.dtype = Tables.ttFloat32 →
        ∃ tn', sg'.tensors[t.toNat]? = some tn' ∧ tn'.dtype = intOfBits a.bits.toNat ∧ tn'.quant.isSome = true) ∧
      (∀ (j : Nat) (t : Int) (tn : Tensor), op.inputs[j]? = some t → t ≠ -1 → sg.tensors[t.toNat]? = some tn →
        tn.dtype = Tables.ttFloat32 → PipeNF.slotRole nm j = 0 →
        (isConst env.model sg t = false →
          ∃ z tz, o'.inputs[j]? = some z ∧ Skeleton.root sg' z = t ∧ sg'.tensors[z.toNat]? = some tz ∧
            tz.dtype = intOfBits a.bits.toNat ∧ tz.quant.isSome = true ∧
            (z = t ∨ ((sg.tensors.length : Int) ≤ z ∧
              ∃ ci, ({ code := ci, inputs := [t], outputs := [z], orig := none } : Op) ∈ sg'.ops ∧
                m'.opcodes[ci]? = some Tables.opQuantize))) ∧
        (isConst env.model sg t = true → ∀ tc, MatParams.tcfgOf env
            { sgIdx := s, op := op, opName := nm, opId := (k : Int), cfg := cfg } tn = some tc →
          ∃ tz pid, o'.inputs[j]? = some t ∧ sg'.tensors[t.toNat]? = some tz ∧
            tz.dtype = intOfBits tc.bits.toNat ∧ tz.quant = some pid ∧
            m'.buffers[tn.buffer]? = some (some (.inr pid)))) ∧
      (∀ (j : Nat) (t : Int) (tn : Tensor), op.inputs[j]? = some t → t ≠ -1 → sg.tensors[t.toNat]? = some tn →
        tn.dtype ≠ Tables.ttFloat32 → PipeNF.biasSlot nm ≠ some j → UntouchedOperand env m' sg sg' o' j t) := by
  obtain ⟨o', I, -, hops, -, hress⟩ :=
    minmax_op_typed rx env st qsvs m' tbl hnf h s sg sg' hsg hsg' k op hop nm cfg hres
  refine ⟨o', I.mem, I.orig, I.uniq, I.code, I.outs, I.len, I.root, ?_, ?_, ?_⟩
  · intro j t tn hj hne htn hf
    obtain ⟨tn0, htn0, x, prm, hT, hcase⟩ := hress j t hj hne
    obtain rfl : tn0 = tn := Option.some.inj (htn0.symm.trans htn)
    rcases hcase with ⟨hnf32, -⟩ | ⟨-, hx, hprm⟩
    · exact absurd hf hnf32
    · obtain rfl : Xf.addDequant = x := List.head_eq_of_cons_eq (Except.ok.inj ((tensorXfs_srq hsrq _ _).symm.trans hx))
      obtain ⟨qp, d, rfl, hb⟩ := hprm a ha
      obtain ⟨tn', q1, q2⟩ := hT _ rfl
      obtain ⟨u1, pid, -, u2⟩ := holds_uniform q2
      exact ⟨tn', q1, hb ▸ u1, by rw [u2]; rfl⟩
  · intro j t tn hj hne htn hf hrj
    obtain ⟨hcs, x, prm, hT, ⟨hbad | hbad, -⟩ | ⟨-, hx, hpf⟩⟩ :=
      hops j t tn hj hne htn fun hb => (TypingSrq.role_zero _ _ hrj).2 hb.1
    · exact absurd hf hbad
    · exact absurd hrj hbad
    rw [tensorXfs_srq hsrq] at hx
    refine ⟨fun hnc => ?_, fun hcc tc htc => ?_⟩
    · rw [hnc] at hx hcs
      cases hx
      -- a runtime operand: the config in force is the activation config
      obtain ⟨qp, d, rfl, hb⟩ := hpf.2 a
        ((MatParams.tcfgOf_nonconst _ _ _ (Option.not_isSome_iff_eq_none.1 (by rw [hcs]; decide))).trans ha)
      obtain ⟨z, tz, z1, z2, z3, z4, z5⟩ := hT _ rfl
      obtain ⟨u1, pid, -, u2⟩ := holds_uniform z4
      exact ⟨z, tz, z1, z2, z3, hb ▸ u1, by rw [u2]; rfl, z5⟩
    · rw [hcc] at hx
      cases hx
      obtain ⟨qp, d, rfl, hb⟩ := hpf.2 tc htc
      obtain ⟨tz, pid, hC, c5⟩ := hT _ rfl
      obtain ⟨c1, c2, c3, c4⟩ := hC.uniform hb
      exact ⟨tz, pid, c5, c1, c2, c3, c4⟩
  · intro j t tn hj hne htn hnf32 hnb
    obtain ⟨-, x, prm, hT, ⟨-, rfl⟩ | ⟨hf, -⟩⟩ := hops j t tn hj hne htn fun hb => hnb hb.1
    · exact hT
    · exact absurd hf hnf32

theorem srq_bias_typed (rx : String → String → Bool) (env : Env) (st : Recipe.State)
    (qsvs : Option Qsvs) (m' : Model) (tbl : List Param) (hnf : PipelineWF.NF env st)
    (h : quantizePure rx env st qsvs = .ok (m', tbl))
    (s : Nat) (sg sg' : Subgraph) (hsg : env.model.subgraphs[s]? = some sg) (hsg' : m'.subgraphs[s]? = some sg')
    (k : Nat) (op : Op) (hop : sg.ops[k]? = some op) (nm : String) (cfg : OpCfg)
    (hres : ResolvesMinMax rx env st sg op nm cfg) (hsrq : isSRQ cfg = true) (a : TCfg) (ha : cfg.act = some a)
    (iB : Nat) (hbs : PipeNF.biasSlot nm = some iB) (hnemb : nm ≠ "EMBEDDING_LOOKUP")
    (t : Int) (hj : op.inputs[iB]? = some t) (hne : t ≠ -1) :
    ∃ o' tn tz pid a_in, o' ∈ sg'.ops ∧ o'.orig = some k ∧ sg.tensors[t.toNat]? = some tn ∧
      isConst env.model sg t = true ∧ o'.inputs[iB]? = some t ∧ sg'.tensors[t.toNat]? = some tz ∧
      tz.quant = some pid ∧ m'.buffers[tn.buffer]? = some (some (.inr pid)) ∧
      op.inputs[PipeNF.dataSlot nm]? = some a_in ∧
      (isConst env.model sg a_in = false →
        tz.dtype = intOfBits (if a.bits.toNat = 16 then 64 else 32)) := by
  obtain ⟨o', rs, qs0, qs1, M⟩ := op_sides_typed rx env st qsvs m' tbl hnf h s sg sg' hsg hsg' k op hop
  obtain ⟨fn, hget, hmat⟩ := opReqs_minmax rx env st s sg op k nm cfg hres qs0 qs1 rs M.reqs
  have hmand := hnf.mandatory sg (List.mem_of_getElem? hsg) op (List.mem_of_getElem? hop) nm hres.named
  obtain ⟨bt, bd, a_in, tin, _, _, qi, _, _, _, qp, q, b1, b2, b3, b3', b4, -, -, -, -, -, b5, b6, b7⟩ :=
    TypingSrq.srq_bias_requests env sg qs0 { sgIdx := s, op := op, opName := nm, opId := (k : Int), cfg := cfg } fn rs qs1
      (Py.dictGet?_mem _ _ _ hget) hsrq (fun b hb => (hmand b hb).1) hmat iB hbs hnemb t hj hne
  obtain ⟨tn, -, hat, htn, hcs, hT⟩ := M.operand iB t hj hne
  obtain rfl : tn = bt := Except.ok.inj (hat.symm.trans b1)
  obtain ⟨tz, pid, hC, c5⟩ := hT _ _ b5 rfl rfl _ rfl
  obtain ⟨c1, c2, c3, c4⟩ := hC.uniform rfl
  refine ⟨o', tn, tz, pid, a_in, M.same.mem, M.same.orig, htn, by rw [← hcs, b2]; rfl, c5, c1, c3, c4, b3, fun hnc => ?_⟩
  -- as a runtime tensor the data operand has the activation config; the bias has 32 bits, 64 for 16-bit data
  obtain ⟨tn', -, hat', -, hcs', -⟩ := M.operand _ a_in b3 b3'
  obtain rfl : tn' = tin := Except.ok.inj (hat'.symm.trans b4)
  rw [c2, Arith.quantizeBias_bits _ _ _ _ _ b6,
    b7 a ((MatParams.tcfgOf_nonconst _ _ _ (Option.not_isSome_iff_eq_none.1 (by rw [hcs', hnc]; decide))).trans ha)]

/-- **operators under a min/max config that quantizes no activations** (dynamic range: constants are `[QUANTIZE_TENSOR]`; weight
    only: `[ADD_DEQUANTIZE]`): results keep their records; runtime operands, operands that are not float32 and the bias are
    `UntouchedOperand`; a float32 constant in a regular slot holds the row `tensorXfs cfg true true` of `OperandTyped` with a
    uniform parameter object of the width of the tensor config in force -/
theorem noact_op_typed (rx : String → String → Bool) (env : Env) (st : Recipe.State)
    (qsvs : Option Qsvs) (m' : Model) (tbl : List Param) (hnf : PipelineWF.NF env st)
    (h : quantizePure rx env st qsvs = .ok (m', tbl))
    (s : Nat) (sg sg' : Subgraph) (hsg : env.model.subgraphs[s]? = some sg) (hsg' : m'.subgraphs[s]? = some sg')
    (k : Nat) (op : Op) (hop : sg.ops[k]? = some op) (nm : String) (cfg : OpCfg)
    (hres : ResolvesMinMax rx env st sg op nm cfg) (hmode : TypingSrq.NoActMode cfg) :
    ∃ o', KernelSig.Same sg' k op o' ∧
      (∀ (j : Nat) (t : Int), op.outputs[j]? = some t → t ≠ -1 →
        ∃ tn, sg.tensors[t.toNat]? = some tn ∧ sg'.tensors[t.toNat]? = some tn) ∧
      (∀ (j : Nat) (t : Int) (tn : Tensor), op.inputs[j]? = some t → t ≠ -1 → sg.tensors[t.toNat]? = some tn →
        (isConst env.model sg t = false ∨ tn.dtype ≠ Tables.ttFloat32 ∨
          (PipeNF.biasSlot nm = some j ∧ nm ≠ "EMBEDDING_LOOKUP")) →
        UntouchedOperand env m' sg sg' o' j t) ∧
      -- float32 constants in regular slots: the row of the table
      (∀ (j : Nat) (t : Int) (tn : Tensor), op.inputs[j]? = some t → t ≠ -1 → sg.tensors[t.toNat]? = some tn →
        PipeNF.slotRole nm j = 0 → tn.dtype = Tables.ttFloat32 → isConst env.model sg t = true →
        ∀ tc, MatParams.tcfgOf env { sgIdx := s, op := op, opName := nm, opId := (k : Int), cfg := cfg } tn = some tc →
        ∃ x qp d, tensorXfs cfg true true = .ok [x] ∧ qp.bits = tc.bits.toNat ∧
          OperandTyped env m' tbl sg sg' o' j t tn x (some (.uniform qp d))) := by
  obtain ⟨hact, hmode⟩ := hmode
  obtain ⟨o', I, -, hops, hbias, hress⟩ :=
    minmax_op_typed rx env st qsvs m' tbl hnf h s sg sg' hsg hsg' k op hop nm cfg hres
  refine ⟨o', I, ?_, ?_, ?_⟩
  · intro j t hj hne
    obtain ⟨tn, htn, x, prm, hT, ⟨-, rfl⟩ | ⟨-, hx, -⟩⟩ := hress j t hj hne
    · exact ⟨tn, htn, hT⟩
    · obtain rfl : Xf.noQuant = x := List.head_eq_of_cons_eq (Except.ok.inj ((hmode false false rfl).symm.trans hx))
      exact ⟨tn, htn, hT⟩
  · intro j t tn hj hne htn hwhy
    by_cases hbj : PipeNF.biasSlot nm = some j ∧ nm ≠ "EMBEDDING_LOOKUP"
    · -- the bias of a convolution-like operator is requested as a runtime operand: the config is not a static-range one
      obtain ⟨x, prm, hT, rfl | hx⟩ := hbias j t tn hj hne htn hbj.1 hbj.2
      · exact hT
      · rw [TypingSrq.isSRQ_noact _ hact, hmode true false rfl] at hx
        cases hx
        exact hT
    · obtain ⟨hcs, x, prm, hT, ⟨-, rfl⟩ | ⟨hf, hx, -⟩⟩ := hops j t tn hj hne htn hbj
      · exact hT
      · rcases hwhy with hnc | hnf32 | hb
        · rw [hnc, hmode true false rfl] at hx
          cases hx
          exact hT
        · exact absurd hf hnf32
        · exact absurd hb hbj
  · intro j t tn hj hne htn hrj hf hcc tc htc
    obtain ⟨-, x, prm, hT, ⟨hbad | hbad, -⟩ | ⟨-, hx, hpf⟩⟩ :=
      hops j t tn hj hne htn fun hb => (TypingSrq.role_zero _ _ hrj).2 hb.1
    · exact absurd hf hbad
    · exact absurd hrj hbad
    obtain ⟨qp, d, rfl, hb⟩ := hpf.2 tc htc
    exact ⟨x, qp, d, hcc ▸ hx, hb, hT⟩

def ResolvesFloatCast (rx : String → String → Bool) (env : Env) (st : Recipe.State) (sg : Subgraph) (op : Op)
    (nm : String) : Prop :=
  ∃ code scope cfg, env.model.opcodes[op.code]? = some code ∧ opNameOfCode code = some nm ∧
    opScope sg op = .ok scope ∧ Recipe.resolve rx st nm scope = (Tables.algFloatCasting, cfg)

theorem opReqs_floatcast (rx : String → String → Bool) (env : Env) (st : Recipe.State) (s : Nat) (sg : Subgraph)
    (op : Op) (k : Int) (nm : String) (hr : ResolvesFloatCast rx env st sg op nm)
    (qs0 qs1 : Qsvs) (rs : List CReq) (h : opReqs rx env st s sg qs0 (op, none, k) = .ok (rs, qs1)) :
    ∃ cfg iB, PipeNF.biasSlot nm = some iB ∧ PipeNF.dataSlot nm < iB ∧ 1 < iB ∧
      floatCastOp env sg { sgIdx := s, op := op, opName := nm, opId := k, cfg := cfg } (PipeNF.dataSlot nm) 1 iB
        = .ok rs := by
  obtain ⟨code, scope, cfg, hcode, hnm, hsc, hres⟩ := hr
  rcases opReqs_keyed (by rw [keyOf_code hcode, hnm]) hsc h with ⟨hnq, -⟩ | ⟨ops, fn, S, hrun⟩
  · rw [hres] at hnq
    exact absurd hnq (show Tables.algFloatCasting ≠ Tables.algNoQuantize by decide)
  · have hops := S.hops
    rw [hres, registry_float] at hops
    cases hops
    have T := (Pipe.kindAlg_of_registry Pipe.registry_float S.hfn).1
    unfold opInfoAt at hrun
    rw [hres] at hrun
    rcases TypingSrq.kindOf_float fn with ⟨a, w, b, hk⟩ | hk
    · rw [hk] at hrun T
      obtain ⟨rfl, hab, h1b, hbs, -, rfl⟩ := T
      exact ⟨cfg, b, hbs, hab, h1b, (runKind_ok hrun).1⟩
    · rw [hk] at T
      exact T.elim

theorem ResolvesFloatCast.named {rx : String → String → Bool} {env : Env} {st : Recipe.State} {sg : Subgraph}
    {op : Op} {nm : String} (h : ResolvesFloatCast rx env st sg op nm) : PipeNF.OpNamed env.model op nm := by
  obtain ⟨code, scope, _, h1, h2, -⟩ := h
  exact ⟨code, h1, h2⟩

theorem f16_op_typed (rx : String → String → Bool) (env : Env) (st : Recipe.State)
    (qsvs : Option Qsvs) (m' : Model) (tbl : List Param) (hnf : PipelineWF.NF env st)
    (h : quantizePure rx env st qsvs = .ok (m', tbl))
    (s : Nat) (sg sg' : Subgraph) (hsg : env.model.subgraphs[s]? = some sg) (hsg' : m'.subgraphs[s]? = some sg')
    (k : Nat) (op : Op) (hop : sg.ops[k]? = some op) (nm : String)
    (hres : ResolvesFloatCast rx env st sg op nm) :
    ∃ o' iB, o' ∈ sg'.ops ∧ o'.orig = some k ∧ (∀ o'' ∈ sg'.ops, o''.orig = some k → o'' = o') ∧
      o'.code = op.code ∧ o'.outputs = op.outputs ∧ o'.inputs.length = op.inputs.length ∧
      o'.inputs.map (Skeleton.root sg') = op.inputs ∧ PipeNF.biasSlot nm = some iB ∧
      -- the weight
      (∃ sW tw tz pid z tzz ci, op.inputs[1]? = some sW ∧ 0 ≤ sW ∧ sg.tensors[sW.toNat]? = some tw ∧
        isConst env.model sg sW = true ∧ sg'.tensors[sW.toNat]? = some tz ∧ tz.dtype = Tables.ttFloat16 ∧
        m'.buffers[tw.buffer]? = some (some (.inr pid)) ∧
        o'.inputs[1]? = some z ∧ (sg.tensors.length : Int) ≤ z ∧
        sg'.tensors[z.toNat]? = some tzz ∧ tzz.dtype = Tables.ttFloat32 ∧ tzz.quant = none ∧ tzz.buffer = 0 ∧
        ({ code := ci, inputs := [sW], outputs := [z], orig := none } : Op) ∈ sg'.ops ∧
        m'.opcodes[ci]? = some Tables.opDequantize ∧ Skeleton.root sg' z = sW) ∧
      (∃ sIn, op.inputs[PipeNF.dataSlot nm]? = some sIn ∧
        UntouchedOperand env m' sg sg' o' (PipeNF.dataSlot nm) sIn) ∧
      (∀ b, op.inputs[iB]? = some b → UntouchedOperand env m' sg sg' o' iB b) ∧
      (∃ sOut tn, op.outputs[0]? = some sOut ∧ sg.tensors[sOut.toNat]? = some tn ∧
        sg'.tensors[sOut.toNat]? = some tn) := by
  obtain ⟨o', rs, qs0, qs1, M⟩ := op_sides_typed rx env st qsvs m' tbl hnf h s sg sg' hsg hsg' k op hop
  obtain ⟨cfg, iB, hbs, hdlt, hlt1, hfc⟩ := opReqs_floatcast rx env st s sg op k nm hres qs0 qs1 rs M.reqs
  obtain ⟨hm1, hm2⟩ := hnf.mandatory sg (List.mem_of_getElem? hsg) op (List.mem_of_getElem? hop) nm hres.named iB hbs
  obtain ⟨sIn, sW, sOut, tin, tw, tout, d, e1, e2, e3, e4, e5, e6, e7, r1, r2, r3, r4⟩ :=
    TypingSrq.floatCastOp_unfold16 env sg _ _ 1 iB rs hfc
  refine ⟨o', iB, M.same.mem, M.same.orig, M.same.uniq, M.same.code, M.same.outs, M.same.len, M.same.root, hbs, ?_, ?_, ?_, ?_⟩
  · obtain ⟨tn, h0, hat, htn, hcs, hT⟩ := M.operand 1 sW e2 fun e => hm1 1 hlt1 (by rw [e2, e])
    obtain rfl : tn = tw := Except.ok.inj (hat.symm.trans e5)
    obtain ⟨tz, pid, z, tzz, ci, ⟨c1, ⟨_, ty, -, d2, d3, -⟩, -, c4⟩, hz⟩ := hT _ .addDequant r2 rfl rfl _ rfl
    exact ⟨sW, tn, tz, pid, z, tzz, ci, e2, h0, htn, hcs ▸ e7, c1, d3.trans (dtypeOf_f16 _ ty rfl rfl d2), c4, hz⟩
  · obtain ⟨tn, -, hat, -, -, hT⟩ := M.operand _ sIn e1 fun e => hm1 _ hdlt (by rw [e1, e])
    obtain rfl : tn = tin := Except.ok.inj (hat.symm.trans e4)
    exact ⟨sIn, e1, hT _ _ r1 rfl rfl⟩
  · intro b hb
    by_cases hne : b = -1
    · subst hne
      exact .inl ⟨rfl, M.absent iB hb⟩
    · obtain ⟨tn, -, hat, -, -, hT⟩ := M.operand iB b hb hne
      exact hT _ _ (r4 b tn hb hne hat) rfl rfl
  · obtain ⟨tn, hat, htn, -, hT⟩ := M.result 0 sOut e3 fun e => hm2 (by rw [e3, e])
    obtain rfl : tn = tout := Except.ok.inj (hat.symm.trans e6)
    exact ⟨sOut, tn, e3, htn, hT _ _ r3 rfl⟩

end TypingE2E
