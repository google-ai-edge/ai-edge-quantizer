import QProofs.RunRule
import QProofs.GenInstsGroup
/-!
# Instruction generation produces consistent, chain-free instruction lists; `modify` preserves WF
The list of one tensor is `Locality.instsList`, defined here under the name the locality theorems state it by. On requests of the closed shape `ReqOK`
it is the consumer rules passed through the vertical merge: `applyVertical_eq` (`vstep` for one rule), the table `VEmits` with `mem_applyVertical_iff`,
`instsList_none` / `instsList_some`. -/
open Graph InstGen GraphInv GraphStep GenInstsInfo GenInstsGroup

namespace Locality

def instsList (info : TInfo) (req : TReq) : List Inst :=
  let groups := groupConsumers req.consumers
  let cs := req.consumers.getD []
  let avail := vertAvail groups cs info
  let other := vertUnavail groups cs info
  let prodRules : List Inst := match req.producer with
    | some p => p.xfs.map fun x =>
        { xf := x, tensor := info.tensorId, producer := info.producer, consumers := info.consumers, param := p.param }
    | none => []
  let insts : List Inst :=
    match prodRules.getLast? with
    | some P =>
      let (vo, rem) := applyVertical P avail
      (prodRules.dropLast.map fun r => { r with consumers := rem }) ++ vo
    | none => avail
  insts ++ other

theorem tensorInsts_eq (nm : List (String × TInfo)) (req : TReq) :
    tensorInsts nm req =
      match Py.dictGet? nm req.name with
      | none => .error .keyError
      | some info =>
        if instsValid (instsList info req) then .ok ⟨req.name, info.sg, instsList info req⟩
        else .error .valueError := rfl

theorem tensorInsts_ok_iff {nm : List (String × TInfo)} {req : TReq} {ti : TInsts} :
    tensorInsts nm req = .ok ti ↔ ∃ info, Py.dictGet? nm req.name = some info ∧
      instsValid (instsList info req) = true ∧ ti = ⟨req.name, info.sg, instsList info req⟩ := by
  rw [tensorInsts_eq]
  constructor
  · intro h
    cases hg : Py.dictGet? nm req.name with
    | none => rw [hg] at h; cases h
    | some info =>
      simp only [hg] at h
      split at h
      · rename_i hv
        cases h
        exact ⟨info, rfl, hv, rfl⟩
      · cases h
  · rintro ⟨info, hg, hv, rfl⟩
    simp only [hg, hv, if_true]

end Locality

namespace GenInstsOK

def prodInst (info : TInfo) (p : O2T) (y : Xf) : Inst :=
  { xf := y, tensor := info.tensorId, producer := info.producer, consumers := info.consumers, param := p.param }

theorem instsList_none (info : TInfo) (req : TReq) (hlen : ∀ c ∈ req.consumers.getD [], c.xfs.length = 1)
    (hp : req.producer = none) : Locality.instsList info req = rulesOf info req.consumers := by
  unfold Locality.instsList rulesOf
  simp only [(rules_spec req.consumers info hlen).1, hp, List.getLast?_nil, List.append_nil]

theorem instsList_some (info : TInfo) (req : TReq) (hlen : ∀ c ∈ req.consumers.getD [], c.xfs.length = 1)
    (p : O2T) (y : Xf) (hp : req.producer = some p) (hy : p.xfs = [y]) :
    Locality.instsList info req = (applyVertical (prodInst info p y) (rulesOf info req.consumers)).1 := by
  unfold Locality.instsList rulesOf
  simp only [(rules_spec req.consumers info hlen).1, hp, hy, List.map_cons, List.map_nil,
    List.getLast?_singleton, List.dropLast_singleton, List.nil_append, List.append_nil]
  rfl

theorem instsValid_noRetype (L : List Inst) (hv : instsValid L = true) (hn : ∃ ins ∈ L, ins.xf = .noQuant) :
    ∀ ins ∈ L, Wiring.retypes ins.xf = false := by
  intro ins hins
  obtain ⟨n, hnL, hnx⟩ := hn
  unfold instsValid at hv
  simp only [Bool.and_eq_true, Bool.not_eq_true', Bool.and_eq_false_iff] at hv
  rcases hv.1 with h | h
  · rw [List.any_eq_false] at h
    have := h n hnL
    simp [hnx] at this
  · rw [List.any_eq_false] at h
    have := h ins hins
    cases hx : ins.xf <;> simp [hx] at this ⊢ <;> rfl

/-- all tensor names of the model are distinct (ParamsGenerator rejects other models) -/
def namesUnique (m : Model) : Prop := (m.subgraphs.flatMap fun sg => sg.tensors.map (·.name)).Nodup

/-- request `r` has the closed shape produced by the registered algorithms and is consistent with
    the model -/
structure ReqOK (pt : PTable) (m : Model) (r : TReq) : Prop where
  known : ∃ info, Py.dictGet? (nameMap m) r.name = some info
  /-- the tensor is referenced by the graph: produced, consumed, a graph output, or a graph input
      (the INPUT pseudo-operator emits a producer request for every graph input, also for one that
      no operator consumes; all the graph stage needs is that the tensor is available at position
      `producer + 1`, which holds for graph inputs) -/
  referenced : ∀ info, Py.dictGet? (nameMap m) r.name = some info →
    0 ≤ info.producer ∨ info.consumers ≠ [] ∨
      ∃ sg, m.subgraphs[info.sg]? = some sg ∧ (info.tensorId : Int) ∈ sg.inputs
  /-- producer side: left float, or produced quantized (static range) -/
  prodShape : ∀ p, r.producer = some p → p.xfs = [.noQuant] ∨ p.xfs = [.addDequant]
  /-- consumer side: exactly one transformation each, never op replacement -/
  consShape : ∀ cs c, r.consumers = some cs → c ∈ cs → ∃ x, c.xfs = [x] ∧ x ≠ .emulated
  /-- a consumer entry names an operator that really consumes the tensor (-1 = graph output) -/
  consReal : ∀ cs c info, r.consumers = some cs → c ∈ cs → Py.dictGet? (nameMap m) r.name = some info →
    c.opId ∈ info.consumers
  /-- one operator makes one request per tensor (repeated operands carry identical requests) -/
  consSameOp : ∀ cs c c', r.consumers = some cs → c ∈ cs → c' ∈ cs → c.opId = c'.opId →
    c.xfs = c'.xfs ∧ c.param = c'.param
  /-- a tensor produced quantized is consumed either quantized or float (never as a constant) -/
  prodCons : ∀ p cs c, r.producer = some p → p.xfs = [.addDequant] → r.consumers = some cs → c ∈ cs →
    c.xfs = [.addQuant] ∨ c.xfs = [.noQuant]
  /-- parameters that carry data are only requested for constant tensors -/
  dataConst : ∀ info sg (o : O2T) p pi, Py.dictGet? (nameMap m) r.name = some info → m.subgraphs[info.sg]? = some sg →
    (r.producer = some o ∨ ∃ cs, r.consumers = some cs ∧ o ∈ cs) → o.param = some p → pinfo pt p = some pi →
    pi.hasData = true → isConst m sg info.tensorId = true

theorem getD_consumers (req : TReq) (c : O2T) (hc : c ∈ req.consumers.getD []) :
    ∃ cs, req.consumers = some cs ∧ c ∈ cs := by
  cases h : req.consumers with
  | none => rw [h] at hc; simp at hc
  | some cs => rw [h] at hc; exact ⟨cs, rfl, hc⟩

theorem forall_getD_consumers {req : TReq} {Q : O2T → Prop} :
    (∀ c ∈ req.consumers.getD [], Q c) ↔ ∀ cs c, req.consumers = some cs → c ∈ cs → Q c := by
  constructor
  · intro h cs c hcs hc
    exact h c (by rw [hcs]; exact hc)
  · intro h c hc
    obtain ⟨cs, h1, h2⟩ := getD_consumers req c hc
    exact h cs c h1 h2

theorem mem_getD_consumers {r : TReq} {cs : List O2T} {c : O2T} (h : r.consumers = some cs) (hc : c ∈ cs) :
    c ∈ r.consumers.getD [] := by
  rw [h]; exact hc

theorem mem_producer_toList {r : TReq} {p : O2T} (h : r.producer = some p) : p ∈ r.producer.toList := by
  rw [h]; exact List.mem_singleton.2 rfl

theorem mem_entries {r : TReq} {o : O2T} (h : r.producer = some o ∨ ∃ cs, r.consumers = some cs ∧ o ∈ cs) :
    o ∈ r.producer.toList ++ r.consumers.getD [] :=
  h.elim (fun h => List.mem_append_left _ (mem_producer_toList h))
    fun ⟨_, h1, h2⟩ => List.mem_append_right _ (mem_getD_consumers h1 h2)

/-- Boolean form of `ReqOK`: a closed request is checked by evaluation, the name-map entry included -/
def reqOKB (pt : PTable) (m : Model) (r : TReq) : Bool :=
  match Py.dictGet? (nameMap m) r.name with
  | none => false
  | some info =>
    match m.subgraphs[info.sg]? with
    | none => false
    | some sg =>
      decide ((0 ≤ info.producer ∨ info.consumers ≠ [] ∨ (info.tensorId : Int) ∈ sg.inputs) ∧
        (∀ p ∈ r.producer.toList, p.xfs = [.noQuant] ∨ p.xfs = [.addDequant]) ∧
        (∀ c ∈ r.consumers.getD [], c.xfs.length = 1 ∧ Xf.emulated ∉ c.xfs) ∧
        (∀ c ∈ r.consumers.getD [], c.opId ∈ info.consumers) ∧
        (∀ c ∈ r.consumers.getD [], ∀ c' ∈ r.consumers.getD [], c.opId = c'.opId →
          c.xfs = c'.xfs ∧ c.param = c'.param) ∧
        (∀ p ∈ r.producer.toList, p.xfs = [.addDequant] →
          ∀ c ∈ r.consumers.getD [], c.xfs = [.addQuant] ∨ c.xfs = [.noQuant]) ∧
        (∀ o ∈ r.producer.toList ++ r.consumers.getD [], ∀ p ∈ o.param.toList,
          ∀ pi ∈ (pinfo pt p).toList, pi.hasData = true → isConst m sg info.tensorId = true))

theorem reqOK_of_b {pt : PTable} {m : Model} {reqs : List TReq} (h : reqs.all (reqOKB pt m) = true) :
    ∀ r ∈ reqs, ReqOK pt m r := by
  intro r hr
  have h' := List.all_eq_true.1 h r hr
  unfold reqOKB at h'
  split at h'
  · cases h'
  rename_i info hinfo
  split at h'
  · cases h'
  rename_i sg hsg
  obtain ⟨href, hprod, hshape, hreal, hsame, hpc, hdata⟩ := of_decide_eq_true h'
  refine ⟨⟨info, hinfo⟩, ?_, fun p hp => hprod p (mem_producer_toList hp), ?_, ?_,
    fun cs c c' hcs hc hc' => hsame c (mem_getD_consumers hcs hc) c' (mem_getD_consumers hcs hc'),
    fun p cs c hp hx hcs hc => hpc p (mem_producer_toList hp) hx c (mem_getD_consumers hcs hc), ?_⟩
  · intro info' h
    cases hinfo.symm.trans h
    exact href.imp_right fun h => h.imp_right fun h => ⟨sg, hsg, h⟩
  · intro cs c hcs hc
    obtain ⟨h1, h2⟩ := hshape c (mem_getD_consumers hcs hc)
    obtain ⟨x, hx⟩ := List.length_eq_one_iff.1 h1
    exact ⟨x, hx, fun e => h2 (by rw [hx, e]; exact List.mem_singleton.2 rfl)⟩
  · intro cs c info' hcs hc h
    cases hinfo.symm.trans h
    exact hreal c (mem_getD_consumers hcs hc)
  · intro info' sg' o p pi h hsg' ho hop hpi hd
    cases hinfo.symm.trans h
    cases hsg.symm.trans hsg'
    exact hdata o (mem_entries ho) p (by rw [hop]; exact List.mem_singleton.2 rfl) pi
      (by rw [hpi]; exact List.mem_singleton.2 rfl) hd

theorem sameOp_getD {req : TReq}
    (hsame : ∀ cs c c', req.consumers = some cs → c ∈ cs → c' ∈ cs → c.opId = c'.opId →
      c.xfs = c'.xfs ∧ c.param = c'.param) :
    ∀ c ∈ req.consumers.getD [], ∀ c' ∈ req.consumers.getD [], c.opId = c'.opId →
      c.xfs = c'.xfs ∧ c.param = c'.param := by
  intro c hc c' hc'
  obtain ⟨cs, h1, h2⟩ := getD_consumers req c hc
  rw [h1] at hc'
  exact hsame cs c c' h1 h2 hc'

theorem len_of_shape {req : TReq}
    (hshape : ∀ cs c, req.consumers = some cs → c ∈ cs → ∃ x, c.xfs = [x] ∧ x ≠ .emulated) :
    ∀ c ∈ req.consumers.getD [], c.xfs.length = 1 := by
  intro c hc
  obtain ⟨x, hx, -⟩ := forall_getD_consumers.2 hshape c hc
  rw [hx]; rfl

theorem ReqOK.consLen {pt : PTable} {m : Model} {r : TReq} (h : ReqOK pt m r) :
    ∀ c ∈ r.consumers.getD [], c.xfs.length = 1 :=
  len_of_shape h.consShape

theorem prod_of_shape {r : TReq} (hprod : ∀ p, r.producer = some p → p.xfs = [.noQuant] ∨ p.xfs = [.addDequant])
    {p : O2T} (hp : r.producer = some p) : ∃ x, p.xfs = [x] ∧ (x = .noQuant ∨ x = .addDequant) := by
  rcases hprod p hp with hx | hx
  · exact ⟨_, hx, .inl rfl⟩
  · exact ⟨_, hx, .inr rfl⟩

/-- the instructions one consumer rule `r` turns into -/
def vstep (P r : Inst) : List Inst :=
  if P.xf == .addDequant && r.xf == .addQuant && P.param == r.param then
    [{ xf := .quantTensor, tensor := r.tensor, producer := r.producer, consumers := r.consumers, param := r.param }]
  else if P.xf == .addDequant && r.xf == .addQuant then
    [{ xf := .quantTensor, tensor := r.tensor, producer := r.producer, consumers := r.consumers, param := P.param },
     { xf := .addQuant, tensor := r.tensor, producer := r.producer, consumers := r.consumers, param := r.param }]
  else if P.xf == .addDequant && r.xf == .noQuant then
    [{ xf := .addDequant, tensor := r.tensor, producer := r.producer, consumers := r.consumers, param := P.param }]
  else [r]

/-- the producer rule `P` absorbs rule `r`: produced quantized, read float or quantized -/
def interacts (P r : Inst) : Bool := P.xf == .addDequant && (r.xf == .addQuant || r.xf == .noQuant)

/-- what one consumer rule `r` does to the producer's remaining consumers -/
def vrem (P r : Inst) (rem : List Int) : List Int :=
  if interacts P r then removeEach rem r.consumers else rem

/-- the loop body of `applyVertical`, copied, so that `applyVertical` is a `foldl` of a named function -/
def vfold (P : Inst) (st : List Inst × List Int) (r : Inst) : List Inst × List Int :=
  let (out, rem) := st
  let dqP := P.xf == .addDequant
  if dqP && r.xf == .addQuant && P.param == r.param then
    (out ++ [{ xf := .quantTensor, tensor := r.tensor, producer := r.producer, consumers := r.consumers, param := r.param }],
     removeEach rem r.consumers)
  else if dqP && r.xf == .addQuant then
    (out ++ [{ xf := .quantTensor, tensor := r.tensor, producer := r.producer, consumers := r.consumers, param := P.param },
             { xf := .addQuant, tensor := r.tensor, producer := r.producer, consumers := r.consumers, param := r.param }],
     removeEach rem r.consumers)
  else if dqP && r.xf == .noQuant then
    (out ++ [{ xf := .addDequant, tensor := r.tensor, producer := r.producer, consumers := r.consumers, param := P.param }],
     removeEach rem r.consumers)
  else (out ++ [r], rem)

theorem vfold_eq (P r : Inst) (out : List Inst) (rem : List Int) :
    vfold P (out, rem) r = (out ++ vstep P r, vrem P r rem) := by
  unfold vfold vstep vrem interacts
  cases (P.xf == Xf.addDequant)
  · rfl
  · cases (r.xf == Xf.addQuant)
    · cases (r.xf == Xf.noQuant) <;> rfl
    · cases (P.param == r.param) <;> rfl

theorem vfoldl_eq (P : Inst) : ∀ (rules : List Inst) (out0 : List Inst) (rem0 : List Int),
    rules.foldl (vfold P) (out0, rem0) =
      (out0 ++ rules.flatMap (vstep P), rules.foldl (fun rem r => vrem P r rem) rem0) := by
  intro rules
  induction rules with
  | nil => intro out0 rem0; simp
  | cons r rs ih =>
    intro out0 rem0
    simp only [List.foldl_cons, vfold_eq, ih, List.flatMap_cons, List.append_assoc]

/-- the producer's remaining consumers after all rules -/
def vremAll (P : Inst) (rules : List Inst) : List Int :=
  rules.foldl (fun rem r => vrem P r rem) P.consumers

theorem applyVertical_eq (P : Inst) (rules : List Inst) :
    applyVertical P rules =
      if !(vremAll P rules).isEmpty then
        ({ P with consumers := vremAll P rules } :: rules.flatMap (vstep P), vremAll P rules)
      else if (rules.flatMap (vstep P)).isEmpty && P.xf == .addDequant then
        ([{ xf := .quantTensor, tensor := P.tensor, producer := P.producer, consumers := [], param := P.param }],
          vremAll P rules)
      else (rules.flatMap (vstep P), vremAll P rules) := by
  have h : applyVertical P rules =
      (let (out, rem) := rules.foldl (vfold P) ([], P.consumers)
       if !rem.isEmpty then ({ P with consumers := rem } :: out, rem)
       else if out.isEmpty && P.xf == .addDequant then
         ([{ xf := .quantTensor, tensor := P.tensor, producer := P.producer, consumers := [], param := P.param }], rem)
       else (out, rem)) := rfl
  rw [h, vfoldl_eq]
  rfl

def recast (r : Inst) (x : Xf) (P : Inst) : Inst := ⟨x, r.tensor, r.producer, r.consumers, P.param⟩

/-- **the table of `_apply_vertical_optimization`**: what `applyVertical P rules` returns, one constructor per row -/
inductive VEmits (P : Inst) (rules : List Inst) : Inst → Prop
  /-- a rule the producer does not absorb: every rule under a float producer; under a quantized producer a rule that is
      neither NO_QUANTIZE nor an ADD_QUANTIZE with the producer's own parameter -/
  | kept {r : Inst} : r ∈ rules →
      (P.xf = .addDequant → r.xf ≠ .noQuant ∧ (r.xf = .addQuant → P.param ≠ r.param)) → VEmits P rules r
  /-- float readers of a tensor produced quantized get the dequantize -/
  | dequant {r : Inst} : P.xf = .addDequant → r ∈ rules → r.xf = .noQuant → VEmits P rules (recast r .addDequant P)
  /-- quantized readers of a tensor produced quantized read it retyped with the producer's parameter (with their own
      parameter that is the same instruction; with another one their ADD_QUANTIZE is `kept` beside it) -/
  | requant {r : Inst} : P.xf = .addDequant → r ∈ rules → r.xf = .addQuant → VEmits P rules (recast r .quantTensor P)
  /-- the producer's rule, for the consumers that no absorbed rule lists -/
  | own : vremAll P rules ≠ [] → VEmits P rules { P with consumers := vremAll P rules }
  /-- a tensor produced quantized that nobody reads -/
  | bare : P.xf = .addDequant → P.consumers = [] → rules = [] →
      VEmits P rules ⟨.quantTensor, P.tensor, P.producer, [], P.param⟩

theorem mem_vstep_iff (P r x : Inst) :
    x ∈ vstep P r ↔
      (x = r ∧ (P.xf = .addDequant → r.xf ≠ .noQuant ∧ (r.xf = .addQuant → P.param ≠ r.param))) ∨
      (P.xf = .addDequant ∧ r.xf = .noQuant ∧ x = recast r .addDequant P) ∨
      (P.xf = .addDequant ∧ r.xf = .addQuant ∧ x = recast r .quantTensor P) := by
  unfold vstep recast
  by_cases hP : P.xf = .addDequant
  · by_cases hq : r.xf = .addQuant
    · have hself : (⟨.addQuant, r.tensor, r.producer, r.consumers, r.param⟩ : Inst) = r := by rw [← hq]
      by_cases hp : P.param = r.param
      · simp [hP, hq, hp]
      · simp [hP, hq, hp, hself, or_comm]
    · by_cases hn : r.xf = .noQuant
      · simp [hP, hn]
      · simp [hP, hq, hn]
  · simp [hP]

theorem vstep_consumers {P r x : Inst} (hx : x ∈ vstep P r) : x.consumers = r.consumers := by
  rcases (mem_vstep_iff P r x).1 hx with ⟨rfl, -⟩ | ⟨-, -, rfl⟩ | ⟨-, -, rfl⟩ <;> rfl

theorem vstep_ne_nil (P r : Inst) : vstep P r ≠ [] := by
  unfold vstep
  split
  · exact List.cons_ne_nil _ _
  · split
    · exact List.cons_ne_nil _ _
    · split <;> exact List.cons_ne_nil _ _

theorem mem_applyVertical_iff {P : Inst} {rules : List Inst} {x : Inst} :
    x ∈ (applyVertical P rules).1 ↔ VEmits P rules x := by
  have hnil : rules.flatMap (vstep P) = [] ↔ rules = [] := by
    rw [List.flatMap_eq_nil_iff]
    constructor
    · exact fun h => List.eq_nil_iff_forall_not_mem.2 fun r hr => vstep_ne_nil P r (h r hr)
    · rintro rfl r hr
      cases hr
  have ofRule : (∃ r ∈ rules, x ∈ vstep P r) → VEmits P rules x := by
    rintro ⟨r, hr, hx⟩
    rcases (mem_vstep_iff P r x).1 hx with ⟨rfl, h⟩ | ⟨hP, hn, rfl⟩ | ⟨hP, hq, rfl⟩
    · exact .kept hr h
    · exact .dequant hP hr hn
    · exact .requant hP hr hq
  have toRule : VEmits P rules x → (∃ r ∈ rules, x ∈ vstep P r) ∨
      (x = { P with consumers := vremAll P rules } ∧ vremAll P rules ≠ []) ∨
      (P.xf = .addDequant ∧ P.consumers = [] ∧ rules = []) := by
    intro h
    cases h with
    | kept hr h => exact .inl ⟨_, hr, (mem_vstep_iff P _ _).2 (.inl ⟨rfl, h⟩)⟩
    | dequant hP hr hn => exact .inl ⟨_, hr, (mem_vstep_iff P _ _).2 (.inr (.inl ⟨hP, hn, rfl⟩))⟩
    | requant hP hr hq => exact .inl ⟨_, hr, (mem_vstep_iff P _ _).2 (.inr (.inr ⟨hP, hq, rfl⟩))⟩
    | own h => exact .inr (.inl ⟨rfl, h⟩)
    | bare h1 h2 h3 => exact .inr (.inr ⟨h1, h2, h3⟩)
  rw [applyVertical_eq]
  by_cases hrem : vremAll P rules = []
  · rw [if_neg (by simp [hrem])]
    by_cases hb : rules = [] ∧ P.xf = .addDequant
    · obtain ⟨rfl, hdq⟩ := hb
      rw [if_pos (by simp [hdq]), List.mem_singleton]
      constructor
      · rintro rfl
        exact .bare hdq hrem rfl
      · intro h
        cases h with
        | kept hr _ | dequant _ hr _ | requant _ hr _ => cases hr
        | own h => exact absurd hrem h
        | bare _ _ _ => rfl
    · rw [if_neg (by simpa [hnil] using hb)]
      refine ⟨fun h => ofRule (List.mem_flatMap.1 h), fun h => ?_⟩
      rcases toRule h with h | ⟨-, h⟩ | ⟨hdq, -, hr⟩
      · exact List.mem_flatMap.2 h
      · exact absurd hrem h
      · exact absurd ⟨hr, hdq⟩ hb
  · rw [if_pos (by simp [hrem])]
    show x ∈ _ :: _ ↔ _
    rw [List.mem_cons]
    constructor
    · rintro (rfl | h)
      · exact .own hrem
      · exact ofRule (List.mem_flatMap.1 h)
    · intro h
      rcases toRule h with h | ⟨rfl, -⟩ | ⟨-, hc, rfl⟩
      · exact .inr (List.mem_flatMap.2 h)
      · exact .inl rfl
      · exact absurd hc hrem

/-- the relation `NoChain` demands of an earlier / a later instruction -/
def Rch (a b : Inst) : Prop := (a.xf = .addQuant ∨ a.xf = .addDequant) → ∀ c ∈ b.consumers, c ∉ a.consumers

def DisjC (a b : Inst) : Prop := ∀ c ∈ b.consumers, c ∉ a.consumers

theorem vstep_pw (P r : Inst) : (vstep P r).Pairwise Rch := by
  unfold vstep
  split
  · exact List.pairwise_singleton _ _
  · split
    · refine List.pairwise_cons.2 ⟨?_, List.pairwise_singleton _ _⟩
      intro b _ hxf
      rcases hxf with h | h <;> cases h
    · split <;> exact List.pairwise_singleton _ _

theorem noChain_of_pairwise (l : List Inst) (h : l.Pairwise Rch) : NoChain l := by
  intro i j a b hij ha hb hxf
  obtain ⟨hi, rfl⟩ := List.getElem?_eq_some_iff.1 ha
  obtain ⟨hj, rfl⟩ := List.getElem?_eq_some_iff.1 hb
  exact List.pairwise_iff_getElem.1 h i j hi hj hij hxf

theorem removeEach_spec (cs : List Int) : ∀ (l : List Int), l.Nodup →
    (removeEach l cs).Sublist l ∧ ∀ c ∈ cs, c ∉ removeEach l cs := by
  induction cs with
  | nil => intro l _; exact ⟨List.Sublist.refl _, by simp⟩
  | cons c cs ih =>
    intro l hl
    have hstep : removeEach l (c :: cs) = removeEach (if l.contains c then l.erase c else l) cs := rfl
    rw [hstep]
    have hsub : (if l.contains c then l.erase c else l).Sublist l := by
      split
      · exact List.erase_sublist
      · exact List.Sublist.refl _
    have hnd : (if l.contains c then l.erase c else l).Nodup := List.Nodup.sublist hsub hl
    have hc : c ∉ (if l.contains c then l.erase c else l) := by
      split
      · intro hmem
        exact ((List.Nodup.mem_erase_iff hl).1 hmem).1 rfl
      · rename_i hn
        intro hmem
        exact hn (List.contains_iff_mem.2 hmem)
    obtain ⟨h1, h2⟩ := ih _ hnd
    refine ⟨h1.trans hsub, ?_⟩
    intro c' hc'
    rcases List.mem_cons.1 hc' with rfl | hc'
    · exact fun hmem => hc (h1.subset hmem)
    · exact h2 c' hc'

theorem vremAll_spec (P : Inst) (rules : List Inst) : ∀ (l : List Int), l.Nodup →
    (rules.foldl (fun rem r => vrem P r rem) l).Sublist l ∧
    ∀ r ∈ rules, interacts P r = true → ∀ c ∈ r.consumers, c ∉ rules.foldl (fun rem r => vrem P r rem) l := by
  induction rules with
  | nil => intro l _; exact ⟨List.Sublist.refl _, by simp⟩
  | cons r rs ih =>
    intro l hl
    simp only [List.foldl_cons]
    have hsub : (vrem P r l).Sublist l := by
      unfold vrem; split
      · exact (removeEach_spec _ l hl).1
      · exact List.Sublist.refl _
    obtain ⟨h1, h2⟩ := ih _ (List.Nodup.sublist hsub hl)
    refine ⟨h1.trans hsub, ?_⟩
    intro r' hr' hint c hc
    rcases List.mem_cons.1 hr' with rfl | hr'
    · intro hmem
      have := h1.subset hmem
      unfold vrem at this
      rw [if_pos hint] at this
      exact (removeEach_spec _ l hl).2 c hc this
    · exact h2 r' hr' hint c hc

theorem VEmits.core {pt : PTable} {m : Model} {sg : Subgraph} {info : TInfo} {P : Inst} {rules : List Inst} {x : Inst}
    (hP : Core pt m sg info P) (hnd : P.consumers.Nodup) (R1 : ∀ r ∈ rules, Core pt m sg info r)
    (h : VEmits P rules x) : Core pt m sg info x := by
  cases h with
  | kept hr _ => exact R1 _ hr
  | dequant _ hr _ | requant _ hr _ =>
    exact ⟨nofun, (R1 _ hr).tensor, (R1 _ hr).producer, (R1 _ hr).consumers, hP.dataConst⟩
  | own _ =>
    exact ⟨hP.notEmulated, hP.tensor, hP.producer,
      fun c hc => hP.consumers c ((vremAll_spec P rules _ hnd).1.subset hc), hP.dataConst⟩
  | bare _ _ _ => exact ⟨nofun, hP.tensor, hP.producer, nofun, hP.dataConst⟩

theorem applyVertical_pw (P : Inst) (rules : List Inst) (hnd : P.consumers.Nodup)
    (hPx : P.xf = .noQuant ∨ P.xf = .addDequant) (R2 : rules.Pairwise DisjC)
    (R3 : P.xf = .addDequant → ∀ r ∈ rules, r.xf = .addQuant ∨ r.xf = .noQuant) :
    (applyVertical P rules).1.Pairwise Rch := by
  have hpw : (rules.flatMap (vstep P)).Pairwise Rch := by
    refine List.pairwise_flatMap.2 ⟨fun r _ => vstep_pw P r, ?_⟩
    refine R2.imp ?_
    intro r1 r2 hd x hx y hy _
    rw [vstep_consumers hx, vstep_consumers hy]
    exact hd
  rw [applyVertical_eq]
  split
  · -- the producer's own instruction comes first: what the absorbed rules list has been taken out of it
    refine List.pairwise_cons.2 ⟨?_, hpw⟩
    intro y hy hxf
    have hdq : P.xf = .addDequant := by
      rcases hPx with h | h
      · rcases hxf with h' | h' <;>
          · rw [show ({ P with consumers := vremAll P rules } : Inst).xf = P.xf from rfl, h] at h'; cases h'
      · exact h
    obtain ⟨r, hr, hyr⟩ := List.mem_flatMap.1 hy
    rw [vstep_consumers hyr]
    have hint : interacts P r = true := by
      unfold interacts
      rw [hdq]
      rcases R3 hdq r hr with h | h <;> rw [h] <;> rfl
    exact (vremAll_spec P rules P.consumers hnd).2 r hr hint
  · split
    · exact List.pairwise_singleton _ _
    · exact hpw

theorem rules_facts (pt : PTable) (m : Model) (sg : Subgraph) (info : TInfo) (os : List O2T) (rules : List Inst)
    (hrule : ∀ r ∈ rules, IsRule os info r)
    (hkey : rules.Pairwise (fun r1 r2 => (r1.param, r1.xf) ≠ (r2.param, r2.xf)))
    (hshape : ∀ c ∈ os, ∃ x, c.xfs = [x] ∧ x ≠ .emulated)
    (hreal : ∀ c ∈ os, c.opId ∈ info.consumers)
    (hsame : ∀ c ∈ os, ∀ c' ∈ os, c.opId = c'.opId → c.xfs = c'.xfs ∧ c.param = c'.param)
    (hdc : ∀ c ∈ os, ∀ p pi, c.param = some p → pinfo pt p = some pi → pi.hasData = true →
      isConst m sg info.tensorId = true) :
    (∀ r ∈ rules, Core pt m sg info r) ∧ rules.Pairwise DisjC := by
  refine ⟨?_, ?_⟩
  · intro r hr
    obtain ⟨o, ho, -, hx, hp⟩ := (hrule r hr).exists_side
    obtain ⟨x, hx', hne⟩ := hshape o ho
    have hrx : r.xf = x := (List.cons.inj (hx.symm.trans hx')).1
    refine ⟨hrx ▸ hne, (hrule r hr).tensor, (hrule r hr).producer, ?_, ?_⟩
    · intro c hc
      obtain ⟨o', ho', rfl, -, -⟩ := (hrule r hr).side c hc
      exact hreal o' ho'
    · rw [← hp]; exact hdc o ho
  · -- a common consumer would give two sides of one operator, hence equal keys
    refine hkey.imp_of_mem ?_
    intro r1 r2 h1 h2 hne c hc2 hc1
    obtain ⟨o1, ho1, hid1, hx1, hp1⟩ := (hrule r1 h1).side c hc1
    obtain ⟨o2, ho2, hid2, hx2, hp2⟩ := (hrule r2 h2).side c hc2
    obtain ⟨e1, e2⟩ := hsame o1 ho1 o2 ho2 (hid1.trans hid2.symm)
    refine hne (Prod.ext ?_ ?_)
    · exact hp1.symm.trans (e2.trans hp2)
    · exact (List.cons.inj (hx1.symm.trans (e1.trans hx2))).1

theorem rules_kind {info : TInfo} {os : List O2T} {rules : List Inst} (hrule : ∀ r ∈ rules, IsRule os info r)
    (hq : ∀ c ∈ os, c.xfs = [.addQuant] ∨ c.xfs = [.noQuant]) : ∀ r ∈ rules, r.xf = .addQuant ∨ r.xf = .noQuant := by
  intro r hr
  obtain ⟨o, ho, -, hx, -⟩ := (hrule r hr).exists_side
  exact (hq o ho).imp (fun h => (List.cons.inj (hx.symm.trans h)).1) fun h => (List.cons.inj (hx.symm.trans h)).1

theorem mem_instsList_some {info : TInfo} {a : TReq} (hlen : ∀ c ∈ a.consumers.getD [], c.xfs.length = 1)
    {p : O2T} {y : Xf} (hp : a.producer = some p) (hy : p.xfs = [y]) {ins : Inst} :
    ins ∈ Locality.instsList info a ↔ VEmits (prodInst info p y) (rulesOf info a.consumers) ins := by
  rw [instsList_some info a hlen p y hp hy, mem_applyVertical_iff]

/-- where instruction `ins` of the list of request `a` comes from -/
inductive InstOrigin (a : TReq) (ins : Inst) : Prop
  /-- the producer side `[NO_QUANTIZE]`: its own instruction -/
  | float (p : O2T) : a.producer = some p → p.xfs = [.noQuant] → ins.xf = .noQuant → ins.param = p.param → InstOrigin a ins
  /-- the producer side `[ADD_DEQUANTIZE]`: an ADD_DEQUANTIZE with consumers or a QUANTIZE_TENSOR, with the producer's parameter -/
  | quant (p : O2T) : a.producer = some p → p.xfs = [.addDequant] →
      (ins.xf = .addDequant ∧ ins.consumers ≠ [] ∨ ins.xf = .quantTensor) → ins.param = p.param → InstOrigin a ins
  /-- a consumer side whose operator it lists, with that side's transformation and parameter (a `[NO_QUANTIZE]` side under a
      quantized producer leaves none: its rule is merged into the producer's) -/
  | side (o : O2T) : o ∈ a.consumers.getD [] → o.xfs = [ins.xf] → ins.param = o.param → o.opId ∈ ins.consumers →
      ((∃ p, a.producer = some p ∧ p.xfs = [.addDequant]) → ins.xf ≠ .noQuant) → InstOrigin a ins

/-- the table (`instsList_none`, `mem_instsList_some`) read backwards, in terms of the request's sides; one direction only, and it
    forgets the consumer lists -/
theorem inst_origin (info : TInfo) (a : TReq) (hlen : ∀ c ∈ a.consumers.getD [], c.xfs.length = 1)
    (hprod : ∀ p, a.producer = some p → p.xfs = [.noQuant] ∨ p.xfs = [.addDequant]) :
    ∀ ins ∈ Locality.instsList info a, InstOrigin a ins := by
  obtain ⟨-, hrule, -, -⟩ := rules_spec a.consumers info hlen
  have side : ∀ r ∈ rulesOf info a.consumers,
      ((∃ p, a.producer = some p ∧ p.xfs = [.addDequant]) → r.xf ≠ .noQuant) → InstOrigin a r := by
    intro r hr hne
    obtain ⟨o, ho, h1, h2, h3⟩ := (hrule r hr).exists_side
    exact .side o ho h2 h3.symm h1 hne
  intro ins hins
  rcases Option.eq_none_or_eq_some a.producer with hp | ⟨p, hp⟩
  · rw [instsList_none info a hlen hp] at hins
    exact side ins hins fun ⟨p, h, _⟩ => by rw [hp] at h; cases h
  · rcases hprod p hp with hy | hy
    · cases (mem_instsList_some hlen hp hy).1 hins with
      | kept hr _ =>
        refine side ins hr ?_
        rintro ⟨p', hp', hy'⟩
        cases hp.symm.trans hp'
        cases hy.symm.trans hy'
      | own _ => exact .float p hp hy rfl rfl
      | dequant hP _ _ | requant hP _ _ | bare hP _ _ => cases hP
    · cases (mem_instsList_some hlen hp hy).1 hins with
      | kept hr h => exact side ins hr fun _ => (h rfl).1
      | dequant _ hr _ => exact .quant p hp hy (.inl ⟨rfl, (hrule _ hr).ne⟩) rfl
      | own h => exact .quant p hp hy (.inl ⟨rfl, h⟩) rfl
      | requant _ _ _ | bare _ _ _ => exact .quant p hp hy (.inr rfl) rfl

section OneTensor
variable (info : TInfo) (a : TReq)
  (hshape : ∀ cs c, a.consumers = some cs → c ∈ cs → ∃ x, c.xfs = [x] ∧ x ≠ .emulated)
  (hsame : ∀ cs c c', a.consumers = some cs → c ∈ cs → c' ∈ cs → c.opId = c'.opId →
    c.xfs = c'.xfs ∧ c.param = c'.param)
include hshape

/-- **producer `[NO_QUANTIZE]`, float or quantizing readers**: no retyping instruction -/
theorem prod_noQuant_noRetype (p : O2T) (hp : a.producer = some p) (hy : p.xfs = [.noQuant])
    (hcons : ∀ cs c, a.consumers = some cs → c ∈ cs → c.xfs = [.noQuant] ∨ c.xfs = [.addQuant]) :
    ∀ ins ∈ Locality.instsList info a, Wiring.retypes ins.xf = false := by
  intro ins hins
  have hprod : ∀ q, a.producer = some q → q.xfs = [.noQuant] ∨ q.xfs = [.addDequant] := by
    intro q hq
    rw [hp] at hq; cases hq
    exact .inl hy
  rcases inst_origin info a (len_of_shape hshape) hprod ins hins with
    ⟨-, -, -, h, -⟩ | ⟨q, hq, hqy, -⟩ | ⟨o, ho, hx, -⟩
  · rw [h]; rfl
  · rw [hp] at hq; cases hq
    rw [hy] at hqy; cases hqy
  · rcases forall_getD_consumers.2 hcons o ho with h | h <;>
      rw [← (List.cons.inj (h.symm.trans hx)).1] <;> rfl

/-- **producer `[ADD_DEQUANTIZE]`**: a retyping instruction exists, and every one carries the producer's parameter -/
theorem prod_dequant_retype (p : O2T) (hp : a.producer = some p) (hy : p.xfs = [.addDequant])
    (hpc : ∀ cs c, a.consumers = some cs → c ∈ cs → c.xfs = [.addQuant] ∨ c.xfs = [.noQuant]) :
    (∃ ins ∈ Locality.instsList info a, Wiring.retypes ins.xf = true ∧ ins.tensor = info.tensorId) ∧
    ∀ ins ∈ Locality.instsList info a, Wiring.retypes ins.xf = true → ins.param = p.param := by
  have hlen := len_of_shape hshape
  obtain ⟨-, hrule, -, -⟩ := rules_spec a.consumers info hlen
  have hkind := rules_kind hrule (forall_getD_consumers.2 hpc)
  simp only [mem_instsList_some hlen hp hy]
  refine ⟨?_, ?_⟩
  · by_cases hrem : vremAll (prodInst info p .addDequant) (rulesOf info a.consumers) = []
    · cases hrs : rulesOf info a.consumers with
      | nil => exact ⟨_, .bare rfl (by rw [hrs] at hrem; exact hrem) rfl, rfl, rfl⟩
      | cons r rs =>
        have hr : r ∈ rulesOf info a.consumers := by rw [hrs]; exact List.mem_cons_self
        rw [← hrs]
        rcases hkind r hr with h | h
        · exact ⟨_, .requant rfl hr h, rfl, (hrule r hr).tensor⟩
        · exact ⟨_, .dequant rfl hr h, rfl, (hrule r hr).tensor⟩
    · exact ⟨_, .own hrem, rfl, rfl⟩
  · intro ins hins hr
    cases hins with
    | kept hr' h =>
      rcases hkind _ hr' with hq | hn
      · rw [hq] at hr; cases hr
      · exact absurd hn (h rfl).1
    | dequant _ _ _ | requant _ _ _ | own _ | bare _ _ _ => rfl

include hsame

theorem rule_of_consumer (os : List O2T) (hos : a.consumers = some os) (o : O2T) (ho : o ∈ os)
    (x : Xf) (hx : o.xfs = [x]) :
    (∃ r ∈ rulesOf info a.consumers, o.opId ∈ r.consumers ∧ r.xf = x ∧ r.param = o.param ∧
      r.tensor = info.tensorId) ∧
    ∀ r ∈ rulesOf info a.consumers, o.opId ∈ r.consumers → r.xf = x ∧ r.param = o.param := by
  obtain ⟨-, hrule, hcov, -⟩ := rules_spec a.consumers info (len_of_shape hshape)
  have ho' := mem_getD_consumers hos ho
  refine ⟨?_, ?_⟩
  · obtain ⟨r, hr, h1, h2, h3⟩ := hcov o ho'
    exact ⟨r, hr, h1, (List.cons.inj (h2.symm.trans hx)).1, h3.symm, (hrule r hr).tensor⟩
  · intro r hr hmem
    -- the side the rule lists for this operator and `o` are sides of one operator
    obtain ⟨o', ho'', hid, h2, h3⟩ := (hrule r hr).side _ hmem
    obtain ⟨e1, e2⟩ := sameOp_getD hsame o' ho'' o ho' hid
    exact ⟨(List.cons.inj (h2.symm.trans (e1.trans hx))).1, h3.symm.trans e2⟩

/-- **`[NO_QUANTIZE]` consumer, tensor not produced quantized**: nothing is inserted before that consumer -/
theorem noQuant_float (os : List O2T) (hos : a.consumers = some os) (o : O2T) (ho : o ∈ os)
    (hx : o.xfs = [.noQuant])
    (hprod : a.producer = none ∨ ∃ p, a.producer = some p ∧ p.xfs = [.noQuant]) :
    (∃ ins ∈ Locality.instsList info a, ins.xf = .noQuant) ∧
    ∀ ins ∈ Locality.instsList info a, Wiring.addsOp ins.xf = true → o.opId ∉ ins.consumers := by
  obtain ⟨⟨r, hr, -, r2, -⟩, huniq⟩ := rule_of_consumer info a hshape hsame os hos o ho _ hx
  have hlen := len_of_shape hshape
  rcases hprod with hp | ⟨p, hp, hy⟩
  · rw [instsList_none info a hlen hp]
    refine ⟨⟨r, hr, r2⟩, fun ins hins hadd hc => ?_⟩
    rw [(huniq ins hins hc).1] at hadd
    cases hadd
  · simp only [mem_instsList_some hlen hp hy]
    refine ⟨⟨r, .kept hr (fun h => nomatch h), r2⟩, ?_⟩
    intro ins hins hadd hc
    cases hins with
    | kept hr' _ =>
      rw [(huniq _ hr' hc).1] at hadd
      cases hadd
    | own _ => cases hadd
    | dequant hP _ _ | requant hP _ _ | bare hP _ _ => cases hP

/-- **`[NO_QUANTIZE]` consumer, tensor produced quantized**: exactly dequantizes are inserted before that consumer -/
theorem noQuant_dequant (os : List O2T) (hos : a.consumers = some os) (o : O2T) (ho : o ∈ os)
    (hx : o.xfs = [.noQuant]) (p : O2T) (hp : a.producer = some p) (hy : p.xfs = [.addDequant]) :
    (∃ ins ∈ Locality.instsList info a, ins.xf = .addDequant ∧ o.opId ∈ ins.consumers ∧ ins.tensor = info.tensorId) ∧
    ∀ ins ∈ Locality.instsList info a, Wiring.addsOp ins.xf = true → o.opId ∈ ins.consumers → ins.xf = .addDequant := by
  obtain ⟨⟨r, hr, r1, r2, -, r4⟩, huniq⟩ := rule_of_consumer info a hshape hsame os hos o ho _ hx
  simp only [mem_instsList_some (len_of_shape hshape) hp hy]
  refine ⟨⟨_, .dequant rfl hr r2, rfl, r1, r4⟩, ?_⟩
  intro ins hins hadd hmem
  cases hins with
  | kept hr' h => exact absurd (huniq _ hr' hmem).1 (h rfl).1
  | dequant _ _ _ | own _ => rfl
  | requant _ _ _ | bare _ _ _ => cases hadd

/-- **`[ADD_QUANTIZE]` consumer**: only quantizes with its parameter are inserted before it; there is one unless the tensor
    is produced quantized with that same parameter, and then nothing is inserted -/
theorem addQuant_consumer (hnd : info.consumers.Nodup) (os : List O2T) (hos : a.consumers = some os)
    (o : O2T) (ho : o ∈ os) (hx : o.xfs = [.addQuant])
    (hprod : ∀ p, a.producer = some p → p.xfs = [.noQuant] ∨ p.xfs = [.addDequant]) :
    (∀ ins ∈ Locality.instsList info a, Wiring.addsOp ins.xf = true → o.opId ∈ ins.consumers →
      ins.xf = .addQuant ∧ ins.param = o.param) ∧
    ((∃ p, a.producer = some p ∧ p.xfs = [.addDequant] ∧ p.param = o.param) →
      ∀ ins ∈ Locality.instsList info a, Wiring.addsOp ins.xf = true → o.opId ∉ ins.consumers) ∧
    ((¬ ∃ p, a.producer = some p ∧ p.xfs = [.addDequant] ∧ p.param = o.param) →
      ∃ ins ∈ Locality.instsList info a, ins.xf = .addQuant ∧ o.opId ∈ ins.consumers ∧ ins.param = o.param ∧
        ins.tensor = info.tensorId) := by
  have hlen := len_of_shape hshape
  obtain ⟨⟨r, hr, r1, r2, r3, r4⟩, huniq⟩ := rule_of_consumer info a hshape hsame os hos o ho _ hx
  rcases Option.eq_none_or_eq_some a.producer with hp | ⟨p, hp⟩
  · simp only [instsList_none info a hlen hp, hp]
    exact ⟨fun ins hins _ hc => huniq ins hins hc, fun ⟨_, h, _⟩ => (nomatch h), fun _ => ⟨r, hr, r2, r1, r3, r4⟩⟩
  · obtain ⟨y, hy, hyv⟩ := prod_of_shape hprod hp
    -- an op-adding instruction that lists `o` is `o`'s rule, kept because its parameter is not the producer's
    have key : ∀ ins, VEmits (prodInst info p y) (rulesOf info a.consumers) ins →
        Wiring.addsOp ins.xf = true → o.opId ∈ ins.consumers →
        ins.xf = .addQuant ∧ ins.param = o.param ∧ (y = .addDequant → p.param ≠ o.param) := by
      intro ins hins hadd hmem
      cases hins with
      | kept hr' h =>
        obtain ⟨u1, u2⟩ := huniq _ hr' hmem
        exact ⟨u1, u2, fun hd => u2 ▸ (h hd).2 u1⟩
      | dequant hP hr' hn => rw [(huniq _ hr' hmem).1] at hn; cases hn
      | own _ =>
        rcases hyv with rfl | rfl
        · cases hadd
        · -- the rule of `o` is absorbed, so `o` is not left to the producer's instruction
          exact absurd hmem ((vremAll_spec _ _ (prodInst info p .addDequant).consumers hnd).2 r hr
            (by unfold interacts; rw [r2]; rfl) _ r1)
      | requant _ _ _ | bare _ _ _ => cases hadd
    simp only [mem_instsList_some hlen hp hy, hp, Option.some.injEq]
    refine ⟨fun ins hins hadd hmem => ⟨(key ins hins hadd hmem).1, (key ins hins hadd hmem).2.1⟩, ?_, ?_⟩
    · rintro ⟨_, rfl, hd, hpar⟩ ins hins hadd hmem
      exact (key ins hins hadd hmem).2.2 (List.cons.inj (hy.symm.trans hd)).1 hpar
    · intro hne
      exact ⟨r, .kept hr fun hd => ⟨r2 ▸ nofun, fun _ e => hne ⟨p, rfl, hy.trans (congrArg (· :: []) hd), e.trans r3⟩⟩,
        r2, r1, r3, r4⟩

/-- **consumer side, no producer request** (a constant): the list is the rules, so the side's own rule and no other lists it -/
theorem consumer_noProd (hp : a.producer = none) (os : List O2T) (hos : a.consumers = some os)
    (o : O2T) (ho : o ∈ os) (x : Xf) (hx : o.xfs = [x]) :
    (∃ ins ∈ Locality.instsList info a, ins.xf = x ∧ o.opId ∈ ins.consumers ∧ ins.param = o.param ∧
      ins.tensor = info.tensorId) ∧
    ∀ ins ∈ Locality.instsList info a, o.opId ∈ ins.consumers → ins.xf = x ∧ ins.param = o.param := by
  obtain ⟨⟨r, hr, r1, r2, r3, r4⟩, huniq⟩ := rule_of_consumer info a hshape hsame os hos o ho x hx
  rw [instsList_none info a (len_of_shape hshape) hp]
  exact ⟨⟨r, hr, r2, r1, r3, r4⟩, huniq⟩

end OneTensor

theorem instsList_ok (pt : PTable) (m : Model) (s : Nat) (sg : Subgraph) (t : Nat) (req : TReq)
    (hsg : m.subgraphs[s]? = some sg)
    (hinfo : Py.dictGet? (nameMap m) req.name = some (tensorInfo s sg t))
    (hreq : ReqOK pt m req) :
    (∀ ins ∈ Locality.instsList (tensorInfo s sg t) req, Core pt m sg (tensorInfo s sg t) ins) ∧
    (Locality.instsList (tensorInfo s sg t) req).Pairwise Rch := by
  obtain ⟨-, hrule, -, hkey⟩ := rules_spec req.consumers (tensorInfo s sg t) hreq.consLen
  obtain ⟨R1, R2⟩ := rules_facts pt m sg (tensorInfo s sg t) _ _ hrule hkey (forall_getD_consumers.2 hreq.consShape)
    (forall_getD_consumers.2 fun cs c h1 h2 => hreq.consReal cs c _ h1 h2 hinfo) (sameOp_getD hreq.consSameOp)
    (forall_getD_consumers.2 fun cs c h1 h2 p pi => hreq.dataConst _ sg c p pi hinfo hsg (.inr ⟨cs, h1, h2⟩))
  cases hp : req.producer with
  | none =>
    rw [instsList_none _ req hreq.consLen hp]
    exact ⟨R1, R2.imp (fun {a b} (hd : DisjC a b) => (fun _ => hd : Rch a b))⟩
  | some p =>
    obtain ⟨x, hxs, hxv⟩ := prod_of_shape hreq.prodShape hp
    have hnd := (tensorInfo_consumers s sg t).2
    have hP : Core pt m sg (tensorInfo s sg t) (prodInst (tensorInfo s sg t) p x) :=
      ⟨by rcases hxv with rfl | rfl <;> nofun, rfl, rfl, fun _ h => h,
        fun q pi h3 h4 h5 => hreq.dataConst _ sg p q pi hinfo hsg (.inl hp) h3 h4 h5⟩
    refine ⟨fun ins hins => ((mem_instsList_some hreq.consLen hp hxs).1 hins).core hP hnd R1, ?_⟩
    rw [instsList_some _ req hreq.consLen p x hp hxs]
    exact applyVertical_pw _ _ hnd hxv R2 fun hdq =>
      rules_kind hrule (forall_getD_consumers.2 fun cs c =>
        hreq.prodCons p cs c hp (by rw [hxs, show x = .addDequant from hdq]))

theorem tensorInsts_ok (pt : PTable) (m : Model) (req : TReq) (ti : TInsts)
    (hwf : WF.modelOK m = true) (hreq : ReqOK pt m req)
    (h : tensorInsts (nameMap m) req = .ok ti) : TInstsOK pt m ti := by
  obtain ⟨info, hinfo⟩ := hreq.known
  obtain ⟨s, sg, t, tn, hsg, ht, -, rfl⟩ := nameMap_mem m _ _ hinfo
  have hSg : SgOK m sg := ((modelOK_iff m).1 hwf).2.1 sg (List.mem_of_getElem? hsg)
  have href : 0 ≤ (tensorInfo s sg t).producer ∨ (tensorInfo s sg t).consumers ≠ [] ∨ (t : Int) ∈ sg.inputs := by
    rcases hreq.referenced _ hinfo with h | h | ⟨sg', hsg', hin⟩
    · exact .inl h
    · exact .inr (.inl h)
    · have hsg'' : m.subgraphs[s]? = some sg' := hsg'
      rw [hsg] at hsg''
      cases hsg''
      exact .inr (.inr hin)
  obtain ⟨hcore, hpw⟩ := instsList_ok pt m s sg t req hsg hinfo hreq
  obtain ⟨info, hi, -, rfl⟩ := Locality.tensorInsts_ok_iff.1 h
  cases hinfo.symm.trans hi
  exact ⟨⟨sg, hsg, fun ins hins => instOK_of_core pt m s sg t ins hSg (List.getElem?_eq_some_iff.1 ht).1 href (hcore ins hins)⟩,
    noChain_of_pairwise _ hpw⟩

/-- the generated instruction lists satisfy the hypotheses of `GraphInv.transformGraph_ok` -/
theorem genInsts_ok (pt : PTable) (m : Model) (reqs : List TReq) (tis : List TInsts)
    (hwf : WF.modelOK m = true) (hreq : ∀ r ∈ reqs, ReqOK pt m r)
    (h : genInsts m reqs = .ok tis) : ∀ ti ∈ tis, TInstsOK pt m ti := by
  intro ti hti
  obtain ⟨r, hr, hri⟩ := PyM.mapM_ok _ _ _ h ti hti
  exact tensorInsts_ok pt m r ti hwf (hreq r hr) hri

/-- **the graph part of `ModelModifier.modify_model` returns a well-formed graph or raises** -/
theorem modify_ok (pt : PTable) (m m' : Model) (reqs : List TReq)
    (hwf : WF.modelOK m = true) (hreq : ∀ r ∈ reqs, ReqOK pt m r)
    (h : Perform.modify pt m reqs = .ok m') : WF.modelOK m' = true := by
  unfold Perform.modify at h
  obtain ⟨tis, htis, h⟩ := PyM.bind_ok _ _ _ h
  exact transformGraph_ok pt m m' tis hwf (genInsts_ok pt m reqs tis hwf hreq htis) h

end GenInstsOK
