import QProofs.GenInstsOK
import QProofs.MatLoop
import QModel.Pipeline
/-!
# Definitions shared by the proofs about `Mat.generate` (see `QProofs/PipelineWF.lean`)

The closed shape of one consumer / producer request (`ConsShape` / `ProdShape`), stated on the *concrete*
requests (`CO2T`, parameters as objects, not ids); what the request list of one operator looks like
(`OpReqs`); the invariant of one entry of the result dictionary of `generate` (`EntryOK`).
-/
open Graph Mat Pipeline GenInstsOK

namespace Pipe

theorem hasData_pinfoOf (p : Param) : (pinfoOf p).hasData = hasData p := by
  cases p <;> rfl

/-- `n` is the name of tensor `i` of subgraph `sg = m.subgraphs[s]` -/
def Loc (m : Model) (n : String) (s : Nat) (sg : Subgraph) (i : Nat) : Prop :=
  m.subgraphs[s]? = some sg ∧ ∃ t, sg.tensors[i]? = some t ∧ t.name = n

/-- a (pseudo-)operator with id `o` has tensor `i` among its results: a real operator, or the
    INPUT pseudo-operator (`o = -1`, results = graph inputs) -/
def ProducedAt (sg : Subgraph) (i : Nat) (o : Int) : Prop :=
  (0 ≤ o ∧ ∃ op, sg.ops[o.toNat]? = some op ∧ (i : Int) ∈ op.outputs) ∨ (o = -1 ∧ (i : Int) ∈ sg.inputs)

/-- a (pseudo-)operator with id `o` has tensor `i` among its operands: a real operator, or the
    OUTPUT pseudo-operator (`o = -1`, operands = graph outputs) -/
def ConsumedAt (sg : Subgraph) (i : Nat) (o : Int) : Prop :=
  (0 ≤ o ∧ ∃ op, sg.ops[o.toNat]? = some op ∧ (i : Int) ∈ op.inputs) ∨ (o = -1 ∧ (i : Int) ∈ sg.outputs)

structure ConsShape (m : Model) (sg : Subgraph) (i : Nat) (c : CO2T) : Prop where
  xf : ∃ x, c.xfs = [x] ∧ x ≠ .emulated ∧ ((x = .quantTensor ∨ x = .addDequant) → isConst m sg i = true)
  data : ∀ p, c.param = some p → hasData p = true → isConst m sg i = true

structure ProdShape (m : Model) (sg : Subgraph) (i : Nat) (p : CO2T) : Prop where
  xf : p.xfs = [.noQuant] ∨ p.xfs = [.addDequant]
  data : ∀ q, p.param = some q → hasData q = true → isConst m sg i = true

/-- the request list `rs` emitted for one (pseudo-)operator `op` with id `opId` of subgraph `sg` -/
structure OpReqs (m : Model) (sg : Subgraph) (op : Op) (opId : Int) (rs : List CReq) : Prop where
  each : ∀ r ∈ rs, ∃ (i : Nat) (t : Tensor), sg.tensors[i]? = some t ∧ r.name = t.name ∧
    ((r.producer = none ∧ ∃ c, r.consumers = some [c] ∧ c.opId = opId ∧ (i : Int) ∈ op.inputs ∧
        ConsShape m sg i c) ∨
     (r.consumers = none ∧ ∃ p, r.producer = some p ∧ p.opId = opId ∧ (i : Int) ∈ op.outputs ∧
        ProdShape m sg i p))
  coherent : ∀ r ∈ rs, ∀ r' ∈ rs, r.name = r'.name → ∀ c c', r.consumers = some [c] →
    r'.consumers = some [c'] → c.xfs = c'.xfs ∧ c.param = c'.param

/-- invariant of the entry `(n, r)` of the result dictionary.  `Wk n c` is a bookkeeping predicate
    ("consumer entry `c` of name `n` comes from an operator that has already been walked"); it is
    what makes the consumer ids of one entry pairwise different across operators. -/
structure EntryOK (m : Model) (Wk : String → CO2T → Prop) (n : String) (r : CReq) : Prop where
  name : r.name = n
  loc : ∃ s sg i, Loc m n s sg i
  prod : ∀ p, r.producer = some p → ∀ s sg i, Loc m n s sg i → ProdShape m sg i p ∧ ProducedAt sg i p.opId
  cons : ∀ cs c, r.consumers = some cs → c ∈ cs → ∀ s sg i, Loc m n s sg i →
    ConsShape m sg i c ∧ ConsumedAt sg i c.opId
  walked : ∀ cs c, r.consumers = some cs → c ∈ cs → Wk n c
  coh : ∀ cs c c', r.consumers = some cs → c ∈ cs → c' ∈ cs → c.opId = c'.opId →
    c.xfs = c'.xfs ∧ c.param = c'.param
  used : r.producer ≠ none ∨ ∃ cs c, r.consumers = some cs ∧ c ∈ cs

theorem EntryOK.mono {m : Model} {Wk Wk' : String → CO2T → Prop} {n : String} {r : CReq}
    (h : EntryOK m Wk n r) (hW : ∀ c, Wk n c → Wk' n c) : EntryOK m Wk' n r :=
  ⟨h.name, h.loc, h.prod, h.cons, fun cs c h1 h2 => hW c (h.walked cs c h1 h2), h.coh, h.used⟩

theorem Loc.name_mem {m : Model} {n : String} {s : Nat} {sg : Subgraph} {i : Nat} (h : Loc m n s sg i) :
    n ∈ sg.tensors.map (·.name) := by
  obtain ⟨_, t, ht, rfl⟩ := h
  exact List.mem_map.2 ⟨t, List.mem_of_getElem? ht, rfl⟩

theorem loc_unique (m : Model) (hnu : namesUnique m) (n : String) (s s' : Nat) (sg sg' : Subgraph) (i i' : Nat)
    (h : Loc m n s sg i) (h' : Loc m n s' sg' i') : s = s' ∧ sg = sg' ∧ i = i' := by
  unfold namesUnique at hnu
  obtain ⟨hnd, hpw⟩ := List.nodup_flatMap.1 hnu
  have hss : s = s' := by
    by_contra hne
    have hmem := h.name_mem
    have hmem' := h'.name_mem
    obtain ⟨hs, hsg⟩ := List.getElem?_eq_some_iff.1 h.1
    obtain ⟨hs', hsg'⟩ := List.getElem?_eq_some_iff.1 h'.1
    rcases Nat.lt_or_gt_of_ne hne with hlt | hlt
    · have := List.pairwise_iff_getElem.1 hpw s s' hs hs' hlt
      rw [hsg, hsg'] at this
      exact this hmem hmem'
    · have := List.pairwise_iff_getElem.1 hpw s' s hs' hs hlt
      rw [hsg, hsg'] at this
      exact this hmem' hmem
  subst hss
  have hsg : sg = sg' := by
    have := h.1; rw [h'.1] at this; cases this; rfl
  subst hsg
  refine ⟨rfl, rfl, ?_⟩
  obtain ⟨_, t, ht, htn⟩ := h
  obtain ⟨_, t', ht', htn'⟩ := h'
  have hnd' := hnd sg (List.mem_of_getElem? ‹_›)
  obtain ⟨hi, hti⟩ := List.getElem?_eq_some_iff.1 ht
  obtain ⟨hi', hti'⟩ := List.getElem?_eq_some_iff.1 ht'
  have h1 : (sg.tensors.map (·.name))[i]'(by simpa using hi) = n := by simp [hti, htn]
  have h2 : (sg.tensors.map (·.name))[i']'(by simpa using hi') = n := by simp [hti', htn']
  exact (List.Nodup.getElem_inj_iff hnd').1 (h1.trans h2.symm)

end Pipe
