import QProofs.KernelSigRun
import QProofs.MatTotalOps
/-!
# Kernel signatures (C01b): what the recipe can select for an operator of the input
Without `skip_checks` rules an operator of a well-formed input is left unquantized, or resolves to min/max with a config of the
default policy for its name (a mode of `sigMode`), or to float casting with a name in `Tables.fcSupportedOps` (`op_mode`). -/
open Graph Mat Cfg GraphStep

set_option autoImplicit false

namespace KernelSig

/-- the legal shapes of a min/max config (`C13.modeOK`) with the operator lists of the policy -/
def sigMode (nm : String) (c : OpCfg) : Bool :=
  C13.modeOK nm c &&
  (match c.cp, c.act, c.weight with
   | .integer, some _, some w =>
     nm == "INPUT" || nm == "OUTPUT" || (intOps.contains nm && (w.bits != 4 || staticInt4Ops.contains nm))
   | .integer, none, some w => hybridOps.contains nm && (w.bits != 4 || hybridInt4Ops.contains nm)
   | _, _, _ => true)

theorem policy_sig : Tables.defaultPolicyUnrolled.all (fun e => e.2.all (sigMode e.1)) = true := by
  decide +kernel

theorem accepted_minmax_sig (op : String) (c : OpCfg) (hs : c.skipChecks = false)
    (h : Policy.accepts Tables.algMinMax op c = true) : sigMode op c = true :=
  C13.accepted_minmax_of_policy sigMode policy_sig op c hs h

theorem opScope_ok (sg : Subgraph) (op : Op)
    (h : ∀ t ∈ op.outputs, t = -1 ∨ ValidT sg t) : ∃ scope, opScope sg op = .ok scope := by
  unfold opScope
  have hv : ∀ t ∈ op.outputs.filter (· != -1), ValidT sg t := by
    intro t ht
    obtain ⟨h1, h2⟩ := List.mem_filter.1 ht
    rcases h t h1 with h3 | h3
    · simp [h3] at h2
    · exact h3
  generalize op.outputs.filter (· != -1) = l at hv
  generalize "" = acc
  induction l generalizing acc with
  | nil => exact ⟨acc, rfl⟩
  | cons t l ih =>
    have ht := hv t (List.mem_cons_self ..)
    obtain ⟨h0, hlt⟩ := ht
    have hget : sg.tensors[t.toNat]? = some sg.tensors[t.toNat] := List.getElem?_eq_getElem (by omega)
    have hta := Pipe.tensorAt_of_get sg t _ h0 hget
    simp only [List.foldlM_cons, hta, bind, Except.bind, pure, Except.pure]
    exact ih (fun t' ht' => hv t' (List.mem_cons_of_mem _ ht')) _

inductive OpMode (rx : String → String → Bool) (env : Env) (st : Recipe.State) (sg : Subgraph) (op : Op) : Prop
  | noquant : TypingE2E.ResolvesNoQuant rx env st sg op → OpMode rx env st sg op
  | minmax (nm : String) (cfg : OpCfg) : TypingE2E.ResolvesMinMax rx env st sg op nm cfg →
      sigMode nm cfg = true → OpMode rx env st sg op
  | cast (nm : String) : TypingE2E.ResolvesFloatCast rx env st sg op nm →
      Tables.fcSupportedOps.contains nm = true → OpMode rx env st sg op

theorem op_mode (rx : String → String → Bool) (env : Env) (st : Recipe.State) (hns : MatTotal.NoSkip st)
    (hwf : WF.modelOK env.model = true) (sg : Subgraph) (hsg : sg ∈ env.model.subgraphs)
    (k : Nat) (op : Op) (hop : sg.ops[k]? = some op) : OpMode rx env st sg op := by
  have hsgOK := SgOK.of_wf hwf hsg
  have hO := hsgOK.ops k op hop
  obtain ⟨code, hcode⟩ : ∃ code, env.model.opcodes[op.code]? = some code :=
    ⟨_, List.getElem?_eq_getElem hO.code⟩
  cases hnm : opNameOfCode code with
  | none => exact .noquant ⟨code, hcode, .inl hnm⟩
  | some nm =>
    obtain ⟨scope, hscope⟩ := opScope_ok sg op (fun t ht => (hO.outs t ht).imp id (·.1))
    rcases MatTotal.resolve_cases rx st nm scope with h | ⟨e, he, r, hr, h, -, hacc⟩
    · exact .noquant ⟨code, hcode, .inr ⟨nm, scope, hnm, hscope, by rw [h]⟩⟩
    · rcases hacc with hacc | hacc
      · exact .noquant ⟨code, hcode, .inr ⟨nm, scope, hnm, hscope, by rw [h]; exact hacc⟩⟩
      · have hsk := hns e he r hr
        rcases MatTotal.accepts_alg r.alg nm r.cfg hsk hacc with ha | ha
        · refine .minmax nm r.cfg ⟨code, scope, hcode, hnm, hscope, by rw [h, ha]⟩ ?_
          exact accepted_minmax_sig nm r.cfg hsk (ha ▸ hacc)
        · refine .cast nm ⟨code, scope, r.cfg, hcode, hnm, hscope, by rw [h, ha]⟩ ?_
          exact (C13.accepted_float_casting nm r.cfg hsk (ha ▸ hacc)).1

end KernelSig
