import QProofs.KernelSigRun
import QProofs.ParamsGraph
/-! # Kernel signatures (C01b): a tensor that is not float32 is never touched
`standardOp` ignores the slots whose tensor is not float32 (`Mat.StdEntry.wrapped`); the two materialisation functions that do not look at the type,
`biasFor` and `floatCastOp`, act on the bias / weight slot (`blindSlot`), float32 in a `FloatModel`.  Hence `nonf32_slot`, in
particular for the `output_shape` operand of a CONV_2D_TRANSPOSE under float casting. -/
open Graph Mat Pipeline Pipe SharingGen Perform
open GraphStep

set_option autoImplicit false

namespace KernelSig.F32

def SideS (sg : Subgraph) (n : String) (c : CO2T) : Prop :=
  (c.xfs = [.quantTensor] ∨ c.xfs = [.addDequant]) → TypingShape.F32 sg n

abbrev RF (sg : Subgraph) (r : CReq) : Prop := ReqSides (fun _ _ => True) (SideS sg) r

theorem rf_noQuantReq (sg : Subgraph) (n : String) (o : Int) (b : Bool) : RF sg (noQuantReq n o b) := by
  rw [noQuantReq_eq]
  cases b
  · exact reqSides_sideReq.2 trivial
  · exact reqSides_sideReq.2 (by rintro (h | h) <;> cases h)

theorem rf_of_f32 {sg : Subgraph} {t : Tensor} (ht : t ∈ sg.tensors) (hf : t.dtype = Tables.ttFloat32) {r : CReq}
    (hn : r.name = t.name) : RF sg r :=
  ⟨fun _ _ => trivial, fun _ _ _ _ _ => ⟨t, ht, hn.symm, hf⟩⟩

/-- the operand position that a materialisation function reads WITHOUT looking at the type of the tensor, and
    the kind the table gives it: the bias of the convolution-like operators (`biasFor`), the weight under float
    casting (`floatCastOp`) -/
def blindSlot : MatTotal.Kind → Option (Nat × KernelSig.Kind)
  | .conv => some (2, .bias)
  | .convT => some (3, .bias)
  | .cast _ iW _ => some (iW, .weight)
  | _ => none

theorem emitted_rf {env : Env} {sg : Subgraph} {qs : Qsvs} {oi : OpInfo} {k : MatTotal.Kind} {t : Tensor} {b : Bool}
    {c : CO2T}
    (hblind : ∀ j kd, blindSlot k = some (j, kd) → ∀ a t, oi.op.inputs[j]? = some a → tensorAt sg a = .ok t →
      (kd = .bias → a ≠ -1) → t.dtype = Tables.ttFloat32)
    (he : EmittedK env sg qs oi k t b c) : RF sg (sideReq t.name b c) := by
  have bias : ∀ {iI iW iB : Nat}, MatTotal.convSlots k = some (iI, iW, iB) → blindSlot k = some (iB, .bias) := by
    intro iI iW iB hk
    cases k <;> cases hk <;> rfl
  cases he with
  | std b i t c _ hs =>
    cases hs with
    | noQuant _ => exact rf_noQuantReq sg _ _ _
    | wrapped g p xfs hidx hf _ _ _ => exact rf_of_f32 hidx.atSlot.mem hf (sideReq_name ..)
  | biasPlain iI iW iB a _ xfs hk ha hne hbt =>
    exact rf_of_f32 (Py.index_mem _ _ _ hbt) (hblind _ _ (bias hk) a t ha hbt fun _ => hne) (sideReq_name ..)
  | biasQuant iI iW iB a _ bd tI tW cI cW qi qw di dw qp q xfs hk ha hne hbt =>
    exact rf_of_f32 (Py.index_mem _ _ _ hbt) (hblind _ _ (bias hk) a t ha hbt fun _ => hne) (sideReq_name ..)
  | fixed => exact reqSides_sideReq.2 trivial
  | castPlain => exact rf_noQuantReq sg _ _ _
  | f16 iIn iW iB sW _ wd hh hk hs htw =>
    subst hk
    exact rf_of_f32 (Py.index_mem _ _ _ htw) (hblind _ _ rfl sW t hs htw nofun) (sideReq_name ..)

theorem slot_dtype (sg : Subgraph) (a : Int) (t : Tensor) (ht : tensorAt sg a = .ok t) (d : Nat)
    (hd : dtypeAt sg a = some d) : t.dtype = d := by
  obtain ⟨h0, tn, htn, hdt⟩ := dtypeAt_eq_some sg a d hd
  have := tensorAt_get sg a t h0 ht
  rw [htn] at this
  cases this
  exact hdt

theorem bias_weight : ∀ nm ∈ names, (PipeNF.biasSlot nm).isSome = true → kind nm 1 = .weight := by decide +kernel

theorem opReqs_rf {rx : String → String → Bool} {env : Env} {st : Recipe.State}
    (hwf : WF.modelOK env.model = true) (hfl : FloatModel env.model)
    {s : Nat} {sg : Subgraph} (hsg : env.model.subgraphs[s]? = some sg) {qs : Qsvs}
    {q : Op × Option String × Int} (hq : q ∈ allOps sg) {rs : List CReq} {qs' : Qsvs}
    (h : opReqs rx env st s sg qs q = .ok (rs, qs')) : ∀ r ∈ rs, RF sg r := by
  intro r hr
  rcases opReqs_ok h with ⟨hn, -⟩ | ⟨k, scope, ops, fn, ⟨hkey, -, -, hops, hfn⟩, hrun⟩
  · obtain ⟨b, a, t, -, -, -, rfl⟩ := (noQuantOp_mem_iff hn r).1 hr
    exact rf_noQuantReq sg _ _ _
  obtain ⟨t, b, c, -, he, rfl⟩ := runKind_emitted hrun r hr
  refine emitted_rf (fun j kd hbl a t ha ht hne => ?_) he
  -- by the registry, the blind slot is the bias slot of `k`, or slot 1 of an operator with a bias slot
  have hOK := (Pipe.kindAlg_of_registry hops hfn).1
  have hslot : (kd = .bias ∧ PipeNF.biasSlot k = some j) ∨
      (kd = .weight ∧ j = 1 ∧ (PipeNF.biasSlot k).isSome = true) := by
    cases hK : MatTotal.kindOf (Recipe.resolve rx st k scope).1 fn <;> rw [hK] at hbl hOK <;> cases hbl
    · exact .inl ⟨rfl, hOK.2.2.1⟩
    · exact .inl ⟨rfl, hOK.2.2.1⟩
    · exact .inr ⟨rfl, hOK.1, by rw [hOK.2.2.2.1]; rfl⟩
  have hsgm : sg ∈ env.model.subgraphs := List.mem_of_getElem? hsg
  -- the entry is a real operator, with the float signature of the table
  rcases mem_allOps_iff.1 hq with ⟨j', op, hop, rfl⟩ | rfl | rfl
  · unfold keyOf at hkey
    cases hc : env.model.opcodes[op.code]? with
    | none => rw [hc] at hkey; cases hkey
    | some code =>
      rw [hc] at hkey
      have hk : opNameOfCode code = some k := Option.some.inj (PyM.pure_eq_ok_iff.1 hkey ▸ rfl)
      have hkn := name_mem code k hk
      have fl := (hfl.get sg hsgm op (List.mem_of_getElem? hop) code hc).1 k hk
      have hrow := fl_row fl ha
      obtain ⟨-, -, -, -, -, hnb⟩ := slot_table k hkn _ _ (fl_arity fl) j (List.getElem?_eq_some_iff.1 ha).1
      rcases hslot with ⟨rfl, hb⟩ | ⟨rfl, rfl, hb⟩
      · have hkb : kind k j = .bias := by
          by_contra hkb
          exact hnb hkb hb
        rw [hkb] at hrow
        simp only [floatRow, beq_iff_eq, Bool.or_eq_true, Bool.and_eq_true] at hrow
        rcases hrow with ⟨hrow, -⟩ | hrow
        · have hv := (SgOK.of_wf hwf hsgm).ops j' op hop |>.ins a (List.mem_of_getElem? ha)
          rcases hv with hv | ⟨⟨h0, hlt⟩, -⟩
          · exact absurd hv (hne rfl)
          · rw [dtypeAt_some _ _ h0 _ (List.getElem?_eq_getElem (by omega))] at hrow
            cases hrow
        · exact slot_dtype sg a t ht _ hrow
      · rw [bias_weight k hkn hb] at hrow
        simp only [floatRow, beq_iff_eq] at hrow
        exact slot_dtype sg a t ht _ hrow
  all_goals
    -- the INPUT / OUTPUT pseudo-operators have no bias slot
    cases PyM.pure_eq_ok_iff.1 hkey
    rcases hslot with ⟨-, hb⟩ | ⟨-, -, hb⟩ <;> cases hb

def Side (env : Env) (n : String) (c : CO2T) : Prop := ∃ sg ∈ env.model.subgraphs, SideS sg n c

theorem generate_f32 {rx : String → String → Bool} {env : Env} {st : Recipe.State}
    (hwf : WF.modelOK env.model = true) (hfl : FloatModel env.model) {qsvs : Option Qsvs} {qs : Qsvs}
    {res : List (String × CReq)} (h : generateLoop rx env st qsvs = .ok (qs, res)) :
    DictSides (fun _ _ => True) (Side env) res :=
  generate_sides (fun _ sg hsg _ hq _ _ _ h r hr =>
    ⟨fun _ _ => trivial, fun cs c hcs hc =>
      ⟨sg, List.mem_of_getElem? hsg, (opReqs_rf hwf hfl hsg hq h r hr).2 cs c hcs hc⟩⟩) h

theorem insertion_f32 {rx : String → String → Bool} {env : Env} {st : Recipe.State} {qsvs : Option Qsvs}
    {m' : Model} {res : List (String × CReq)} {tis : List TInsts}
    (S : TypingE2E.Stages rx env st qsvs m' (tblOf res) res tis)
    (hf32 : DictSides (fun _ _ => True) (Side env) res)
    (ti : TInsts) (hti : ti ∈ tis) (ins : Inst) (hins : ins ∈ ti.insts) (hx : isInsertion ins.xf = true)
    (p : PId) (hp : ins.param = some p) (sg : Subgraph) (hsg : env.model.subgraphs[ti.sg]? = some sg) :
    ∃ (i : Nat) (tn : Tensor), ins.tensor = (i : Int) ∧ sg.tensors[i]? = some tn ∧
      tn.dtype = Tables.ttFloat32 := by
  have C := S.ctx
  obtain ⟨i, tn, e, c, P, I⟩ := ReqTrace.inst_side C S.gen ti hti ins hins hx p hp sg hsg
  refine ⟨i, tn, I.tensor, I.record, ?_⟩
  apply TypingE2E.f32_loc C.nu ti.sg sg i tn hsg I.record
  cases I.carries with
  | result hc hcx _ =>
    obtain ⟨sgq, hsgq, hq, -⟩ := (S.typ _ I.entry).1 c hc
    exact ⟨sgq, hsgq, hq hcx⟩
  | operand cs hcs hc hcx hx' _ =>
    rcases ParamsGraph.insertion_cases _ hx' with hr | hxq
    · obtain ⟨sg2, hsg2, hq⟩ := (hf32 _ I.entry).2 cs c hcs hc
      refine ⟨sg2, hsg2, hq ?_⟩
      rw [hcx]
      rcases ParamsGraph.retypes_cases _ hr with h | h
      · exact .inl (by rw [h])
      · exact .inr (by rw [h])
    · obtain ⟨sgq, hsgq, hq, -⟩ := (S.typ _ I.entry).2 cs c hcs hc
      obtain ⟨t, ht, hn, hf, -⟩ := hq (hxq ▸ hcx)
      exact ⟨sgq, hsgq, t, ht, hn, hf⟩

/-- **an operand slot that held a tensor that is not float32**: the operator of the output reads the same
    tensor, with its original record -/
theorem nonf32_slot (rx : String → String → Bool) (env : Env) (st : Recipe.State)
    (qsvs : Option Qsvs) (m' : Model) (tbl : List Param) (hnf : PipelineWF.NF env st)
    (h : quantizePure rx env st qsvs = .ok (m', tbl)) (hfl : FloatModel env.model)
    (s : Nat) (sg sg' : Subgraph) (hsg : env.model.subgraphs[s]? = some sg) (hsg' : m'.subgraphs[s]? = some sg')
    (k : Nat) (op : Op) (hop : sg.ops[k]? = some op) (j : Nat) (t : Int) (hj : op.inputs[j]? = some t)
    (h0 : 0 ≤ t) (tn : Tensor) (htn : sg.tensors[t.toNat]? = some tn) (hd : tn.dtype ≠ Tables.ttFloat32)
    (o' : Op) (ho' : o' ∈ sg'.ops) (hk : o'.orig = some k) :
    o'.inputs[j]? = some t ∧ sg'.tensors[t.toNat]? = some tn := by
  obtain ⟨res, tis, stF, rfl, rfl, S, F, R⟩ := TypingE2E.run rx env st qsvs m' tbl hnf h
  obtain ⟨qs, hfold⟩ := S.fold
  have hf32 := generate_f32 (qsvs := qsvs) hnf.wf hfl hfold
  have hcast : ((t.toNat : Nat) : Int) = t := by omega
  have hno : ∀ ti ∈ tis, ti.sg = s → ∀ ins ∈ ti.insts, ins.tensor = t → isInsertion ins.xf = false := by
    intro ti hti hs ins hins hten
    cases hx : isInsertion ins.xf with
    | false => rfl
    | true =>
      exfalso
      obtain ⟨p, pi, ty, hp, -⟩ := F.params ti hti ins hins hx
      obtain ⟨i, tn2, g1, g2, g3⟩ := insertion_f32 S hf32 ti hti ins hins hx p hp sg (by rw [hs]; exact hsg)
      have : i = t.toNat := by omega
      subst this
      rw [htn] at g2
      cases g2
      exact hd g3
  obtain ⟨o'', I, m8⟩ := IOInv.op_final F.base R hnf.tagged s sg sg' hsg hsg' k op hop
  have : o' = o'' := I.uniq o' ho' hk
  subst this
  obtain ⟨z, hz, hread⟩ := m8 j t hj
  obtain rfl := hread.same (by
    rintro ⟨ti, hti, ins, hins, hs, ht, hadd, -⟩
    have := hno ti hti hs ins hins ht
    rw [Wiring.addsOp_insertion _ hadd] at this
    cases this)
  refine ⟨hz, ?_⟩
  · obtain ⟨tn', T⟩ := TypingGraph.tensor_final _ env.model tis stF F s sg sg' hsg hsg' _ tn htn
    rcases T.typed with rfl | ⟨p, ⟨ti, hti, ins, hins, hs, ht, hr, -⟩, -⟩
    · exact T.get
    · exfalso
      have := hno ti hti hs ins hins (by rw [ht]; exact hcast)
      rw [Wiring.retypes_insertion _ hr] at this
      cases this

end KernelSig.F32
