import QProofs.RunStages
import QProofs.NFCheckProofs
/-!
# C15c — shared constant buffers through the whole performer, and end to end

Tensors that share a constant buffer are quantized once and consistently, or the request is refused.

In the graph model a buffer's content is abstract: `some (.inl k)` = the `k`-th original constant,
`some (.inr p)` = the packed quantized data of parameter object `p`.  "A tensor agrees with the
stored bytes" therefore means: the buffer is `.inl k` and the tensor has its original record, or the
buffer is `.inr p` and the tensor is `TypedBy p` (dtype `dtypeOf (pinfo p)`, `quant = some p` for
uniform parameters).

Not covered here: the VALUES a consumer observes ("within one quantization step", C06/C07) and the
operator-level reading ("a float consumer never reads integer bytes") beyond the tensor-level
statement: a tensor's dtype/parameters always describe the bytes of its buffer.
-/
open Graph Perform

namespace C15

abbrev Referent := @SharingE2E.Referent
abbrev Retyped := @SharingE2E.Retyped
abbrev TypedBy := @SharingE2E.TypedBy
abbrev SameOn := @SharingE2E.SameOn
abbrev ConstData := @SharingE2E.ConstData
abbrev SharersAgree := @SharingE2E.SharersAgree

/-- the original constant buffer `b` is untouched, no retyping instruction exists on a tensor that
    references it, and every tensor of `m'` referencing it is an original tensor with its original
    record -/
def Untouched (m m' : Model) (tis : List TInsts) (b k : Nat) : Prop :=
  m'.buffers[b]? = some (some (.inl k)) ∧
  (∀ s i p, Referent m b s i → ¬ Retyped tis s i p) ∧
  ∀ (s : Nat) (sg' : Subgraph) (i : Nat) (tn' : Tensor), m'.subgraphs[s]? = some sg' →
    sg'.tensors[i]? = some tn' → tn'.buffer = b →
    ∃ sg, m.subgraphs[s]? = some sg ∧ sg.tensors[i]? = some tn'

/-- the buffer holds the packed data of a retyping instruction on one of its tensors -/
def Rewritten (pt : PTable) (m m' : Model) (tis : List TInsts) (b : Nat) : Prop :=
  ∃ s i p pi, Referent m b s i ∧ Retyped tis s i p ∧ pinfo pt p = some pi ∧ pi.hasData = true ∧
    m'.buffers[b]? = some (some (.inr p))

/-- the buffer holds the packed data of ONE parameter `p`, and every tensor of `m'` that references
    it is an original referent, retyped with `p`, and typed by `p` -/
def RewrittenAgree (pt : PTable) (m m' : Model) (tis : List TInsts) (b : Nat) : Prop :=
  ∃ p pi, pinfo pt p = some pi ∧ pi.hasData = true ∧ m'.buffers[b]? = some (some (.inr p)) ∧
    (∃ s i, Referent m b s i ∧ Retyped tis s i p) ∧
    ∀ (s : Nat) (sg' : Subgraph) (i : Nat) (tn' : Tensor), m'.subgraphs[s]? = some sg' →
      sg'.tensors[i]? = some tn' → tn'.buffer = b →
      Referent m b s i ∧ Retyped tis s i p ∧ TypedBy pt p tn'

/-- **graph stage, weak form**: under `ConstData` (a retyping instruction on a constant carries packed data) an original
    constant buffer is untouched with all its tensors, or holds the packed data of one of its retyping instructions -/
theorem performer_buffer_weak (pt : PTable) (m m' : Model) (tis : List TInsts)
    (hwf : WF.modelOK m = true) (htag : Skeleton.origTagged m = true)
    (hok : ∀ ti ∈ tis, GraphInv.TInstsOK pt m ti) (hcd : ConstData pt m tis)
    (h : transformGraph pt m tis = .ok m')
    (b k : Nat) (hb : m.buffers[b]? = some (some (.inl k))) :
    Untouched m m' tis b k ∨ Rewritten pt m m' tis b :=
  SharingE2E.buffer_weak pt m m' tis hwf htag hok hcd h b k hb

/-- **graph stage, strong form**: under `SharersAgree` too (one parameter per constant buffer, all of its tensors retyped
    or none) the second alternative includes that every tensor over the buffer is typed by that parameter -/
theorem performer_buffer_agrees (pt : PTable) (m m' : Model) (tis : List TInsts)
    (hwf : WF.modelOK m = true) (htag : Skeleton.origTagged m = true)
    (hok : ∀ ti ∈ tis, GraphInv.TInstsOK pt m ti) (hcd : ConstData pt m tis)
    (hsa : SharersAgree m tis) (h : transformGraph pt m tis = .ok m')
    (b k : Nat) (hb : m.buffers[b]? = some (some (.inl k))) :
    Untouched m m' tis b k ∨ RewrittenAgree pt m m' tis b :=
  SharingE2E.buffer_agrees pt m m' tis hwf htag hok hcd hsa h b k hb

theorem sharers_equal {pt : PTable} {m m' : Model} {tis : List TInsts} {b k : Nat}
    (h : Untouched m m' tis b k ∨ RewrittenAgree pt m m' tis b)
    {s₁ s₂ : Nat} {sg₁ sg₂ : Subgraph} {i₁ i₂ : Nat} {t₁ t₂ : Tensor}
    (h₁ : m'.subgraphs[s₁]? = some sg₁) (g₁ : sg₁.tensors[i₁]? = some t₁) (b₁ : t₁.buffer = b)
    (h₂ : m'.subgraphs[s₂]? = some sg₂) (g₂ : sg₂.tensors[i₂]? = some t₂) (b₂ : t₂.buffer = b) :
    (m'.buffers[b]? = some (some (.inl k)) ∧ t₁ ∈ (m.subgraphs.flatMap (·.tensors)) ∧
      t₂ ∈ (m.subgraphs.flatMap (·.tensors))) ∨
    (∃ p pi, pinfo pt p = some pi ∧ m'.buffers[b]? = some (some (.inr p)) ∧ t₁.dtype = t₂.dtype ∧
      (pi.uniform = true → t₁.quant = some p ∧ t₂.quant = some p)) := by
  rcases h with ⟨u1, -, u3⟩ | ⟨p, pi, r1, -, r3, -, r5⟩
  · obtain ⟨sga, ha1, ha2⟩ := u3 s₁ sg₁ i₁ t₁ h₁ g₁ b₁
    obtain ⟨sgb, hb1, hb2⟩ := u3 s₂ sg₂ i₂ t₂ h₂ g₂ b₂
    exact .inl ⟨u1, List.mem_flatMap.2 ⟨sga, List.mem_of_getElem? ha1, List.mem_of_getElem? ha2⟩,
      List.mem_flatMap.2 ⟨sgb, List.mem_of_getElem? hb1, List.mem_of_getElem? hb2⟩⟩
  · obtain ⟨-, -, pi1, ty1, a1, a2, a3, a4⟩ := r5 s₁ sg₁ i₁ t₁ h₁ g₁ b₁
    obtain ⟨-, -, pi2, ty2, c1, c2, c3, c4⟩ := r5 s₂ sg₂ i₂ t₂ h₂ g₂ b₂
    rw [r1] at a1 c1; cases a1; cases c1
    rw [a2] at c2; cases c2
    exact .inr ⟨p, pi, r1, r3, by rw [a3, c3], fun hu => ⟨a4 hu, c4 hu⟩⟩

/-- consequence: any two tensors of the output that reference one original constant buffer have
    equal `dtype`, and equal `quant` when the stored parameters are uniform (or the buffer is
    untouched and the input tensors were float, `quant = none`) -/
theorem performer_sharers_equal (pt : PTable) (m m' : Model) (tis : List TInsts)
    (hwf : WF.modelOK m = true) (htag : Skeleton.origTagged m = true)
    (hok : ∀ ti ∈ tis, GraphInv.TInstsOK pt m ti) (hcd : ConstData pt m tis)
    (hsa : SharersAgree m tis) (h : transformGraph pt m tis = .ok m')
    (b k : Nat) (hb : m.buffers[b]? = some (some (.inl k)))
    (s₁ s₂ : Nat) (sg₁ sg₂ : Subgraph) (i₁ i₂ : Nat) (t₁ t₂ : Tensor)
    (h₁ : m'.subgraphs[s₁]? = some sg₁) (g₁ : sg₁.tensors[i₁]? = some t₁) (b₁ : t₁.buffer = b)
    (h₂ : m'.subgraphs[s₂]? = some sg₂) (g₂ : sg₂.tensors[i₂]? = some t₂) (b₂ : t₂.buffer = b) :
    (m'.buffers[b]? = some (some (.inl k)) ∧ t₁ ∈ (m.subgraphs.flatMap (·.tensors)) ∧
      t₂ ∈ (m.subgraphs.flatMap (·.tensors))) ∨
    (∃ p pi, pinfo pt p = some pi ∧ m'.buffers[b]? = some (some (.inr p)) ∧ t₁.dtype = t₂.dtype ∧
      (pi.uniform = true → t₁.quant = some p ∧ t₂.quant = some p)) :=
  sharers_equal (performer_buffer_agrees pt m m' tis hwf htag hok hcd hsa h b k hb) h₁ g₁ b₁ h₂ g₂ b₂

/-! ## NON-VACUITY and NECESSITY: two tensors `w1`, `w2` on one constant buffer

`y := OP(x, w1, w2)`; `w1` and `w2` both reference buffer 1 (weight tying). -/
namespace Tied

def tn (n : String) (b : Nat) : Tensor := { name := n, dtype := 0, shape := [2], buffer := b }

def sg : Subgraph :=
  { tensors := [tn "x" 0, tn "w1" 1, tn "w2" 1, tn "y" 0],
    ops := [{ code := 0, inputs := [0, 1, 2], outputs := [3], orig := some 0 }],
    inputs := [0], outputs := [3] }

def m : Model := { subgraphs := [sg], buffers := [none, some (.inl 0)], opcodes := [0], sigs := [] }

/-- parameters 0 and 1: int8 with packed data; parameter 2: int8 WITHOUT data -/
def pt : PTable := [(0, ⟨true, 8, true⟩), (1, ⟨true, 8, true⟩), (2, ⟨true, 8, false⟩)]

def on (xf : Xf) (t : Int) (p : PId) : Inst := ⟨xf, t, -1, [0], some p⟩
def ent (n : String) (xf : Xf) (t : Int) (p : PId) : TInsts := ⟨n, 0, [on xf t p]⟩

def tisOK : List TInsts := [ent "w1" .quantTensor 1 0, ent "w2" .addDequant 2 0]

def mOK : Model :=
  { subgraphs :=
      [{ tensors := [tn "x" 0, { tn "w1" 1 with dtype := 9, quant := some 0 },
                     { tn "w2" 1 with dtype := 9, quant := some 0 }, tn "y" 0, tn "w2_dequant" 0],
         ops := [{ code := 1, inputs := [2], outputs := [4] },
                 { code := 0, inputs := [0, 1, 4], outputs := [3], orig := some 0 }],
         inputs := [0], outputs := [3] }],
    buffers := [none, some (.inr 0)], opcodes := [0, 6], sigs := [] }

/-- a float reader `w2` next to a quantizing reader that reads the FLOAT constant through an inserted QUANTIZE -/
def tisF : List TInsts := [ent "w1" .addQuant 1 2]

def mF : Model :=
  { subgraphs :=
      [{ tensors := [tn "x" 0, tn "w1" 1, tn "w2" 1, tn "y" 0,
                     { tn "w1_quantized" 0 with dtype := 9, quant := some 2 }],
         ops := [{ code := 1, inputs := [1], outputs := [4] },
                 { code := 0, inputs := [0, 4, 2], outputs := [3], orig := some 0 }],
         inputs := [0], outputs := [3] }],
    buffers := [none, some (.inl 0)], opcodes := [0, 114], sigs := [] }

def tisOne : List TInsts := [ent "w1" .quantTensor 1 0]

def sgOne : Subgraph :=
  { sg with tensors := [tn "x" 0, { tn "w1" 1 with dtype := 9, quant := some 0 }, tn "w2" 1, tn "y" 0] }

def mOne : Model := { m with subgraphs := [sgOne], buffers := [none, some (.inr 0)] }

def tisTwo : List TInsts := [ent "w1" .quantTensor 1 0, ent "w2" .quantTensor 2 1]

def sgTwo : Subgraph :=
  { sg with tensors := [tn "x" 0, { tn "w1" 1 with dtype := 9, quant := some 0 },
                        { tn "w2" 1 with dtype := 9, quant := some 1 }, tn "y" 0] }

def mTwo : Model := { m with subgraphs := [sgTwo], buffers := [none, some (.inr 1)] }

def tisND : List TInsts := [ent "w1" .quantTensor 1 2, ent "w2" .quantTensor 2 2]

def sgND : Subgraph :=
  { sg with tensors := [tn "x" 0, { tn "w1" 1 with dtype := 9, quant := some 2 },
                        { tn "w2" 1 with dtype := 9, quant := some 2 }, tn "y" 0] }

def mND : Model := { m with subgraphs := [sgND] }

/-- everything of this section that is established by evaluation, in one evaluation: each run with the executable
    hypotheses (`SharingE2E.constDataB`, `sameB`, `allB`, `GraphInv.tinstsOKB`) that hold of its instructions -/
theorem closed :
    (WF.modelOK m = true ∧ Skeleton.origTagged m = true) ∧
    (transformGraph pt m tisOK = .ok mOK ∧ SharingE2E.constDataB pt m tisOK = true ∧
      SharingE2E.sameB m tisOK = true ∧ SharingE2E.allB m tisOK = true ∧ tisOK.all (GraphInv.tinstsOKB pt m) = true) ∧
    (transformGraph pt m tisF = .ok mF ∧ SharingE2E.constDataB pt m tisF = true ∧
      SharingE2E.sameB m tisF = true ∧ SharingE2E.allB m tisF = true ∧ tisF.all (GraphInv.tinstsOKB pt m) = true) ∧
    (transformGraph pt m tisOne = .ok mOne ∧ SharingE2E.constDataB pt m tisOne = true ∧
      tisOne.all (GraphInv.tinstsOKB pt m) = true) ∧
    (transformGraph pt m tisTwo = .ok mTwo ∧ SharingE2E.constDataB pt m tisTwo = true ∧
      SharingE2E.allB m tisTwo = true ∧ tisTwo.all (GraphInv.tinstsOKB pt m) = true) ∧
    (transformGraph pt m tisND = .ok mND ∧ SharingE2E.sameB m tisND = true ∧
      SharingE2E.allB m tisND = true ∧ tisND.all (GraphInv.tinstsOKB pt m) = true) := by decide +kernel

/-- all hypotheses of `performer_buffer_agrees` hold on the instance; the theorem applies … -/
theorem agrees_instance : Untouched m mOK tisOK 1 0 ∨ RewrittenAgree pt m mOK tisOK 1 := by
  obtain ⟨⟨hwf, htag⟩, ⟨run, cd, same, all, ok⟩, -⟩ := closed
  have hok := GraphInv.tinstsOK_of_b ok
  exact performer_buffer_agrees pt m mOK tisOK hwf htag hok (SharingE2E.constData_of_b pt m _ hok cd)
    (SharingE2E.sharersAgree_of_b m tisOK same all) run 1 0 rfl

/-- … and it is the second alternative that holds: buffer 1 holds the packed data of parameter 0 and
    both `w1` and `w2` are int8 tensors carrying parameter 0 -/
example : mOK.buffers[1]? = some (some (.inr 0)) ∧
    (mOK.subgraphs[0]'(by decide)).tensors[1]? = some { tn "w1" 1 with dtype := 9, quant := some 0 } ∧
    (mOK.subgraphs[0]'(by decide)).tensors[2]? = some { tn "w2" 1 with dtype := 9, quant := some 0 } :=
  ⟨rfl, rfl, rfl⟩

/-! ### the untouched case: the buffer stays float -/

theorem untouched_instance : Untouched m mF tisF 1 0 ∨ RewrittenAgree pt m mF tisF 1 := by
  obtain ⟨⟨hwf, htag⟩, -, ⟨run, cd, same, all, ok⟩, -⟩ := closed
  have hok := GraphInv.tinstsOK_of_b ok
  exact performer_buffer_agrees pt m mF tisF hwf htag hok (SharingE2E.constData_of_b pt m _ hok cd)
    (SharingE2E.sharersAgree_of_b m tisF same all) run 1 0 rfl

example : mF.buffers[1]? = some (some (.inl 0)) := rfl

/-! ### `SharersAgree.all` is necessary -/

/-- every hypothesis except `SharersAgree.all` holds (well-formedness, consistent instructions,
    `ConstData`, one parameter per buffer), the run succeeds, and the FLOAT tensor `w2` is left over
    the INTEGER bytes of parameter 0: neither alternative of `performer_buffer_agrees` holds -/
theorem all_needed :
    (∀ ti ∈ tisOne, GraphInv.TInstsOK pt m ti) ∧ ConstData pt m tisOne ∧
    (∀ b c, m.buffers[b]? = some (some c) → SameOn m tisOne b) ∧
    transformGraph pt m tisOne = .ok mOne ∧
    ¬ (Untouched m mOne tisOne 1 0 ∨ RewrittenAgree pt m mOne tisOne 1) := by
  obtain ⟨-, -, -, ⟨run, cd, ok⟩, -⟩ := closed
  have hok := GraphInv.tinstsOK_of_b ok
  refine ⟨hok, SharingE2E.constData_of_b pt m _ hok cd, ?_, run, ?_⟩
  · intro b c hb s i p s' i' p' _ _ ⟨ti, hti, ins, hins, _, _, _, e4⟩ ⟨ti', hti', ins', hins', _, _, _, e4'⟩
    rw [List.mem_singleton.1 hti] at hins
    rw [List.mem_singleton.1 hti'] at hins'
    rw [List.mem_singleton.1 hins] at e4
    rw [List.mem_singleton.1 hins'] at e4'
    cases e4; cases e4'; rfl
  · rintro (⟨h1, -⟩ | ⟨p, pi, r1, -, r3, -, r5⟩)
    · cases h1
    · cases r3
      obtain ⟨-, -, pi', ty, a1, a2, a3, -⟩ := r5 0 _ 2 (tn "w2" 1) rfl rfl rfl
      cases a1
      cases a2
      cases a3

/-- the offending state: `w2` is a float32 tensor without parameters whose buffer holds packed int8 data -/
example : (mOne.subgraphs[0]'(by decide)).tensors[2]? = some (tn "w2" 1) ∧
    (tn "w2" 1).dtype = Tables.ttFloat32 ∧ (tn "w2" 1).quant = none ∧
    mOne.buffers[(tn "w2" 1).buffer]? = some (some (.inr 0)) := ⟨rfl, rfl, rfl, rfl⟩

/-! ### `SharersAgree.same` is necessary -/

/-- every hypothesis except `SharersAgree.same` holds (in particular all tensors of the buffer are
    retyped), and `w1` carries parameter 0 over the bytes of parameter 1 (the buffer was written twice) -/
theorem same_needed :
    (∀ ti ∈ tisTwo, GraphInv.TInstsOK pt m ti) ∧ ConstData pt m tisTwo ∧
    SharingE2E.allB m tisTwo = true ∧ transformGraph pt m tisTwo = .ok mTwo ∧
    ¬ (Untouched m mTwo tisTwo 1 0 ∨ RewrittenAgree pt m mTwo tisTwo 1) := by
  obtain ⟨-, -, -, -, ⟨run, cd, all, ok⟩, -⟩ := closed
  have hok := GraphInv.tinstsOK_of_b ok
  refine ⟨hok, SharingE2E.constData_of_b pt m _ hok cd, all, run, ?_⟩
  rintro (⟨h1, -⟩ | ⟨p, pi, r1, -, r3, -, r5⟩)
  · cases h1
  · cases r3
    obtain ⟨-, -, pi', ty, a1, -, -, a4⟩ := r5 0 _ 1 { tn "w1" 1 with dtype := 9, quant := some 0 } rfl rfl rfl
    cases a1
    cases a4 rfl

/-! ### `ConstData` is necessary -/

/-- every hypothesis except `ConstData` holds and two int8 tensors are left over FLOAT bytes: not even
    the weak conclusion holds -/
theorem constData_needed :
    (∀ ti ∈ tisND, GraphInv.TInstsOK pt m ti) ∧ SharersAgree m tisND ∧
    transformGraph pt m tisND = .ok mND ∧
    ¬ (Untouched m mND tisND 1 0 ∨ Rewritten pt m mND tisND 1) := by
  obtain ⟨-, -, -, -, -, run, same, all, ok⟩ := closed
  refine ⟨GraphInv.tinstsOK_of_b ok,
    SharingE2E.sharersAgree_of_b m tisND same all, run, ?_⟩
  rintro (⟨-, h2, -⟩ | ⟨s, i, p, pi, -, -, -, -, r5⟩)
  · exact h2 0 1 2 ⟨sg, _, rfl, rfl, rfl⟩ ⟨_, List.mem_cons_self, _, List.mem_cons_self, rfl, rfl, rfl, rfl⟩
  · cases r5

end Tied

/-- what `Mat.generate` guarantees about its result dictionary `res` (well-formed model with unique tensor names, graph
    inputs not constant, every entry of the closed shape `Pipe.EntryOK`, keys distinct); `SharingData.generate_res` -/
abbrev Ctx := @SharingGen.Ctx

/-- **soundness of `Mat.checkUnreadOwn`** (in the style of `sharing_unread`): a constant that no
    operator reads and whose OWN request rewrites its buffer (a consumer whose first transformation
    is QUANTIZE_TENSOR / ADD_DEQUANTIZE) is the only tensor of the model that references that buffer -/
theorem unreadOwn_sound (m : Model) (res : List (String × Mat.CReq)) (h : Mat.checkUnreadOwn m res = .ok ())
    (sg : Subgraph) (hsg : sg ∈ m.subgraphs) (t : Tensor) (ht : t ∈ sg.tensors)
    (hun : t.name ∉ (Mat.bufferToTensors m).flatMap (·.2))
    (hdata : ∃ c, m.buffers[t.buffer]? = some (some c))
    (own : Mat.CReq) (hown : Py.dictGet? res t.name = some own)
    (hrw : ∃ c ∈ own.consumers.getD [], ∃ x, c.xfs.head? = some x ∧ (x = .quantTensor ∨ x = .addDequant)) :
    (m.subgraphs.flatMap (·.tensors)).countP (fun u => u.buffer == t.buffer) ≤ 1 :=
  SharingGen.unreadOwn_sound m res h sg hsg t ht hun hdata own hown hrw

/-- **soundness of the two sharing checks w.r.t. the generated instructions**: requests that pass both checks yield,
    through `absReqs` / `InstGen.genInsts`, instructions satisfying `SharersAgree`.  Covered: QUANTIZE_TENSOR next to
    ADD_DEQUANTIZE with `==`-equal parameters (ONE id: ids are `Param.eqv`-classes), float readers among themselves,
    several consumers of one tensor, tensors in different subgraphs, unread sharers of a rewritten operand
    (`sharing_unread`), an unread constant that is itself rewritten (`unreadOwn_sound`: it is then the only referent). -/
theorem sharersAgree_of_check {m : Model} {res : List (String × Mat.CReq)} (C : Ctx m res)
    (hchk : Mat.checkBufferSharing m res = .ok ()) (hown : Mat.checkUnreadOwn m res = .ok ())
    (tis : List TInsts)
    (hgen : InstGen.genInsts m (Pipeline.absReqs (res.map (·.2))).2 = .ok tis) : SharersAgree m tis :=
  SharingGen.sharersAgree_of_check C hchk hown tis hgen

/-- `ConstData` holds for the instructions generated from the requests of `Mat.generate`: a rewriting
    request on a constant always carries the packed data (`SharingData.ResCD`, proved for every
    materialisation function) -/
theorem constData_of_generate {m : Model} {res : List (String × Mat.CReq)} (C : Ctx m res)
    (hcd : SharingData.ResCD res) (tis : List TInsts)
    (hgen : InstGen.genInsts m (Pipeline.absReqs (res.map (·.2))).2 = .ok tis) :
    ConstData (Pipeline.ptableOf (Pipeline.absReqs (res.map (·.2))).1) m tis :=
  SharingData.constData_of_cd C hcd tis hgen

/-- the generated instructions `tis` made explicit: they satisfy `SharersAgree` (one
    parameter per constant buffer, all of its tensors retyped or none: "quantized exactly once") and
    the graph-stage alternatives `Untouched` / `RewrittenAgree` hold w.r.t. them -/
theorem quantize_shared_insts (rx : String → String → Bool) (env : Mat.Env)
    (st : Recipe.State) (qsvs : Option Mat.Qsvs) (m' : Model) (tbl : List Mat.Param)
    (hnf : PipelineWF.NF env st)
    (h : Pipeline.quantizePure rx env st qsvs = .ok (m', tbl)) :
    ∃ tis : List TInsts, SharersAgree env.model tis ∧
      ∀ b k, env.model.buffers[b]? = some (some (.inl k)) →
        Untouched env.model m' tis b k ∨ RewrittenAgree (Pipeline.ptableOf tbl) env.model m' tis b := by
  obtain ⟨res, tis, S⟩ := TypingE2E.stages rx env st qsvs m' tbl hnf h
  exact ⟨tis, S.sa, performer_buffer_agrees _ env.model m' tis hnf.wf hnf.tagged S.ok S.cd S.sa S.run⟩

/-- the conclusion, in terms of the input model, the output model and the parameter table only:
    every original constant buffer `b` is
    * untouched, and then every tensor of the output that references `b` is an original tensor with its
      original record (a float tensor over float bytes); or
    * rewritten with the packed data of ONE parameter object `p`, and then every tensor of the output
      that references `b` is an original referent of `b` typed by `p` (dtype `dtypeOf (pinfo p)`,
      `quant = some p` if `p` is uniform): an integer tensor over integer bytes with matching parameters -/
def SharedConsistent (env : Mat.Env) (m' : Model) (tbl : List Mat.Param) : Prop :=
  ∀ b k, env.model.buffers[b]? = some (some (.inl k)) →
    (m'.buffers[b]? = some (some (.inl k)) ∧
      ∀ (s : Nat) (sg' : Subgraph) (i : Nat) (tn' : Tensor), m'.subgraphs[s]? = some sg' →
        sg'.tensors[i]? = some tn' → tn'.buffer = b →
        ∃ sg, env.model.subgraphs[s]? = some sg ∧ sg.tensors[i]? = some tn') ∨
    (∃ p pi, pinfo (Pipeline.ptableOf tbl) p = some pi ∧ pi.hasData = true ∧
      m'.buffers[b]? = some (some (.inr p)) ∧
      ∀ (s : Nat) (sg' : Subgraph) (i : Nat) (tn' : Tensor), m'.subgraphs[s]? = some sg' →
        sg'.tensors[i]? = some tn' → tn'.buffer = b →
        Referent env.model b s i ∧ TypedBy (Pipeline.ptableOf tbl) p tn')

/-- **end to end**: `quantize()` raises or returns a model in which every original constant buffer and all tensors that
    reference it are consistent (`SharedConsistent`).  Nothing else is assumed: `ConstData`, `SharersAgree`, `TInstsOK` are
    all derived from the run. -/
theorem quantize_shared_consistent (rx : String → String → Bool) (env : Mat.Env)
    (st : Recipe.State) (qsvs : Option Mat.Qsvs) (m' : Model) (tbl : List Mat.Param)
    (hnf : PipelineWF.NF env st)
    (h : Pipeline.quantizePure rx env st qsvs = .ok (m', tbl)) : SharedConsistent env m' tbl := by
  obtain ⟨tis, -, hall⟩ := quantize_shared_insts rx env st qsvs m' tbl hnf h
  intro b k hb
  rcases hall b k hb with ⟨u1, -, u3⟩ | ⟨p, pi, r1, r2, r3, -, r5⟩
  · exact .inl ⟨u1, u3⟩
  · exact .inr ⟨p, pi, r1, r2, r3, fun s sg' i tn' h1 h2 h3 =>
      ⟨(r5 s sg' i tn' h1 h2 h3).1, (r5 s sg' i tn' h1 h2 h3).2.2⟩⟩

/-- the full statement as one closed proposition (without `Mat.checkUnreadOwn`, D35, it is
    false: `Defect.pinned`) -/
def QuantizeSharedConsistent : Prop :=
  ∀ (rx : String → String → Bool) (env : Mat.Env) (st : Recipe.State) (qsvs : Option Mat.Qsvs)
    (m' : Model) (tbl : List Mat.Param), PipelineWF.NF env st →
    Pipeline.quantizePure rx env st qsvs = .ok (m', tbl) → SharedConsistent env m' tbl

theorem quantizeSharedConsistent : QuantizeSharedConsistent := quantize_shared_consistent

/-- `performer_sharers_equal` for the output of `quantizePure` -/
theorem quantize_sharers_equal (rx : String → String → Bool) (env : Mat.Env)
    (st : Recipe.State) (qsvs : Option Mat.Qsvs) (m' : Model) (tbl : List Mat.Param)
    (hnf : PipelineWF.NF env st)
    (h : Pipeline.quantizePure rx env st qsvs = .ok (m', tbl))
    (b k : Nat) (hb : env.model.buffers[b]? = some (some (.inl k)))
    (s₁ s₂ : Nat) (sg₁ sg₂ : Subgraph) (i₁ i₂ : Nat) (t₁ t₂ : Tensor)
    (h₁ : m'.subgraphs[s₁]? = some sg₁) (g₁ : sg₁.tensors[i₁]? = some t₁) (b₁ : t₁.buffer = b)
    (h₂ : m'.subgraphs[s₂]? = some sg₂) (g₂ : sg₂.tensors[i₂]? = some t₂) (b₂ : t₂.buffer = b) :
    (m'.buffers[b]? = some (some (.inl k)) ∧ t₁ ∈ (env.model.subgraphs.flatMap (·.tensors)) ∧
      t₂ ∈ (env.model.subgraphs.flatMap (·.tensors))) ∨
    (∃ p pi, pinfo (Pipeline.ptableOf tbl) p = some pi ∧ m'.buffers[b]? = some (some (.inr p)) ∧
      t₁.dtype = t₂.dtype ∧ (pi.uniform = true → t₁.quant = some p ∧ t₂.quant = some p)) := by
  obtain ⟨tis, -, hall⟩ := quantize_shared_insts rx env st qsvs m' tbl hnf h
  exact sharers_equal (hall b k hb) h₁ g₁ b₁ h₂ g₂ b₂

/-! ### NON-VACUITY: tied FULLY_CONNECTED weights under dynamic-range quantization
(`cfgWO`: integer compute, no activation config)

`h := FC(x, w1)`, `y := FC(h, w2)`; `w1` and `w2` reference buffer 1. -/
namespace E2E

def T (n : String) (sh : List Int) (b : Nat) : Tensor := { name := n, dtype := 0, shape := sh, buffer := b }

def mT : Model :=
  { subgraphs := [{ tensors := [T "x" [1,2] 0, T "w1" [2,2] 1, T "h" [1,2] 0, T "w2" [2,2] 1, T "y" [1,2] 0],
                    ops := [{ code := 0, inputs := [0,1,-1], outputs := [2], orig := some 0 },
                            { code := 0, inputs := [2,3,-1], outputs := [4], orig := some 1 }],
                    inputs := [0], outputs := [4] }],
    buffers := [none, some (.inl 0)], opcodes := [9], sigs := [] }

def envT : Mat.Env := { model := mT, consts := [(1, [1,2,3,4])], adjY := [] }

abbrev cfgWO := NFCheckProofs.cfgWO
abbrev stWO := NFCheckProofs.stA
def rxAll : String → String → Bool := fun _ _ => true

def mT' : Model :=
  { subgraphs := [{ tensors := [T "x" [1,2] 0, { T "w1" [2,2] 1 with dtype := 9, quant := some 0 },
                                T "h" [1,2] 0, { T "w2" [2,2] 1 with dtype := 9, quant := some 0 },
                                T "y" [1,2] 0],
                    ops := [{ code := 0, inputs := [0,1,-1], outputs := [2], orig := some 0 },
                            { code := 0, inputs := [2,3,-1], outputs := [4], orig := some 1 }],
                    inputs := [0], outputs := [4] }],
    buffers := [none, some (.inr 0)], opcodes := [9], sigs := [] }

theorem closed : NFCheck.nfOK envT stWO = true ∧
    (Pipeline.quantizePure rxAll envT stWO none).map
      (fun r => decide (r.1 = mT' ∧ Pipeline.ptableOf r.2 = [(0, ⟨true, 8, true⟩)])) = .ok true := by
  decide +kernel

theorem nfT : PipelineWF.NF envT stWO := NFCheckProofs.nfOK_sound envT stWO closed.1

theorem runT : ∃ tbl, Pipeline.quantizePure rxAll envT stWO none = .ok (mT', tbl) ∧
    Pipeline.ptableOf tbl = [(0, ⟨true, 8, true⟩)] := by
  obtain ⟨r, hq, h⟩ := PyM.map_eq_ok_iff.1 closed.2
  obtain ⟨h1, h2⟩ := of_decide_eq_true h
  exact ⟨r.2, by rw [hq, ← h1], h2⟩

/-- all hypotheses of `quantize_shared_consistent` hold on the instance, the theorem applies … -/
theorem consistent_instance : ∃ tbl, SharedConsistent envT mT' tbl := by
  obtain ⟨tbl, hrun, -⟩ := runT
  exact ⟨tbl, quantize_shared_consistent rxAll envT stWO none mT' tbl nfT hrun⟩

/-- … and what it says here: buffer 1 holds the packed data of parameter 0, and `w1`, `w2` are both
    int8 tensors carrying parameter 0 -/
example : mT'.buffers[1]? = some (some (.inr 0)) ∧
    (mT'.subgraphs[0]'(by decide)).tensors[1]? = some { T "w1" [2,2] 1 with dtype := 9, quant := some 0 } ∧
    (mT'.subgraphs[0]'(by decide)).tensors[3]? = some { T "w2" [2,2] 1 with dtype := 9, quant := some 0 } :=
  ⟨rfl, rfl, rfl⟩

end E2E

/-! ### a constant that is only a graph output, next to a float reader (D35)

`y := FC(x, w)`; the graph outputs are `y` and the constant `g`, which shares buffer 1 with `w` and is
read by no operator.  Recipe: static-range int8 for everything (`*`), FULLY_CONNECTED left float.
The OUTPUT pseudo-operator requests QUANTIZE_TENSOR for `g`; `w` is requested NO_QUANTIZE.
`checkBufferSharing` looks at the requests of the OPERAND tensors of a buffer among themselves, and at
an unread tensor only to reject when an operand that shares its buffer is rewritten -- it never looks
at the unread tensor's OWN request, so it accepts (`pinned`), and the graph stage then returns a model
in which the FLOAT32 tensor `w` (read by the float FULLY_CONNECTED) references a buffer holding the
packed INT8 data of `g`.  `checkUnreadOwn` refuses the requests, `quantizePure` raises
(`refused_now`).  The model is in normal form (`nfG`).  (Without the second check the Python library
returns a flatbuffer that the TFLite interpreter rejects: "Tensor 1 is invalidly specified".) -/
namespace Defect
open E2E

def mG : Model :=
  { subgraphs := [{ tensors := [T "x" [1,2] 0, T "w" [2,2] 1, T "y" [1,2] 0, T "g" [2,2] 1],
                    ops := [{ code := 0, inputs := [0,1,-1], outputs := [2], orig := some 0 }],
                    inputs := [0], outputs := [2,3] }],
    buffers := [none, some (.inl 0)], opcodes := [9], sigs := [] }

def envG : Mat.Env := { model := mG, consts := [(1, [1,2,3,4])], adjY := [] }

def f32 (sh : List Nat) (l : List Rat) : Arith.FArr := ⟨⟨sh, l⟩, .f32⟩
def qsG : Mat.Qsvs := [("x", some (f32 [1,1] [1], f32 [1,1] [2])), ("y", some (f32 [1,1] [1], f32 [1,1] [4]))]

def cfgSRQ : Cfg.OpCfg :=
  { act := some { bits := 8, symmetric := false },
    weight := some { bits := 8, symmetric := true, gran := .tensorwise }, cp := .integer, skipChecks := true }
/-- `*` ↦ static-range int8, then FULLY_CONNECTED ↦ not quantized -/
def stG : Recipe.State :=
  [(".*", [⟨".*", "*", Tables.algMinMax, cfgSRQ⟩, ⟨".*", "FULLY_CONNECTED", Tables.algNoQuantize, {}⟩])]

/-- what the graph stage makes of the requests the first check accepts -/
def mG' : Model :=
  { subgraphs := [{ tensors := [{ T "x" [1,2] 0 with dtype := 9, quant := some 0 }, T "w" [2,2] 1, T "y" [1,2] 0,
                                { T "g" [2,2] 1 with dtype := 9, quant := some 2 }, T "x_dequant" [1,2] 0,
                                { T "y_quantized" [1,2] 0 with dtype := 9, quant := some 1 }],
                    ops := [{ code := 1, inputs := [0], outputs := [4] },
                            { code := 0, inputs := [4,1,-1], outputs := [2], orig := some 0 },
                            { code := 2, inputs := [2], outputs := [5] }],
                    inputs := [0], outputs := [5,3] }],
    buffers := [none, some (.inr 2)], opcodes := [9, 6, 114], sigs := [] }

/-- the accepted neighbour: the same model with `g` over its OWN buffer.  The unread constant `g` is
    rewritten through the OUTPUT pseudo-operator, it is the only referent of buffer 2
    (`unreadOwn_sound`), `w` stays float over the untouched buffer 1. -/
def mU : Model :=
  { mG with subgraphs := [{ tensors := [T "x" [1,2] 0, T "w" [2,2] 1, T "y" [1,2] 0, T "g" [2,2] 2],
                            ops := [{ code := 0, inputs := [0,1,-1], outputs := [2], orig := some 0 }],
                            inputs := [0], outputs := [2,3] }],
            buffers := [none, some (.inl 0), some (.inl 1)] }

def envU : Mat.Env := { model := mU, consts := [(1, [1,2,3,4]), (2, [1,2,3,4])], adjY := [] }

def mU' : Model :=
  { subgraphs := [{ tensors := [{ T "x" [1,2] 0 with dtype := 9, quant := some 0 }, T "w" [2,2] 1, T "y" [1,2] 0,
                                { T "g" [2,2] 2 with dtype := 9, quant := some 2 }, T "x_dequant" [1,2] 0,
                                { T "y_quantized" [1,2] 0 with dtype := 9, quant := some 1 }],
                    ops := [{ code := 1, inputs := [0], outputs := [4] },
                            { code := 0, inputs := [4,1,-1], outputs := [2], orig := some 0 },
                            { code := 2, inputs := [2], outputs := [5] }],
                    inputs := [0], outputs := [5,3] }],
    buffers := [none, some (.inl 0), some (.inr 2)], opcodes := [9, 6, 114], sigs := [] }

/-- both models are in normal form; on `mG` the materialisation loop succeeds, its result passes the first check, fails the
    second, and the graph stage would make `mG'` of it; the guards of `generate` before the loop pass on `mG` (so the
    whole run raises: `refused_now`); the whole run on `mU` returns `mU'`: one evaluation -/
theorem closed :
    (NFCheck.nfOK envG stG = true ∧ NFCheck.nfOK envU stG = true) ∧
    (mG.subgraphs.zipIdx.foldlM (Pipe.sgStep rxAll envG stG) (qsG, [])).map
      (fun s => decide (Mat.checkBufferSharing mG s.2 = .ok () ∧
        Mat.checkUnreadOwn mG s.2 = .error .runtimeError ∧
        Perform.modify (Pipeline.ptableOf (Pipeline.absReqs (s.2.map (·.2))).1) mG
          (Pipeline.absReqs (s.2.map (·.2))).2 = .ok mG')) = .ok true ∧
    (mG.subgraphs.any (fun sg => sg.tensors.any (·.quant.isSome)) = false ∧
      (mG.subgraphs.flatMap fun sg => sg.tensors.map (·.name)).Nodup ∧
      (Recipe.needCalibration stG && (some qsG).isNone) = false ∧ (Recipe.getRecipe stG).isEmpty = false) ∧
    (Pipeline.quantizePure rxAll envU stG (some qsG)).map (fun r => decide (r.1 = mU')) = .ok true := by
  decide +kernel

theorem nfG : PipelineWF.NF envG stG := NFCheckProofs.nfOK_sound envG stG closed.1.1

/-- **behaviour of the two checks**: on the result dictionary `res` of the materialisation
    loop, `checkBufferSharing` ALONE accepts, `checkUnreadOwn` refuses; and the graph stage applied to
    these requests would return `mG'` -/
theorem pinned : ∃ qs res,
    mG.subgraphs.zipIdx.foldlM (Pipe.sgStep rxAll envG stG) (qsG, []) = .ok (qs, res) ∧
    Mat.checkBufferSharing mG res = .ok () ∧ Mat.checkUnreadOwn mG res = .error .runtimeError ∧
    Perform.modify (Pipeline.ptableOf (Pipeline.absReqs (res.map (·.2))).1) mG
      (Pipeline.absReqs (res.map (·.2))).2 = .ok mG' := by
  obtain ⟨s, hq, h⟩ := PyM.map_eq_ok_iff.1 closed.2.1
  exact ⟨s.1, s.2, hq, of_decide_eq_true h⟩

/-- `quantize()` raises on this model: the second check fails on the dictionary of `pinned` -/
theorem refused_now : ∃ e, Pipeline.quantizePure rxAll envG stG (some qsG) = .error e ∧ e = .runtimeError := by
  obtain ⟨qs, res, hl, hc, ho, -⟩ := pinned
  obtain ⟨g1, g2, g3, g4⟩ := closed.2.2.1
  exact ⟨_, PipelineWF.quantizePure_error_of_generate g4 (Pipe.generate_error_of_unreadOwn g1 g2 g3 hl hc ho), rfl⟩

/-- the inconsistent state the second check prevents: the float32 tensor `w`, read by the float
    operator, would reference a buffer that holds packed int8 data -/
example : (mG'.subgraphs[0]'(by decide)).tensors[1]? = some (T "w" [2,2] 1) ∧
    (T "w" [2,2] 1).dtype = Tables.ttFloat32 ∧ (T "w" [2,2] 1).quant = none ∧
    mG'.buffers[(T "w" [2,2] 1).buffer]? = some (some (.inr 2)) ∧
    ((mG'.subgraphs[0]'(by decide)).ops[1]'(by decide)).inputs = [4, 1, -1] := ⟨rfl, rfl, rfl, rfl, rfl⟩

/-- `quantize_shared_consistent` applies; here buffer 1 is untouched (float `w`) and buffer 2 is
    rewritten for its only referent `g` -/
theorem accepted_instance : ∃ tbl, SharedConsistent envU mU' tbl := by
  obtain ⟨r, hq, h⟩ := PyM.map_eq_ok_iff.1 closed.2.2.2
  exact ⟨r.2, quantize_shared_consistent rxAll envU stG (some qsG) mU' r.2 (NFCheckProofs.nfOK_sound envU stG closed.1.2)
    (by rw [hq, ← of_decide_eq_true h])⟩

end Defect

end C15
