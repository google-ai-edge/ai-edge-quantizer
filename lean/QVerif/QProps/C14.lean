import QModel.Pipeline
import QProps.C11b
import QProps.C09c
/-!
# C14 — quantize/calibrate are pure: no input mutation, no history dependence (model side)

In the model `quantizePure` and `Calib.calibrate` are mathematical functions of
(model, recipe state, statistics / samples): nothing else can influence them.  What remains to be
said is (a) what the caller's statistics object looks like afterwards, and (b) that the recipe
state — the only state a `Quantizer` carries between calls — is itself determined by its own
export, so that any history leading to the same exported recipe gives the same model.
Process-level determinism (hash seeds, fresh interpreters) is runtime behaviour, executed by the check.
-/
open Mat Cfg Recipe RecipeHistory Pipeline

namespace C14

/-- the calibration result handed to `quantize()` is unchanged afterwards (the
    materialisation updates a private copy) -/
theorem caller_qsv_unchanged (rx : String → String → Bool) (env : Env) (st : Recipe.State) (qsvs : Qsvs) :
    callerQsvAfter true rx env st qsvs = .ok qsvs := rfl

/-- **history independence**: whatever sequence of recipe updates led to the current recipe, the
    result of `quantize()` equals that of a fresh `Quantizer` that merely loads the exported recipe -/
theorem quantize_depends_on_exported_recipe_only (rx : String → String → Bool) (env : Env) (qsvs : Option Qsvs)
    (cmds : List Cmd) (hctor : ∀ c ∈ cmds, ctorOk (c.cfg.getD {}) = true) :
    ∃ st', (load false (getRecipe (run cmds))).1 = .ok st' ∧
      quantizePure rx env st' qsvs = quantizePure rx env (run cmds) qsvs := by
  refine ⟨run cmds, ?_, rfl⟩
  rw [RecipeHistory.reload_reachable cmds hctor]

/-- … and so does calibration -/
theorem calibrate_depends_on_exported_recipe_only (rx : String → String → Bool) (env : Env) (sgi : Nat)
    (prev : Option Qsvs) (samples : List Calib.Contents)
    (cmds : List Cmd) (hctor : ∀ c ∈ cmds, ctorOk (c.cfg.getD {}) = true) :
    ∃ st', (load false (getRecipe (run cmds))).1 = .ok st' ∧
      Calib.calibrate rx env st' sgi prev samples = Calib.calibrate rx env (run cmds) sgi prev samples := by
  refine ⟨run cmds, ?_, rfl⟩
  rw [RecipeHistory.reload_reachable cmds hctor]

/-- **earlier `calibrate()` calls leave no trace beyond the samples they saw**: two histories of
    resumed calibration sessions over the same samples in the same order hand the same result to
    `quantize()` — and therefore produce the same model -/
theorem quantize_after_sessions_depends_on_samples_only (rx : String → String → Bool) (env : Env)
    (st : Recipe.State) (sgi : Nat)
    (D0 E0 : List Calib.Contents) (Ds Es : List (List Calib.Contents)) (q0 p0 r r' : Qsvs)
    (hsame : D0 ++ Ds.flatten = E0 ++ Es.flatten)
    (hD : Calib.calibrate rx env st sgi none D0 = .ok q0) (hE : Calib.calibrate rx env st sgi none E0 = .ok p0)
    (cD : C09c.Chain rx env st sgi q0 Ds r) (cE : C09c.Chain rx env st sgi p0 Es r') :
    quantizePure rx env st (some r) = quantizePure rx env st (some r') := by
  rw [C09c.split_irrelevant rx env st sgi D0 E0 Ds Es q0 p0 r r' hsame hD hE cD cE]

end C14
