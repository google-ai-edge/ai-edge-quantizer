import QProofs.PipelineWF
/-!
# C01 — quantize() returns a well-formed model or raises

The structural conclusion of C01 is the decidable predicate `WF.modelOK` (QModel/WF.lean):
buffer 0 empty, all tensor/buffer/opcode indices in range, tensor names unique per subgraph, every
operand a graph input, a constant or the result of an earlier operator, every tensor produced at
most once and never an input/constant, graph inputs/outputs and signature entries valid.
"Raises" is the `.error` branch of the `Except` monad.
-/
open Graph Perform

namespace C01

/-- inserted tensors never duplicate a tensor name of the subgraph -/
theorem inserted_name_fresh (names : List String) (base : String) : uniqueName names base ∉ names :=
  GraphBasics.uniqueName_fresh names base

/-- the opcode index of an inserted QUANTIZE/DEQUANTIZE is in range, denotes the requested
    builtin code, and existing opcode indices keep their meaning -/
theorem opcode_index_ok (codes : List Nat) (code : Nat) :
    (addOpCode codes code).1[(addOpCode codes code).2]? = some code ∧
    ∃ ext, (addOpCode codes code).1 = codes ++ ext :=
  GraphBasics.addOpCode_spec codes code

/-- each single transformation preserves well-formedness -/
theorem step_insertQuant (pt : PTable) (m m' : Model) (sgi : Nat) (sg : Subgraph) (inp : TIn) (info : TInfoOut)
    (hsg : m.subgraphs[sgi]? = some sg) (hwf : WF.modelOK m = true) (hinp : GraphStep.InpOK pt m sg inp)
    (h : insertQuant pt m sgi inp = .ok (m', info)) : WF.modelOK m' = true :=
  StepTypes.runXf_ok (x := .addQuant) hsg hwf hinp h

theorem step_insertDequant (pt : PTable) (m m' : Model) (sgi : Nat) (sg : Subgraph) (inp : TIn) (info : TInfoOut)
    (hsg : m.subgraphs[sgi]? = some sg) (hwf : WF.modelOK m = true) (hinp : GraphStep.InpOK pt m sg inp)
    (h : insertDequant pt m sgi inp = .ok (m', info)) : WF.modelOK m' = true :=
  StepTypes.runXf_ok (x := .addDequant) hsg hwf hinp h

theorem step_quantizeTensor (pt : PTable) (m m' : Model) (sgi : Nat) (sg : Subgraph) (inp : TIn) (info : TInfoOut)
    (hsg : m.subgraphs[sgi]? = some sg) (hwf : WF.modelOK m = true) (hinp : GraphStep.InpOK pt m sg inp)
    (h : quantizeOnly pt m sgi inp = .ok (m', info)) : WF.modelOK m' = true :=
  StepTypes.runXf_ok (x := .quantTensor) hsg hwf hinp h

/-- the transformation performer (op-id maps, all tensors, all subgraphs) preserves well-formedness
    for instruction lists that are consistent with the input graph and chain-free -/
theorem performer_wf (pt : PTable) (m m' : Model) (tis : List TInsts)
    (hwf : WF.modelOK m = true) (hok : ∀ ti ∈ tis, GraphInv.TInstsOK pt m ti)
    (h : transformGraph pt m tis = .ok m') : WF.modelOK m' = true :=
  GraphInv.transformGraph_ok pt m m' tis hwf hok h

/-- **graph stage of quantize()**: for every well-formed input graph and every set of tensor
    requests of the closed shape the registered algorithms produce (`ReqOK`), instruction generation
    followed by the performer either fails (`.error`) or returns a well-formed graph -/
theorem modify_wf (pt : PTable) (m m' : Model) (reqs : List TReq)
    (hwf : WF.modelOK m = true) (hnames : GenInstsOK.namesUnique m)
    (hreq : ∀ r ∈ reqs, GenInstsOK.ReqOK pt m r)
    (h : Perform.modify pt m reqs = .ok m') : WF.modelOK m' = true :=
  GenInstsOK.modify_ok pt m m' reqs hwf hreq h

/-- **C01 (structural part), end to end**: for every model in converter normal form (`NF`,
    QProofs/PipelineWF.lean), every recipe state, every regex semantics and every statistics,
    `quantize()` raises or returns a well-formed graph -/
theorem quantize_wf (rx : String → String → Bool) (env : Mat.Env) (st : Recipe.State) (qsvs : Option Mat.Qsvs)
    (m' : Model) (tbl : List Mat.Param) (hnf : PipelineWF.NF env st)
    (h : Pipeline.quantizePure rx env st qsvs = .ok (m', tbl)) : WF.modelOK m' = true :=
  PipelineWF.quantizePure_wf rx env st qsvs m' tbl hnf h

end C01
