import QProps.C11
/-!
# C11 / C12 — history-level theorems (state after an arbitrary sequence of updates; reload)
-/
open Cfg Recipe RecipeHistory

namespace C11

/-- **the rules present after any history are exactly the accepted updates that no later accepted
    update replaced (same regex and operator) or reset (same regex, `'*'`)** -/
theorem history_rules (cmds : List Cmd) (r : Rule) :
    r ∈ (run cmds).flatMap (·.2) ↔
      ∃ (i : Nat) (c : Cmd), cmds[i]? = some c ∧ accepted c = true ∧ ruleOf c = r ∧
        ∀ (j : Nat) (c' : Cmd), i < j → cmds[j]? = some c' → accepted c' = true → overrides c' c = false :=
  mem_run_iff cmds r

/-- scopes are scanned in order of first (accepted) insertion of their regex -/
theorem history_scope_order (cmds : List Cmd) :
    (run cmds).map (·.1) = ((cmds.filter accepted).map (·.regex)).eraseDups := by
  induction cmds using List.rev_ind with
  | nil => rfl
  | snoc cs c ih =>
    rw [run_snoc, List.filter_append]
    cases hacc : accepted c with
    | false =>
      rw [stepOf_rejected _ c hacc, ih, List.filter_cons_of_neg (by rw [hacc]; exact Bool.false_ne_true),
        List.filter_nil, List.append_nil]
    | true =>
      rw [stepOf_accepted _ c hacc, Py.keys_dictSet, ih, List.filter_cons_of_pos hacc, List.filter_nil,
        List.map_append, List.eraseDups_append]
      simp only [List.mem_eraseDups]
      by_cases hm : c.regex ∈ (cs.filter accepted).map (·.regex)
      · rw [if_pos hm]
        have : [c.regex].removeAll ((cs.filter accepted).map (·.regex)) = [] := by
          simp [List.removeAll, hm]
        rw [List.map_cons, List.map_nil, this, List.eraseDups_nil, List.append_nil]
      · rw [if_neg hm]
        have : [c.regex].removeAll ((cs.filter accepted).map (·.regex)) = [c.regex] := by
          simp [List.removeAll, hm]
        rw [List.map_cons, List.map_nil, this]
        rfl

/-- every reachable state satisfies the structural invariant (distinct regexes, distinct operators
    per regex, `'*'` only first, every stored rule supported or `'*'`/no-quantize); conversely a state with the
    invariant is reached by replaying its own rules (`RecipeHistory.run_export`) -/
theorem history_invariant (cmds : List Cmd) : StateInv (run cmds) := run_inv cmds

/-- resolution after a history, spelled out: last applicable surviving rule in scope order -/
theorem history_resolve (rx : String → String → Bool) (cmds : List Cmd) (op scope : String) :
    resolve rx (run cmds) op scope = C11.resolveSpec rx (run cmds) op scope := C11.resolve_eq_spec rx _ op scope

end C11

namespace C12

/-- **every recipe reachable through the API reloads to exactly the same state** (hence resolves
    every (operator, scope) pair identically, by C11) -/
theorem reload_reachable (cmds : List Cmd) (hctor : ∀ c ∈ cmds, ctorOk (c.cfg.getD {}) = true) :
    load false (getRecipe (run cmds)) = (.ok (run cmds), run cmds) :=
  RecipeHistory.reload_reachable cmds hctor

end C12
