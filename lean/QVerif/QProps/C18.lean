import QProofs.ValidateProofs
/-!
# C18 — validate() reports the true per-tensor error, once per tensor (model side)
-/
open Validate

namespace C18

theorem mse_nonneg (a b : List Rat) (v : Rat) (h : mse a b = .ok v) : 0 ≤ v := ValidateProofs.metric_nonneg .mse a b v h
theorem mse_refl (a : List Rat) : mse a a = .ok 0 := ValidateProofs.metric_refl .mse a
theorem mse_symm (a b : List Rat) : mse a b = mse b a := ValidateProofs.mse_symm a b
theorem mdr_nonneg (a b : List Rat) (v : Rat) (h : mdr a b = .ok v) : 0 ≤ v := ValidateProofs.metric_nonneg .mdr a b v h
theorem mdr_refl (a : List Rat) : mdr a a = .ok 0 := ValidateProofs.metric_refl .mdr a

/-- comparing a model with itself: all per-sample values are 0, so every reported mean is 0 -/
theorem self_compare_zero (l : List Rat) (h : ∀ x ∈ l, x = 0) : meanR l = 0 := ValidateProofs.meanR_conv ValidateProofs.conv_zero l h

/-- **exactly one entry per tensor, under exactly one of inputs / outputs / constants /
    intermediates, with its value; nothing else** -/
theorem one_entry_per_tensor (result : List (String × Rat)) (hnd : (result.map (·.1)).Nodup)
    (ins outs cs : List String) (g : Groups) (h : fileGroups result ins outs cs = .ok g) :
    ((g.inputs ++ g.outputs ++ g.constants ++ g.intermediates).map (·.1)).Nodup ∧
    ∀ e : String × Rat, e ∈ g.inputs ++ g.outputs ++ g.constants ++ g.intermediates ↔ e ∈ result := by
  obtain ⟨-, rfl⟩ := (ValidateProofs.fileGroups_ok result ins outs cs g).1 h
  have hp := ValidateProofs.filed_perm result hnd ins outs cs
  exact ⟨(hp.map (·.1)).nodup_iff.2 hnd, fun e => hp.mem_iff⟩

theorem inputs_filed (result : List (String × Rat)) (hnd : (result.map (·.1)).Nodup)
    (ins outs cs : List String) (g : Groups) (h : fileGroups result ins outs cs = .ok g) :
    ∀ n ∈ ins, ∃ v, (n, v) ∈ g.inputs := by
  obtain ⟨hc, rfl⟩ := (ValidateProofs.fileGroups_ok result ins outs cs g).1 h
  intro n hn
  obtain ⟨e, he, rfl⟩ := List.mem_map.1 (hc.2 n hn)
  exact ⟨e.2, (ValidateProofs.mem_popped result hnd ins e).2 ⟨he, hn⟩⟩

end C18
