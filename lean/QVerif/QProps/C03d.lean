import QProofs.TypingModes
import QProps.C15c
import QProps.C03
/-!
# C03, end to end on `Pipeline.quantizePure`

"Each op runs in exactly the mode its recipe rule selected; others are untouched", on the output of `quantizePure`; only
hypotheses: a successful run and `PipelineWF.NF`.  `C03.lean` says which transformation a mode requests; QProofs/TypingE2E
follows the request through materialisation, instruction generator and performer.  Closed instances: `C03.E2E`, at the end.

Operand positions are classified by `PipeNF.slotRole nm j` (0 = regular, 1 = index / shape / axis slot,
2 = bias slot of a convolution-like operator): the tables `PipeNF.indexSlots` / `biasSlot` / `dataSlot`
restate the position lists hard-coded in `Mat.materializeOp`.  A float32 tensor in an index slot is NOT
quantized by the library (the slot is ignored by position), which is why the static-range statement is
about regular slots; and the min/max algorithm treats a third operand of EMBEDDING_LOOKUP as a regular
operand (only float casting treats it as a bias), which is why the bias statements exclude that name.
-/
open Graph Mat

namespace C03

/-- the recipe leaves operator `op` of subgraph `sg` unquantized: its builtin code is not one of the
    quantizer's operators ("unsupported op type"), or `Recipe.resolve` maps its name and scope to
    `no_quantize` (unmatched scope, explicit `no_quantize` rule, or only rules whose config the operator
    does not support -- `Recipe.resolve` skips those) -/
abbrev ResolvesNoQuant := @TypingE2E.ResolvesNoQuant

/-- what the output holds in operand slot `j` (original tensor `t`) of an unquantized operator `o'`:
    * an absent optional operand (`-1`) stays absent; otherwise
    * the slot holds `t` itself and `t` has its ORIGINAL record (name, dtype, shape, buffer, no
      quantization parameters); if `t` is a constant, the buffer it references has its original content; or
    * `t` is a float32 RUNTIME tensor (it is produced quantized by its producer) and the slot holds a NEW
      float32 tensor without quantization parameters over the empty buffer 0, which is the result of
      exactly one inserted operator `DEQUANTIZE(t)` and which `Skeleton.root` maps back to `t`. -/
abbrev UntouchedOperand := @TypingE2E.UntouchedOperand

/-- **C03.noquant_op_untouched.**  If `quantize()` succeeds on a model in normal form, then for every operator `op`
    (position `k`) that the recipe leaves unquantized the output subgraph contains exactly one operator `o'` tagged `k`, with
    the opcode index, the results and the number of operands of `op`; `Skeleton.root` maps its operands back to those of
    `op`; every result tensor has its ORIGINAL record; and every operand slot is `UntouchedOperand`.  In particular every
    CONSTANT operand is read directly, keeps its record, and the content of its buffer is unchanged (this is where the
    buffer-sharing check of C15 is needed: another reader of the same buffer cannot have it rewritten). -/
theorem noquant_op_untouched (rx : String → String → Bool) (env : Env) (st : Recipe.State)
    (qsvs : Option Qsvs) (m' : Model) (tbl : List Param) (hnf : PipelineWF.NF env st)
    (h : Pipeline.quantizePure rx env st qsvs = .ok (m', tbl))
    (s : Nat) (sg sg' : Subgraph) (hsg : env.model.subgraphs[s]? = some sg) (hsg' : m'.subgraphs[s]? = some sg')
    (k : Nat) (op : Op) (hop : sg.ops[k]? = some op) (hnq : ResolvesNoQuant rx env st sg op) :
    ∃ o', o' ∈ sg'.ops ∧ o'.orig = some k ∧ (∀ o'' ∈ sg'.ops, o''.orig = some k → o'' = o') ∧
      o'.code = op.code ∧ o'.outputs = op.outputs ∧ o'.inputs.length = op.inputs.length ∧
      o'.inputs.map (Skeleton.root sg') = op.inputs ∧
      (∀ t ∈ op.outputs, t ≠ -1 →
        ∃ tn, sg.tensors[t.toNat]? = some tn ∧ sg'.tensors[t.toNat]? = some tn) ∧
      ∀ (j : Nat) (t : Int), op.inputs[j]? = some t → UntouchedOperand env m' sg sg' o' j t :=
  TypingE2E.noquant_op_untouched rx env st qsvs m' tbl hnf h s sg sg' hsg hsg' k op hop hnq

/-- corollary, the constants: a constant operand of an unquantized operator is read directly, has its
    original record, and its buffer content is that of the input model -/
theorem noquant_op_constants (rx : String → String → Bool) (env : Env) (st : Recipe.State)
    (qsvs : Option Qsvs) (m' : Model) (tbl : List Param) (hnf : PipelineWF.NF env st)
    (h : Pipeline.quantizePure rx env st qsvs = .ok (m', tbl))
    (s : Nat) (sg sg' : Subgraph) (hsg : env.model.subgraphs[s]? = some sg) (hsg' : m'.subgraphs[s]? = some sg')
    (k : Nat) (op : Op) (hop : sg.ops[k]? = some op) (hnq : ResolvesNoQuant rx env st sg op)
    (j : Nat) (t : Int) (hj : op.inputs[j]? = some t) (hc : isConst env.model sg t = true) :
    ∃ o' tn, o' ∈ sg'.ops ∧ o'.orig = some k ∧ o'.inputs[j]? = some t ∧
      sg.tensors[t.toNat]? = some tn ∧ sg'.tensors[t.toNat]? = some tn ∧
      m'.buffers[tn.buffer]? = env.model.buffers[tn.buffer]? := by
  obtain ⟨o', h1, h2, -, -, -, -, -, -, h9⟩ :=
    noquant_op_untouched rx env st qsvs m' tbl hnf h s sg sg' hsg hsg' k op hop hnq
  rcases h9 j t hj with ⟨rfl, -⟩ | ⟨tn, h0, htn, hcase⟩
  · have : isConst env.model sg (-1) = false := by unfold isConst; simp
    rw [this] at hc; cases hc
  · rcases hcase with ⟨a, b, c⟩ | ⟨a, -⟩
    · exact ⟨o', tn, h1, h2, a, htn, b, c hc⟩
    · rw [a] at hc; cases hc

/-- int4, int8, int16, int32, int64 of `Tables` -/
abbrev IsIntType := @TypingE2E.IsIntType

/-- **C03.inserted_ops_typed.**  Every operator of the output without `orig` tag has one operand, an
    ORIGINAL tensor, and one result, a NEW tensor, and is
    * a QUANTIZE whose operand is float32 without parameters or integer with parameters (requantize), and
      whose result is integer with parameters; or
    * a DEQUANTIZE whose operand is integer with parameters or float16, and whose result is float32
      without parameters. -/
theorem inserted_ops_typed (rx : String → String → Bool) (env : Env) (st : Recipe.State)
    (qsvs : Option Qsvs) (m' : Model) (tbl : List Param) (hnf : PipelineWF.NF env st)
    (h : Pipeline.quantizePure rx env st qsvs = .ok (m', tbl))
    (s : Nat) (sg' : Subgraph) (hsg' : m'.subgraphs[s]? = some sg') (o : Op) (ho : o ∈ sg'.ops)
    (hn : o.orig = none) :
    ∃ (sg : Subgraph) (ci t n : Nat) (tin tout : Tensor), env.model.subgraphs[s]? = some sg ∧
      o = { code := ci, inputs := [(t : Int)], outputs := [(n : Int)], orig := none } ∧
      t < sg.tensors.length ∧ sg.tensors.length ≤ n ∧
      sg'.tensors[t]? = some tin ∧ sg'.tensors[n]? = some tout ∧
      ((m'.opcodes[ci]? = some Tables.opQuantize ∧
          ((tin.dtype = Tables.ttFloat32 ∧ tin.quant = none) ∨ (IsIntType tin.dtype ∧ tin.quant.isSome = true)) ∧
          IsIntType tout.dtype ∧ tout.quant.isSome = true) ∨
       (m'.opcodes[ci]? = some Tables.opDequantize ∧
          ((IsIntType tin.dtype ∧ tin.quant.isSome = true) ∨ tin.dtype = Tables.ttFloat16) ∧
          tout.dtype = Tables.ttFloat32 ∧ tout.quant = none)) :=
  TypingE2E.inserted_ops_typed rx env st qsvs m' tbl hnf h s sg' hsg' o ho hn

/-- `opNameOfCode` of the builtin code of `op` is `nm`, `opScope` gives `scope`, and `Recipe.resolve rx st nm scope =
    (algMinMax, cfg)` -/
abbrev ResolvesMinMax := @TypingE2E.ResolvesMinMax

/-- the integer tensor type of a bit width (`quant_params_to_tflite_type`) -/
abbrev intOfBits := @TypingE2E.intOfBits

/-- **C03.srq_op_typed** (the bias is `srq_bias_typed`).  An operator that the recipe resolves to the min/max algorithm with
    a static-range config of activation width `a.bits` has exactly one image `o'` in the output, and
    * every float32 RESULT is an integer tensor of width `a.bits` with quantization parameters;
    * in a regular operand slot (`slotRole nm j = 0`) that held a float32 RUNTIME tensor `t`, `o'` reads an integer tensor
      of width `a.bits` with parameters that stands for `t`: `t` itself (produced quantized with the same parameters), or
      the result of an inserted `QUANTIZE(t)`;
    * in a regular operand slot that held a float32 CONSTANT `t`, `o'` reads `t` itself, an integer tensor of the width of the
      tensor config in force (`MatParams.tcfgOf`: the weight config for operators that support weight-only / dynamic-range
      quantization, else the activation config) whose buffer holds the packed integer data;
    * an operand that is NOT float32 (indices, shapes, axes), outside the bias slot, is `UntouchedOperand`. -/
theorem srq_op_typed (rx : String → String → Bool) (env : Env) (st : Recipe.State)
    (qsvs : Option Qsvs) (m' : Model) (tbl : List Param) (hnf : PipelineWF.NF env st)
    (h : Pipeline.quantizePure rx env st qsvs = .ok (m', tbl))
    (s : Nat) (sg sg' : Subgraph) (hsg : env.model.subgraphs[s]? = some sg) (hsg' : m'.subgraphs[s]? = some sg')
    (k : Nat) (op : Op) (hop : sg.ops[k]? = some op) (nm : String) (cfg : Cfg.OpCfg)
    (hres : ResolvesMinMax rx env st sg op nm cfg) (hsrq : isSRQ cfg = true) (a : Cfg.TCfg)
    (ha : cfg.act = some a) :
    ∃ o', o' ∈ sg'.ops ∧ o'.orig = some k ∧ (∀ o'' ∈ sg'.ops, o''.orig = some k → o'' = o') ∧
      o'.code = op.code ∧ o'.outputs = op.outputs ∧ o'.inputs.length = op.inputs.length ∧
      o'.inputs.map (Skeleton.root sg') = op.inputs ∧
      (∀ (j : Nat) (t : Int) (tn : Tensor), op.outputs[j]? = some t → t ≠ -1 → sg.tensors[t.toNat]? = some tn →
        tn.dtype = Tables.ttFloat32 →
        ∃ tn', sg'.tensors[t.toNat]? = some tn' ∧ tn'.dtype = intOfBits a.bits.toNat ∧ tn'.quant.isSome = true) ∧
      (∀ (j : Nat) (t : Int) (tn : Tensor), op.inputs[j]? = some t → t ≠ -1 → sg.tensors[t.toNat]? = some tn →
        tn.dtype = Tables.ttFloat32 → PipeNF.slotRole nm j = 0 →
        (isConst env.model sg t = false →
          ∃ z tz, o'.inputs[j]? = some z ∧ Skeleton.root sg' z = t ∧ sg'.tensors[z.toNat]? = some tz ∧
            tz.dtype = intOfBits a.bits.toNat ∧ tz.quant.isSome = true ∧
            (z = t ∨ ((sg.tensors.length : Int) ≤ z ∧
              ∃ ci, ({ code := ci, inputs := [t], outputs := [z], orig := none } : Op) ∈ sg'.ops ∧
                m'.opcodes[ci]? = some Tables.opQuantize))) ∧
        (isConst env.model sg t = true → ∀ tc, MatParams.tcfgOf env
            { sgIdx := s, op := op, opName := nm, opId := (k : Int), cfg := cfg } tn = some tc →
          ∃ tz pid, o'.inputs[j]? = some t ∧ sg'.tensors[t.toNat]? = some tz ∧
            tz.dtype = intOfBits tc.bits.toNat ∧ tz.quant = some pid ∧
            m'.buffers[tn.buffer]? = some (some (.inr pid)))) ∧
      (∀ (j : Nat) (t : Int) (tn : Tensor), op.inputs[j]? = some t → t ≠ -1 → sg.tensors[t.toNat]? = some tn →
        tn.dtype ≠ Tables.ttFloat32 → PipeNF.biasSlot nm ≠ some j → UntouchedOperand env m' sg sg' o' j t) :=
  TypingE2E.srq_op_typed rx env st qsvs m' tbl hnf h s sg sg' hsg hsg' k op hop nm cfg hres hsrq a ha

/-- **C03.srq_bias_typed.**  The bias (slot `biasSlot nm`) of a convolution-like operator
    (FULLY_CONNECTED, CONV_2D, DEPTHWISE_CONV_2D, CONV_2D_TRANSPOSE; EMBEDDING_LOOKUP has a bias slot only
    under float casting) under a static-range config: it is a constant, the operator reads it directly, it
    carries quantization parameters and its buffer holds the packed integer data of these parameters; when
    the data operand (slot `dataSlot nm`) is a runtime tensor the bias is int32, resp. int64 for 16-bit
    activations. -/
theorem srq_bias_typed (rx : String → String → Bool) (env : Env) (st : Recipe.State)
    (qsvs : Option Qsvs) (m' : Model) (tbl : List Param) (hnf : PipelineWF.NF env st)
    (h : Pipeline.quantizePure rx env st qsvs = .ok (m', tbl))
    (s : Nat) (sg sg' : Subgraph) (hsg : env.model.subgraphs[s]? = some sg) (hsg' : m'.subgraphs[s]? = some sg')
    (k : Nat) (op : Op) (hop : sg.ops[k]? = some op) (nm : String) (cfg : Cfg.OpCfg)
    (hres : ResolvesMinMax rx env st sg op nm cfg) (hsrq : isSRQ cfg = true) (a : Cfg.TCfg)
    (ha : cfg.act = some a)
    (iB : Nat) (hbs : PipeNF.biasSlot nm = some iB) (hnemb : nm ≠ "EMBEDDING_LOOKUP")
    (t : Int) (hj : op.inputs[iB]? = some t) (hne : t ≠ -1) :
    ∃ o' tn tz pid a_in, o' ∈ sg'.ops ∧ o'.orig = some k ∧ sg.tensors[t.toNat]? = some tn ∧
      isConst env.model sg t = true ∧ o'.inputs[iB]? = some t ∧ sg'.tensors[t.toNat]? = some tz ∧
      tz.quant = some pid ∧ m'.buffers[tn.buffer]? = some (some (.inr pid)) ∧
      op.inputs[PipeNF.dataSlot nm]? = some a_in ∧
      (isConst env.model sg a_in = false →
        tz.dtype = intOfBits (if a.bits.toNat = 16 then 64 else 32)) :=
  TypingE2E.srq_bias_typed rx env st qsvs m' tbl hnf h s sg sg' hsg hsg' k op hop nm cfg hres hsrq a ha
    iB hbs hnemb t hj hne

/-- the config quantizes no activations (dynamic-range and weight-only configs) -/
abbrev NoActMode := @TypingSrq.NoActMode

theorem noAct_of_drq (c : Cfg.OpCfg) (hcp : c.cp = .integer) (hact : c.act = none) : NoActMode c := by
  refine ⟨hact, fun b isC hb => ?_⟩
  rw [xfs_drq c hcp hact b isC, hb]
  rfl

theorem noAct_of_wo (c : Cfg.OpCfg) (hcp : c.cp = .float) (hed : c.explicitDeq = true)
    (hblk : ∀ w, c.weight = some w → w.gran ≠ .blockwise) (hact : c.act = none) : NoActMode c := by
  refine ⟨hact, fun b isC hb => ?_⟩
  rw [xfs_wo c hcp hed hblk b isC, hb]
  rfl

/-- **C03.drq_op_typed.**  Under a DYNAMIC-RANGE config (integer compute precision, no activation config): every result keeps
    its ORIGINAL record; every operand that is a runtime tensor, or not float32, or the bias of a convolution-like operator
    is `UntouchedOperand` (float activations, float bias); a float32 constant in a regular slot for which a tensor config
    `tc` is in force (the weight config) is read DIRECTLY, is an integer tensor of `tc.bits` bits with parameters, and its
    buffer holds the packed integer data. -/
theorem drq_op_typed (rx : String → String → Bool) (env : Env) (st : Recipe.State)
    (qsvs : Option Qsvs) (m' : Model) (tbl : List Param) (hnf : PipelineWF.NF env st)
    (h : Pipeline.quantizePure rx env st qsvs = .ok (m', tbl))
    (s : Nat) (sg sg' : Subgraph) (hsg : env.model.subgraphs[s]? = some sg) (hsg' : m'.subgraphs[s]? = some sg')
    (k : Nat) (op : Op) (hop : sg.ops[k]? = some op) (nm : String) (cfg : Cfg.OpCfg)
    (hres : ResolvesMinMax rx env st sg op nm cfg) (hcp : cfg.cp = .integer) (hact : cfg.act = none) :
    ∃ o', o' ∈ sg'.ops ∧ o'.orig = some k ∧ (∀ o'' ∈ sg'.ops, o''.orig = some k → o'' = o') ∧
      o'.code = op.code ∧ o'.outputs = op.outputs ∧ o'.inputs.length = op.inputs.length ∧
      o'.inputs.map (Skeleton.root sg') = op.inputs ∧
      (∀ (j : Nat) (t : Int), op.outputs[j]? = some t → t ≠ -1 →
        ∃ tn, sg.tensors[t.toNat]? = some tn ∧ sg'.tensors[t.toNat]? = some tn) ∧
      (∀ (j : Nat) (t : Int) (tn : Tensor), op.inputs[j]? = some t → t ≠ -1 → sg.tensors[t.toNat]? = some tn →
        (isConst env.model sg t = false ∨ tn.dtype ≠ Tables.ttFloat32 ∨
          (PipeNF.biasSlot nm = some j ∧ nm ≠ "EMBEDDING_LOOKUP")) →
        UntouchedOperand env m' sg sg' o' j t) ∧
      (∀ (j : Nat) (t : Int) (tn : Tensor), op.inputs[j]? = some t → t ≠ -1 → sg.tensors[t.toNat]? = some tn →
        PipeNF.slotRole nm j = 0 → tn.dtype = Tables.ttFloat32 → isConst env.model sg t = true →
        ∀ tc, MatParams.tcfgOf env { sgIdx := s, op := op, opName := nm, opId := (k : Int), cfg := cfg } tn = some tc →
        ∃ tz pid, o'.inputs[j]? = some t ∧ sg'.tensors[t.toNat]? = some tz ∧
          tz.dtype = intOfBits tc.bits.toNat ∧ tz.quant = some pid ∧
          m'.buffers[tn.buffer]? = some (some (.inr pid))) := by
  obtain ⟨o', I, h8, h9, h10⟩ :=
    TypingE2E.noact_op_typed rx env st qsvs m' tbl hnf h s sg sg' hsg hsg' k op hop nm cfg hres
      (noAct_of_drq cfg hcp hact)
  refine ⟨o', I.mem, I.orig, I.uniq, I.code, I.outs, I.len, I.root, h8, h9, ?_⟩
  intro j t tn hj hne htn hrj hf hc tc htc
  obtain ⟨x, qp, d, hx, hb, hT⟩ := h10 j t tn hj hne htn hrj hf hc tc htc
  -- the row of a constant operand under a dynamic-range config is QUANTIZE_TENSOR
  obtain rfl : Xf.quantTensor = x := List.head_eq_of_cons_eq (Except.ok.inj ((xfs_drq cfg hcp hact true true).symm.trans hx))
  obtain ⟨tz, pid, hC, hq⟩ := hT _ rfl
  obtain ⟨a1, a2, a3, a4⟩ := hC.uniform hb
  exact ⟨tz, pid, hq, a1, a2, a3, a4⟩

/-- **C03.wo_op_typed.**  For an operator that the recipe resolves to the min/max algorithm with a
    WEIGHT-ONLY config (float compute precision, explicit dequantize, no activation config):
    results, runtime operands, non-float operands and the bias as for `drq_op_typed`; a float32 constant in
    a regular slot for which a tensor config `tc` is in force becomes an integer tensor of `tc.bits` bits
    with parameters over a buffer with the packed integer data, and the operator receives it through an
    inserted DEQUANTIZE, whose result is a NEW float32 tensor without parameters. -/
theorem wo_op_typed (rx : String → String → Bool) (env : Env) (st : Recipe.State)
    (qsvs : Option Qsvs) (m' : Model) (tbl : List Param) (hnf : PipelineWF.NF env st)
    (h : Pipeline.quantizePure rx env st qsvs = .ok (m', tbl))
    (s : Nat) (sg sg' : Subgraph) (hsg : env.model.subgraphs[s]? = some sg) (hsg' : m'.subgraphs[s]? = some sg')
    (k : Nat) (op : Op) (hop : sg.ops[k]? = some op) (nm : String) (cfg : Cfg.OpCfg)
    (hres : ResolvesMinMax rx env st sg op nm cfg) (hcp : cfg.cp = .float) (hed : cfg.explicitDeq = true)
    (hact : cfg.act = none) :
    ∃ o', o' ∈ sg'.ops ∧ o'.orig = some k ∧ (∀ o'' ∈ sg'.ops, o''.orig = some k → o'' = o') ∧
      o'.code = op.code ∧ o'.outputs = op.outputs ∧ o'.inputs.length = op.inputs.length ∧
      o'.inputs.map (Skeleton.root sg') = op.inputs ∧
      (∀ (j : Nat) (t : Int), op.outputs[j]? = some t → t ≠ -1 →
        ∃ tn, sg.tensors[t.toNat]? = some tn ∧ sg'.tensors[t.toNat]? = some tn) ∧
      (∀ (j : Nat) (t : Int) (tn : Tensor), op.inputs[j]? = some t → t ≠ -1 → sg.tensors[t.toNat]? = some tn →
        (isConst env.model sg t = false ∨ tn.dtype ≠ Tables.ttFloat32 ∨
          (PipeNF.biasSlot nm = some j ∧ nm ≠ "EMBEDDING_LOOKUP")) →
        UntouchedOperand env m' sg sg' o' j t) ∧
      (∀ (j : Nat) (t : Int) (tn : Tensor), op.inputs[j]? = some t → t ≠ -1 → sg.tensors[t.toNat]? = some tn →
        PipeNF.slotRole nm j = 0 → tn.dtype = Tables.ttFloat32 → isConst env.model sg t = true →
        ∀ tc, MatParams.tcfgOf env { sgIdx := s, op := op, opName := nm, opId := (k : Int), cfg := cfg } tn = some tc →
        ∃ tz pid z tzz ci, sg'.tensors[t.toNat]? = some tz ∧
          tz.dtype = intOfBits tc.bits.toNat ∧ tz.quant = some pid ∧
          m'.buffers[tn.buffer]? = some (some (.inr pid)) ∧
          o'.inputs[j]? = some z ∧ (sg.tensors.length : Int) ≤ z ∧
          sg'.tensors[z.toNat]? = some tzz ∧ tzz.dtype = Tables.ttFloat32 ∧ tzz.quant = none ∧
          tzz.buffer = 0 ∧ ({ code := ci, inputs := [t], outputs := [z], orig := none } : Op) ∈ sg'.ops ∧
          m'.opcodes[ci]? = some Tables.opDequantize ∧ Skeleton.root sg' z = t) := by
  have hblk : ∀ w, cfg.weight = some w → w.gran ≠ .blockwise := by
    obtain ⟨code, scope, -, -, -, hr⟩ := hres
    have := Pipe.resolve_noBlockwise rx st nm scope hnf.noBlockwise
    rw [hr] at this
    exact this
  obtain ⟨o', I, h8, h9, h10⟩ :=
    TypingE2E.noact_op_typed rx env st qsvs m' tbl hnf h s sg sg' hsg hsg' k op hop nm cfg hres
      (noAct_of_wo cfg hcp hed hblk hact)
  refine ⟨o', I.mem, I.orig, I.uniq, I.code, I.outs, I.len, I.root, h8, h9, ?_⟩
  intro j t tn hj hne htn hrj hf hc tc htc
  obtain ⟨x, qp, d, hx, hb, hT⟩ := h10 j t tn hj hne htn hrj hf hc tc htc
  -- the row of a constant operand under a weight-only config is ADD_DEQUANTIZE
  obtain rfl : Xf.addDequant = x :=
    List.head_eq_of_cons_eq (Except.ok.inj ((xfs_wo cfg hcp hed hblk true true).symm.trans hx))
  obtain ⟨tz, pid, z, tzz, ci, hC, hz⟩ := hT _ rfl
  obtain ⟨a1, a2, a3, a4⟩ := hC.uniform hb
  exact ⟨tz, pid, z, tzz, ci, a1, a2, a3, a4, hz⟩

/-- the same with `Recipe.resolve rx st nm scope = (algFloatCasting, cfg)` for some `cfg` -/
abbrev ResolvesFloatCast := @TypingE2E.ResolvesFloatCast

/-- **C03.f16_op_typed.**  An operator under the float-casting algorithm (FULLY_CONNECTED, CONV_2D,
    DEPTHWISE_CONV_2D, CONV_2D_TRANSPOSE, EMBEDDING_LOOKUP): its weight (operand 1) is a constant that
    becomes a FLOAT16 tensor over a buffer with the packed float16 data, and the operator receives it
    through an inserted DEQUANTIZE whose result is a NEW float32 tensor without parameters; its data
    operand and its bias are `UntouchedOperand`; its first result keeps its record. -/
theorem f16_op_typed (rx : String → String → Bool) (env : Env) (st : Recipe.State)
    (qsvs : Option Qsvs) (m' : Model) (tbl : List Param) (hnf : PipelineWF.NF env st)
    (h : Pipeline.quantizePure rx env st qsvs = .ok (m', tbl))
    (s : Nat) (sg sg' : Subgraph) (hsg : env.model.subgraphs[s]? = some sg) (hsg' : m'.subgraphs[s]? = some sg')
    (k : Nat) (op : Op) (hop : sg.ops[k]? = some op) (nm : String)
    (hres : ResolvesFloatCast rx env st sg op nm) :
    ∃ o' iB, o' ∈ sg'.ops ∧ o'.orig = some k ∧ (∀ o'' ∈ sg'.ops, o''.orig = some k → o'' = o') ∧
      o'.code = op.code ∧ o'.outputs = op.outputs ∧ o'.inputs.length = op.inputs.length ∧
      o'.inputs.map (Skeleton.root sg') = op.inputs ∧ PipeNF.biasSlot nm = some iB ∧
      (∃ sW tw tz pid z tzz ci, op.inputs[1]? = some sW ∧ 0 ≤ sW ∧ sg.tensors[sW.toNat]? = some tw ∧
        isConst env.model sg sW = true ∧ sg'.tensors[sW.toNat]? = some tz ∧ tz.dtype = Tables.ttFloat16 ∧
        m'.buffers[tw.buffer]? = some (some (.inr pid)) ∧
        o'.inputs[1]? = some z ∧ (sg.tensors.length : Int) ≤ z ∧
        sg'.tensors[z.toNat]? = some tzz ∧ tzz.dtype = Tables.ttFloat32 ∧ tzz.quant = none ∧ tzz.buffer = 0 ∧
        ({ code := ci, inputs := [sW], outputs := [z], orig := none } : Op) ∈ sg'.ops ∧
        m'.opcodes[ci]? = some Tables.opDequantize ∧ Skeleton.root sg' z = sW) ∧
      (∃ sIn, op.inputs[PipeNF.dataSlot nm]? = some sIn ∧
        UntouchedOperand env m' sg sg' o' (PipeNF.dataSlot nm) sIn) ∧
      (∀ b, op.inputs[iB]? = some b → UntouchedOperand env m' sg sg' o' iB b) ∧
      (∃ sOut tn, op.outputs[0]? = some sOut ∧ sg.tensors[sOut.toNat]? = some tn ∧
        sg'.tensors[sOut.toNat]? = some tn) :=
  TypingE2E.f16_op_typed rx env st qsvs m' tbl hnf h s sg sg' hsg hsg' k op hop nm hres

/-! ## NON-VACUITY: FULLY_CONNECTED under static-range int8, ABS (not a quantizer op) unselected

`h := FC(x, w)`, `y := ABS(h)`; recipe: FULLY_CONNECTED ↦ static-range int8, nothing else matches. -/
namespace E2E
open C15.E2E C15.Defect

def mA : Model :=
  { subgraphs := [{ tensors := [T "x" [1,2] 0, T "w" [2,2] 1, T "h" [1,2] 0, T "y" [1,2] 0],
                    ops := [{ code := 0, inputs := [0,1,-1], outputs := [2], orig := some 0 },
                            { code := 1, inputs := [2], outputs := [3], orig := some 1 }],
                    inputs := [0], outputs := [3] }],
    buffers := [none, some (.inl 0)], opcodes := [9, 101], sigs := [] }

def envA : Env := { model := mA, consts := [(1, [1,2,3,4])], adjY := [] }
def qsA : Qsvs := [("x", some (f32 [1,1] [1], f32 [1,1] [2])), ("h", some (f32 [1,1] [1], f32 [1,1] [4]))]
def stA : Recipe.State := [(".*", [⟨".*", "FULLY_CONNECTED", Tables.algMinMax, cfgSRQ⟩])]

def sgA' : Subgraph :=
  { tensors := [T "x" [1,2] 0, { T "w" [2,2] 1 with dtype := 9, quant := some 1 },
                { T "h" [1,2] 0 with dtype := 9, quant := some 2 }, T "y" [1,2] 0,
                { T "x_quantized" [1,2] 0 with dtype := 9, quant := some 0 }, T "h_dequant" [1,2] 0],
    ops := [{ code := 2, inputs := [0], outputs := [4] },
            { code := 0, inputs := [4, 1, -1], outputs := [2], orig := some 0 },
            { code := 3, inputs := [2], outputs := [5] },
            { code := 1, inputs := [5], outputs := [3], orig := some 1 }],
    inputs := [0], outputs := [3] }

def mA' : Model := { subgraphs := [sgA'], buffers := [none, some (.inr 1)], opcodes := [9, 101, 114, 6], sigs := [] }

/-- what is evaluated about this instance, once (builtin code 101, ABS, is not an operator of the quantizer: "unsupported op
    type") -/
theorem factsA :
    NFCheck.nfOK envA stA = true ∧
    (Pipeline.quantizePure rxAll envA stA (some qsA)).map (·.1) = .ok mA' ∧
    opNameOfCode 101 = none ∧
    (opNameOfCode 9 = some "FULLY_CONNECTED" ∧
      opScope (mA.subgraphs[0]'(by decide)) { code := 0, inputs := [0,1,-1], outputs := [2], orig := some 0 }
        = .ok "h;" ∧
      Recipe.resolve rxAll stA "FULLY_CONNECTED" "h;" = (Tables.algMinMax, cfgSRQ)) ∧
    Skeleton.root sgA' 5 = 2 ∧
    (PipeNF.slotRole "FULLY_CONNECTED" 0 = 0 ∧ PipeNF.slotRole "FULLY_CONNECTED" 1 = 0) ∧
    MatParams.tcfgOf envA
        { sgIdx := 0, op := { code := 0, inputs := [0,1,-1], outputs := [2], orig := some 0 }, opName := "FULLY_CONNECTED",
          opId := ((0 : Nat) : Int), cfg := cfgSRQ } (T "w" [2,2] 1)
      = some { bits := 8, symmetric := true, gran := .tensorwise } := by
  decide +kernel

theorem nfA : PipelineWF.NF envA stA := NFCheckProofs.nfOK_sound envA stA factsA.1

theorem runA : ∃ tbl, Pipeline.quantizePure rxAll envA stA (some qsA) = .ok (mA', tbl) := PyM.run_of_map factsA.2.1

theorem absNoQuant : ResolvesNoQuant rxAll envA stA (mA.subgraphs[0]'(by decide))
    { code := 1, inputs := [2], outputs := [3], orig := some 1 } :=
  ⟨101, rfl, .inl factsA.2.2.1⟩

/-- all hypotheses of `noquant_op_untouched` hold for the ABS operator, the theorem applies … -/
theorem noquant_instance :
    ∃ o', o' ∈ sgA'.ops ∧ o'.orig = some 1 ∧ (∀ o'' ∈ sgA'.ops, o''.orig = some 1 → o'' = o') ∧
      o'.code = 1 ∧ o'.outputs = [3] ∧ o'.inputs.length = 1 ∧
      o'.inputs.map (Skeleton.root sgA') = [2] ∧
      (∀ t ∈ ([3] : List Int), t ≠ -1 →
        ∃ tn, (mA.subgraphs[0]'(by decide)).tensors[t.toNat]? = some tn ∧ sgA'.tensors[t.toNat]? = some tn) ∧
      ∀ (j : Nat) (t : Int), ([2] : List Int)[j]? = some t →
        UntouchedOperand envA mA' (mA.subgraphs[0]'(by decide)) sgA' o' j t := by
  obtain ⟨tbl, hrun⟩ := runA
  exact noquant_op_untouched rxAll envA stA (some qsA) mA' tbl nfA hrun 0 _ sgA' rfl rfl 1 _ rfl absNoQuant

/-- … and what it says here: ABS reads the float32 tensor 5 (`h_dequant`), the result of the inserted
    DEQUANTIZE of the int8 tensor `h` (third alternative of `UntouchedOperand`); its result `y` is
    untouched -/
example : (sgA'.ops[3]'(by decide)) = { code := 1, inputs := [5], outputs := [3], orig := some 1 } ∧
    sgA'.tensors[5]? = some (T "h_dequant" [1,2] 0) ∧
    (sgA'.ops[2]'(by decide)) = { code := 3, inputs := [2], outputs := [5] } ∧
    mA'.opcodes[3]? = some Tables.opDequantize ∧ sgA'.tensors[3]? = some (T "y" [1,2] 0) ∧
    Skeleton.root sgA' 5 = 2 := by
  obtain ⟨-, -, -, -, hroot, -⟩ := factsA
  exact ⟨rfl, rfl, rfl, rfl, rfl, hroot⟩

theorem fcResolves : ResolvesMinMax rxAll envA stA (mA.subgraphs[0]'(by decide))
    { code := 0, inputs := [0,1,-1], outputs := [2], orig := some 0 } "FULLY_CONNECTED" cfgSRQ :=
  ⟨9, "h;", rfl, factsA.2.2.2.1⟩

/-- all hypotheses of `srq_op_typed` hold for the FULLY_CONNECTED operator; the conclusion, read on the
    instance: the result `h` is int8 with parameters; the runtime operand `x` is read through an inserted
    QUANTIZE (tensor 4, int8, parameters); the constant `w` is read directly, is int8 with parameters, and
    its buffer holds packed data -/
theorem srq_instance :
    ∃ o', o' ∈ sgA'.ops ∧ o'.orig = some 0 ∧
      (∃ tn', sgA'.tensors[2]? = some tn' ∧ tn'.dtype = Tables.ttInt8 ∧ tn'.quant.isSome = true) ∧
      (∃ z tz, o'.inputs[0]? = some z ∧ Skeleton.root sgA' z = 0 ∧ sgA'.tensors[z.toNat]? = some tz ∧
        tz.dtype = Tables.ttInt8 ∧ tz.quant.isSome = true) ∧
      (∃ tz pid, o'.inputs[1]? = some 1 ∧ sgA'.tensors[1]? = some tz ∧ tz.dtype = Tables.ttInt8 ∧
        tz.quant = some pid ∧ mA'.buffers[1]? = some (some (.inr pid))) := by
  obtain ⟨-, -, -, -, -, ⟨hr0, hr1⟩, htc⟩ := factsA
  obtain ⟨tbl, hrun⟩ := runA
  obtain ⟨o', h1, h2, -, -, -, -, -, hres, hin, -⟩ :=
    srq_op_typed rxAll envA stA (some qsA) mA' tbl nfA hrun 0 _ sgA' rfl rfl 0 _ rfl "FULLY_CONNECTED" cfgSRQ
      fcResolves (by decide) { bits := 8, symmetric := false } rfl
  refine ⟨o', h1, h2, ?_, ?_, ?_⟩
  · exact hres 0 2 (T "h" [1,2] 0) rfl (by decide) rfl rfl
  · obtain ⟨z, tz, a1, a2, a3, a4, a5, -⟩ :=
      (hin 0 0 (T "x" [1,2] 0) rfl (by decide) rfl rfl hr0).1 (by decide)
    exact ⟨z, tz, a1, a2, a3, a4, a5⟩
  · obtain ⟨tz, pid, a1, a2, a3, a4, a5⟩ :=
      (hin 1 1 (T "w" [2,2] 1) rfl (by decide) rfl rfl hr1).2 (by decide)
        { bits := 8, symmetric := true, gran := .tensorwise } htc
    exact ⟨tz, pid, a1, a2, a3, a4, a5⟩

/-- `inserted_ops_typed` applies to both inserted operators -/
theorem inserted_instance (o : Op) (ho : o ∈ sgA'.ops) (hn : o.orig = none) :
    ∃ (sg : Subgraph) (ci t n : Nat) (tin tout : Tensor), envA.model.subgraphs[0]? = some sg ∧
      o = { code := ci, inputs := [(t : Int)], outputs := [(n : Int)], orig := none } ∧
      t < sg.tensors.length ∧ sg.tensors.length ≤ n ∧
      sgA'.tensors[t]? = some tin ∧ sgA'.tensors[n]? = some tout ∧
      ((mA'.opcodes[ci]? = some Tables.opQuantize ∧
          ((tin.dtype = Tables.ttFloat32 ∧ tin.quant = none) ∨ (IsIntType tin.dtype ∧ tin.quant.isSome = true)) ∧
          IsIntType tout.dtype ∧ tout.quant.isSome = true) ∨
       (mA'.opcodes[ci]? = some Tables.opDequantize ∧
          ((IsIntType tin.dtype ∧ tin.quant.isSome = true) ∨ tin.dtype = Tables.ttFloat16) ∧
          tout.dtype = Tables.ttFloat32 ∧ tout.quant = none)) := by
  obtain ⟨tbl, hrun⟩ := runA
  exact inserted_ops_typed rxAll envA stA (some qsA) mA' tbl nfA hrun 0 sgA' rfl o ho hn

/-! ### dynamic range: the tied FULLY_CONNECTED weights of `C15.E2E` (`h := FC(x, w1)`, `y := FC(h, w2)`,
int8 channelwise weights, no activation config) -/

/-- what is evaluated about this instance, once (the run and the normal form are `C15.E2E.runT`, `nfT`) -/
theorem factsT :
    (opNameOfCode 9 = some "FULLY_CONNECTED" ∧
      opScope (mT.subgraphs[0]'(by decide)) { code := 0, inputs := [0,1,-1], outputs := [2], orig := some 0 }
        = .ok "h;" ∧
      Recipe.resolve rxAll stWO "FULLY_CONNECTED" "h;" = (Tables.algMinMax, cfgWO)) ∧
    isConst envT.model (mT.subgraphs[0]'(by decide)) 0 = false ∧
    isConst envT.model (mT.subgraphs[0]'(by decide)) 1 = true ∧
    PipeNF.slotRole "FULLY_CONNECTED" 1 = 0 ∧
    MatParams.tcfgOf envT
        { sgIdx := 0, op := { code := 0, inputs := [0,1,-1], outputs := [2], orig := some 0 }, opName := "FULLY_CONNECTED",
          opId := ((0 : Nat) : Int), cfg := cfgWO } (T "w1" [2,2] 1)
      = some { bits := 8, symmetric := true, gran := .channelwise } := by
  decide +kernel

theorem fcResolvesT : ResolvesMinMax rxAll envT stWO (mT.subgraphs[0]'(by decide))
    { code := 0, inputs := [0,1,-1], outputs := [2], orig := some 0 } "FULLY_CONNECTED" cfgWO :=
  ⟨9, "h;", rfl, factsT.1⟩

/-- all hypotheses of `drq_op_typed` hold for the first FULLY_CONNECTED; on the instance: the runtime
    operand `x` is `UntouchedOperand`, the result `h` keeps its record, the constant `w1` is read directly,
    is int8 with parameters, and its buffer holds packed data -/
theorem drq_instance :
    ∃ o', o' ∈ (mT'.subgraphs[0]'(by decide)).ops ∧ o'.orig = some 0 ∧
      (∃ tn, (mT.subgraphs[0]'(by decide)).tensors[2]? = some tn ∧
        (mT'.subgraphs[0]'(by decide)).tensors[2]? = some tn) ∧
      UntouchedOperand envT mT' (mT.subgraphs[0]'(by decide)) (mT'.subgraphs[0]'(by decide)) o' 0 0 ∧
      (∃ tz pid, o'.inputs[1]? = some 1 ∧ (mT'.subgraphs[0]'(by decide)).tensors[1]? = some tz ∧
        tz.dtype = Tables.ttInt8 ∧ tz.quant = some pid ∧ mT'.buffers[1]? = some (some (.inr pid))) := by
  obtain ⟨-, hx, hw, hrole, htc⟩ := factsT
  obtain ⟨tbl, hrun, -⟩ := C15.E2E.runT
  obtain ⟨o', h1, h2, -, -, -, -, -, hres, huntouched, hconst⟩ :=
    drq_op_typed rxAll envT stWO none mT' tbl C15.E2E.nfT hrun 0 _ _ rfl rfl 0 _ rfl "FULLY_CONNECTED" cfgWO
      fcResolvesT rfl rfl
  refine ⟨o', h1, h2, ?_, ?_, ?_⟩
  · obtain ⟨tn, a, b⟩ := hres 0 2 rfl (by decide)
    exact ⟨tn, a, b⟩
  · exact huntouched 0 0 (T "x" [1,2] 0) rfl (by decide) rfl (.inl hx)
  · obtain ⟨tz, pid, a1, a2, a3, a4, a5⟩ := hconst 1 1 (T "w1" [2,2] 1) rfl (by decide) rfl hrole rfl
      hw { bits := 8, symmetric := true, gran := .channelwise } htc
    exact ⟨tz, pid, a1, a2, a3, a4, a5⟩

/-! ### the bias: `y := FC(x, w, b)` under static-range int8 -/

def mB : Model :=
  { subgraphs := [{ tensors := [T "x" [1,2] 0, T "w" [2,2] 1, T "b" [2] 2, T "y" [1,2] 0],
                    ops := [{ code := 0, inputs := [0,1,2], outputs := [3], orig := some 0 }],
                    inputs := [0], outputs := [3] }],
    buffers := [none, some (.inl 0), some (.inl 1)], opcodes := [9], sigs := [] }
def envB : Env := { model := mB, consts := [(1, [1,2,3,4]), (2, [1,2])], adjY := [] }
def qsB : Qsvs := [("x", some (f32 [1,1] [1], f32 [1,1] [2])), ("y", some (f32 [1,1] [1], f32 [1,1] [4]))]

def mB' : Model :=
  { subgraphs := [{ tensors := [T "x" [1,2] 0, { T "w" [2,2] 1 with dtype := 9, quant := some 1 },
                                { T "b" [2] 2 with dtype := 2, quant := some 2 },
                                { T "y" [1,2] 0 with dtype := 9, quant := some 3 },
                                { T "x_quantized" [1,2] 0 with dtype := 9, quant := some 0 },
                                T "y_dequant" [1,2] 0],
                    ops := [{ code := 1, inputs := [0], outputs := [4] },
                            { code := 0, inputs := [4, 1, 2], outputs := [3], orig := some 0 },
                            { code := 2, inputs := [3], outputs := [5] }],
                    inputs := [0], outputs := [5] }],
    buffers := [none, some (.inr 1), some (.inr 2)], opcodes := [9, 114, 6], sigs := [] }

theorem factsB :
    NFCheck.nfOK envB stA = true ∧
    (Pipeline.quantizePure rxAll envB stA (some qsB)).map (·.1) = .ok mB' ∧
    (opNameOfCode 9 = some "FULLY_CONNECTED" ∧
      opScope (mB.subgraphs[0]'(by decide)) { code := 0, inputs := [0,1,2], outputs := [3], orig := some 0 }
        = .ok "y;" ∧
      Recipe.resolve rxAll stA "FULLY_CONNECTED" "y;" = (Tables.algMinMax, cfgSRQ)) ∧
    PipeNF.biasSlot "FULLY_CONNECTED" = some 2 ∧
    isConst envB.model (mB.subgraphs[0]'(by decide)) 0 = false := by
  decide +kernel

theorem nfB : PipelineWF.NF envB stA := NFCheckProofs.nfOK_sound envB stA factsB.1

theorem runB : ∃ tbl, Pipeline.quantizePure rxAll envB stA (some qsB) = .ok (mB', tbl) := PyM.run_of_map factsB.2.1

theorem fcResolvesB : ResolvesMinMax rxAll envB stA (mB.subgraphs[0]'(by decide))
    { code := 0, inputs := [0,1,2], outputs := [3], orig := some 0 } "FULLY_CONNECTED" cfgSRQ :=
  ⟨9, "y;", rfl, factsB.2.2.1⟩

/-- `srq_bias_typed` applies: the bias `b` is read directly, is int32 with parameters, and its buffer holds
    packed data -/
theorem bias_instance :
    ∃ o' tz pid, o' ∈ (mB'.subgraphs[0]'(by decide)).ops ∧ o'.orig = some 0 ∧ o'.inputs[2]? = some 2 ∧
      (mB'.subgraphs[0]'(by decide)).tensors[2]? = some tz ∧ tz.quant = some pid ∧
      mB'.buffers[2]? = some (some (.inr pid)) ∧ tz.dtype = Tables.ttInt32 := by
  obtain ⟨-, -, -, hbs, hx⟩ := factsB
  obtain ⟨tbl, hrun⟩ := runB
  obtain ⟨o', tn, tz, pid, a_in, h1, h2, h3, h4, h5, h6, h7, h8, h9, h10⟩ :=
    srq_bias_typed rxAll envB stA (some qsB) mB' tbl nfB hrun 0 _ _ rfl rfl 0 _ rfl "FULLY_CONNECTED" cfgSRQ
      fcResolvesB (by decide) { bits := 8, symmetric := false } rfl 2 hbs (by decide) 2 rfl (by decide)
  obtain rfl : T "b" [2] 2 = tn := Option.some.inj h3
  obtain rfl : (0 : Int) = a_in := Option.some.inj h9
  exact ⟨o', tz, pid, h1, h2, h5, h6, h7, h8, h10 hx⟩

/-! ### float casting: `y := FC(x, w)` with float16 weights -/

def mF : Model :=
  { subgraphs := [{ tensors := [T "x" [1,2] 0, T "w" [2,2] 1, T "y" [1,2] 0],
                    ops := [{ code := 0, inputs := [0,1,-1], outputs := [2], orig := some 0 }],
                    inputs := [0], outputs := [2] }],
    buffers := [none, some (.inl 0)], opcodes := [9], sigs := [] }
def envF : Env := { model := mF, consts := [(1, [1,2,3,4])], adjY := [] }
def cfgF : Cfg.OpCfg :=
  { act := none, weight := some { bits := 16, symmetric := true, gran := .tensorwise, dtype := .float },
    cp := .float, explicitDeq := true, skipChecks := true }
def stF : Recipe.State := [(".*", [⟨".*", "FULLY_CONNECTED", Tables.algFloatCasting, cfgF⟩])]

def mF' : Model :=
  { subgraphs := [{ tensors := [T "x" [1,2] 0, { T "w" [2,2] 1 with dtype := 1 }, T "y" [1,2] 0,
                                T "w_dequant" [2,2] 0],
                    ops := [{ code := 1, inputs := [1], outputs := [3] },
                            { code := 0, inputs := [0, 3, -1], outputs := [2], orig := some 0 }],
                    inputs := [0], outputs := [2] }],
    buffers := [none, some (.inr 0)], opcodes := [9, 6], sigs := [] }

theorem factsF :
    NFCheck.nfOK envF stF = true ∧
    (Pipeline.quantizePure rxAll envF stF none).map (·.1) = .ok mF' ∧
    opNameOfCode 9 = some "FULLY_CONNECTED" ∧
    opScope (mF.subgraphs[0]'(by decide)) { code := 0, inputs := [0,1,-1], outputs := [2], orig := some 0 }
      = .ok "y;" ∧
    Recipe.resolve rxAll stF "FULLY_CONNECTED" "y;" = (Tables.algFloatCasting, cfgF) := by
  decide +kernel

theorem nfF : PipelineWF.NF envF stF := NFCheckProofs.nfOK_sound envF stF factsF.1

theorem runF : ∃ tbl, Pipeline.quantizePure rxAll envF stF none = .ok (mF', tbl) := PyM.run_of_map factsF.2.1

theorem fcResolvesF : ResolvesFloatCast rxAll envF stF (mF.subgraphs[0]'(by decide))
    { code := 0, inputs := [0,1,-1], outputs := [2], orig := some 0 } "FULLY_CONNECTED" :=
  ⟨9, "y;", cfgF, rfl, factsF.2.2⟩

/-- `f16_op_typed` applies: the weight `w` is float16 over packed data and is read through the inserted
    DEQUANTIZE (`w_dequant`, float32) -/
theorem f16_instance :
    ∃ o', o' ∈ (mF'.subgraphs[0]'(by decide)).ops ∧ o'.orig = some 0 ∧
      ∃ tz pid z tzz, (mF'.subgraphs[0]'(by decide)).tensors[1]? = some tz ∧ tz.dtype = Tables.ttFloat16 ∧
        mF'.buffers[1]? = some (some (.inr pid)) ∧ o'.inputs[1]? = some z ∧
        (mF'.subgraphs[0]'(by decide)).tensors[z.toNat]? = some tzz ∧ tzz.dtype = Tables.ttFloat32 ∧
        tzz.quant = none := by
  obtain ⟨tbl, hrun⟩ := runF
  obtain ⟨o', iB, h1, h2, -, -, -, -, -, -, ⟨sW, tw, tz, pid, z, tzz, ci, w1, w2, w3, w4, w5, w6, w7, w8, w9, w10,
      w11, w12, -⟩, -⟩ :=
    f16_op_typed rxAll envF stF none mF' tbl nfF hrun 0 _ _ rfl rfl 0 _ rfl "FULLY_CONNECTED" fcResolvesF
  obtain rfl : (1 : Int) = sW := Option.some.inj w1
  obtain rfl : T "w" [2,2] 1 = tw := Option.some.inj w3
  exact ⟨o', h1, h2, tz, pid, z, tzz, w5, w6, w7, w8, w10, w11, w12⟩

/-! ### weight only: the same model with int8 weights, float compute, explicit dequantize -/

def cfgW : Cfg.OpCfg :=
  { act := none, weight := some { bits := 8, symmetric := true, gran := .tensorwise }, cp := .float,
    explicitDeq := true, skipChecks := true }
def stW : Recipe.State := [(".*", [⟨".*", "FULLY_CONNECTED", Tables.algMinMax, cfgW⟩])]

def mW' : Model :=
  { subgraphs := [{ tensors := [T "x" [1,2] 0, { T "w" [2,2] 1 with dtype := 9, quant := some 0 }, T "y" [1,2] 0,
                                T "w_dequant" [2,2] 0],
                    ops := [{ code := 1, inputs := [1], outputs := [3] },
                            { code := 0, inputs := [0, 3, -1], outputs := [2], orig := some 0 }],
                    inputs := [0], outputs := [2] }],
    buffers := [none, some (.inr 0)], opcodes := [9, 6], sigs := [] }

theorem factsW :
    NFCheck.nfOK envF stW = true ∧
    (Pipeline.quantizePure rxAll envF stW none).map (·.1) = .ok mW' ∧
    (opNameOfCode 9 = some "FULLY_CONNECTED" ∧
      opScope (mF.subgraphs[0]'(by decide)) { code := 0, inputs := [0,1,-1], outputs := [2], orig := some 0 }
        = .ok "y;" ∧
      Recipe.resolve rxAll stW "FULLY_CONNECTED" "y;" = (Tables.algMinMax, cfgW)) ∧
    isConst envF.model (mF.subgraphs[0]'(by decide)) 0 = false ∧
    isConst envF.model (mF.subgraphs[0]'(by decide)) 1 = true ∧
    PipeNF.slotRole "FULLY_CONNECTED" 1 = 0 ∧
    MatParams.tcfgOf envF
        { sgIdx := 0, op := { code := 0, inputs := [0,1,-1], outputs := [2], orig := some 0 }, opName := "FULLY_CONNECTED",
          opId := ((0 : Nat) : Int), cfg := cfgW } (T "w" [2,2] 1)
      = some { bits := 8, symmetric := true, gran := .tensorwise } := by
  decide +kernel

theorem nfW : PipelineWF.NF envF stW := NFCheckProofs.nfOK_sound envF stW factsW.1

theorem runW : ∃ tbl, Pipeline.quantizePure rxAll envF stW none = .ok (mW', tbl) := PyM.run_of_map factsW.2.1

theorem fcResolvesW : ResolvesMinMax rxAll envF stW (mF.subgraphs[0]'(by decide))
    { code := 0, inputs := [0,1,-1], outputs := [2], orig := some 0 } "FULLY_CONNECTED" cfgW :=
  ⟨9, "y;", rfl, factsW.2.2.1⟩

/-- `wo_op_typed` applies: the weight `w` is int8 with parameters over packed data and is read through the
    inserted DEQUANTIZE (`w_dequant`, float32 without parameters); the activation `x` is untouched -/
theorem wo_instance :
    ∃ o', o' ∈ (mW'.subgraphs[0]'(by decide)).ops ∧ o'.orig = some 0 ∧
      UntouchedOperand envF mW' (mF.subgraphs[0]'(by decide)) (mW'.subgraphs[0]'(by decide)) o' 0 0 ∧
      ∃ tz pid z tzz, (mW'.subgraphs[0]'(by decide)).tensors[1]? = some tz ∧ tz.dtype = Tables.ttInt8 ∧
        tz.quant = some pid ∧ mW'.buffers[1]? = some (some (.inr pid)) ∧ o'.inputs[1]? = some z ∧
        (mW'.subgraphs[0]'(by decide)).tensors[z.toNat]? = some tzz ∧ tzz.dtype = Tables.ttFloat32 ∧
        tzz.quant = none := by
  obtain ⟨-, -, -, hx, hw, hrole, htc⟩ := factsW
  obtain ⟨tbl, hrun⟩ := runW
  obtain ⟨o', h1, h2, -, -, -, -, -, -, huntouched, hconst⟩ :=
    wo_op_typed rxAll envF stW none mW' tbl nfW hrun 0 _ _ rfl rfl 0 _ rfl "FULLY_CONNECTED" cfgW
      fcResolvesW rfl rfl rfl
  refine ⟨o', h1, h2, huntouched 0 0 (T "x" [1,2] 0) rfl (by decide) rfl (.inl hx), ?_⟩
  obtain ⟨tz, pid, z, tzz, ci, a1, a2, a3, a4, a5, a6, a7, a8, a9, -⟩ :=
    hconst 1 1 (T "w" [2,2] 1) rfl (by decide) rfl hrole rfl hw
      { bits := 8, symmetric := true, gran := .tensorwise } htc
  exact ⟨tz, pid, z, tzz, a1, a2, a3, a4, a5, a7, a8, a9⟩

end E2E

end C03
