import QProofs.MatParams
import QProofs.PipeMat
import QProps.C04
import QProps.C17
/-!
# C04 (continued) — the parameters requested for a tensor ARE the TFLite-spec reference formula
applied to that tensor's statistics

`QProps/C04.lean` holds the op-level rules on the parameter objects; `QProps/C17*.lean` the scalar
laws of the min/max formula.  This file links them to the materialisation model: what
`Mat.wrapper` / `Mat.standardOp` request for a tensor is `MatParams.refParams` (the array form of
`tensor_zp_scale_from_min_max`) applied to the tensor's statistics.
-/
open Graph Mat Arith Cfg Num Nd MatParams Pipe

set_option autoImplicit false

namespace C04

/-- one channel, under the side conditions of the C17 laws; the statistics need not be ordered -/
theorem channel_wellformed (pr : Prec) (hpr : pr ≠ .f16) (bits : Nat) (hb2 : 2 ≤ bits) (hb16 : bits ≤ 16)
    (sym : Bool) (mn mx : Rat) (zp : Int) (s : Rat)
    (h : zpScale1 pr bits sym mn mx = .ok (zp, s)) :
    0 < s ∧ pr.isFin s = true ∧ (qmin bits ≤ zp ∧ zp ≤ qmax bits) ∧ (sym = true → zp = 0) := by
  obtain ⟨hf, rfl, rfl⟩ := zpScale1_ok_iff.1 h
  exact ⟨C17.scale_pos pr hpr bits hb2 hb16 sym mn mx _ _ h, chanFin_scale hf,
    ArithRounded.chanZp_range pr hpr bits hb2 hb16 sym mn mx, fun hs => hs ▸ rfl⟩

/-- **the reference parameters of ordered statistics are well formed** (`MatParams.WellFormed`), one entry per cell of the
    statistics -/
theorem ref_params_wellformed (bits : Nat) (sym : Bool) (qdim : Option Nat) (mn mx : FArr) (qp : QParams)
    (hb2 : 2 ≤ bits) (hb16 : bits ≤ 16) (hpr : mn.pr.join mx.pr ≠ .f16) (hord : StatsOrdered mn mx)
    (h : refParams bits sym qdim mn mx = .ok qp) :
    WellFormed bits sym qp ∧ qp.qdim = qdim ∧ qp.scale.arr.shape = mn.arr.shape ∧
      qp.scale.pr = mn.pr.join mx.pr ∧ qp.zp.w = storageBits bits := by
  obtain ⟨zp, scale, hz, rfl⟩ := (refParams_ok_iff _ _ _ _ _ _).1 h
  obtain ⟨hp, hw, s2, s1, hP⟩ := (zpScale_ok_iff _ _ mn mx _ rfl hord.1.symm _ _).1 hz
  have chan : ∀ j z s, zpScale1 (mn.pr.join mx.pr) bits sym (mn.arr.data.getD j 0) (mx.arr.data.getD j 0) = .ok (z, s) →
      0 < s ∧ (mn.pr.join mx.pr).isFin s = true ∧ (qmin bits ≤ z ∧ z ≤ qmax bits) ∧ (sym = true → z = 0) :=
    fun j z s hk => channel_wellformed _ hpr bits hb2 hb16 sym _ _ z s hk
  refine ⟨⟨rfl, rfl, by rw [s1, s2], by rw [hP.scLen, hP.zpLen], by rw [hP.scLen, s2], fun s hs => ?_, fun s hs => ?_,
    fun z hz' => ?_, fun hs z hz' => ?_⟩, rfl, s2, hp, hw⟩
  · obtain ⟨j, z, hk⟩ := hP.of_mem_sc hs; exact (chan j z s hk).1
  · obtain ⟨j, z, hk⟩ := hP.of_mem_sc hs; rw [hp]; exact (chan j z s hk).2.1
  · obtain ⟨j, s, hk⟩ := hP.of_mem_zp hz'; exact (chan j z s hk).2.2.1
  · obtain ⟨j, s, hk⟩ := hP.of_mem_zp hz'; exact (chan j z s hk).2.2.2 hs

/-- **every parameter object produced by `_get_tensor_quant_params`** (it is always a uniform one) is
    the reference computation on the statistics it was given, and — for ordered float32/float64
    statistics and 2..16 bits — well formed -/
theorem tensorQuantParams_wellformed (env : Env) (oi : OpInfo) (mn mx : FArr) (tc : TCfg)
    (content : Option (Arr Rat)) (p : Param)
    (hb2 : 2 ≤ tc.bits.toNat) (hb16 : tc.bits.toNat ≤ 16) (hpr : mn.pr.join mx.pr ≠ .f16)
    (hord : StatsOrdered mn mx)
    (h : tensorQuantParams env oi (some (mn, mx)) tc content = .ok p) :
    ∃ qdim qp dat, p = .uniform qp dat ∧ refQDim env oi tc content = .ok qdim ∧
      refParams tc.bits.toNat tc.symmetric qdim mn mx = .ok qp ∧ refData tc content qp = .ok dat ∧
      WellFormed tc.bits.toNat tc.symmetric qp ∧ qp.qdim = qdim := by
  rw [tensorQuantParams_eq] at h
  obtain ⟨qdim, qp, dat, h1, h2, h3, rfl⟩ := (refTensorParams_ok_iff _ _ _ _ _ _ _).1 h
  obtain ⟨hwf, hqd, _⟩ := ref_params_wellformed _ _ _ mn mx qp hb2 hb16 hpr hord h2
  exact ⟨qdim, qp, dat, rfl, h1, h2, h3, hwf, hqd⟩

/-- `act_params_reference` for any granularity of the activation config: the attached quantized dimension is `refQDim` -/
theorem act_params_reference_any_gran (env : Env) (qsvs : Qsvs) (oi : OpInfo) (t : Tensor) (inbound : Bool)
    (tc : TCfg) (r : CReq) (hnc : constData env t = none) (hsrq : isSRQ oi.cfg = true)
    (hact : oi.cfg.act = some tc) :
    wrapper env qsvs oi t inbound none = .ok r ↔
      ∃ mn mx qdim qp, Py.dictGet? qsvs t.name = some (some (mn, mx)) ∧
        refQDim env oi tc none = .ok qdim ∧
        refParams tc.bits.toNat tc.symmetric qdim mn mx = .ok qp ∧
        r = srqReq t.name oi.opId inbound false (some (.uniform qp none)) := by
  rw [wrapper_none_ok_iff, tcfgOf_nonconst env oi t hnc, hact, hnc]
  constructor
  · rintro (⟨h, -⟩ | ⟨tc', mn, mx, qdim, qp, dat, h0, hs, h1, h2, h3, hr⟩)
    · cases h
    · cases h0
      cases h3
      rw [mkReq_srq _ _ _ _ _ hsrq] at hr
      exact ⟨mn, mx, qdim, qp, (statsOf_runtime env qsvs oi t _ hnc).1 hs, h1, h2, (Except.ok.inj hr).symm⟩
  · rintro ⟨mn, mx, qdim, qp, hs, h1, h2, rfl⟩
    exact .inr ⟨tc, mn, mx, qdim, qp, none, rfl, (statsOf_runtime env qsvs oi t _ hnc).2 hs, h1, h2, rfl,
      mkReq_srq _ _ _ _ _ hsrq⟩

/-- **a runtime (non-constant) float tensor of a static-range op** is requested with exactly the
    reference parameters of its calibrated statistics `qsvs[t.name] = {min, max}` under the activation
    config's bit width and symmetry, per-tensor (no quantized dimension), no quantized values;
    ADD_QUANTIZE as an operand, ADD_DEQUANTIZE as a result.  (`↔`: the request exists exactly when the
    statistics are present and the formula stays finite.) -/
theorem act_params_reference (env : Env) (qsvs : Qsvs) (oi : OpInfo) (t : Tensor) (inbound : Bool) (tc : TCfg)
    (r : CReq) (hnc : constData env t = none) (hsrq : isSRQ oi.cfg = true) (hact : oi.cfg.act = some tc)
    (hg : tc.gran ≠ Gran.channelwise) :
    wrapper env qsvs oi t inbound none = .ok r ↔
      ∃ mn mx qp, Py.dictGet? qsvs t.name = some (some (mn, mx)) ∧
        refParams tc.bits.toNat tc.symmetric none mn mx = .ok qp ∧
        r = srqReq t.name oi.opId inbound false (some (.uniform qp none)) := by
  have hq : refQDim env oi tc none = .ok none := refQDim_perTensor hg
  rw [act_params_reference_any_gran env qsvs oi t inbound tc r hnc hsrq hact]
  constructor
  · rintro ⟨mn, mx, qdim, qp, hs, h1, h2, hr⟩
    rw [hq] at h1
    cases h1
    exact ⟨mn, mx, qp, hs, h2, hr⟩
  · rintro ⟨mn, mx, qp, hs, h2, hr⟩
    exact ⟨mn, mx, none, qp, hs, hq, h2, hr⟩

/-- missing (`KeyError`-free `not in`) or empty (`{}`) statistics of a runtime tensor: `ValueError` -/
theorem act_params_missing (env : Env) (qsvs : Qsvs) (oi : OpInfo) (t : Tensor) (inbound : Bool) (tc : TCfg)
    (hnc : constData env t = none) (hact : oi.cfg.act = some tc)
    (hmiss : Py.dictGet? qsvs t.name = none ∨ Py.dictGet? qsvs t.name = some none) :
    wrapper env qsvs oi t inbound none = .error .valueError := by
  rw [wrapper_none_eq, tcfgOf_nonconst env oi t hnc, hact]
  simp only [statsOf, hnc]
  rcases hmiss with h | h <;> rw [h]; rfl

/-- the parameters of an activation are well formed, given ordered float32/float64 statistics and a bit width in 2..16 -/
theorem act_params_wellformed (env : Env) (qsvs : Qsvs) (oi : OpInfo) (t : Tensor) (inbound : Bool) (tc : TCfg)
    (r : CReq) (mn mx : FArr) (hnc : constData env t = none) (hsrq : isSRQ oi.cfg = true)
    (hact : oi.cfg.act = some tc) (hg : tc.gran ≠ Gran.channelwise)
    (hstat : Py.dictGet? qsvs t.name = some (some (mn, mx)))
    (hb2 : 2 ≤ tc.bits.toNat) (hb16 : tc.bits.toNat ≤ 16) (hpr : mn.pr.join mx.pr ≠ .f16)
    (hord : StatsOrdered mn mx)
    (h : wrapper env qsvs oi t inbound none = .ok r) :
    ∃ qp, r = srqReq t.name oi.opId inbound false (some (.uniform qp none)) ∧
      refParams tc.bits.toNat tc.symmetric none mn mx = .ok qp ∧
      WellFormed tc.bits.toNat tc.symmetric qp ∧ qp.qdim = none ∧
      qp.scale.arr.data.length = numel mn.arr.shape ∧ qp.zp.arr.data.length = numel mn.arr.shape := by
  obtain ⟨mn', mx', qp, hs, hp, hr⟩ := (act_params_reference env qsvs oi t inbound tc r hnc hsrq hact hg).1 h
  rw [hstat] at hs
  cases hs
  obtain ⟨hwf, hqd, hsh, _, _⟩ := ref_params_wellformed _ _ _ mn mx qp hb2 hb16 hpr hord hp
  refine ⟨qp, hr, hp, hwf, hqd, ?_, ?_⟩
  · rw [hwf.wf, hsh]
  · rw [← hwf.len, hwf.wf, hsh]

/-- which tensor config applies: the weight config for a constant operand of the six weight-only / dynamic-range ops; the
    activation config for every other tensor (runtime tensors, and constants of the other ops) -/
theorem config_choice (env : Env) (oi : OpInfo) (t : Tensor) :
    tcfgOf env oi t =
      if (constData env t).isSome = true ∧ oi.opName ∈ ["BATCH_MATMUL", "CONV_2D", "CONV_2D_TRANSPOSE",
          "DEPTHWISE_CONV_2D", "EMBEDDING_LOOKUP", "FULLY_CONNECTED"]
      then oi.cfg.weight else oi.cfg.act := by
  unfold tcfgOf
  have : (Tables.woOps.contains oi.opName || Tables.drqOps.contains oi.opName) =
      decide (oi.opName ∈ ["BATCH_MATMUL", "CONV_2D", "CONV_2D_TRANSPOSE", "DEPTHWISE_CONV_2D",
        "EMBEDDING_LOOKUP", "FULLY_CONNECTED"]) := by
    simp only [Tables.woOps, Tables.drqOps, Bool.or_self, List.contains_eq_mem]
  rw [this]
  by_cases h1 : (constData env t).isSome = true <;> by_cases h2 : oi.opName ∈ ["BATCH_MATMUL", "CONV_2D",
      "CONV_2D_TRANSPOSE", "DEPTHWISE_CONV_2D", "EMBEDDING_LOOKUP", "FULLY_CONNECTED"] <;> simp [h1, h2]

/-- **a constant tensor** (data `d`, tensor config `tc`: the weight config for the constant operands of
    the weight-only / dynamic-range ops, the activation config otherwise) is requested — **whatever the
    statistics dictionary holds** (D36) — with exactly the reference parameters of its true
    min/max `initMinMax env oi t d` under the current op config, with the kernel's quantized dimension
    `refQDim` attached, and with the quantized values `uniform_quantize(d, qp)` -/
theorem weight_params_reference (env : Env) (qsvs : Qsvs) (oi : OpInfo) (t : Tensor) (inbound : Bool) (tc : TCfg)
    (d : Arr Rat) (r : CReq) (hd : constData env t = some d) (htc : tcfgOf env oi t = some tc) :
    wrapper env qsvs oi t inbound none = .ok r ↔
      ∃ mn mx qdim qp q, initMinMax env oi t d = .ok (mn, mx) ∧
        refQDim env oi tc (some d) = .ok qdim ∧
        refParams tc.bits.toNat tc.symmetric qdim mn mx = .ok qp ∧
        tc.gran ≠ Gran.blockwise ∧ uniformQuantize ⟨d, .f32⟩ qp = .ok q ∧
        mkReq t.name oi inbound (some (.uniform qp (some q))) true = .ok r := by
  rw [wrapper_none_ok_iff, htc, hd]
  constructor
  · rintro (⟨h, _⟩ | ⟨tc', mn, mx, qdim, qp, dat, h0, h1, h2, h3, h4, h5⟩)
    · cases h
    · cases h0
      obtain ⟨hb, q, hq, rfl⟩ := (refData_some _ _ _ _).1 h4
      exact ⟨mn, mx, qdim, qp, q, (statsOf_const env qsvs oi t d mn mx hd).1 h1, h2, h3, hb, hq, h5⟩
  · rintro ⟨mn, mx, qdim, qp, q, h1, h2, h3, hb, hq, h5⟩
    exact .inr ⟨tc, mn, mx, qdim, qp, some q, rfl, (statsOf_const env qsvs oi t d mn mx hd).2 h1, h2, h3,
      (refData_some _ _ _ _).2 ⟨hb, q, hq, rfl⟩, h5⟩

/-- D36: `statsOf` of a constant never reads the dictionary -/
theorem weight_request_ignores_stats (env : Env) (qsvs qsvs' : Qsvs) (oi : OpInfo) (t : Tensor) (inbound : Bool)
    (d : Arr Rat) (hd : constData env t = some d) :
    wrapper env qsvs oi t inbound none = wrapper env qsvs' oi t inbound none := by
  rw [wrapper_none_eq, wrapper_none_eq]
  simp only [statsOf, hd]

/-- what calibration (`init_tensor_min_max` under the same op) records for a float32 constant
    is what materialisation recomputes -/
theorem calibrated_stats_recomputed (env : Env) (oi : OpInfo) (t : Tensor) (d : Arr Rat)
    (mm : FArr × FArr) (hd : constData env t = some d) (hf32 : t.dtype = Tables.ttFloat32)
    (hcal : Calib.initTensor env oi t = .ok (some mm)) : initMinMax env oi t d = .ok mm :=
  initTensor_faithful env oi t d mm hd hf32 hcal

/-- **the statistics of a constant are its true per-tensor / per-channel min and max**: float32
    arrays of one shape with one cell per channel (one cell when `statQDim` is none, `shape[k]` cells
    along the quantized dimension `k`); every non-empty cell of `min` is an element of its channel
    and `≤` all elements of the channel, symmetrically for `max`; so `min ≤ max` everywhere.
    `chan i` is the cell that element `i` of the (row-major) data belongs to. -/
theorem weight_stats_true_minmax (env : Env) (oi : OpInfo) (t : Tensor) (d : Arr Rat) (mn mx : FArr)
    (hd : constData env t = some d) (h : initMinMax env oi t d = .ok (mn, mx)) :
    let qdim := statQDim env oi d.shape.length
    let cells := channels d.shape qdim
    let chan := fun i => bindex d.shape (keepShape d.shape (reduceDims qdim d.shape.length)) i
    mn.pr = .f32 ∧ mx.pr = .f32 ∧ StatsOrdered mn mx ∧
    mn.arr.shape = keepShape d.shape (reduceDims qdim d.shape.length) ∧
    numel mn.arr.shape = cells ∧ mn.arr.data.length = cells ∧ mx.arr.data.length = cells ∧
    (∀ j < cells,
      ((∀ i < d.size, chan i ≠ j) ∧ mn.arr.data.getD j 0 = 0 ∧ mx.arr.data.getD j 0 = 0) ∨
      ((∃ i < d.size, chan i = j ∧ mn.arr.data.getD j 0 = d.data.getD i 0) ∧
       (∃ i < d.size, chan i = j ∧ mx.arr.data.getD j 0 = d.data.getD i 0) ∧
       ∀ i < d.size, chan i = j → mn.arr.data.getD j 0 ≤ d.data.getD i 0 ∧ d.data.getD i 0 ≤ mx.arr.data.getD j 0)) ∧
    (d.data.length = numel d.shape → ∀ i < d.size, chan i < cells ∧
      mn.arr.data.getD (chan i) 0 ≤ d.data.getD i 0 ∧ d.data.getD i 0 ≤ mx.arr.data.getD (chan i) 0) := by
  intro qdim cells chan
  have I := initMinMax_spec env oi t d mn mx (constData_shape env t d hd).2 h
  obtain ⟨_, s1, _, c1⟩ := reduceKeep_spec _ _ sel_min d _ _ I.lo
  obtain ⟨_, s2, n2, c2⟩ := reduceKeep_spec _ _ sel_max d _ _ I.hi
  have hcells : numel (keepShape d.shape (reduceDims qdim d.shape.length)) = cells := by rw [← s1]; exact I.cells
  have hcell : ∀ j < cells,
      ((∀ i < d.size, chan i ≠ j) ∧ mn.arr.data.getD j 0 = 0 ∧ mx.arr.data.getD j 0 = 0) ∨
      ((∃ i < d.size, chan i = j ∧ mn.arr.data.getD j 0 = d.data.getD i 0) ∧
       (∃ i < d.size, chan i = j ∧ mx.arr.data.getD j 0 = d.data.getD i 0) ∧
       ∀ i < d.size, chan i = j → mn.arr.data.getD j 0 ≤ d.data.getD i 0 ∧ d.data.getD i 0 ≤ mx.arr.data.getD j 0) := ?_
  · refine ⟨I.prMin, I.prMax, I.ordered, s1, I.cells, I.lenMin, I.lenMax, hcell, ?_⟩
    intro hwf i hi
    have hlt : chan i < cells := by
      rw [← hcells]
      exact NumT.bindex_compat_lt (keepShape_compat d.shape _) i (by rw [← hwf]; exact hi)
    refine ⟨hlt, ?_⟩
    rcases hcell (chan i) hlt with ⟨hn', _⟩ | ⟨_, _, hall⟩
    · exact absurd rfl (hn' i hi)
    · exact hall i hi rfl
  intro j hj
  rw [← hcells] at hj
  rcases c1 j hj with ⟨n1, z1⟩ | ⟨e1, a1⟩
  · rcases c2 j hj with ⟨_, z2⟩ | ⟨⟨i, hi, hij, _⟩, _⟩
    · exact .inl ⟨n1, z1, z2⟩
    · exact absurd hij (n1 i hi)
  · rcases c2 j hj with ⟨n2', _⟩ | ⟨e2, a2⟩
    · obtain ⟨i, hi, hij, _⟩ := e1
      exact absurd hij (n2' i hi)
    · exact .inr ⟨e1, e2, fun i hi hij => ⟨a1 i hi hij, a2 i hi hij⟩⟩

/-- **per-channel parameters appear only under a CHANNELWISE weight config, on a constant operand of a
    weight-only / dynamic-range op, and only on the dimension the runtime kernel expects** (table
    `weightQDim`: FULLY_CONNECTED 0, CONV_2D 0, DEPTHWISE_CONV_2D 3, EMBEDDING_LOOKUP 0,
    CONV_2D_TRANSPOSE 0; BATCH_MATMUL: last dimension, last but one under `adj_y`), provided the
    activation config is per-tensor -/
theorem per_channel_only_weight_config (env : Env) (oi : OpInfo) (t : Tensor) (tc : TCfg) (k : Nat)
    (htc : tcfgOf env oi t = some tc) (hact : ActPerTensor oi.cfg)
    (h : refQDim env oi tc (constData env t) = .ok (some k)) :
    (constData env t).isSome = true ∧ Tables.woOps.contains oi.opName = true ∧
      oi.cfg.weight = some tc ∧ tc.gran = Gran.channelwise ∧
      ((oi.opName = "BATCH_MATMUL" ∧ ∃ d, constData env t = some d ∧ k = bmmQDim d.shape.length (opAdjY env oi)) ∨
       (oi.opName ≠ "BATCH_MATMUL" ∧ Py.dictGet? Tables.weightQDim oi.opName = some k)) := by
  obtain ⟨-, h0⟩ | ⟨hg, k', hk', hk⟩ := refQDim_ok h
  · cases h0
  cases hk'
  rcases tcfgOf_cases htc with ⟨hw, hc, hwo⟩ | ha
  · refine ⟨hc, ?_, hw, hg, hk⟩
    -- the two tables list the same operators
    rcases hwo with h' | h'
    · exact h'
    · exact h'
  · exact absurd hg (hact tc ha)

/-- **shape of the parameters of a constant**: well formed (C17 laws; the side conditions on the
    statistics hold by construction, only the bit width 2..16 is assumed), the quantized dimension is
    the one the statistics were kept along, and there is one scale / zero point per channel: one, or
    `shape[k]` along the quantized dimension `k` -/
theorem weight_params_shape (env : Env) (oi : OpInfo) (t : Tensor) (tc : TCfg) (d : Arr Rat) (mn mx : FArr)
    (qdim : Option Nat) (qp : QParams)
    (hd : constData env t = some d) (htc : tcfgOf env oi t = some tc) (hact : ActPerTensor oi.cfg)
    (hb2 : 2 ≤ tc.bits.toNat) (hb16 : tc.bits.toNat ≤ 16)
    (hi : initMinMax env oi t d = .ok (mn, mx)) (hq : refQDim env oi tc (some d) = .ok qdim)
    (hp : refParams tc.bits.toNat tc.symmetric qdim mn mx = .ok qp) :
    WellFormed tc.bits.toNat tc.symmetric qp ∧ qp.qdim = qdim ∧ statQDim env oi d.shape.length = qdim ∧
      qp.scale.pr = .f32 ∧ qp.zp.w = storageBits tc.bits.toNat ∧
      qp.scale.arr.data.length = channels d.shape qdim ∧ qp.zp.arr.data.length = channels d.shape qdim := by
  have I := initMinMax_spec env oi t d mn mx (constData_shape env t d hd).2 hi
  have hpr : mn.pr.join mx.pr = .f32 := by rw [I.prMin, I.prMax]; rfl
  obtain ⟨hwf, hqd, hsh, hspr, hzw⟩ :=
    ref_params_wellformed _ _ _ mn mx qp hb2 hb16 (by rw [hpr]; decide) I.ordered hp
  have hstat := refQDim_stat env oi t d tc qdim hd htc hact hq
  have hn := I.cells
  rw [hstat] at hn
  refine ⟨hwf, hqd, hstat, by rw [hspr, hpr], hzw, ?_, ?_⟩
  · rw [hwf.wf, hsh, hn]
  · rw [← hwf.len, hwf.wf, hsh, hn]

theorem stripData_none (p : Option Param) (h : stripData p = none) : p = none := by
  cases p with
  | none => rfl
  | some q =>
    cases q with
    | nonlinear b d => cases h
    | uniform qp d => cases d <;> cases h

theorem handed_params (env : Env) (qsvs : Qsvs) (oi : OpInfo) (t : Tensor) (inbound : Bool) (g : Option Param)
    (r : CReq) (hnc : constData env t = none) (h : wrapper env qsvs oi t inbound g = .ok r) :
    (∃ p xfs, g = some p ∧ tensorXfs oi.cfg inbound false = .ok xfs ∧
      r = (if inbound then ⟨t.name, none, some [⟨oi.opId, xfs, some p⟩]⟩ else ⟨t.name, some ⟨oi.opId, xfs, some p⟩, none⟩)) ∨
    (g = none ∧ wrapper env qsvs oi t inbound none = .ok r) := by
  cases g with
  | none => exact .inr ⟨rfl, h⟩
  | some p =>
    obtain ⟨xfs, hx, hr⟩ := shared_params_kept env qsvs oi t inbound p r hnc h
    exact .inl ⟨p, xfs, rfl, hx, hr⟩

/-- **same-as-input ops**: the request list is operands then results, in slot order; every result
    that is quantized at all (float32, not an index position) is requested with the parameter object
    of the request `ir` of the one quantized operand (`ir` is in the list, at the operand's position);
    a runtime result carries exactly that object. -/
theorem same_as_input (env : Env) (sg : Subgraph) (qsvs : Qsvs) (oi : OpInfo) (gIn gOut : List Nat)
    (rs : List CReq) (qs' : Qsvs)
    (h : standardOp env sg qsvs oi .sameAsInput gIn gOut = .ok (rs, qs')) :
    ∃ rin rout, rs = rin ++ rout ∧ rin.length = (cslots oi.op.inputs).length ∧
      rout.length = (cslots oi.op.outputs).length ∧
      ∀ (i : Nat) (b : Int) (posO : Nat) (o : Tensor) (r : CReq),
        (cslots oi.op.outputs)[i]? = some (b, posO) → rout[i]? = some r → tensorAt sg b = .ok o →
        o.dtype = Tables.ttFloat32 → posO ∉ gOut →
        ∃ (j : Nat) (a : Int) (pos : Nat) (t : Tensor) (ir : CReq) (p0 : Option Param),
          (cslots oi.op.inputs)[j]? = some (a, pos) ∧ rin[j]? = some ir ∧ tensorAt sg a = .ok t ∧
          t.dtype = Tables.ttFloat32 ∧ pos ∉ gIn ∧
          (∀ q' ∈ cslots oi.op.inputs, (∃ t', tensorAt sg q'.1 = .ok t' ∧ t'.dtype = Tables.ttFloat32 ∧ q'.2 ∉ gIn) →
            q' = (a, pos)) ∧
          wrapper env qsvs oi t true none = .ok ir ∧ reqParam0 ir = .ok p0 ∧
          wrapper env qsvs oi o false (stripData p0) = .ok r ∧
          (constData env o = none →
            (∃ p xfs, stripData p0 = some p ∧ tensorXfs oi.cfg false false = .ok xfs ∧
              r = ⟨o.name, some ⟨oi.opId, xfs, some p⟩, none⟩) ∨
            (p0 = none ∧ wrapper env qsvs oi o false none = .ok r)) := by
  obtain ⟨rin, rout, g, gO, hrs, hPin, hPout, hH⟩ := Mat.standardOp_slots h
  refine ⟨rin, rout, hrs, hPin.1.symm, hPout.1.symm, ?_⟩
  intro i b posO o r hi hr hto hdt hpos
  have hlo : Live sg oi.op.outputs gOut (b, posO) o := ⟨List.mem_of_getElem? hi, hto, hdt, hpos⟩
  obtain ⟨o', hto', hreq⟩ := hPout.2 i _ _ hi hr
  rw [show tensorAt sg b = .ok o from hto] at hto'
  cases hto'
  rw [if_pos ⟨hdt, hpos⟩] at hreq
  cases hH with
  | idle _ _ hno => exact absurd hlo (hno _ _)
  | toResults q t ir p0 hl huniq hw hp0 =>
    -- the request of THE quantized operand sits at its position in `rin`
    obtain ⟨j, hj⟩ := List.mem_iff_getElem?.1 hl.1
    have hjlt : j < rin.length := by rw [← hPin.1]; exact (List.getElem?_eq_some_iff.1 hj).1
    obtain ⟨t', ht', hreqin⟩ := hPin.2 j _ _ hj (List.getElem?_eq_getElem hjlt)
    rw [hl.2.1] at ht'
    cases ht'
    rw [if_pos hl.2.2, hw] at hreqin
    refine ⟨j, q.1, q.2, t, ir, p0, hj, by rw [List.getElem?_eq_getElem hjlt, ← Except.ok.inj hreqin], hl.2.1, hl.2.2.1,
      hl.2.2.2, ?_, hw, hp0, hreq, ?_⟩
    · rintro q' hq' ⟨t', ht', hd', hg'⟩
      exact huniq q' t' ⟨hq', ht', hd', hg'⟩
    · intro hnc
      rcases handed_params env qsvs oi o false _ r hnc hreq with ⟨p, xfs, hg, hx, hr'⟩ | ⟨hg, hw'⟩
      · exact .inl ⟨p, xfs, hg, hx, by simpa using hr'⟩
      · exact .inr ⟨stripData_none _ hg, hw'⟩

/-- **same-as-output ops** (concatenation): every operand that is quantized at all is requested
    with the parameter object of the request `orq` of the one quantized result (`orq` is in the list);
    a runtime operand carries exactly that object. -/
theorem concat_same_as_output (env : Env) (sg : Subgraph) (qsvs : Qsvs) (oi : OpInfo) (gIn gOut : List Nat)
    (rs : List CReq) (qs' : Qsvs)
    (h : standardOp env sg qsvs oi .sameAsOutput gIn gOut = .ok (rs, qs')) :
    ∃ rin rout, rs = rin ++ rout ∧ rin.length = (cslots oi.op.inputs).length ∧
      rout.length = (cslots oi.op.outputs).length ∧
      ∀ (i : Nat) (a : Int) (pos : Nat) (t : Tensor) (r : CReq),
        (cslots oi.op.inputs)[i]? = some (a, pos) → rin[i]? = some r → tensorAt sg a = .ok t →
        t.dtype = Tables.ttFloat32 → pos ∉ gIn →
        ∃ (j : Nat) (b : Int) (posO : Nat) (o : Tensor) (orq : CReq) (xfs : List Xf) (g : Option Param),
          (cslots oi.op.outputs)[j]? = some (b, posO) ∧ rout[j]? = some orq ∧ tensorAt sg b = .ok o ∧
          o.dtype = Tables.ttFloat32 ∧ posO ∉ gOut ∧
          (∀ q' ∈ cslots oi.op.outputs, (∃ t', tensorAt sg q'.1 = .ok t' ∧ t'.dtype = Tables.ttFloat32 ∧ q'.2 ∉ gOut) →
            q' = (b, posO)) ∧
          wrapper env qsvs oi o false none = .ok orq ∧ orq = ⟨o.name, some ⟨oi.opId, xfs, g⟩, none⟩ ∧
          wrapper env qsvs oi t true g = .ok r ∧
          (constData env t = none →
            (∃ p xfs', g = some p ∧ tensorXfs oi.cfg true false = .ok xfs' ∧
              r = ⟨t.name, none, some [⟨oi.opId, xfs', some p⟩]⟩) ∨
            (g = none ∧ wrapper env qsvs oi t true none = .ok r)) := by
  obtain ⟨rin, rout, g, gO, hrs, hPin, hPout, hH⟩ := Mat.standardOp_slots h
  refine ⟨rin, rout, hrs, hPin.1.symm, hPout.1.symm, ?_⟩
  intro i a pos t r hi hr hta hdt hpos
  have hlt : Live sg oi.op.inputs gIn (a, pos) t := ⟨List.mem_of_getElem? hi, hta, hdt, hpos⟩
  obtain ⟨t', hta', hreq⟩ := hPin.2 i _ _ hi hr
  rw [show tensorAt sg a = .ok t from hta] at hta'
  cases hta'
  rw [if_pos ⟨hdt, hpos⟩] at hreq
  cases hH with
  | idle _ hno _ => exact absurd hlt (hno _ _)
  | toOperands q o orq hl huniq hw =>
    -- the request of THE quantized result sits at its position in `rout`
    obtain ⟨j, hj⟩ := List.mem_iff_getElem?.1 hl.1
    have hjlt : j < rout.length := by rw [← hPout.1]; exact (List.getElem?_eq_some_iff.1 hj).1
    obtain ⟨o', hto', hreqout⟩ := hPout.2 j _ _ hj (List.getElem?_eq_getElem hjlt)
    rw [hl.2.1] at hto'
    cases hto'
    rw [if_pos hl.2.2, hw] at hreqout
    obtain ⟨p, xfs, -, -, horq⟩ := wrapper_ok.1 hw
    subst horq
    refine ⟨j, q.1, q.2, o, _, xfs, p, hj, by rw [List.getElem?_eq_getElem hjlt, ← Except.ok.inj hreqout], hl.2.1,
      hl.2.2.1, hl.2.2.2, ?_, hw, rfl, hreq, ?_⟩
    · rintro q' hq' ⟨t', ht', hd', hg'⟩
      exact huniq q' t' ⟨hq', ht', hd', hg'⟩
    · intro hnc
      rcases handed_params env qsvs oi t true _ r hnc hreq with ⟨p', xfs', hg', hx, hr'⟩ | ⟨hg', hw'⟩
      · exact .inl ⟨p', xfs', hg', hx, by simpa using hr'⟩
      · exact .inr ⟨hg', hw'⟩

/-- **end to end, static-range**: the runtime results of a same-as-input op (reshape, transpose, split,
    strided-slice, average-pool) carry the reference parameters of the *operand's* calibrated
    statistics — the very object requested for the operand -/
theorem same_as_input_srq (env : Env) (sg : Subgraph) (qsvs : Qsvs) (oi : OpInfo) (gIn gOut : List Nat)
    (rs : List CReq) (qs' : Qsvs) (tc : TCfg)
    (hsrq : isSRQ oi.cfg = true) (hact : oi.cfg.act = some tc) (hg : tc.gran ≠ Gran.channelwise)
    (h : standardOp env sg qsvs oi .sameAsInput gIn gOut = .ok (rs, qs')) :
    ∃ rin rout, rs = rin ++ rout ∧
      ∀ (i : Nat) (b : Int) (posO : Nat) (o : Tensor) (r : CReq),
        (cslots oi.op.outputs)[i]? = some (b, posO) → rout[i]? = some r → tensorAt sg b = .ok o →
        o.dtype = Tables.ttFloat32 → posO ∉ gOut → constData env o = none →
        ∃ (j : Nat) (a : Int) (pos : Nat) (t : Tensor),
          (cslots oi.op.inputs)[j]? = some (a, pos) ∧ tensorAt sg a = .ok t ∧
          t.dtype = Tables.ttFloat32 ∧ pos ∉ gIn ∧
          (constData env t = none →
            ∃ mn mx qp, Py.dictGet? qsvs t.name = some (some (mn, mx)) ∧
              refParams tc.bits.toNat tc.symmetric none mn mx = .ok qp ∧
              rin[j]? = some (srqReq t.name oi.opId true false (some (.uniform qp none))) ∧
              r = srqReq o.name oi.opId false false (some (.uniform qp none))) := by
  obtain ⟨rin, rout, hrs, -, -, H⟩ := same_as_input env sg qsvs oi gIn gOut rs qs' h
  refine ⟨rin, rout, hrs, fun i b posO o r hi hr hto hdt hpos hnco => ?_⟩
  obtain ⟨j, a, pos, t, ir, p0, hj, hrj, hta, hdtt, hposi, -, hw, hp0, hreq, -⟩ := H i b posO o r hi hr hto hdt hpos
  refine ⟨j, a, pos, t, hj, hta, hdtt, hposi, fun hnct => ?_⟩
  obtain ⟨mn, mx, qp, hs, hp, rfl⟩ := (act_params_reference env qsvs oi t true tc ir hnct hsrq hact hg).1 hw
  cases hp0
  rw [stripData_uniform] at hreq
  exact ⟨mn, mx, qp, hs, hp, hrj, wrapper_srq_runtime hsrq hnco hreq⟩

/-- **bias of FULLY_CONNECTED / CONV_2D / DEPTHWISE_CONV_2D / CONV_2D_TRANSPOSE under a static-range
    config**: the request at the bias position carries parameters with zero points 0, symmetric, 32
    bits (64 for 16-bit activations), whose scale array is the element-wise float product of the
    scale arrays of the requests at the data and weight positions (input scale × weight scale, per
    channel), together with the bias values quantized by them -/
theorem bias_request (env : Env) (sg : Subgraph) (oi : OpInfo) (reqs rs : List CReq) (iIn iW iB : Nat) (bslot : Int)
    (hsrq : isSRQ oi.cfg = true) (hb : oi.op.inputs[iB]? = some bslot) (hne : bslot ≠ -1)
    (h : biasFor env sg oi reqs iIn iW iB = .ok rs) :
    ∃ bt bd rin rw qi di qw dw qp q prod, tensorAt sg bslot = .ok bt ∧ constData env bt = some bd ∧
      reqs[iIn]? = some rin ∧ reqs[iW]? = some rw ∧
      reqParam0 rin = .ok (some (.uniform qi di)) ∧ reqParam0 rw = .ok (some (.uniform qw dw)) ∧
      rs = reqs.set iB (srqReq bt.name oi.opId true true (some (.uniform qp (some q)))) ∧
      uniformQuantize ⟨bd, .f32⟩ qp = .ok q ∧
      qp.symmetric = true ∧ qp.bits = (if qi.bits = 16 then 64 else 32) ∧ (∀ z ∈ qp.zp.arr.data, z = 0) ∧
      zipB (fun a b => (qi.scale.pr.join qw.scale.pr).chk (a * b)) qi.scale.arr qw.scale.arr = .ok prod ∧
      qp.scale = ⟨squeeze1 prod, qi.scale.pr.join qw.scale.pr⟩ := by
  obtain ⟨bt, bd, rin, rw, qi, di, qw, dw, qp, q, h1, h2, h3, h4, h5, h6, h7, _, h9⟩ :=
    biasFor_srq env sg oi reqs rs iIn iW iB bslot hsrq hb hne h
  obtain ⟨prod, hprod, rfl, hq⟩ := quantizeBias_ok_iff.1 h7
  refine ⟨bt, bd, rin, rw, qi, di, qw, dw, _, q, prod, h1, h2, h3, h4, h5, h6, h9, hq, rfl, rfl, ?_, hprod, rfl⟩
  intro z hz
  obtain ⟨_, -, rfl⟩ := List.mem_map.1 hz
  rfl

/-- **SOFTMAX / LOGISTIC (`softmaxLike = true`) and TANH (`false`)**: when the result (last request) is
    quantized it carries the range fixed by the runtime kernel (`C04.fixed_ranges`: 1/256 with zero
    point -128, resp. 1/128 with zero point 0, for 8 bits; 1/32768 symmetric for 16 bits) and no
    calibrated parameters -/
theorem fixed_range_output (env : Env) (sg : Subgraph) (qsvs : Qsvs) (oi : OpInfo) (softmaxLike : Bool)
    (rs : List CReq) (qs' : Qsvs) (a : TCfg) (last : CReq) (pr : CO2T)
    (h : fixedRangeOp env sg qsvs oi softmaxLike = .ok (rs, qs')) (ha : oi.cfg.act = some a)
    (hl : rs.getLast? = some last) (hpr : last.producer = some pr) :
    ∃ fp, fixedParams softmaxLike a.bits.toNat = some fp ∧ pr.param = some (.uniform fp none) := by
  obtain ⟨_, reqs, qs, _, hcase⟩ := fixedRangeOp_spec env sg qsvs oi softmaxLike rs qs' h
  rcases hcase with ⟨rfl, _, hno⟩ | ⟨last0, a', pr0, fp, mm, _, ha', _, hfp, _, hrs, _⟩
  · rcases hno with h1 | h1 | ⟨l, h1, h2⟩
    · rw [h1] at hl; cases hl
    · rw [h1] at ha; cases ha
    · rw [h1] at hl; cases hl
      rw [h2] at hpr; cases hpr
  · rw [ha] at ha'
    cases ha'
    rw [hrs, List.getLast?_append, List.getLast?_singleton] at hl
    simp only [Option.some_or, Option.some.injEq] at hl
    subst hl
    simp only [Option.some.injEq] at hpr
    subst hpr
    exact ⟨fp, hfp, rfl⟩

/-- RESHAPE, TRANSPOSE, SPLIT, STRIDED_SLICE, AVERAGE_POOL_2D are same-as-input ops (with their index
    operands ignored); CONCATENATION is the same-as-output op; SOFTMAX, LOGISTIC (range `[0, 1)`-like,
    scale 1/256 resp. 1/32768) and TANH (scale 1/128 resp. 1/32768) are the fixed-range ops -/
theorem dispatch_table :
    (Py.dictGet? Tables.registry Tables.algMinMax).bind (Py.dictGet? · "RESHAPE") = some "materialize_reshape" ∧
    (Py.dictGet? Tables.registry Tables.algMinMax).bind (Py.dictGet? · "TRANSPOSE") = some "materialize_transpose" ∧
    (Py.dictGet? Tables.registry Tables.algMinMax).bind (Py.dictGet? · "SPLIT") = some "materialize_split" ∧
    (Py.dictGet? Tables.registry Tables.algMinMax).bind (Py.dictGet? · "STRIDED_SLICE") = some "materialize_strided_slice" ∧
    (Py.dictGet? Tables.registry Tables.algMinMax).bind (Py.dictGet? · "AVERAGE_POOL_2D") = some "materialize_average_pool_2d" ∧
    (Py.dictGet? Tables.registry Tables.algMinMax).bind (Py.dictGet? · "CONCATENATION") = some "materialize_concatenation" ∧
    (Py.dictGet? Tables.registry Tables.algMinMax).bind (Py.dictGet? · "SOFTMAX") = some "materialize_softmax_and_logistic" ∧
    (Py.dictGet? Tables.registry Tables.algMinMax).bind (Py.dictGet? · "LOGISTIC") = some "materialize_softmax_and_logistic" ∧
    (Py.dictGet? Tables.registry Tables.algMinMax).bind (Py.dictGet? · "TANH") = some "materialize_tanh" := by
  decide +kernel

theorem dispatch_rules (env : Env) (sg : Subgraph) (qsvs : Qsvs) (oi : OpInfo) :
    materializeOp env sg qsvs oi Tables.algMinMax "materialize_reshape" = standardOp env sg qsvs oi .sameAsInput [1] [] ∧
    materializeOp env sg qsvs oi Tables.algMinMax "materialize_transpose" = standardOp env sg qsvs oi .sameAsInput [1] [] ∧
    materializeOp env sg qsvs oi Tables.algMinMax "materialize_split" = standardOp env sg qsvs oi .sameAsInput [0] [] ∧
    materializeOp env sg qsvs oi Tables.algMinMax "materialize_strided_slice" = standardOp env sg qsvs oi .sameAsInput [1, 2, 3] [] ∧
    materializeOp env sg qsvs oi Tables.algMinMax "materialize_average_pool_2d" = standardOp env sg qsvs oi .sameAsInput [] [] ∧
    materializeOp env sg qsvs oi Tables.algMinMax "materialize_concatenation" = standardOp env sg qsvs oi .sameAsOutput [] [] ∧
    materializeOp env sg qsvs oi Tables.algMinMax "materialize_softmax_and_logistic" = fixedRangeOp env sg qsvs oi true ∧
    materializeOp env sg qsvs oi Tables.algMinMax "materialize_tanh" = fixedRangeOp env sg qsvs oi false :=
  ⟨materializeOp_reshape .., materializeOp_transpose .., materializeOp_split .., materializeOp_strided_slice ..,
   materializeOp_average_pool .., materializeOp_concatenation .., materializeOp_softmax_logistic ..,
   materializeOp_tanh ..⟩

/-- the ops with a bias: FULLY_CONNECTED, CONV_2D, DEPTHWISE_CONV_2D (data 0, weight 1, bias 2) and
    CONV_2D_TRANSPOSE (data 2, weight 1, bias 3) -/
theorem dispatch_bias (env : Env) (sg : Subgraph) (qsvs : Qsvs) (oi : OpInfo) :
    (Py.dictGet? Tables.registry Tables.algMinMax).bind (Py.dictGet? · "FULLY_CONNECTED") = some "materialize_fc_conv" ∧
    (Py.dictGet? Tables.registry Tables.algMinMax).bind (Py.dictGet? · "CONV_2D") = some "materialize_fc_conv" ∧
    (Py.dictGet? Tables.registry Tables.algMinMax).bind (Py.dictGet? · "DEPTHWISE_CONV_2D") = some "materialize_fc_conv" ∧
    (Py.dictGet? Tables.registry Tables.algMinMax).bind (Py.dictGet? · "CONV_2D_TRANSPOSE") = some "materialize_conv2d_transpose" ∧
    materializeOp env sg qsvs oi Tables.algMinMax "materialize_fc_conv" =
      (standardOp env sg qsvs oi .none [2] [] >>= fun rq =>
        biasFor env sg oi rq.1 0 1 2 >>= fun r' => pure (r', rq.2)) ∧
    materializeOp env sg qsvs oi Tables.algMinMax "materialize_conv2d_transpose" =
      (do let (r, q) ← standardOp env sg qsvs oi .none [0, 3] []
          if r.length < 2 then throw PyErr.valueError
          let r' ← biasFor env sg oi r 2 1 3
          pure (r', q)) :=
  have reg : (Py.dictGet? Tables.registry Tables.algMinMax).bind (Py.dictGet? · "FULLY_CONNECTED") = some "materialize_fc_conv" ∧
      (Py.dictGet? Tables.registry Tables.algMinMax).bind (Py.dictGet? · "CONV_2D") = some "materialize_fc_conv" ∧
      (Py.dictGet? Tables.registry Tables.algMinMax).bind (Py.dictGet? · "DEPTHWISE_CONV_2D") = some "materialize_fc_conv" ∧
      (Py.dictGet? Tables.registry Tables.algMinMax).bind (Py.dictGet? · "CONV_2D_TRANSPOSE") = some "materialize_conv2d_transpose" := by
    decide +kernel
  ⟨reg.1, reg.2.1, reg.2.2.1, reg.2.2.2, materializeOp_fc_conv .., materializeOp_conv2d_transpose ..⟩

/-! ## closed instances: the hypotheses are satisfiable, and two statements that are FALSE

A two-input FULLY_CONNECTED `y = fc(x, w)` (no bias) and a RESHAPE `y = reshape(x, s)` over the tensors
`x : [1,2]` (runtime), `w : [2,2] = [[1,-2],[3,4]]` (constant), `s` (int32 constant), `c : [1,2] = [1,-3]`
(constant); 8-bit asymmetric per-tensor activations, 8-bit symmetric CHANNELWISE weights, integer
compute; calibrated statistics `x ∈ [-1, 3]`, `y ∈ [-2, 2]`. -/
namespace Ex

def tx : Tensor := { name := "x", dtype := 0, shape := [1, 2], buffer := 0 }
def tw : Tensor := { name := "w", dtype := 0, shape := [2, 2], buffer := 1 }
def ty : Tensor := { name := "y", dtype := 0, shape := [1, 2], buffer := 2 }
def ts : Tensor := { name := "s", dtype := 2, shape := [2], buffer := 3 }
def tc : Tensor := { name := "c", dtype := 0, shape := [1, 2], buffer := 4 }
def opFC : Op := { code := 0, inputs := [0, 1, -1], outputs := [2] }
def opFCc : Op := { code := 0, inputs := [4, 1, -1], outputs := [2] }
def opRS : Op := { code := 1, inputs := [0, 3], outputs := [2] }
def sg : Subgraph := { tensors := [tx, tw, ty, ts, tc], ops := [opFC], inputs := [0], outputs := [2] }
def env : Env :=
  { model := { subgraphs := [sg], buffers := [none, some (.inl 0), none, some (.inl 1), some (.inl 2)],
               opcodes := [9, 22], sigs := [] },
    consts := [(1, [1, -2, 3, 4]), (4, [1, -3])], adjY := [] }
def dW : Arr Rat := ⟨[2, 2], [1, -2, 3, 4]⟩
def tcA : TCfg := { bits := 8, symmetric := false, gran := .tensorwise }
def tcW : TCfg := { bits := 8, symmetric := true, gran := .channelwise }
def tcWT : TCfg := { bits := 8, symmetric := true, gran := .tensorwise }
def tcAC : TCfg := { bits := 8, symmetric := false, gran := .channelwise }
/-- static-range, per-channel weights -/
def cfg : OpCfg := { act := some tcA, weight := some tcW, cp := .integer }
/-- dynamic range (integer compute, no activation config), per-tensor weights -/
def cfgT : OpCfg := { act := none, weight := some tcWT, cp := .integer }
/-- static-range with a CHANNELWISE *activation* config (not in the shipped policy) -/
def cfgAC : OpCfg := { act := some tcAC, weight := some tcW, cp := .integer }
def oiFC : OpInfo := { sgIdx := 0, op := opFC, opName := "FULLY_CONNECTED", opId := 0, cfg := cfg }
def oiFCc : OpInfo := { sgIdx := 0, op := opFCc, opName := "FULLY_CONNECTED", opId := 0, cfg := cfg }
def oiT : OpInfo := { sgIdx := 0, op := opFC, opName := "FULLY_CONNECTED", opId := 0, cfg := cfgT }
def oiAC : OpInfo := { sgIdx := 0, op := opFC, opName := "FULLY_CONNECTED", opId := 0, cfg := cfgAC }
def oiRS : OpInfo := { sgIdx := 0, op := opRS, opName := "RESHAPE", opId := 0, cfg := cfg }
def f32 (s : List Nat) (l : List Rat) : FArr := ⟨⟨s, l⟩, .f32⟩
def qsvs : Qsvs := [("x", some (f32 [1, 1] [-1], f32 [1, 1] [3])), ("y", some (f32 [1, 1] [-2], f32 [1, 1] [2]))]

/-- reference parameters of `x ∈ [-1, 3]`, 8 bits asymmetric: scale `fl32(4/255)`, zero point `-64` -/
def qpX : QParams :=
  { bits := 8, qdim := none, scale := f32 [1, 1] [8421505 / 536870912], zp := ⟨⟨[1, 1], [-64]⟩, 8⟩, symmetric := false }
/-- reference parameters of `w`, 8 bits symmetric, per channel along dimension 0:
    scales `fl32(2/127)`, `fl32(4/127)`, zero points 0 -/
def qpW : QParams :=
  { bits := 8, qdim := some 0, scale := f32 [2, 1] [2113665 / 134217728, 2113665 / 67108864],
    zp := ⟨⟨[2, 1], [0, 0]⟩, 8⟩, symmetric := true }
def qW : IArr := ⟨⟨[2, 2], [64, -127, 95, 127]⟩, 8⟩

theorem x_ref : refParams 8 false none (f32 [1, 1] [-1]) (f32 [1, 1] [3]) = .ok qpX := by decide +kernel

theorem x_request : wrapper env qsvs oiFC tx true none = .ok (srqReq "x" 0 true false (some (.uniform qpX none))) :=
  (act_params_reference env qsvs oiFC tx true tcA _ (by decide) (by decide) rfl (by decide)).2
    ⟨_, _, qpX, by decide, x_ref, rfl⟩

/-- the hypotheses of `act_params_reference` hold here, and its right-hand side is the computed request -/
example : wrapper env qsvs oiFC tx true none = .ok (srqReq "x" 0 true false (some (.uniform qpX none))) :=
  x_request

theorem x_ordered : StatsOrdered (f32 [1, 1] [-1]) (f32 [1, 1] [3]) :=
  ⟨rfl, fun k => by
    cases k with
    | zero => decide
    | succ n => exact le_refl _⟩

/-- … and those of `act_params_wellformed` -/
example : WellFormed 8 false qpX := by
  obtain ⟨qp, hr, hp, hwf, _⟩ := act_params_wellformed env qsvs oiFC tx true tcA _ (f32 [1, 1] [-1]) (f32 [1, 1] [3])
    (by decide) (by decide) rfl (by decide) (by decide) (by decide) (by decide) (by decide) x_ordered x_request
  have : qp = qpX := (Except.ok.inj (x_ref.symm.trans hp)).symm
  exact this ▸ hwf

/-- missing statistics: `ValueError` -/
example : wrapper env [] oiFC tx true none = .error .valueError :=
  act_params_missing env [] oiFC tx true tcA (by decide) rfl (.inl (by decide))

theorem w_stats : initMinMax env oiFC tw dW = .ok (f32 [2, 1] [-2, 3], f32 [2, 1] [1, 4]) := by decide +kernel

theorem w_ref : refParams 8 true (some 0) (f32 [2, 1] [-2, 3]) (f32 [2, 1] [1, 4]) = .ok qpW := by decide +kernel

theorem w_quantized : uniformQuantize ⟨dW, .f32⟩ qpW = .ok qW := by decide +kernel

/-- one kernel evaluation for the three facts below -/
theorem w_side : constData env tw = some dW ∧ tcfgOf env oiFC tw = some tcW ∧
    refQDim env oiFC tcW (some dW) = .ok (some 0) := by
  decide +kernel

theorem w_data : constData env tw = some dW := w_side.1
theorem w_cfg : tcfgOf env oiFC tw = some tcW := w_side.2.1
theorem w_qdim : refQDim env oiFC tcW (some dW) = .ok (some 0) := w_side.2.2

theorem w_request :
    wrapper env qsvs oiFC tw true none = .ok (srqReq "w" 0 true true (some (.uniform qpW (some qW)))) :=
  (weight_params_reference env qsvs oiFC tw true tcW dW _ w_data w_cfg).2
    ⟨_, _, some 0, qpW, qW, w_stats, w_qdim, w_ref, by decide, w_quantized, mkReq_srq _ _ _ _ _ rfl⟩

/-- the hypotheses of `weight_params_reference` hold here, and its right-hand side is the computed request -/
example : wrapper env qsvs oiFC tw true none = .ok (srqReq "w" 0 true true (some (.uniform qpW (some qW)))) :=
  w_request

/-- … and those of `weight_params_shape`: two channels along dimension 0 -/
example : WellFormed 8 true qpW ∧ qpW.scale.arr.data.length = 2 ∧ channels dW.shape (some 0) = 2 := by
  obtain ⟨hwf, _, _, _, _, hl, _⟩ := weight_params_shape env oiFC tw tcW dW _ _ (some 0) qpW w_data w_cfg
    (by intro a h; cases h; decide) (by decide) (by decide) w_stats w_qdim w_ref
  exact ⟨hwf, by decide, by decide⟩

/-- what calibration records for `w` under this op is what materialisation recomputes -/
example : initMinMax env oiFC tw dW = .ok (f32 [2, 1] [-2, 3], f32 [2, 1] [1, 4]) :=
  calibrated_stats_recomputed env oiFC tw dW _ w_data rfl (by decide +kernel)

theorem reshape_requests :
    standardOp env sg qsvs oiRS .sameAsInput [1] [] =
      .ok ([srqReq "x" 0 true false (some (.uniform qpX none)), noQuantReq "s" 0 true,
            srqReq "y" 0 false false (some (.uniform qpX none))],
           [("x", some (f32 [1, 1] [-1], f32 [1, 1] [3])), ("y", some (f32 [1, 1] [-1], f32 [1, 1] [3]))]) := by
  decide +kernel

/-! ### stale weight statistics do not override the configured granularity (defect D36 of the library)

The statistics dictionary holds the per-channel min/max of `w` (as calibration under a CHANNELWISE recipe
records them), the op is materialised under a TENSORWISE weight config.  The entry is ignored: one scale
`fl32(4/127)`, no quantized dimension -- the same request as with an empty dictionary.  (Were the entry used,
`single_depthwise_conv2d_bias.tflite`, calibrated under CHANNELWISE and quantized under TENSORWISE weights,
would get 3 scales with `quantized_dimension = 0`, which the runtime rejects.) -/

def qsvsStale : Qsvs := [("w", some (f32 [2, 1] [-2, 3], f32 [2, 1] [1, 4]))]

/-- reference parameters of `w`, 8 bits symmetric, per tensor: `max |w| = 4` -/
def qpWT : QParams :=
  { bits := 8, qdim := none, scale := f32 [1, 1] [2113665 / 67108864], zp := ⟨⟨[1, 1], [0]⟩, 8⟩, symmetric := true }
def qWT : IArr := ⟨⟨[2, 2], [32, -64, 95, 127]⟩, 8⟩

theorem stale_stats_ignored :
    tcfgOf env oiT tw = some tcWT ∧ tcWT.gran = .tensorwise ∧
    wrapper env qsvsStale oiT tw true none =
      .ok ⟨"w", none, some [⟨0, [.quantTensor], some (.uniform qpWT (some qWT))⟩]⟩ ∧
    qpWT.qdim = none ∧ qpWT.scale.arr.data.length = 1 ∧ channels dW.shape qpWT.qdim = 1 ∧
    wrapper env qsvsStale oiT tw true none = wrapper env [] oiT tw true none :=
  ⟨by decide +kernel, rfl, by decide +kernel, rfl, rfl, rfl,
   weight_request_ignores_stats env qsvsStale [] oiT tw true dW w_data⟩

/-- the instance of `weight_params_reference` for the stale dictionary: per-tensor statistics
    `[-2, 4]` recomputed from the data -/
example : ∃ mn mx qp q, initMinMax env oiT tw dW = .ok (mn, mx) ∧ mn.arr.data = [-2] ∧ mx.arr.data = [4] ∧
    refParams 8 true none mn mx = .ok qp ∧ uniformQuantize ⟨dW, .f32⟩ qp = .ok q := by
  obtain ⟨mn, mx, qdim, qp, q, h1, h2, h3, _, h5, _⟩ :=
    (weight_params_reference env qsvsStale oiT tw true tcWT dW _ w_data stale_stats_ignored.1).1
      stale_stats_ignored.2.2.1
  have e : initMinMax env oiT tw dW = .ok (f32 [1, 1] [-2], f32 [1, 1] [4]) := by decide +kernel
  rw [e] at h1
  cases h1
  have : qdim = none := by
    have : refQDim env oiT tcWT (some dW) = .ok none := rfl
    rw [this] at h2; cases h2; rfl
  subst this
  exact ⟨_, _, qp, q, e, rfl, rfl, h3, h5⟩

/-! ### FALSE: "per-channel parameters appear only on a weight operand"

`wrapper` chooses the weight config for *every* constant operand of a weight-only / dynamic-range op:
a FULLY_CONNECTED whose data operand is the constant `c` gets per-channel parameters (quantized
dimension 0) on its data operand too. -/
theorem const_data_operand_per_channel :
    ∃ rs qs' r qp dat, materializeOp env sg qsvs oiFCc Tables.algMinMax "materialize_fc_conv" = .ok (rs, qs') ∧
      rs[0]? = some r ∧ r.name = "c" ∧ reqParam0 r = .ok (some (.uniform qp dat)) ∧ qp.qdim = some 0 := by
  refine ⟨[srqReq "c" 0 true true (some (.uniform
      { bits := 8, qdim := some 0, scale := f32 [1, 1] [6340995 / 268435456], zp := ⟨⟨[1, 1], [0]⟩, 8⟩, symmetric := true }
      (some ⟨⟨[1, 2], [42, -127]⟩, 8⟩))),
    srqReq "w" 0 true true (some (.uniform qpW (some qW))),
    srqReq "y" 0 false false (some (.uniform
      { bits := 8, qdim := none, scale := f32 [1, 1] [8421505 / 536870912], zp := ⟨⟨[1, 1], [-1]⟩, 8⟩, symmetric := false } none))],
    qsvs, _, _, _, by decide +kernel, rfl, rfl, rfl, rfl⟩

/-! ### why `ActPerTensor` is assumed: a CHANNELWISE activation config puts a quantized dimension on a
runtime tensor (with per-tensor statistics: one scale) -/
theorem channelwise_activation_witness :
    wrapper env qsvs oiAC tx true none = .ok (srqReq "x" 0 true false (some (.uniform { qpX with qdim := some 0 } none))) := by
  decide +kernel

end Ex

end C04
