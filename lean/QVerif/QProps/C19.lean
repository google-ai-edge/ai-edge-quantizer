import QProofs.StepTypes
/-!
# C19 — each subgraph is transformed as if it stood alone (local part)

One graph transformation touches exactly one subgraph (`m'.subgraphs = m.subgraphs.set sgi sg'`); only
the shared tables are common (opcodes grow, constant buffers are overwritten in place keeping their
data/no-data pattern).  The whole performer run is `C19.performer_local` (`QProps/C19b.lean`), the
whole `quantizePure` is `C19.quantize_local_full` (`QProps/C19c.lean`).
-/
open Graph Perform GraphStep StepTypes

namespace C19

theorem other_subgraphs_untouched (pt : PTable) (m m' : Model) (sgi : Nat) (sg : Subgraph) (inp : TIn)
    (info : TInfoOut) (hsg : m.subgraphs[sgi]? = some sg) (hinp : InpOK pt m sg inp)
    (h : insertQuant pt m sgi inp = .ok (m', info) ∨ insertDequant pt m sgi inp = .ok (m', info) ∨
         quantizeOnly pt m sgi inp = .ok (m', info)) :
    ∀ j, j ≠ sgi → m'.subgraphs[j]? = m.subgraphs[j]? := by
  intro j hj
  obtain ⟨sg', hfr⟩ : ∃ sg', StepOut m m' sgi sg' := by
    rcases h with h | h | h
    · exact runXf_out (x := .addQuant) hsg h
    · exact runXf_out (x := .addDequant) hsg h
    · exact runXf_out (x := .quantTensor) hsg h
  rw [hfr.subs, List.getElem?_set_ne (Ne.symm hj)]

end C19
