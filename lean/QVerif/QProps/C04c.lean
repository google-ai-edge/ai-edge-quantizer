import QProofs.ParamsOps
import QProps.C08c
import QProps.C03d
/-!
# C04, end to end on `Pipeline.quantizePure`

Every quantized tensor carries finite positive scales and in-range zero points of equal length, with zero
point 0 whenever its config is symmetric (except where the runtime kernel fixes the output range), and the
values equal the reference min/max formulas applied to that tensor's statistics under the configured bit
width, symmetry and granularity.  The op-level rules hold (bias, same-scale operators, fixed ranges).
Per-channel parameters appear only on a constant operand of an operator with weights, on the dimension the
runtime kernel expects, or on a bias (a constant DATA operand of such an operator gets them too:
`C04.Ex.const_data_operand_per_channel`).

`C04.lean`, `C04b.lean`: the materialisation of ONE operator; here: the output of `quantizePure` under the normal form `NF`.

Not claimed: positivity of a BIAS scale (the float product of two positive scales may underflow to 0; a bias
is described by `IsBias` instead of `WellFormed`); the shape of an activation's scale array is the shape of
the statistics entry the caller handed in (C05c).
-/
open Graph Mat Arith Cfg Num Nd MatParams Pipeline Pipe
open ParamsSrc ParamsStats ParamsE2E ParamsFwd ParamsWF ParamsOps

set_option autoImplicit false

namespace C04

/-- Every tensor of the output with quantization parameters `p`
    stands for an original tensor `tn` (index `i` of the same subgraph of the input); the table entry
    `tbl[p]` is uniform and has the values of the parameter object `.uniform qp d` attached to the request
    for `tn` by the materialisation of the entry with operator id `o` of the operator list (`ParamAt`), which
    is the PRODUCER of `tn` (original runtime tensor), a READER of `tn` (original constant), or a READER of
    `tn` (new tensor, the result of the inserted operator `QUANTIZE(tn)`) -/
theorem quantized_tensor_params (rx : String → String → Bool) (env : Env) (st : Recipe.State)
    (qsvs : Option Qsvs) (m' : Model) (tbl : List Param) (hnf : PipelineWF.NF env st)
    (h : quantizePure rx env st qsvs = .ok (m', tbl))
    (s : Nat) (sg' : Subgraph) (hsg' : m'.subgraphs[s]? = some sg') (n : Nat) (tn' : Tensor)
    (htn' : sg'.tensors[n]? = some tn') (p : PId) (hq : tn'.quant = some p) :
    ∃ (sg : Subgraph) (i : Nat) (tn : Tensor) (o : Int) (qp0 qp : QParams) (d0 d : Option IArr),
      env.model.subgraphs[s]? = some sg ∧ sg.tensors[i]? = some tn ∧ Skeleton.root sg' (n : Int) = (i : Int) ∧
      tbl[p]? = some (.uniform qp0 d0) ∧ SameValues qp0 qp ∧
      ParamAt rx env st qsvs s sg tn o (.uniform qp d) ∧
      ((n = i ∧ isConst env.model sg (i : Int) = false ∧ ProducedAt sg i o) ∨
       (n = i ∧ isConst env.model sg (i : Int) = true ∧ ConsumedAt sg i o) ∨
       (sg.tensors.length ≤ n ∧ isConst env.model sg (i : Int) = false ∧ ConsumedAt sg i o ∧
         ∃ ci, ({ code := ci, inputs := [(i : Int)], outputs := [(n : Int)], orig := none } : Op) ∈ sg'.ops ∧
           m'.opcodes[ci]? = some Tables.opQuantize)) := by
  obtain ⟨sg, i, tn, o, P, h1, h2, h3, h4, h6, h7, h8⟩ :=
    quant_source rx env st qsvs m' tbl hnf h s sg' hsg' n tn' htn' p hq
  cases P with
  | nonlinear b d => cases h6
  | uniform qp d =>
    obtain ⟨qp0, d0, e, hv⟩ := values_of_index h4
    exact ⟨sg, i, tn, o, qp0, qp, d0, d, h1, h2, h3, e, hv, h7, h8⟩

/-- **the kinds of parameter objects** (the constructors of `ParamsSrc.PSrc`, for a uniform object):
    (a) reference parameters of the tensor's own statistics, (a') of another operand / result of the same
    (constrained, hence weight-less) operator, (a'') a fixed range, (b) a bias -/
theorem param_kinds (env : Env) (sg : Subgraph) (qs : Qsvs) (oi : OpInfo) (t : Tensor) (qp : QParams)
    (d : Option IArr) (h : PSrc env sg qs oi t (.uniform qp d)) :
    RefOf env qs oi t qp d ∨
    (∃ b t0 d0, SlotOf sg oi.op b t0 ∧ SlotOf sg oi.op (!b) t ∧ RefOf env qs oi t0 qp d0 ∧ LentData env t qp d ∧
      NotWeightOp oi) ∨
    (∃ sl a, oi.cfg.act = some a ∧ fixedParams sl a.bits.toNat = some qp ∧ SlotOf sg oi.op false t ∧ d = none) ∨
    (∃ aIn aW tin tw qi di qw dw bd q, oi.op.inputs[PipeNF.dataSlot oi.opName]? = some aIn ∧
      tensorAt sg aIn = .ok tin ∧ oi.op.inputs[1]? = some aW ∧ tensorAt sg aW = .ok tw ∧
      RefOf env qs oi tin qi di ∧ RefOf env qs oi tw qw dw ∧ constData env t = some bd ∧
      quantizeBias ⟨bd, .f32⟩ qi qw = .ok (qp, q) ∧ d = some q) := by
  cases h with
  | ref _ _ hr => exact .inl hr
  | lent b t0 _ d0 _ h1 h2 h3 h4 h5 => exact .inr (.inl ⟨b, t0, d0, h1, h2, h3, h4, h5⟩)
  | fixed sl a _ h1 h2 h3 => exact .inr (.inr (.inl ⟨sl, a, h1, h2, h3, rfl⟩))
  | bias aIn aW tin tw qi di qw dw bd _ q h1 h2 h3 h4 h5 h6 h7 h8 =>
    exact .inr (.inr (.inr ⟨aIn, aW, tin, tw, qi, di, qw, dw, bd, q, h1, h2, h3, h4, h5, h6, h7, h8, rfl⟩))

theorem refOf_unfold (env : Env) (qs : Qsvs) (oi : OpInfo) (t : Tensor) (qp : QParams) (d : Option IArr) :
    RefOf env qs oi t qp d ↔
      ∃ tc mn mx qdim, tcfgOf env oi t = some tc ∧ statsOf env qs oi t = .ok (some (mn, mx)) ∧
        refQDim env oi tc (constData env t) = .ok qdim ∧
        refParams tc.bits.toNat tc.symmetric qdim mn mx = .ok qp ∧ refData tc (constData env t) qp = .ok d :=
  Iff.rfl

/-- **the statistics in force**: every entry of the dictionary under which an entry of the operator list is
    materialised is the caller's, a same-as-input copy, or the min/max of a fixed range (`StatSrc`) -/
theorem stats_in_force (rx : String → String → Bool) (env : Env) (st : Recipe.State) (qsvs : Option Qsvs)
    (hnf : PipelineWF.NF env st) (s : Nat) (sg : Subgraph) (hsg : env.model.subgraphs[s]? = some sg) (j : Nat)
    (qs : Qsvs) (h : StatsAt rx env st qsvs s sg j qs) (n : String) (e : Qsv)
    (hn : Py.dictGet? qs n = some e) : StatSrc rx env st qsvs n e :=
  statsAt_src rx env st qsvs s sg hsg j qs h n e hn

/-- so "THE statistics in force" in the statements below is a definite description -/
theorem stats_in_force_unique (rx : String → String → Bool) (env : Env) (st : Recipe.State) (qsvs : Option Qsvs)
    (s : Nat) (sg : Subgraph) (j : Nat) (qs qs' : Qsvs) (h : StatsAt rx env st qsvs s sg j qs)
    (h' : StatsAt rx env st qsvs s sg j qs') : qs = qs' := by
  obtain ⟨g1, r1, a1, a2⟩ := h
  obtain ⟨g2, r2, b1, b2⟩ := h'
  rw [a1] at b1
  cases b1
  rw [a2] at b2
  cases b2
  rfl

/-- what `(allOps sg)[j]?` in `ParamAt` and in the statements of this file ranges over -/
theorem allOps_get (sg : Subgraph) (j : Nat) (q : Op × Option String × Int) (h : (allOps sg)[j]? = some q) :
    (∃ op, sg.ops[j]? = some op ∧ q = (op, none, (j : Int))) ∨
    (j = sg.ops.length ∧ q = (({ code := 0, inputs := [], outputs := sg.inputs } : Op), some "INPUT", (-1 : Int))) ∨
    (j = sg.ops.length + 1 ∧
      q = (({ code := 0, inputs := sg.outputs, outputs := [] } : Op), some "OUTPUT", (-1 : Int))) := by
  unfold allOps at h
  by_cases hj : j < sg.ops.length
  · rw [List.getElem?_append_left (by simpa using hj), List.getElem?_map, List.getElem?_zipIdx] at h
    left
    refine ⟨sg.ops[j], List.getElem?_eq_getElem hj, ?_⟩
    simp only [List.getElem?_eq_getElem hj, Option.map_some, Nat.zero_add, Option.some.injEq] at h
    exact h.symm
  · right
    rw [List.getElem?_append_right (by simpa using hj)] at h
    simp only [List.length_map, List.length_zipIdx] at h
    rcases hk : j - sg.ops.length with _ | _ | k
    · rw [hk] at h
      simp only [List.getElem?_cons_zero, Option.some.injEq] at h
      exact .inl ⟨by omega, h.symm⟩
    · rw [hk] at h
      simp only [List.getElem?_cons_succ, List.getElem?_cons_zero, Option.some.injEq] at h
      exact .inr ⟨by omega, h.symm⟩
    · rw [hk] at h
      simp at h

/-- an entry of the statistics in force under a name that no same-as-input / fixed-range operator has as a
    result is the CALLER's (calibrated) entry -/
theorem stats_given (rx : String → String → Bool) (env : Env) (st : Recipe.State) (qsvs : Option Qsvs)
    (n : String) (e : Qsv) (h : StatSrc rx env st qsvs n e)
    (hnot : ∀ (s : Nat) (sg : Subgraph) (j : Nat) (q : Op × Option String × Int) (k scope fn : String) (t : Tensor),
      env.model.subgraphs[s]? = some sg → (allOps sg)[j]? = some q → Resolves rx env st sg q k scope →
      Py.dictGet? minmaxOps k = some fn → fn ∈ sameAsInputFns ∨ fn ∈ fixedRangeFns → SlotOf sg q.1 false t →
      t.name ≠ n) :
    Py.dictGet? (qsvs.getD []) n = some e := by
  cases h with
  | given _ _ hg => exact hg
  | copied s sg j q k scope fn t0 t _ h1 h2 h3 _ h5 h6 _ h8 _ =>
    exact absurd rfl (hnot s sg j q k scope fn t h1 h2 h3 h5 (.inl h6) h8)
  | fixed s sg j q k scope fn t a fp mm h1 h2 h3 _ h5 h6 h7 _ _ _ =>
    exact absurd rfl (hnot s sg j q k scope fn t h1 h2 h3 h5 (.inr h6) h7)

/-- the statistics of a CONSTANT are the true per-tensor / per-channel min/max of its data under the config of
    the operator at hand (`C04.weight_stats_true_minmax` says what `initMinMax` computes) -/
theorem statsOf_constant (env : Env) (qs : Qsvs) (oi : OpInfo) (t : Tensor) (dd : Arr Rat) (mn mx : FArr)
    (hd : constData env t = some dd) :
    statsOf env qs oi t = .ok (some (mn, mx)) ↔ initMinMax env oi t dd = .ok (mn, mx) :=
  statsOf_const env qs oi t dd mn mx hd

/-- **how many scales**: the reference parameters of a CONSTANT have one scale / zero point per channel --
    one, or `shape[qdim]` along the kernel's quantized dimension (`MatParams.channels`); those of a RUNTIME
    tensor have no quantized dimension and the shape of its statistics entry (one scale for the per-tensor
    statistics that calibration records) -/
theorem refOf_channels (env : Env) (qs : Qsvs) (oi : OpInfo) (t : Tensor) (qp : QParams) (d : Option IArr)
    (h : RefOf env qs oi t qp d) (hcfg : CfgOK oi.cfg) (hqs : DictOK qs) :
    (∀ dd, constData env t = some dd →
      qp.scale.arr.data.length = channels dd.shape qp.qdim ∧ qp.zp.arr.data.length = channels dd.shape qp.qdim) ∧
    (constData env t = none → qp.qdim = none ∧
      ∃ mn mx, Py.dictGet? qs t.name = some (some (mn, mx)) ∧ qp.scale.arr.shape = mn.arr.shape ∧
        qp.scale.arr.data.length = numel mn.arr.shape ∧ qp.zp.arr.data.length = numel mn.arr.shape) := by
  obtain ⟨tc, -, hwf, hc, hr⟩ := refOf_facts env qs oi t qp d h hcfg hqs
  refine ⟨hc, fun hn => ?_⟩
  obtain ⟨hq, mn, mx, hd, e3⟩ := hr hn
  exact ⟨hq, mn, mx, hd, e3, by rw [hwf.wf, e3], by rw [← hwf.len, hwf.wf, e3]⟩

/-- If every rule config of the recipe has 2..16 bits and per-tensor activations, and the caller's statistics are ordered
    (`min ≤ max`, one shape) and not float16, then for every tensor of the output with quantization parameters `p`: the
    table entry `tbl[p]` has the values of a parameter object `qp` (the one of `quantized_tensor_params`) that is
    `MatParams.WellFormed` for its own bit width and symmetry flag, or is a bias. -/
theorem output_params_wellformed (rx : String → String → Bool) (env : Env) (st : Recipe.State)
    (qsvs : Option Qsvs) (m' : Model) (tbl : List Param) (hnf : PipelineWF.NF env st)
    (h : quantizePure rx env st qsvs = .ok (m', tbl)) (hst : RecipeOK st) (hstats : StatsOK qsvs)
    (s : Nat) (sg' : Subgraph) (hsg' : m'.subgraphs[s]? = some sg') (n : Nat) (tn' : Tensor)
    (htn' : sg'.tensors[n]? = some tn') (p : PId) (hq : tn'.quant = some p) :
    ∃ (qp0 qp : QParams) (d0 : Option IArr), tbl[p]? = some (.uniform qp0 d0) ∧ SameValues qp0 qp ∧
      (WellFormed qp.bits qp.symmetric qp ∨ IsBias qp) := by
  obtain ⟨sg, i, tn, o, qp0, qp, d0, d, h1, h2, h3, h4, h5, h6, -⟩ :=
    quantized_tensor_params rx env st qsvs m' tbl hnf h s sg' hsg' n tn' htn' p hq
  obtain ⟨j, q, k, scope, qs, -, -, -, hstat, hsrc⟩ := h6
  refine ⟨qp0, qp, d0, h4, h5, psrc_wellformed env sg qs _ tn qp d hsrc (cfgOK_resolve rx st hst k scope) ?_⟩
  intro nm mn mx hget
  exact statSrc_ok hstats nm _ (stats_in_force rx env st qsvs hnf s sg h1 j qs hstat nm _ hget) mn mx rfl

/-- the values in the table inherit everything `WellFormed` says except the float format of the scales -/
theorem wellformed_values (qp0 qp : QParams) (hs : SameValues qp0 qp) (h : WellFormed qp.bits qp.symmetric qp) :
    qp0.scale.arr.shape = qp0.zp.arr.shape ∧ qp0.scale.arr.data.length = qp0.zp.arr.data.length ∧
      qp0.scale.arr.data.length = numel qp0.scale.arr.shape ∧ (∀ x ∈ qp0.scale.arr.data, 0 < x) ∧
      (∀ x ∈ qp0.scale.arr.data, qp.scale.pr.isFin x = true) ∧
      (∀ z ∈ qp0.zp.arr.data, qmin qp0.bits ≤ z ∧ z ≤ qmax qp0.bits) ∧
      (qp0.symmetric = true → ∀ z ∈ qp0.zp.arr.data, z = 0) := by
  obtain ⟨e1, -, e3, e4, e5⟩ := hs
  rw [e1, e3, e4, e5]
  exact ⟨h.shape, h.len, h.wf, h.pos, h.fin, h.zp, h.zp0⟩

/-- Under a recipe whose activation configs are per-tensor: a
    tensor of the output whose parameters have a quantized dimension `kq` is an ORIGINAL CONSTANT `tn`, and
    its parameters were requested by an operator `o` that reads it, as
    * a constant operand of an operator with weights (BATCH_MATMUL, CONV_2D, CONV_2D_TRANSPOSE,
      DEPTHWISE_CONV_2D, EMBEDDING_LOOKUP, FULLY_CONNECTED) whose resolved WEIGHT config is CHANNELWISE, and
      `kq` is the dimension the runtime kernel expects (table `weightQDim`; for BATCH_MATMUL the last
      dimension, the last but one under `adj_y`), or
    * a bias (`kq = 0`). -/
theorem per_channel_only_weights_in_output (rx : String → String → Bool) (env : Env) (st : Recipe.State)
    (qsvs : Option Qsvs) (m' : Model) (tbl : List Param) (hnf : PipelineWF.NF env st)
    (h : quantizePure rx env st qsvs = .ok (m', tbl)) (hst : RecipeOK st)
    (s : Nat) (sg' : Subgraph) (hsg' : m'.subgraphs[s]? = some sg') (n : Nat) (tn' : Tensor)
    (htn' : sg'.tensors[n]? = some tn') (p : PId) (hq : tn'.quant = some p)
    (qp0 : QParams) (d0 : Option IArr) (htbl : tbl[p]? = some (.uniform qp0 d0)) (kq : Nat)
    (hqd : qp0.qdim = some kq) :
    ∃ (sg : Subgraph) (tn : Tensor) (o : Int) (j : Nat) (q : Op × Option String × Int) (k scope : String),
      env.model.subgraphs[s]? = some sg ∧ sg.tensors[n]? = some tn ∧ isConst env.model sg (n : Int) = true ∧
      ConsumedAt sg n o ∧ (allOps sg)[j]? = some q ∧ q.2.2 = o ∧ Resolves rx env st sg q k scope ∧
      ((Tables.woOps.contains k = true ∧ ∃ tc, (Recipe.resolve rx st k scope).2.weight = some tc ∧
          tc.gran = Gran.channelwise ∧
          ((k = "BATCH_MATMUL" ∧ ∃ dd, constData env tn = some dd ∧
              kq = bmmQDim dd.shape.length (opAdjY env (oiOf rx st s q k scope))) ∨
           (k ≠ "BATCH_MATMUL" ∧ Py.dictGet? Tables.weightQDim k = some kq))) ∨
       (kq = 0 ∧ ∃ qi qw bd qp q', constData env tn = some bd ∧ quantizeBias ⟨bd, .f32⟩ qi qw = .ok (qp, q') ∧
          SameValues qp0 qp)) := by
  obtain ⟨sg, i, tn, o, qp0', qp, d0', d, h1, h2, h3, h4, h5, h6, h7⟩ :=
    quantized_tensor_params rx env st qsvs m' tbl hnf h s sg' hsg' n tn' htn' p hq
  rw [htbl] at h4
  cases h4
  have hqd' : qp.qdim = some kq := by rw [← h5.2.1]; exact hqd
  obtain ⟨j, q, k, scope, qs, g1, g2, g3, -, hsrc⟩ := h6
  have hact : ActPerTensor (oiOf rx st s q k scope).cfg := fun a ha => ((cfgOK_resolve rx st hst k scope).1 a ha).2.2
  have hci := constData_isSome env sg i tn h2
  -- the tensor is a constant: only the second class is possible
  have fin : (constData env tn).isSome = true →
      n = i ∧ isConst env.model sg (i : Int) = true ∧ ConsumedAt sg i o := by
    intro hc
    rw [hci] at hc
    rcases h7 with ⟨-, hx, -⟩ | ⟨a, b, c⟩ | ⟨-, hx, -⟩
    · rw [hx] at hc; cases hc
    · exact ⟨a, b, c⟩
    · rw [hx] at hc; cases hc
  have weight : ∀ (t0 : Tensor) (dat : Option IArr), RefOf env qs (oiOf rx st s q k scope) t0 qp dat →
      (constData env t0).isSome = true ∧ Tables.woOps.contains k = true ∧
        ∃ tc, (Recipe.resolve rx st k scope).2.weight = some tc ∧ tc.gran = Gran.channelwise ∧
          ((k = "BATCH_MATMUL" ∧ ∃ dd, constData env t0 = some dd ∧
              kq = bmmQDim dd.shape.length (opAdjY env (oiOf rx st s q k scope))) ∨
           (k ≠ "BATCH_MATMUL" ∧ Py.dictGet? Tables.weightQDim k = some kq)) := by
    intro t0 dat hr
    obtain ⟨tc, mn, mx, qdim, htc, -, hqdim, hp, -⟩ := hr
    obtain ⟨_, _, -, hqp⟩ := (refParams_ok_iff ..).1 hp
    obtain rfl : qdim = some kq := by rw [← hqd', hqp]
    obtain ⟨a, b, c, e, f⟩ := per_channel_only_weight_config env _ t0 tc kq htc hact hqdim
    exact ⟨a, b, tc, c, e, f⟩
  -- own reference → weight row; lent → impossible, the lender is `NotWeightOp`; fixed → `qdim = none`; bias → `kq = 0`
  rcases param_kinds env sg qs _ tn qp d hsrc with hr | ⟨b, t0, dd0, -, -, hr, -, hnw⟩ | ⟨sl, a, -, hf, -, -⟩ |
    ⟨aIn, aW, tin, tw, qi, di, qw, dw, bd, q', -, -, -, -, -, -, hbd, hb, -⟩
  · obtain ⟨hc, hwo, rest⟩ := weight tn d hr
    obtain ⟨rfl, f2, f3⟩ := fin hc
    exact ⟨sg, tn, o, j, q, k, scope, h1, h2, f2, f3, g1, g2, g3, .inl ⟨hwo, rest⟩⟩
  · obtain ⟨-, hwo, -⟩ := weight t0 dd0 hr
    have := hnw.1
    simp only [oiOf] at this
    rw [this] at hwo
    cases hwo
  · rw [(fixedParams_wf sl _ qp hf).2.1] at hqd'
    cases hqd'
  · obtain ⟨rfl, f2, f3⟩ := fin (by rw [hbd]; rfl)
    have hk0 : kq = 0 := by
      rcases quantizeBias_qdim _ _ _ _ _ hb with h0 | h0
      · rw [h0] at hqd'; cases hqd'
      · rw [h0] at hqd'; cases hqd'; rfl
    exact ⟨sg, tn, o, j, q, k, scope, h1, h2, f2, f3, g1, g2, g3, .inr ⟨hk0, qi, qw, bd, qp, q', hbd, hb, h5⟩⟩

/-- **same-scale operators** (RESHAPE, TRANSPOSE, AVERAGE_POOL_2D, STRIDED_SLICE, SPLIT).  For an
    original operator `op` (position `k`) that the recipe resolves to the min/max algorithm with a
    static-range config (per-tensor activations `a`) and whose registered function is a same-as-input one:
    for every float32 result `b` there is THE data operand `t` (float32, in a regular slot `ji`), and -- when
    `t` is a runtime tensor -- the tensor `z` that the output operator reads in slot `ji` (it stands for `t`)
    and the result tensor `b` carry THE SAME parameter id `pid` in the output, and `tbl[pid]` has the values
    of the reference parameters of the statistics IN FORCE of the OPERAND under the activation config. -/
theorem same_scale_ops_in_output (rx : String → String → Bool) (env : Env) (st : Recipe.State)
    (qsvs : Option Qsvs) (m' : Model) (tbl : List Param) (hnf : PipelineWF.NF env st)
    (h : quantizePure rx env st qsvs = .ok (m', tbl))
    (s : Nat) (sg sg' : Subgraph) (hsg : env.model.subgraphs[s]? = some sg) (hsg' : m'.subgraphs[s]? = some sg')
    (k : Nat) (op : Op) (hop : sg.ops[k]? = some op) (nm : String) (cfg : OpCfg)
    (hres : TypingE2E.ResolvesMinMax rx env st sg op nm cfg) (hsrq : isSRQ cfg = true) (a : TCfg)
    (ha : cfg.act = some a) (hg : a.gran ≠ Gran.channelwise) (fn : String)
    (hfn : Py.dictGet? minmaxOps nm = some fn) (hsai : fn ∈ sameAsInputFns) :
    ∃ o' qs0, o' ∈ sg'.ops ∧ o'.orig = some k ∧ StatsAt rx env st qsvs s sg k qs0 ∧
      ∀ (jo : Nat) (b : Int) (tno : Tensor), op.outputs[jo]? = some b → b ≠ -1 →
        sg.tensors[b.toNat]? = some tno → tno.dtype = Tables.ttFloat32 →
        ∃ (ji : Nat) (t : Int) (tni : Tensor), op.inputs[ji]? = some t ∧ t ≠ -1 ∧
          sg.tensors[t.toNat]? = some tni ∧ tni.dtype = Tables.ttFloat32 ∧
          (isConst env.model sg t = false →
            ∃ (z : Int) (tz tr : Tensor) (pid : PId) (qp0 : QParams) (d0 : Option IArr) (qp : QParams) (mn mx : FArr),
              o'.inputs[ji]? = some z ∧ Skeleton.root sg' z = t ∧ sg'.tensors[z.toNat]? = some tz ∧
              sg'.tensors[b.toNat]? = some tr ∧ tz.quant = some pid ∧ tr.quant = some pid ∧
              tbl[pid]? = some (.uniform qp0 d0) ∧ SameValues qp0 qp ∧
              Py.dictGet? qs0 tni.name = some (some (mn, mx)) ∧
              refParams a.bits.toNat a.symmetric none mn mx = .ok qp) := by
  obtain ⟨o', qs0, rs, qs1, M, hmat⟩ :=
    minmax_op_in_output rx env st qsvs m' tbl hnf h s sg sg' hsg hsg' k op hop nm cfg hres _ hfn
  set oi : OpInfo := { sgIdx := s, op := op, opName := nm, opId := (k : Int), cfg := cfg }
  obtain ⟨gIn, hd⟩ := sameAsInput_dispatch env sg qs0 oi fn hsai
  rw [hd] at hmat
  refine ⟨o', qs0, M.mem, M.orig, M.stats, ?_⟩
  intro jo b tno hjo hbne htno hf32
  obtain ⟨hb0, hbnc⟩ := M.outs b (List.mem_of_getElem? hjo) hbne
  have htb : tensorAt sg b = .ok tno := Pipe.tensorAt_of_get sg b tno hb0 htno
  have hnco : constData env tno = none :=
    Pipe.constData_none env sg b.toNat tno htno (by rw [Int.toNat_of_nonneg hb0]; exact hbnc)
  obtain ⟨ji, t, tni, ir, hji, htne, hta, hdtt, hw, hir, hout⟩ :=
    same_as_input_slots env sg qs0 oi gIn rs qs1 hsrq hmat jo b tno hjo hbne htb hf32 hnco
  have ht0 := M.ins t (List.mem_of_getElem? hji) htne
  have htni : sg.tensors[t.toNat]? = some tni := tensorAt_get sg t tni ht0 hta
  refine ⟨ji, t, tni, hji, htne, htni, hdtt, ?_⟩
  intro hnc
  have hnct : constData env tni = none :=
    Pipe.constData_none env sg t.toNat tni htni (by rw [Int.toNat_of_nonneg ht0]; exact hnc)
  obtain ⟨mn, mx, qp, hs, hp, rfl⟩ := (act_params_reference env qs0 oi tni true a ir hnct hsrq ha hg).1 hw
  obtain ⟨tr, hr1, hr2⟩ := M.result b tno _ (List.mem_of_getElem? hjo) hbne htb (hout qp none rfl)
  obtain ⟨z, tz, z1, z2, z3, z4, -⟩ := M.operand ji t tni _ hji htne hta (by rw [hnct]; exact hir)
  obtain ⟨pid, qp0, d0, v1, v3, v4⟩ := holds_values tbl qp none tr hr2
  exact ⟨z, tz, tr, pid, qp0, d0, qp, mn, mx, z1, z2, z3, hr1, (holds_same z4 hr2).trans v1, v1, v3, v4, hs, hp⟩

/-- **same-scale operators with a CONSTANT data operand**: the constant (read directly) and the result carry
    parameter ids whose table entries have THE SAME VALUES -- the reference parameters of the constant's true
    min/max under the activation config -- but not the same id: the constant's parameter object carries its
    quantized values, the result's does not, and Python `==` (`Param.eqv`) compares them
    (`E2E.const_operand_ids_differ`). -/
theorem same_scale_const_operand_in_output (rx : String → String → Bool) (env : Env) (st : Recipe.State)
    (qsvs : Option Qsvs) (m' : Model) (tbl : List Param) (hnf : PipelineWF.NF env st)
    (h : quantizePure rx env st qsvs = .ok (m', tbl))
    (s : Nat) (sg sg' : Subgraph) (hsg : env.model.subgraphs[s]? = some sg) (hsg' : m'.subgraphs[s]? = some sg')
    (k : Nat) (op : Op) (hop : sg.ops[k]? = some op) (nm : String) (cfg : OpCfg)
    (hres : TypingE2E.ResolvesMinMax rx env st sg op nm cfg) (hsrq : isSRQ cfg = true) (a : TCfg)
    (ha : cfg.act = some a) (fn : String)
    (hfn : Py.dictGet? minmaxOps nm = some fn) (hsai : fn ∈ sameAsInputFns) :
    ∃ o', o' ∈ sg'.ops ∧ o'.orig = some k ∧
      ∀ (jo : Nat) (b : Int) (tno : Tensor), op.outputs[jo]? = some b → b ≠ -1 →
        sg.tensors[b.toNat]? = some tno → tno.dtype = Tables.ttFloat32 →
        ∃ (ji : Nat) (t : Int) (tni : Tensor), op.inputs[ji]? = some t ∧ t ≠ -1 ∧
          sg.tensors[t.toNat]? = some tni ∧ tni.dtype = Tables.ttFloat32 ∧
          (isConst env.model sg t = true →
            ∃ (tz tr : Tensor) (p1 p2 : PId) (qp1 qp2 : QParams) (d1 d2 : Option IArr) (qp : QParams)
                (dd : Arr Rat) (mn mx : FArr) (qdim : Option Nat),
              o'.inputs[ji]? = some t ∧ sg'.tensors[t.toNat]? = some tz ∧ sg'.tensors[b.toNat]? = some tr ∧
              tz.quant = some p1 ∧ tr.quant = some p2 ∧ tbl[p1]? = some (.uniform qp1 d1) ∧
              tbl[p2]? = some (.uniform qp2 d2) ∧ SameValues qp1 qp ∧ SameValues qp2 qp ∧
              constData env tni = some dd ∧
              initMinMax env { sgIdx := s, op := op, opName := nm, opId := (k : Int), cfg := cfg } tni dd = .ok (mn, mx) ∧
              refParams a.bits.toNat a.symmetric qdim mn mx = .ok qp) := by
  obtain ⟨o', qs0, rs, qs1, M, hmat⟩ :=
    minmax_op_in_output rx env st qsvs m' tbl hnf h s sg sg' hsg hsg' k op hop nm cfg hres _ hfn
  set oi : OpInfo := { sgIdx := s, op := op, opName := nm, opId := (k : Int), cfg := cfg }
  have hnw : Tables.woOps.contains nm = false ∧ Tables.drqOps.contains nm = false :=
    sameAsInput_noWo _ (Py.dictGet?_mem _ _ _ hfn) hsai
  obtain ⟨gIn, hd⟩ := sameAsInput_dispatch env sg qs0 oi fn hsai
  rw [hd] at hmat
  refine ⟨o', M.mem, M.orig, ?_⟩
  intro jo b tno hjo hbne htno hf32
  obtain ⟨hb0, hbnc⟩ := M.outs b (List.mem_of_getElem? hjo) hbne
  have htb : tensorAt sg b = .ok tno := Pipe.tensorAt_of_get sg b tno hb0 htno
  have hnco : constData env tno = none :=
    Pipe.constData_none env sg b.toNat tno htno (by rw [Int.toNat_of_nonneg hb0]; exact hbnc)
  obtain ⟨ji, t, tni, ir, hji, htne, hta, hdtt, hw, hir, hout⟩ :=
    same_as_input_slots env sg qs0 oi gIn rs qs1 hsrq hmat jo b tno hjo hbne htb hf32 hnco
  have ht0 := M.ins t (List.mem_of_getElem? hji) htne
  have htni : sg.tensors[t.toNat]? = some tni := tensorAt_get sg t tni ht0 hta
  refine ⟨ji, t, tni, hji, htne, htni, hdtt, ?_⟩
  intro hc
  obtain ⟨dd, hdd⟩ : ∃ dd, constData env tni = some dd := by
    rw [← Option.isSome_iff_exists, constData_isSome env sg t.toNat tni htni, Int.toNat_of_nonneg ht0]
    exact hc
  have htc : tcfgOf env oi tni = some a := (TypingSrq.tcfgOf_noWo env oi tni hnw).trans ha
  obtain ⟨mn, mx, qdim, qp, q, e1, -, e3, -, -, e6⟩ := (weight_params_reference env qs0 oi tni true a dd ir hdd htc).1 hw
  rw [mkReq_srq tni.name oi true _ true hsrq] at e6
  cases e6
  obtain ⟨tr, hr1, hr2⟩ := M.result b tno _ (List.mem_of_getElem? hjo) hbne htb (hout qp (some q) rfl)
  obtain ⟨z, tz, z1, -, z3, z4, hz⟩ := M.operand ji t tni _ hji htne hta (by rw [hdd]; exact hir)
  obtain rfl := hz (by rw [hdd]; rfl)
  obtain ⟨p2, qp2, d2, v1, v3, v4⟩ := holds_values tbl qp none tr hr2
  obtain ⟨p1, qp1, d1, w1, w3, w4⟩ := holds_values tbl qp (some q) tz z4
  exact ⟨tz, tr, p1, p2, qp1, qp2, d1, d2, qp, dd, mn, mx, qdim, z1, z3, hr1, w1, v1, w3, v3, w4, v4, hdd, e1, e3⟩

/-- **CONCATENATION.**  For an original operator resolved to the min/max
    algorithm with a static-range config (per-tensor activations `a`) whose registered function is
    `materialize_concatenation`: for every float32 RUNTIME operand `t` (slot `ji`) there is THE float32
    result `b`, and the tensor `z` that the output operator reads in slot `ji` and the result tensor `b` carry
    THE SAME parameter id, whose table entry has the values of the reference parameters of the statistics in
    force of the RESULT. -/
theorem concat_inputs_in_output (rx : String → String → Bool) (env : Env) (st : Recipe.State)
    (qsvs : Option Qsvs) (m' : Model) (tbl : List Param) (hnf : PipelineWF.NF env st)
    (h : quantizePure rx env st qsvs = .ok (m', tbl))
    (s : Nat) (sg sg' : Subgraph) (hsg : env.model.subgraphs[s]? = some sg) (hsg' : m'.subgraphs[s]? = some sg')
    (k : Nat) (op : Op) (hop : sg.ops[k]? = some op) (nm : String) (cfg : OpCfg)
    (hres : TypingE2E.ResolvesMinMax rx env st sg op nm cfg) (hsrq : isSRQ cfg = true) (a : TCfg)
    (ha : cfg.act = some a) (hg : a.gran ≠ Gran.channelwise)
    (hfn : Py.dictGet? minmaxOps nm = some "materialize_concatenation") :
    ∃ o' qs0, o' ∈ sg'.ops ∧ o'.orig = some k ∧ StatsAt rx env st qsvs s sg k qs0 ∧
      ∀ (ji : Nat) (t : Int) (tni : Tensor), op.inputs[ji]? = some t → t ≠ -1 →
        sg.tensors[t.toNat]? = some tni → tni.dtype = Tables.ttFloat32 → isConst env.model sg t = false →
        ∃ (jo : Nat) (b : Int) (tno : Tensor) (z : Int) (tz tr : Tensor) (pid : PId) (qp0 : QParams)
            (d0 : Option IArr) (qp : QParams) (mn mx : FArr),
          op.outputs[jo]? = some b ∧ b ≠ -1 ∧ sg.tensors[b.toNat]? = some tno ∧ tno.dtype = Tables.ttFloat32 ∧
          o'.inputs[ji]? = some z ∧ Skeleton.root sg' z = t ∧ sg'.tensors[z.toNat]? = some tz ∧
          sg'.tensors[b.toNat]? = some tr ∧ tz.quant = some pid ∧ tr.quant = some pid ∧
          tbl[pid]? = some (.uniform qp0 d0) ∧ SameValues qp0 qp ∧
          Py.dictGet? qs0 tno.name = some (some (mn, mx)) ∧
          refParams a.bits.toNat a.symmetric none mn mx = .ok qp := by
  obtain ⟨o', qs0, rs, qs1, M, hmat⟩ :=
    minmax_op_in_output rx env st qsvs m' tbl hnf h s sg sg' hsg hsg' k op hop nm cfg hres _ hfn
  set oi : OpInfo := { sgIdx := s, op := op, opName := nm, opId := (k : Int), cfg := cfg }
  rw [materializeOp_concatenation] at hmat
  refine ⟨o', qs0, M.mem, M.orig, M.stats, ?_⟩
  intro ji t tni hji htne htni hf32 hnc
  have ht0 := M.ins t (List.mem_of_getElem? hji) htne
  have hta : tensorAt sg t = .ok tni := Pipe.tensorAt_of_get sg t tni ht0 htni
  have hnct : constData env tni = none :=
    Pipe.constData_none env sg t.toNat tni htni (by rw [Int.toNat_of_nonneg ht0]; exact hnc)
  obtain ⟨jo, b, tno, orq, hjo, hbne, htb, hdto, hw, horq, hin⟩ :=
    concat_slots env sg qs0 oi rs qs1 hsrq hmat ji t tni hji htne hta hf32 hnct
  obtain ⟨hb0, hbnc⟩ := M.outs b (List.mem_of_getElem? hjo) hbne
  have htno : sg.tensors[b.toNat]? = some tno := tensorAt_get sg b tno hb0 htb
  have hnco : constData env tno = none :=
    Pipe.constData_none env sg b.toNat tno htno (by rw [Int.toNat_of_nonneg hb0]; exact hbnc)
  obtain ⟨mn, mx, qp, hs, hp, rfl⟩ := (act_params_reference env qs0 oi tno false a orq hnco hsrq ha hg).1 hw
  obtain ⟨tr, hr1, hr2⟩ := M.result b tno _ (List.mem_of_getElem? hjo) hbne htb horq
  obtain ⟨z, tz, z1, z2, z3, z4, -⟩ := M.operand ji t tni _ hji htne hta (by rw [hnct]; exact hin _ rfl)
  obtain ⟨pid, qp0, d0, v1, v3, v4⟩ := holds_values tbl qp none tr hr2
  exact ⟨jo, b, tno, z, tz, tr, pid, qp0, d0, qp, mn, mx, hjo, hbne, htno, hdto, z1, z2, z3, hr1,
    (holds_same z4 hr2).trans v1, v1, v3, v4, hs, hp⟩

/-- **SOFTMAX, LOGISTIC, TANH.**  For an original operator resolved to the
    min/max algorithm with a static-range config (activations `a`) whose registered function is a fixed-range
    one: its float32 result carries, in the output, a parameter id whose table entry has the values of the
    range fixed by the runtime kernel (`fixedParams`: scale 1/256, zero point -128 resp. 1/128, 0 for 8
    bits; 1/32768, 0 for 16 bits) -- not calibrated parameters. -/
theorem fixed_range_in_output (rx : String → String → Bool) (env : Env) (st : Recipe.State)
    (qsvs : Option Qsvs) (m' : Model) (tbl : List Param) (hnf : PipelineWF.NF env st)
    (h : quantizePure rx env st qsvs = .ok (m', tbl))
    (s : Nat) (sg sg' : Subgraph) (hsg : env.model.subgraphs[s]? = some sg) (hsg' : m'.subgraphs[s]? = some sg')
    (k : Nat) (op : Op) (hop : sg.ops[k]? = some op) (nm : String) (cfg : OpCfg)
    (hres : TypingE2E.ResolvesMinMax rx env st sg op nm cfg) (hsrq : isSRQ cfg = true) (a : TCfg)
    (ha : cfg.act = some a) (fn : String)
    (hfn : Py.dictGet? minmaxOps nm = some fn) (hfix : fn ∈ fixedRangeFns)
    (jo : Nat) (b : Int) (tno : Tensor) (hjo : op.outputs[jo]? = some b) (hbne : b ≠ -1)
    (htno : sg.tensors[b.toNat]? = some tno) (hf32 : tno.dtype = Tables.ttFloat32) :
    ∃ (tr : Tensor) (pid : PId) (qp0 fp : QParams) (d0 : Option IArr), sg'.tensors[b.toNat]? = some tr ∧
      tr.quant = some pid ∧ tbl[pid]? = some (.uniform qp0 d0) ∧ SameValues qp0 fp ∧
      fixedParams (fn == "materialize_softmax_and_logistic") a.bits.toNat = some fp := by
  obtain ⟨o', qs0, rs, qs1, M, hmat⟩ :=
    minmax_op_in_output rx env st qsvs m' tbl hnf h s sg sg' hsg hsg' k op hop nm cfg hres _ hfn
  set oi : OpInfo := { sgIdx := s, op := op, opName := nm, opId := (k : Int), cfg := cfg }
  rw [fixedRange_dispatch env sg qs0 oi fn hfix] at hmat
  have htb : tensorAt sg b = .ok tno :=
    Pipe.tensorAt_of_get sg b tno (M.outs b (List.mem_of_getElem? hjo) hbne).1 htno
  obtain ⟨fp, hfp, hmem⟩ := fixed_range_slots env sg qs0 oi _ rs qs1 hsrq a ha hmat jo b tno hjo hbne htb hf32
  obtain ⟨tr, hr1, hr2⟩ := M.result b tno _ (List.mem_of_getElem? hjo) hbne htb hmem
  obtain ⟨pid, qp0, d0, v1, v3, v4⟩ := holds_values tbl fp none tr hr2
  exact ⟨tr, pid, qp0, fp, d0, hr1, v1, v3, v4, hfp⟩

/-- **the bias.**  For an original convolution-like operator (FULLY_CONNECTED, CONV_2D,
    DEPTHWISE_CONV_2D, CONV_2D_TRANSPOSE) resolved to the min/max algorithm with a static-range config, with
    a bias in slot `iB`: in the output, the operator reads the bias constant directly; the tensor `zi` it
    reads in the data slot, the tensor `zw` it reads in the weight slot and the bias carry parameter ids
    whose table entries have the values of parameter objects `qi`, `qw`, `qb` with
    `symmetric_quantize_bias_tensor(bias data, qi, qw) = (qb, _)`: the bias parameters are those of the data
    operand and the weight AS THEY APPEAR IN THE OUTPUT. -/
theorem bias_in_output (rx : String → String → Bool) (env : Env) (st : Recipe.State)
    (qsvs : Option Qsvs) (m' : Model) (tbl : List Param) (hnf : PipelineWF.NF env st)
    (h : quantizePure rx env st qsvs = .ok (m', tbl))
    (s : Nat) (sg sg' : Subgraph) (hsg : env.model.subgraphs[s]? = some sg) (hsg' : m'.subgraphs[s]? = some sg')
    (k : Nat) (op : Op) (hop : sg.ops[k]? = some op) (nm : String) (cfg : OpCfg)
    (hres : TypingE2E.ResolvesMinMax rx env st sg op nm cfg) (hsrq : isSRQ cfg = true)
    (iB : Nat) (hbs : PipeNF.biasSlot nm = some iB) (hnemb : nm ≠ "EMBEDDING_LOOKUP")
    (bslot : Int) (hb : op.inputs[iB]? = some bslot) (hne : bslot ≠ -1) :
    ∃ (o' : Op) (aIn aW zi zw : Int) (tzi tzw tzb bt : Tensor) (pi pw pb : PId)
        (qi0 qw0 qb0 qi qw qb : QParams) (di0 dw0 db0 : Option IArr) (bd : Arr Rat) (q : IArr),
      o' ∈ sg'.ops ∧ o'.orig = some k ∧
      op.inputs[PipeNF.dataSlot nm]? = some aIn ∧ op.inputs[1]? = some aW ∧
      o'.inputs[PipeNF.dataSlot nm]? = some zi ∧ Skeleton.root sg' zi = aIn ∧ sg'.tensors[zi.toNat]? = some tzi ∧
      tzi.quant = some pi ∧ tbl[pi]? = some (.uniform qi0 di0) ∧ SameValues qi0 qi ∧
      o'.inputs[1]? = some zw ∧ Skeleton.root sg' zw = aW ∧ sg'.tensors[zw.toNat]? = some tzw ∧
      tzw.quant = some pw ∧ tbl[pw]? = some (.uniform qw0 dw0) ∧ SameValues qw0 qw ∧
      o'.inputs[iB]? = some bslot ∧ sg'.tensors[bslot.toNat]? = some tzb ∧
      tzb.quant = some pb ∧ tbl[pb]? = some (.uniform qb0 db0) ∧ SameValues qb0 qb ∧
      sg.tensors[bslot.toNat]? = some bt ∧ constData env bt = some bd ∧
      quantizeBias ⟨bd, .f32⟩ qi qw = .ok (qb, q) := by
  obtain ⟨o', qs0, rs, qs1, M⟩ := op_in_output rx env st qsvs m' tbl hnf h s sg sg' hsg hsg' k op hop
  obtain ⟨fn, hfn, hmat⟩ := TypingE2E.opReqs_minmax rx env st s sg op k nm cfg hres qs0 qs1 rs M.reqs
  have hnamed : PipeNF.OpNamed env.model op nm := by
    obtain ⟨code, scope, h1, h2, -⟩ := hres
    exact ⟨code, h1, h2⟩
  have hmand := hnf.mandatory sg (List.mem_of_getElem? hsg) op (List.mem_of_getElem? hop) nm hnamed
  obtain ⟨bt, bd, aIn, tin, aW, tw, qi, di, qw, dw, qb, q, b1, b2, b3, b4, b5, b6, b7, b8, b9, b10, b11, b12, -⟩ :=
    TypingSrq.srq_bias_requests env sg qs0 { sgIdx := s, op := op, opName := nm, opId := (k : Int), cfg := cfg } fn rs qs1
      (Py.dictGet?_mem _ _ _ hfn) hsrq (fun b hb' => (hmand b hb').1) hmat iB hbs hnemb bslot hb hne
  obtain ⟨zi, tzi, i1, i2, i3, i4, -⟩ := M.operand _ aIn tin _ b3 b4 b5 b9
  obtain ⟨zw, tzw, w1, w2, w3, w4, -⟩ := M.operand 1 aW tw _ b6 b7 b8 b10
  obtain ⟨zb, tzb, c1, -, c3, c4, hzb⟩ := M.operand iB bslot bt _ hb hne b1 (by rw [b2]; exact b11)
  obtain rfl := hzb (by rw [b2]; rfl)
  obtain ⟨pi, qi0, di0, u1, u3, u4⟩ := holds_values tbl qi di tzi i4
  obtain ⟨pw, qw0, dw0, v1, v3, v4⟩ := holds_values tbl qw dw tzw w4
  obtain ⟨pb, qb0, db0, x1, x3, x4⟩ := holds_values tbl qb (some q) tzb c4
  exact ⟨o', aIn, aW, zi, zw, tzi, tzw, tzb, bt, pi, pw, pb, qi0, qw0, qb0, qi, qw, qb, di0, dw0, db0, bd, q,
    M.mem, M.orig, b3, b6, i1, i2, i3, u1, u3, u4, w1, w2, w3, v1, v3, v4, c1, c3, x1, x3, x4,
    tensorAt_get sg zb bt (M.ins zb (List.mem_of_getElem? hb) hne) b1, b2, b12⟩

/-- the bias rule on the VALUES in the table: symmetric, zero points 0, 32 bits (64 for 16-bit activations),
    scale array = squeezed element-wise float product of the data operand's and the weight's scale arrays -/
theorem bias_values (qi0 qw0 qb0 qi qw qb : QParams) (bias : FArr) (q : IArr)
    (hi : SameValues qi0 qi) (hw : SameValues qw0 qw) (hb : SameValues qb0 qb)
    (h : quantizeBias bias qi qw = .ok (qb, q)) :
    qb0.symmetric = true ∧ qb0.bits = (if qi0.bits = 16 then 64 else 32) ∧ (∀ z ∈ qb0.zp.arr.data, z = 0) ∧
      ∃ prod, zipB (fun a b => (qi.scale.pr.join qw.scale.pr).chk (a * b)) qi0.scale.arr qw0.scale.arr = .ok prod ∧
        qb0.scale.arr = squeeze1 prod := by
  obtain ⟨b1, b2, -, b4, prod, b5, b6⟩ := bias_params _ _ _ _ _ h
  obtain ⟨i1, -, i3, -, -⟩ := hi
  obtain ⟨-, -, w3, -, -⟩ := hw
  obtain ⟨x1, -, x3, x4, x5⟩ := hb
  refine ⟨by rw [x5]; exact b1, by rw [x1, i1]; exact b2, by rw [x4]; exact b4, prod, by rw [i3, w3]; exact b5, ?_⟩
  rw [x3, b6]

/-! ## NON-VACUITY: closed instances, the whole `quantizePure` evaluated by the kernel -/
namespace E2E

def u8 (sh : List Nat) (sc : List Rat) (zp : List Int) (sym : Bool) (qd : Option Nat) : QParams :=
  { bits := 8, qdim := qd, scale := ⟨⟨sh, sc⟩, .f32⟩, zp := ⟨⟨sh, zp⟩, 8⟩, symmetric := sym }

namespace Tanh
open C08.Inst

/-! ### `y := FULLY_CONNECTED(x, w)`, `z := TANH(y)` under the shipped int8 recipe (`C08.Inst`) -/

def qpX : QParams := u8 [1, 1] [8421505 / 1073741824] [-1] false none
def qpW : QParams := u8 [2, 1] [2113665 / 134217728, 2113665 / 67108864] [0, 0] true (some 0)
def qpY : QParams := u8 [1, 1] [8421505 / 536870912] [-1] false none
def qpZ : QParams :=
  { bits := 8, qdim := none, scale := ⟨⟨[], [1 / 128]⟩, .f64⟩, zp := ⟨⟨[], [0]⟩, 64⟩, symmetric := false }

def tblT : List Param :=
  [.uniform qpX none, .uniform qpW (some ⟨⟨[2, 2], [64, 127, 95, 127]⟩, 8⟩), .uniform qpY none, .uniform qpZ none]

def sgT' : Subgraph :=
  { tensors := [{ T "x" [1, 2] 0 with dtype := 9, quant := some 0 }, { T "w" [2, 2] 1 with dtype := 9, quant := some 1 },
                { T "y" [1, 2] 0 with dtype := 9, quant := some 2 }, { T "z" [1, 2] 0 with dtype := 9, quant := some 3 }],
    ops := [opFC, opTanh], inputs := [0], outputs := [3] }
def mT' : Model := { subgraphs := [sgT'], buffers := [none, some (.inr 1)], opcodes := [9, 28], sigs := [] }

/-- what is established about this instance by evaluation besides the run (`C08.Inst.run`): the side condition on
    the statistics and the resolution of TANH -/
theorem evalT :
    qs.all (fun e => match e.2 with
      | some (mn, mx) => ordB mn mx && decide (mn.pr.join mx.pr ≠ .f16)
      | none => true) = true ∧
    opNameOfCode 28 = some "TANH" ∧ opScope sg opTanh = .ok "z;" ∧
    Recipe.resolve rxAll st "TANH" "z;" = (Tables.algMinMax, cfgA8W8) ∧
    Py.dictGet? minmaxOps "TANH" = some "materialize_tanh" ∧ "materialize_tanh" ∈ fixedRangeFns := by
  decide +kernel

theorem runT : quantizePure rxAll env st (some qs) = .ok (mT', tblT) := C08.Inst.run

theorem recipeOK : RecipeOK st := by
  intro e he r hr
  have : e = (".*", [⟨".*", "*", Tables.algMinMax, cfgA8W8⟩]) := by simpa [st] using he
  subst this
  have : r = ⟨".*", "*", Tables.algMinMax, cfgA8W8⟩ := by simpa using hr
  subst this
  refine ⟨?_, ?_⟩
  · intro tc htc
    have : tc = { bits := 8, symmetric := false } := by simp [cfgA8W8] at htc; exact htc.symm
    subst this
    decide
  · intro tc htc
    have : tc = { bits := 8, symmetric := true, gran := .channelwise } := by simp [cfgA8W8] at htc; exact htc.symm
    subst this
    decide

theorem statsOK : StatsOK (some qs) := statsOK_of qs evalT.1

/-- `quantized_tensor_params` applies to the result `z` of TANH … -/
theorem z_params :
    ∃ (sg0 : Subgraph) (i : Nat) (tn : Tensor) (o : Int) (qp0 qp : QParams) (d0 d : Option IArr),
      env.model.subgraphs[0]? = some sg0 ∧ sg0.tensors[i]? = some tn ∧ Skeleton.root sgT' ((3 : Nat) : Int) = (i : Int) ∧
      tblT[3]? = some (.uniform qp0 d0) ∧ SameValues qp0 qp ∧
      ParamAt rxAll env st (some qs) 0 sg0 tn o (.uniform qp d) ∧
      ((3 = i ∧ isConst env.model sg0 (i : Int) = false ∧ ProducedAt sg0 i o) ∨
       (3 = i ∧ isConst env.model sg0 (i : Int) = true ∧ ConsumedAt sg0 i o) ∨
       (sg0.tensors.length ≤ 3 ∧ isConst env.model sg0 (i : Int) = false ∧ ConsumedAt sg0 i o ∧
         ∃ ci, ({ code := ci, inputs := [(i : Int)], outputs := [((3 : Nat) : Int)], orig := none } : Op) ∈ sgT'.ops ∧
           mT'.opcodes[ci]? = some Tables.opQuantize)) :=
  quantized_tensor_params rxAll env st (some qs) mT' tblT nf runT 0 sgT' rfl 3 _ rfl 3 rfl

/-- … and the table entry it speaks about is the fixed range of TANH, not the calibrated `[-1, 1]` -/
example : tblT[3]? = some (.uniform qpZ none) ∧ fixedParams false 8 = some qpZ := ⟨rfl, rfl⟩

/-- `output_params_wellformed` applies to every tensor of the output (here: the weight `w`) -/
theorem w_wellformed :
    ∃ (qp0 qp : QParams) (d0 : Option IArr), tblT[1]? = some (.uniform qp0 d0) ∧ SameValues qp0 qp ∧
      (WellFormed qp.bits qp.symmetric qp ∨ IsBias qp) :=
  output_params_wellformed rxAll env st (some qs) mT' tblT nf runT recipeOK statsOK 0 sgT' rfl 1 _ rfl 1 rfl

/-- `per_channel_only_weights_in_output` applies to `w` (quantized dimension 0): it is the constant operand
    of FULLY_CONNECTED under the CHANNELWISE weight config, on the kernel's dimension 0 -/
theorem w_per_channel :
    ∃ (sg0 : Subgraph) (tn : Tensor) (o : Int) (j : Nat) (q : Op × Option String × Int) (k scope : String),
      env.model.subgraphs[0]? = some sg0 ∧ sg0.tensors[1]? = some tn ∧ isConst env.model sg0 ((1 : Nat) : Int) = true ∧
      ConsumedAt sg0 1 o ∧ (allOps sg0)[j]? = some q ∧ q.2.2 = o ∧ Resolves rxAll env st sg0 q k scope ∧
      ((Tables.woOps.contains k = true ∧ ∃ tc, (Recipe.resolve rxAll st k scope).2.weight = some tc ∧
          tc.gran = Gran.channelwise ∧
          ((k = "BATCH_MATMUL" ∧ ∃ dd, constData env tn = some dd ∧
              0 = bmmQDim dd.shape.length (opAdjY env (oiOf rxAll st 0 q k scope))) ∨
           (k ≠ "BATCH_MATMUL" ∧ Py.dictGet? Tables.weightQDim k = some 0))) ∨
       (0 = 0 ∧ ∃ qi qw bd qp q', constData env tn = some bd ∧ quantizeBias ⟨bd, .f32⟩ qi qw = .ok (qp, q') ∧
          SameValues qpW qp)) :=
  per_channel_only_weights_in_output rxAll env st (some qs) mT' tblT nf runT recipeOK 0 sgT' rfl 1 _ rfl 1 rfl
    qpW _ rfl 0 rfl

theorem resTanh : TypingE2E.ResolvesMinMax rxAll env st sg opTanh "TANH" cfgA8W8 :=
  ⟨28, "z;", rfl, evalT.2.1, evalT.2.2.1, evalT.2.2.2.1⟩

/-- `fixed_range_in_output` applies to TANH: `z` carries the id 3, whose entry is `fixedParams false 8` -/
theorem tanh_fixed :
    ∃ (tr : Tensor) (pid : PId) (qp0 fp : QParams) (d0 : Option IArr), sgT'.tensors[(3 : Int).toNat]? = some tr ∧
      tr.quant = some pid ∧ tblT[pid]? = some (.uniform qp0 d0) ∧ SameValues qp0 fp ∧
      fixedParams ("materialize_tanh" == "materialize_softmax_and_logistic") (8 : Int).toNat = some fp := by
  obtain ⟨-, -, -, -, hfn, hfixed⟩ := evalT
  exact fixed_range_in_output rxAll env st (some qs) mT' tblT nf runT 0 sg sgT' rfl rfl 1 opTanh rfl "TANH" cfgA8W8
    resTanh rfl { bits := 8, symmetric := false } rfl "materialize_tanh" hfn hfixed
    0 3 (T "z" [1, 2] 0) rfl (by decide) rfl rfl

end Tanh

/-! ### `y := FULLY_CONNECTED(x, w)`, `z := RESHAPE(y, s)` under the same recipe -/
namespace Reshape
open C08.Inst

def opRS : Op := { code := 1, inputs := [2, 3], outputs := [4], orig := some 1 }
def sgR : Subgraph :=
  { tensors := [T "x" [1, 2] 0, T "w" [2, 2] 1, T "y" [1, 2] 0, { name := "s", dtype := 2, shape := [1], buffer := 2 },
                T "z" [2] 0],
    ops := [opFC, opRS], inputs := [0], outputs := [4] }
def mR : Model := { subgraphs := [sgR], buffers := [none, some (.inl 0), some (.inl 1)], opcodes := [9, 22], sigs := [] }
def envR : Env := { model := mR, consts := [(1, [1, 2, 3, 4])], adjY := [] }
def qsR : Qsvs := [("x", some (f32 [-1], f32 [1])), ("y", some (f32 [-2], f32 [2])), ("z", some (f32 [-3], f32 [3]))]

def sgR' : Subgraph :=
  { tensors := [{ T "x" [1, 2] 0 with dtype := 9, quant := some 0 }, { T "w" [2, 2] 1 with dtype := 9, quant := some 1 },
                { T "y" [1, 2] 0 with dtype := 9, quant := some 2 }, { name := "s", dtype := 2, shape := [1], buffer := 2 },
                { T "z" [2] 0 with dtype := 9, quant := some 2 }],
    ops := [opFC, opRS], inputs := [0], outputs := [4] }
def mR' : Model :=
  { subgraphs := [sgR'], buffers := [none, some (.inr 1), some (.inl 1)], opcodes := [9, 22], sigs := [] }
def tblR : List Param :=
  [.uniform Tanh.qpX none, .uniform Tanh.qpW (some ⟨⟨[2, 2], [64, 127, 95, 127]⟩, 8⟩), .uniform Tanh.qpY none]

/-- what is established about this instance by evaluation: normal form, the run, the resolution of RESHAPE -/
theorem evalR :
    NFCheck.nfOK envR st = true ∧ quantizePure rxAll envR st (some qsR) = .ok (mR', tblR) ∧
    Recipe.resolve rxAll st "RESHAPE" "z;" = (Tables.algMinMax, cfgA8W8) ∧
    opNameOfCode 22 = some "RESHAPE" ∧ opScope sgR opRS = .ok "z;" ∧
    Py.dictGet? minmaxOps "RESHAPE" = some "materialize_reshape" ∧ "materialize_reshape" ∈ sameAsInputFns := by
  decide +kernel

theorem nfR : PipelineWF.NF envR st := NFCheckProofs.nfOK_sound envR st evalR.1

theorem runR : quantizePure rxAll envR st (some qsR) = .ok (mR', tblR) := evalR.2.1

theorem resRS : TypingE2E.ResolvesMinMax rxAll envR st sgR opRS "RESHAPE" cfgA8W8 := by
  obtain ⟨-, -, hres, hname, hscope, -⟩ := evalR
  exact ⟨22, "z;", rfl, hname, hscope, hres⟩

/-- all hypotheses of `same_scale_ops_in_output` hold for the RESHAPE operator; on the instance: the tensor
    the output RESHAPE reads in slot 0 and its result `z` carry the same parameter id, whose table entry has
    the values of the reference parameters of the statistics of the OPERAND `y` (`[-2, 2]`), although the
    caller's statistics of `z` are `[-3, 3]` -/
theorem reshape_same_scale :
    ∃ o' ∈ sgR'.ops, o'.orig = some 1 ∧
      ∃ (z : Int) (tz tr : Tensor) (pid : PId) (qp0 : QParams) (d0 : Option IArr) (qp : QParams) (mn mx : FArr)
          (qs0 : Qsvs),
        o'.inputs[0]? = some z ∧ Skeleton.root sgR' z = 2 ∧ sgR'.tensors[z.toNat]? = some tz ∧
        sgR'.tensors[4]? = some tr ∧ tz.quant = some pid ∧ tr.quant = some pid ∧
        tblR[pid]? = some (.uniform qp0 d0) ∧ SameValues qp0 qp ∧
        StatsAt rxAll envR st (some qsR) 0 sgR 1 qs0 ∧ Py.dictGet? qs0 "y" = some (some (mn, mx)) ∧
        refParams 8 false none mn mx = .ok qp := by
  obtain ⟨-, -, -, -, -, hfn, hsame⟩ := evalR
  obtain ⟨o', qs0, h1, h2, h3, hall⟩ :=
    same_scale_ops_in_output rxAll envR st (some qsR) mR' tblR nfR runR 0 sgR sgR' rfl rfl 1 opRS rfl "RESHAPE"
      cfgA8W8 resRS rfl { bits := 8, symmetric := false } rfl (by decide) "materialize_reshape"
      hfn hsame
  obtain ⟨ji, t, tni, a1, a2, a3, a4, a5⟩ := hall 0 4 (T "z" [2] 0) rfl (by decide) rfl rfl
  have hcase : ji = 0 ∧ t = 2 := by
    rcases ji with _ | _ | ji
    · simp only [opRS, List.getElem?_cons_zero, Option.some.injEq] at a1
      exact ⟨rfl, a1.symm⟩
    · simp only [opRS, List.getElem?_cons_succ, List.getElem?_cons_zero, Option.some.injEq] at a1
      subst a1
      have : sgR.tensors[(3 : Int).toNat]? = some { name := "s", dtype := 2, shape := [1], buffer := 2 } := rfl
      rw [this] at a3
      cases a3
      cases a4
    · simp [opRS] at a1
  obtain ⟨rfl, rfl⟩ := hcase
  have htni : tni = T "y" [1, 2] 0 := by
    have : sgR.tensors[(2 : Int).toNat]? = some (T "y" [1, 2] 0) := rfl
    rw [this] at a3
    exact (Option.some.inj a3).symm
  subst htni
  obtain ⟨z, tz, tr, pid, qp0, d0, qp, mn, mx, b1, b2, b3, b4, b5, b6, b7, b8, b9, b10⟩ := a5 (by decide)
  exact ⟨o', h1, h2, z, tz, tr, pid, qp0, d0, qp, mn, mx, qs0, b1, b2, b3, b4, b5, b6, b7, b8, h3, b9, b10⟩

/-- read on the closed output: `y` and `z` both carry id 2 -/
example : (sgR'.tensors[2]?).map (·.quant) = some (some 2) ∧ (sgR'.tensors[4]?).map (·.quant) = some (some 2) :=
  ⟨rfl, rfl⟩

end Reshape

/-! ### `c := CONCATENATION(a, b)`, only CONCATENATION selected: QUANTIZE on both operands, DEQUANTIZE on the result -/
namespace Concat
open C08.Inst

def opC : Op := { code := 0, inputs := [0, 1], outputs := [2], orig := some 0 }
def sgC : Subgraph :=
  { tensors := [T "a" [1, 2] 0, T "b" [1, 2] 0, T "c" [1, 4] 0], ops := [opC], inputs := [0, 1], outputs := [2] }
def mC : Model := { subgraphs := [sgC], buffers := [none], opcodes := [2], sigs := [] }
def envC : Env := { model := mC, consts := [], adjY := [] }
def qsC : Qsvs := [("a", some (f32 [-1], f32 [1])), ("b", some (f32 [-2], f32 [2])), ("c", some (f32 [-3], f32 [3]))]
def stC : Recipe.State := [(".*", [⟨".*", "CONCATENATION", Tables.algMinMax, cfgA8W8⟩])]

def qpC : QParams := u8 [1, 1] [12632257 / 536870912] [0] false none
def sgC' : Subgraph :=
  { tensors := [T "a" [1, 2] 0, T "b" [1, 2] 0, { T "c" [1, 4] 0 with dtype := 9, quant := some 0 },
                { T "a_quantized" [1, 2] 0 with dtype := 9, quant := some 0 },
                { T "b_quantized" [1, 2] 0 with dtype := 9, quant := some 0 }, T "c_dequant" [1, 4] 0],
    ops := [{ code := 1, inputs := [0], outputs := [3] }, { code := 1, inputs := [1], outputs := [4] },
            { code := 0, inputs := [3, 4], outputs := [2], orig := some 0 },
            { code := 2, inputs := [2], outputs := [5] }],
    inputs := [0, 1], outputs := [5] }
def mC' : Model := { subgraphs := [sgC'], buffers := [none], opcodes := [2, 114, 6], sigs := [] }

/-- what is established about this instance by evaluation: normal form, the run, the resolution of CONCATENATION -/
theorem evalC :
    NFCheck.nfOK envC stC = true ∧ quantizePure rxAll envC stC (some qsC) = .ok (mC', [.uniform qpC none]) ∧
    opNameOfCode 2 = some "CONCATENATION" ∧ opScope sgC opC = .ok "c;" ∧
    Recipe.resolve rxAll stC "CONCATENATION" "c;" = (Tables.algMinMax, cfgA8W8) ∧
    Py.dictGet? minmaxOps "CONCATENATION" = some "materialize_concatenation" := by
  decide +kernel

theorem nfC : PipelineWF.NF envC stC := NFCheckProofs.nfOK_sound envC stC evalC.1

theorem runC : quantizePure rxAll envC stC (some qsC) = .ok (mC', [.uniform qpC none]) := evalC.2.1

theorem resC : TypingE2E.ResolvesMinMax rxAll envC stC sgC opC "CONCATENATION" cfgA8W8 := by
  obtain ⟨-, -, hname, hscope, hres, -⟩ := evalC
  exact ⟨2, "c;", rfl, hname, hscope, hres⟩

/-- all hypotheses of `concat_inputs_in_output` hold; on the instance: the tensor read in slot 0 (the result of
    the inserted `QUANTIZE(a)`) and the result `c` carry the same id, whose entry has the values of the
    reference parameters of the statistics of the RESULT `c` -/
theorem concat_instance :
    ∃ o' ∈ sgC'.ops, o'.orig = some 0 ∧
      ∃ (z : Int) (tz tr : Tensor) (pid : PId) (qp0 : QParams) (d0 : Option IArr) (qp : QParams) (mn mx : FArr)
          (qs0 : Qsvs),
        o'.inputs[0]? = some z ∧ Skeleton.root sgC' z = 0 ∧ sgC'.tensors[z.toNat]? = some tz ∧
        sgC'.tensors[2]? = some tr ∧ tz.quant = some pid ∧ tr.quant = some pid ∧
        [Param.uniform qpC none][pid]? = some (.uniform qp0 d0) ∧ SameValues qp0 qp ∧
        StatsAt rxAll envC stC (some qsC) 0 sgC 0 qs0 ∧ Py.dictGet? qs0 "c" = some (some (mn, mx)) ∧
        refParams 8 false none mn mx = .ok qp := by
  obtain ⟨-, -, -, -, -, hfn⟩ := evalC
  obtain ⟨o', qs0, h1, h2, h3, hall⟩ :=
    concat_inputs_in_output rxAll envC stC (some qsC) mC' _ nfC runC 0 sgC sgC' rfl rfl 0 opC rfl "CONCATENATION"
      cfgA8W8 resC rfl { bits := 8, symmetric := false } rfl (by decide) hfn
  obtain ⟨jo, b, tno, z, tz, tr, pid, qp0, d0, qp, mn, mx, b1, b2, b3, -, b5, b6, b7, b8, b9, b10, b11, b12, b13, b14⟩ :=
    hall 0 0 (T "a" [1, 2] 0) rfl (by decide) rfl rfl (by decide)
  have hb : jo = 0 ∧ b = 2 := by
    rcases jo with _ | jo
    · simp only [opC, List.getElem?_cons_zero, Option.some.injEq] at b1
      exact ⟨rfl, b1.symm⟩
    · simp [opC] at b1
  obtain ⟨rfl, rfl⟩ := hb
  have htno : tno = T "c" [1, 4] 0 := by
    have : sgC.tensors[(2 : Int).toNat]? = some (T "c" [1, 4] 0) := rfl
    rw [this] at b3
    exact (Option.some.inj b3).symm
  subst htno
  exact ⟨o', h1, h2, z, tz, tr, pid, qp0, d0, qp, mn, mx, qs0, b5, b6, b7, b8, b9, b10, b11, b12, h3, b13, b14⟩

end Concat

/-! ### `y := FULLY_CONNECTED(x, w, b)` under static-range int8 (`C03.E2E.envB`): the bias -/
namespace Bias
open C03.E2E C15.E2E C15.Defect

/-- all hypotheses of `bias_in_output` hold; on the instance (with `bias_values`): the bias is read directly
    in slot 2, it is symmetric with zero points 0 and 32 bits, and its scale array in the table is the squeezed
    product of the scale arrays, in the table, of the tensors read in the data slot and in the weight slot -/
theorem bias_instance :
    ∃ (tbl : List Param) (o' : Op) (zi zw : Int) (tzi tzw tzb : Tensor) (pi pw pb : PId)
        (qi0 qw0 qb0 : QParams) (di0 dw0 db0 : Option IArr) (pr : Prec) (prod : Arr Rat),
      quantizePure rxAll envB stA (some qsB) = .ok (mB', tbl) ∧
      o' ∈ (mB'.subgraphs[0]'(by decide)).ops ∧ o'.orig = some 0 ∧
      o'.inputs[0]? = some zi ∧ (mB'.subgraphs[0]'(by decide)).tensors[zi.toNat]? = some tzi ∧ tzi.quant = some pi ∧
      tbl[pi]? = some (.uniform qi0 di0) ∧
      o'.inputs[1]? = some zw ∧ (mB'.subgraphs[0]'(by decide)).tensors[zw.toNat]? = some tzw ∧ tzw.quant = some pw ∧
      tbl[pw]? = some (.uniform qw0 dw0) ∧
      o'.inputs[2]? = some 2 ∧ (mB'.subgraphs[0]'(by decide)).tensors[2]? = some tzb ∧ tzb.quant = some pb ∧
      tbl[pb]? = some (.uniform qb0 db0) ∧
      qb0.symmetric = true ∧ qb0.bits = (if qi0.bits = 16 then 64 else 32) ∧ (∀ z ∈ qb0.zp.arr.data, z = 0) ∧
      zipB (fun a b => pr.chk (a * b)) qi0.scale.arr qw0.scale.arr = .ok prod ∧ qb0.scale.arr = squeeze1 prod := by
  obtain ⟨tbl, hrun⟩ := runB
  obtain ⟨o', aIn, aW, zi, zw, tzi, tzw, tzb, bt, pi, pw, pb, qi0, qw0, qb0, qi, qw, qb, di0, dw0, db0, bd, q,
      h1, h2, h3, h4, h5, -, h7, h8, h9, h10, h11, -, h13, h14, h15, h16, h17, h18, h19, h20, h21, -, -, h24⟩ :=
    bias_in_output rxAll envB stA (some qsB) mB' tbl nfB hrun 0 _ _ rfl rfl 0 _ rfl "FULLY_CONNECTED" cfgSRQ
      fcResolvesB (by decide) 2 (by decide) (by decide) 2 rfl (by decide)
  obtain ⟨v1, v2, v3, prod, v4, v5⟩ := bias_values qi0 qw0 qb0 qi qw qb _ q h10 h16 h21 h24
  exact ⟨tbl, o', zi, zw, tzi, tzw, tzb, pi, pw, pb, qi0, qw0, qb0, di0, dw0, db0, _, prod, hrun, h1, h2, h5, h7, h8, h9,
    h11, h13, h14, h15, h17, h18, h19, h20, v1, v2, v3, v4, v5⟩

end Bias

/-- **the ids of a CONSTANT operand and of the result of a same-scale operator differ** (RESHAPE of the
    constant `c`, `PipelineWFExample.envB`): `c` carries id 0, the result `y` id 1; the two table entries have
    the same parameters, but entry 0 carries the quantized values of `c` and entry 1 none, and `==` on
    parameter objects compares the values too -/
theorem const_operand_ids_differ :
    (match quantizePure PipelineWFExample.rxAll PipelineWFExample.envB
        (PipelineWFExample.stOf Tables.algMinMax PipelineWFExample.cfgSRQ) (some PipelineWFExample.qsB) with
     | .ok r => r.1.subgraphs.map (fun sg => sg.tensors.map (·.quant)) == [[some 0, none, some 1]] &&
         (match r.2 with
          | [.uniform q1 (some _), .uniform q2 none] => decide (q1 = q2)
          | _ => false)
     | .error _ => false) = true := by
  decide +kernel

end E2E

end C04
