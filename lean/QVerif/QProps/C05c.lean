import QProofs.ConstSrc
import QProofs.PipelineWFExamples
/-!
# C05c — stored quantized constants, END TO END: the bytes behind `.inr p`

C05 / C05b (storage formats), C17 (scalar laws), C04b (the requested parameters are the reference formulas) and C15c (a
rewritten constant buffer holds the packed data of ONE parameter object `tbl[p]`, by which all its tensors are typed),
composed over `Pipeline.quantizePure` under `PipelineWF.NF` alone.

The graph model keeps a rewritten buffer abstract (`some (.inr p)`).  `storedBytes tbl p` are the bytes the serializer
writes for it and `decodeStored` the decoder of the TFLite storage format (`QProofs/ConstBytes.lean`, where the
correspondence with `quantize_tensor` / `_pack_data` and the harness comparison are described).

`stored_source`: every tensor `tn'` of the output over an original constant buffer that now holds `.inr p` (`Rewritten`) is
the tensor at the same position of the input, a float constant with data `d`, and the parameter object `P` of its rewriting
request -- `==`-equal to `tbl[p]`, with the SAME stored bytes -- was computed FROM `d` in one of four ways (`Src`,
`src_kinds`): `own` (reference parameters of the constant's true min/max and `uniform_quantize(d, qp)`), `lent` (borrowed
data-free parameters), `bias` (`symmetric_quantize_bias_tensor`), `f16` (`astype(float16)`).

Not covered: bit widths above 16 for the value bound (C17's laws stop there), borrowed (`lent`)
parameters beyond length / round trip (their scales come from another tensor's statistics, so no bound
relative to this constant's range can hold in general).
-/
open Graph Mat Cfg Pipeline Arith Nd Num Bytes MatParams
open ConstBytes ConstProv ConstQuant ConstSrc

set_option autoImplicit false

namespace C05

theorem storedBytes_uniform (tbl : List Param) (p : PId) (qp : QParams) (q : IArr)
    (h : tbl[p]? = some (.uniform qp (some q))) :
    storedBytes tbl p = some (Bytes.storeInts qp.bits q.w q.arr.data) := by
  simp [ConstBytes.storedBytes, h, ConstBytes.paramBytes]

/-- float16 data `h = d.astype(float16)`: the stored bytes are the driver's `castF16` of the ORIGINAL values `d` -/
theorem storedBytes_f16 (tbl : List Param) (p : PId) (shape : List Nat) (d h : List Rat)
    (htbl : tbl[p]? = some (.nonlinear 16 (some ⟨shape, h⟩))) (hh : d.mapM Prec.f16.chk = .ok h) :
    ∃ bss, d.mapM Bytes.castF16 = .ok bss ∧ storedBytes tbl p = some bss.flatten := by
  refine ⟨_, mapM_castF16 d h hh, ?_⟩
  simp [ConstBytes.storedBytes, htbl, ConstBytes.paramBytes, List.flatMap_def]

/-- `tn'` is tensor `i` of subgraph `s` of the output `m'`; its buffer `b` was a constant of the input
    and now holds the packed data of parameter `p` -/
structure Rewritten (env : Env) (m' : Model) (b p s i : Nat) (tn' : Tensor) : Prop where
  orig : ∃ k, env.model.buffers[b]? = some (some (.inl k))
  now : m'.buffers[b]? = some (some (.inr p))
  at' : ∃ sg', m'.subgraphs[s]? = some sg' ∧ sg'.tensors[i]? = some tn'
  buf : tn'.buffer = b

/-- **every tensor of the output whose buffer holds packed data `.inr p` is `Rewritten`**, provided the data
    buffers of the INPUT model are original constants (`.inl k`; this is how every input model is
    represented -- `.inr` only arises from `quantize_tensor`): a buffer without data in the input has
    none in the output (`ConstE2E.nodata_frame`) -/
theorem rewritten_of_inr (rx : String → String → Bool) (env : Env) (st : Recipe.State) (qsvs : Option Qsvs)
    (m' : Model) (tbl : List Param) (hnf : PipelineWF.NF env st)
    (hrun : quantizePure rx env st qsvs = .ok (m', tbl))
    (hin : ∀ (b : Nat) (q : PId), env.model.buffers[b]? ≠ some (some (Sum.inr q)))
    (p s i : Nat) (sg' : Subgraph) (tn' : Tensor) (h1 : m'.subgraphs[s]? = some sg')
    (h2 : sg'.tensors[i]? = some tn') (hp : m'.buffers[tn'.buffer]? = some (some (.inr p))) :
    Rewritten env m' tn'.buffer p s i tn' :=
  ⟨ConstE2E.inr_was_const rx env st qsvs m' tbl hnf hrun hin tn'.buffer p hp, hp, ⟨sg', h1, h2⟩, rfl⟩

/-- the facts about the tensor `tn'`, its original `tn` with data `d`, and the parameter object `P`
    behind the stored bytes -/
structure StoredAt (env : Env) (tbl : List Param) (p : PId) (tn' tn : Tensor) (d : Arr Rat) (P : Param) : Prop where
  name : tn'.name = tn.name
  shape : tn'.shape = tn.shape
  buffer : tn'.buffer = tn.buffer
  data : constData env tn = some d
  src : Src env tn d P
  entry : ∃ P0, tbl[p]? = some P0 ∧ P0.eqv P = true ∧ paramBytes P0 = paramBytes P
  typed : SharingE2E.TypedBy (ptableOf tbl) p tn'

theorem stored_source (rx : String → String → Bool) (env : Env) (st : Recipe.State) (qsvs : Option Qsvs)
    (m' : Model) (tbl : List Param) (hnf : PipelineWF.NF env st)
    (hrun : quantizePure rx env st qsvs = .ok (m', tbl))
    (b p s i : Nat) (tn' : Tensor) (hr : Rewritten env m' b p s i tn') :
    ∃ (sg : Subgraph) (tn : Tensor) (d : Arr Rat) (P : Param),
      env.model.subgraphs[s]? = some sg ∧ sg.tensors[i]? = some tn ∧ StoredAt env tbl p tn' tn d P := by
  obtain ⟨k, hb⟩ := hr.orig
  obtain ⟨sg', h1, h2⟩ := hr.at'
  obtain ⟨res, tis, S⟩ := TypingE2E.stages rx env st qsvs m' tbl hnf hrun
  have htbl := S.tbl_eq
  subst htbl
  obtain ⟨qs, hloop⟩ := S.fold
  have C := S.ctx
  have hcd := (SharingData.generateLoop_res rx env st qsvs hnf.genHyp C.nu (qs, res) hloop).2
  have hprov := generate_prov rx env st qsvs hnf.genHyp res qs hloop
  -- C15c: the buffer is rewritten with ONE parameter, every referent is retyped with it
  rcases SharingE2E.buffer_agrees _ env.model m' tis hnf.wf hnf.tagged S.ok S.cd S.sa S.run b k hb with
    ⟨u1, -, -⟩ | ⟨p', pi, -, -, r3, -, r5⟩
  · cases u1.symm.trans hr.now
  obtain rfl : p' = p := by
    cases r3.symm.trans hr.now
    rfl
  obtain ⟨⟨sg, tn, hsg, htn, hbuf⟩, hret, htyped⟩ := r5 s sg' i tn' h1 h2 hr.buf
  -- the consumer side behind the retyping instruction; its data has a source at the tensor of that name: the tensor itself
  obtain ⟨e, he, hname, cs, c, x, P, g1, g2, g3, g4, g5, g6⟩ := SharingGen.retyped_req C tis S.gen s i p' sg tn hsg htn
    (SharingGen.isConst_of env.model sg i tn (.inl k) htn (by rw [hbuf]; exact hb)) hret
  have hdP : Pipe.hasData P = true := hcd e he cs c g1 g2 x P g3 g4 g5
  obtain ⟨sg2, hsg2, t2, ht2, hn2, d, hd, hsrc⟩ := (hprov e he).2 cs c g1 g2 P g5 hdP
  obtain ⟨rfl, rfl⟩ := ReqTrace.named_at_mem C.nu hsg htn hsg2 ht2 (hn2.trans hname)
  -- the table entry is `==`-equal to it, and was itself computed from some constant
  obtain ⟨hplt, heqv, -⟩ := List.findIdx?_eq_some_iff_getElem.1 g6
  obtain ⟨_, _, hs0⟩ := ConstE2E.tbl_src hprov (List.getElem_mem hplt) (by rw [Pipe.eqv_hasData _ _ heqv]; exact hdP)
  obtain ⟨hn, hshape⟩ := ConstE2E.frame_of_skeleton env.model m'
    (PipelineWF.quantizePure_skeleton rx env st qsvs m' _ hnf hrun) s sg sg' i tn tn' hsg h1 htn h2
  exact ⟨sg, tn, d, P, hsg, htn, ⟨hn, hshape, by rw [hr.buf, hbuf], hd, hsrc,
    ⟨_, List.getElem?_eq_getElem hplt, heqv,
      ConstE2E.eqv_bytes _ _ heqv hdP (ConstE2E.src_wdata hs0) (ConstE2E.src_wdata hsrc)⟩, htyped⟩⟩

/-- the reference parameters of the constant's true min/max (the right-hand side of
    `C04.weight_params_reference`) with the quantized values -/
def IsOwn (env : Env) (t : Tensor) (d : Arr Rat) (qp : QParams) (q : IArr) : Prop :=
  ∃ (oi : OpInfo) (tc : TCfg) (mn mx : FArr) (qdim : Option Nat),
    tcfgOf env oi t = some tc ∧ initMinMax env oi t d = .ok (mn, mx) ∧ refQDim env oi tc (some d) = .ok qdim ∧
    refParams tc.bits.toNat tc.symmetric qdim mn mx = .ok qp ∧ tc.gran ≠ Gran.blockwise ∧
    uniformQuantize ⟨d, .f32⟩ qp = .ok q

theorem src_kinds {env : Env} {t : Tensor} {d : Arr Rat} {P : Param} (h : Src env t d P) :
    (∃ qp q, P = .uniform qp (some q) ∧ IsOwn env t d qp q) ∨
    (∃ qp q, P = .uniform qp (some q) ∧ uniformQuantize ⟨d, .f32⟩ qp = .ok q) ∨
    (∃ qi qw qp q, P = .uniform qp (some q) ∧ quantizeBias ⟨d, .f32⟩ qi qw = .ok (qp, q)) ∨
    (∃ hh, P = .nonlinear 16 (some ⟨d.shape, hh⟩) ∧ d.data.mapM Prec.f16.chk = .ok hh) := by
  cases h with
  | own oi tc mn mx qdim qp q h1 h2 h3 h4 h5 h6 => exact .inl ⟨qp, q, rfl, oi, tc, mn, mx, qdim, h1, h2, h3, h4, h5, h6⟩
  | lent qp q hu => exact .inr (.inl ⟨qp, q, rfl, hu⟩)
  | bias qi qw qp q hb => exact .inr (.inr (.inl ⟨qi, qw, qp, q, rfl, hb⟩))
  | f16 hh hm => exact .inr (.inr (.inr ⟨hh, rfl, hm⟩))

namespace StoredAt
variable {env : Env} {tbl : List Param} {p : PId} {tn' tn : Tensor} {d : Arr Rat} {P : Param}

theorem bytes (h : StoredAt env tbl p tn' tn d P) : storedBytes tbl p = paramBytes P := by
  obtain ⟨P0, h0, _, hb⟩ := h.entry
  simp only [ConstBytes.storedBytes, h0, Option.bind_some]
  exact hb

theorem dtype (h : StoredAt env tbl p tn' tn d P) :
    Perform.dtypeOf (pinfoOf P) = .ok tn'.dtype ∧ ((pinfoOf P).uniform = true → tn'.quant = some p) := by
  obtain ⟨P0, h0, he, _⟩ := h.entry
  exact typed_dtype tbl p tn' P0 P h.typed h0 he

theorem dshape (h : StoredAt env tbl p tn' tn d P) : d.shape = shapeNat tn' := by
  rw [(constData_shape env tn d h.data).1]
  unfold shapeNat
  rw [h.shape]

theorem dtype_f16 {v : Arr Rat} (h : StoredAt env tbl p tn' tn d (.nonlinear 16 (some v))) :
    tn'.dtype = Tables.ttFloat16 :=
  (Except.ok.inj h.dtype.1).symm

/-- every source carries data, so the buffer's bytes exist: they are those of the source's object -/
theorem bytes_some (h : StoredAt env tbl p tn' tn d P) :
    ∃ bs, storedBytes tbl p = some bs ∧ paramBytes P = some bs := by
  rw [h.bytes]
  rcases src_cases h.src with ⟨qp, q, rfl, _⟩ | ⟨hh, rfl, _⟩
  · exact ⟨_, rfl, rfl⟩
  · exact ⟨_, rfl, rfl⟩

end StoredAt

theorem stored_bytes (rx : String → String → Bool) (env : Env) (st : Recipe.State) (qsvs : Option Qsvs)
    (m' : Model) (tbl : List Param) (hnf : PipelineWF.NF env st)
    (hrun : quantizePure rx env st qsvs = .ok (m', tbl))
    (b p s i : Nat) (tn' : Tensor) (hr : Rewritten env m' b p s i tn') :
    ∃ (tn : Tensor) (d : Arr Rat) (P : Param) (bs : List Nat),
      StoredAt env tbl p tn' tn d P ∧ storedBytes tbl p = some bs ∧ paramBytes P = some bs := by
  obtain ⟨sg, tn, d, P, _, _, H⟩ := stored_source rx env st qsvs m' tbl hnf hrun b p s i tn' hr
  obtain ⟨bs, hbs, hP⟩ := H.bytes_some
  exact ⟨tn, d, P, bs, H, hbs, hP⟩

/-- **stored length.**  For every tensor over a rewritten constant buffer: the buffer's bytes exist, and
    their number is `⌈n·bits/8⌉` for the tensor's own type and the `n` values of the parameter object
    in the table; `n` is the number of elements of the tensor's shape when the parameter object fits the
    tensor. -/
theorem stored_length (rx : String → String → Bool) (env : Env) (st : Recipe.State) (qsvs : Option Qsvs)
    (m' : Model) (tbl : List Param) (hnf : PipelineWF.NF env st)
    (hrun : quantizePure rx env st qsvs = .ok (m', tbl))
    (b p s i : Nat) (tn' : Tensor) (hr : Rewritten env m' b p s i tn') :
    ∃ (P0 : Param) (bs : List Nat) (n : Nat), tbl[p]? = some P0 ∧ storedBytes tbl p = some bs ∧
      storedCount P0 = some n ∧ byteLen tn'.dtype n = some bs.length ∧
      (Fits P0 (shapeNat tn') → n = numel (shapeNat tn')) := by
  obtain ⟨tn, d, P, bs, H, hbs, hP⟩ := stored_bytes rx env st qsvs m' tbl hnf hrun b p s i tn' hr
  obtain ⟨P0, h0, he, _⟩ := H.entry
  rcases src_cases H.src with ⟨qp, q, rfl, hu⟩ | ⟨hh, rfl, hm⟩
  · obtain ⟨qp0, _ | q0, rfl, -, -, e3, -, -, e6⟩ := Pipe.eqv_uniform he
    · cases e6
    have e6 : q0.arr = q.arr := Option.some.inj e6
    refine ⟨_, bs, numel q.arr.shape, h0, hbs, by simp [ConstSrc.storedCount, e6],
      (quantized_bytes _ _ _ tn'.dtype bs hu H.dtype.1 hP).1, ?_⟩
    intro hfit
    rw [Fits_uniform, e3, ← H.dshape] at hfit
    rw [(uq_fit _ _ _ hu hfit.1 hfit.2).1, H.dshape]
  · obtain rfl := ConstE2E.entry_f16 P0 16 _ he
    obtain ⟨hlen, _, _, hl, _⟩ := ConstValue.f16_bytes d.shape d.data hh bs hm hP
    exact ⟨_, bs, hh.length, h0, hbs, rfl, by rw [H.dtype_f16, hl]; exact hlen, fun hfit => hfit⟩

/-- **stored weights decode to within the C17 bound of the float originals** (constants quantized with their own
    reference parameters, `IsOwn`).  The table entry `tbl[p]` has the values and codes `qp`, `q` of the object behind the
    buffer; the tensor carries `p`; the stored bytes have the length implied by the TENSOR's shape and type and decode to
    exactly `q`; and -- for 2..16 bits -- for every element, with `s`, `z` the scale and zero point of its channel: `s > 0`,
    `z` in the integer range (0 when symmetric), and if `s ∈ [2^-100, 2^100]` and the element lies in the representable
    range `[(qlo - z)s, (qmax - z)s]` the dequantized stored code is within `s·(1/2 + 2^(bits+3)·2^-24)` of the ORIGINAL. -/
theorem stored_decodes_within_step (rx : String → String → Bool) (env : Env) (st : Recipe.State)
    (qsvs : Option Qsvs) (m' : Model) (tbl : List Param) (hnf : PipelineWF.NF env st)
    (hrun : quantizePure rx env st qsvs = .ok (m', tbl))
    (b p s i : Nat) (tn' : Tensor) (hr : Rewritten env m' b p s i tn') :
    ∃ (tn : Tensor) (d : Arr Rat) (P : Param) (bs : List Nat),
      StoredAt env tbl p tn' tn d P ∧ storedBytes tbl p = some bs ∧
      ∀ qp q, P = .uniform qp (some q) → IsOwn env tn d qp q →
        (∃ qp0 q0, tbl[p]? = some (.uniform qp0 (some q0)) ∧ qp0.bits = qp.bits ∧ qp0.qdim = qp.qdim ∧
          qp0.scale.arr = qp.scale.arr ∧ qp0.zp.arr = qp.zp.arr ∧ qp0.symmetric = qp.symmetric ∧ q0.arr = q.arr) ∧
        tn'.quant = some p ∧ Fits P (shapeNat tn') ∧
        byteLen tn'.dtype (numel (shapeNat tn')) = some bs.length ∧
        decodeStored tn'.dtype (numel (shapeNat tn')) bs = .inl q.arr.data ∧
        q.arr.shape = shapeNat tn' ∧
        (2 ≤ qp.bits → qp.bits ≤ 16 →
          ∀ j < numel (shapeNat tn'), ∀ (sc : Rat) (z : Int),
            sc = qp.scale.arr.data.getD (bindex (shapeNat tn') qp.scale.arr.shape j) 0 →
            z = qp.zp.arr.data.getD (bindex (shapeNat tn') qp.scale.arr.shape j) 0 →
            0 < sc ∧ qmin qp.bits ≤ z ∧ z ≤ qmax qp.bits ∧ (qp.symmetric = true → z = 0) ∧
            ((2:Rat)^(-100:Int) ≤ sc → sc ≤ (2:Rat)^(100:Int) →
              ((qmin qp.bits + (if qp.symmetric then 1 else 0) - z : Int) : Rat) * sc ≤ d.data.getD j 0 →
              d.data.getD j 0 ≤ ((qmax qp.bits - z : Int) : Rat) * sc →
              |dqVal true (storageBits qp.bits) (storageBits qp.bits) .f32
                  ((decodeInts tn'.dtype (numel (shapeNat tn')) bs).getD j 0) z sc - d.data.getD j 0|
                ≤ sc * (1/2 + (2:Rat)^(qp.bits + 3) * ArithRounded.u32))) := by
  obtain ⟨tn, d, P, bs, H, hbs, hP⟩ := stored_bytes rx env st qsvs m' tbl hnf hrun b p s i tn' hr
  refine ⟨tn, d, P, bs, H, hbs, ?_⟩
  rintro qp q rfl ⟨oi, tc, mn, mx, qdim, _, hi, _, hp, _, hu⟩
  obtain ⟨hdt, hq⟩ := H.dtype
  obtain ⟨P0, h0, he, _⟩ := H.entry
  obtain ⟨qp0, _ | q0, rfl, e1, e2, e3, e4, e5, e6⟩ := Pipe.eqv_uniform he
  · cases e6
  refine ⟨⟨qp0, q0, h0, e1, e2, e3, e4, e5, Option.some.inj e6⟩, hq rfl, ?_⟩
  rw [← H.dshape]
  exact own_stored env oi tn tc d mn mx qdim qp q tn'.dtype bs H.data hi hp hu hdt hP

/-- the scalar law behind `stored_decodes_all`: `dequantize ∘ quantize` of ANY value between a channel's min
    and max, with the float32 parameters computed from that min/max (2..16 bits, either symmetry), is
    within `s·(1/2 + 2^(bits+4)·2^-24)` of the value -- clipped values included -/
theorem decode_minmax (bits : Nat) (hb2 : 2 ≤ bits) (hb16 : bits ≤ 16) (sym : Bool)
    (zw : Nat) (hzw : zw = 8 ∨ zw = 16) (mn mx : Rat) (hmm : mn ≤ mx)
    (zp : Int) (s : Rat) (h : zpScale1 .f32 bits sym mn mx = .ok (zp, s))
    (hmn : |mn| ≤ (2:Rat)^(99:Int)) (hmx : |mx| ≤ (2:Rat)^(99:Int)) (x : Rat) (hx1 : mn ≤ x) (hx2 : x ≤ mx) :
    |dqVal true (storageBits bits) zw .f32 (roundClip bits sym (qSum .f32 .f32 zw x s zp)) zp s - x|
      ≤ s * (1/2 + (2:Rat)^(bits + 4) * ArithRounded.u32) :=
  ConstCover.decode_minmax bits hb2 hb16 sym zw hzw mn mx hmm zp s h hmn hmx x hx1 hx2

/-- **every element of a stored weight decodes to within half a step (plus rounding slack) of the float
    original** -- `own` constants, 2..16 bits, symmetric or asymmetric, well-formed data of magnitude at most
    `2^99`; clipped extreme elements included -/
theorem stored_decodes_all (rx : String → String → Bool) (env : Env) (st : Recipe.State)
    (qsvs : Option Qsvs) (m' : Model) (tbl : List Param) (hnf : PipelineWF.NF env st)
    (hrun : quantizePure rx env st qsvs = .ok (m', tbl))
    (b p s i : Nat) (tn' : Tensor) (hr : Rewritten env m' b p s i tn') :
    ∃ (tn : Tensor) (d : Arr Rat) (P : Param) (bs : List Nat),
      StoredAt env tbl p tn' tn d P ∧ storedBytes tbl p = some bs ∧
      ∀ qp q, P = .uniform qp (some q) → IsOwn env tn d qp q → 2 ≤ qp.bits → qp.bits ≤ 16 →
        d.data.length = numel (shapeNat tn') →
        (∀ j < numel (shapeNat tn'), |d.data.getD j 0| ≤ (2:Rat)^(99:Int)) →
        ∀ j < numel (shapeNat tn'),
          |dqVal true (storageBits qp.bits) (storageBits qp.bits) .f32
              ((decodeInts tn'.dtype (numel (shapeNat tn')) bs).getD j 0)
              (qp.zp.arr.data.getD (bindex (shapeNat tn') qp.scale.arr.shape j) 0)
              (qp.scale.arr.data.getD (bindex (shapeNat tn') qp.scale.arr.shape j) 0) - d.data.getD j 0|
            ≤ qp.scale.arr.data.getD (bindex (shapeNat tn') qp.scale.arr.shape j) 0
                * (1/2 + (2:Rat)^(qp.bits + 4) * ArithRounded.u32) := by
  obtain ⟨tn, d, P, bs, H, hbs, hstep⟩ := stored_decodes_within_step rx env st qsvs m' tbl hnf hrun b p s i tn' hr
  refine ⟨tn, d, P, bs, H, hbs, ?_⟩
  rintro qp q rfl hown hb2 hb16 hwf hmag
  obtain ⟨_, _, _, _, hdec, _, _⟩ := hstep qp q rfl hown
  obtain ⟨oi, tc, mn, mx, qdim, _, hi, _, hp, _, hu⟩ := hown
  have hsh := H.dshape
  have hall := ConstOwnAll.own_decode_all env oi tn tc d mn mx qdim qp q H.data hi hp hu hb2 hb16
    (by rw [hsh]; exact hwf) (by rw [hsh]; exact hmag)
  rw [hsh] at hall
  obtain ⟨hdt, _⟩ := H.dtype
  rw [decodeStored_int qp.bits true _ _ _ hdt] at hdec
  have hdec' : decodeInts tn'.dtype (numel (shapeNat tn')) bs = q.arr.data := Sum.inl.inj hdec
  rw [hdec']
  exact hall

/-- **stored biases**: `bias` sources.  INT32 (INT64 when the input activation has 16 bits) tensor
    carrying `p`; the bytes have the length of the code array and decode to exactly the codes; every code
    is the saturating `round(v)` of the floating-point evaluation `v` of `bias/scale` (`qSum`): in the
    symmetric range, equal to `round(v)` inside the saturation bounds, the bound of the same sign
    outside; the code array has the tensor's shape when the parameters fit the tensor -/
theorem stored_bias (rx : String → String → Bool) (env : Env) (st : Recipe.State)
    (qsvs : Option Qsvs) (m' : Model) (tbl : List Param) (hnf : PipelineWF.NF env st)
    (hrun : quantizePure rx env st qsvs = .ok (m', tbl))
    (b p s i : Nat) (tn' : Tensor) (hr : Rewritten env m' b p s i tn') :
    ∃ (tn : Tensor) (d : Arr Rat) (P : Param) (bs : List Nat),
      StoredAt env tbl p tn' tn d P ∧ storedBytes tbl p = some bs ∧
      ∀ qi qw qp q, P = .uniform qp (some q) → quantizeBias ⟨d, .f32⟩ qi qw = .ok (qp, q) →
        ((qp.bits = 32 ∧ tn'.dtype = Tables.ttInt32) ∨ (qp.bits = 64 ∧ tn'.dtype = Tables.ttInt64)) ∧
        (qi.bits = 16 ↔ qp.bits = 64) ∧ qp.symmetric = true ∧ (∀ z ∈ qp.zp.arr.data, z = 0) ∧
        tn'.quant = some p ∧
        byteLen tn'.dtype (numel q.arr.shape) = some bs.length ∧
        decodeStored tn'.dtype (numel q.arr.shape) bs = .inl q.arr.data ∧
        (Fits P (shapeNat tn') → q.arr.shape = shapeNat tn') ∧
        ∀ (j : Nat) (c : Int), q.arr.data[j]? = some c →
          ∃ (x sc v : Rat), sc ≠ 0 ∧ x ∈ (0 :: d.data) ∧ sc ∈ (0 :: qp.scale.arr.data) ∧
            v = qSum .f32 qp.scale.pr 32 x sc 0 ∧ c = roundClip qp.bits true v ∧
            (qmin qp.bits + 1 ≤ c ∧ c ≤ qmax qp.bits) ∧
            (qp.bits = 32 →
              (-(2:Int)^31 + 1 ≤ rhe v → rhe v ≤ (2:Int)^31 - 1 → c = rhe v) ∧
              ((2:Int)^31 - 1 ≤ rhe v → c = (2:Int)^31 - 1) ∧ (rhe v ≤ -(2:Int)^31 + 1 → c = -(2:Int)^31 + 1)) ∧
            (qp.bits = 64 →
              (-(2:Int)^63 + 1024 ≤ rhe v → rhe v ≤ (2:Int)^63 - 1024 → c = rhe v) ∧
              ((2:Int)^63 - 1024 ≤ rhe v → c = (2:Int)^63 - 1024) ∧
              (rhe v ≤ -(2:Int)^63 + 1024 → c = -(2:Int)^63 + 1024)) := by
  obtain ⟨tn, d, P, bs, H, hbs, hP⟩ := stored_bytes rx env st qsvs m' tbl hnf hrun b p s i tn' hr
  refine ⟨tn, d, P, bs, H, hbs, ?_⟩
  rintro qi qw qp q rfl hbias
  obtain ⟨hdt, hq⟩ := H.dtype
  obtain ⟨hsym, hbits, _, hz0, _⟩ := C04.bias_params _ _ _ _ _ hbias
  have hu := C04.quantizeBias_uq _ _ _ _ _ hbias
  obtain ⟨_, _, hb3264, hcodes⟩ := ConstValue.bias_codes d qi qw qp q hbias
  obtain ⟨hlen, hdec⟩ := quantized_bytes _ _ _ tn'.dtype bs hu hdt hP
  have hty : (qp.bits = 32 ∧ tn'.dtype = Tables.ttInt32) ∨ (qp.bits = 64 ∧ tn'.dtype = Tables.ttInt64) := by
    have hdt' : Perform.dtypeOf ⟨true, qp.bits, true⟩ = .ok tn'.dtype := hdt
    rcases hb3264 with hb | hb
    · rw [hb] at hdt'
      exact .inl ⟨hb, (Except.ok.inj hdt').symm⟩
    · rw [hb] at hdt'
      exact .inr ⟨hb, (Except.ok.inj hdt').symm⟩
  refine ⟨hty, ?_, hsym, hz0, hq rfl, hlen, ?_, ?_, hcodes⟩
  · rw [hbits]
    by_cases h16 : qi.bits = 16
    · rw [if_pos h16]; exact ⟨fun _ => rfl, fun _ => h16⟩
    · rw [if_neg h16]; exact ⟨fun h => absurd h h16, fun h => absurd h (by decide)⟩
  · rw [decodeStored_int qp.bits true _ _ _ hdt, hdec]
  · intro hfit
    rw [Fits_uniform, ← H.dshape] at hfit
    rw [← H.dshape]
    exact (uq_fit _ _ _ hu hfit.1 hfit.2).1

/-- **stored float16 constants**: `f16` sources.  The table entry IS the float16 array, the tensor is
    FLOAT16, the bytes (two per value) are the flattened output of the driver's `castF16` on the
    ORIGINAL values, and decoding them gives the round-to-nearest-even float16 of every original -/
theorem stored_f16 (rx : String → String → Bool) (env : Env) (st : Recipe.State)
    (qsvs : Option Qsvs) (m' : Model) (tbl : List Param) (hnf : PipelineWF.NF env st)
    (hrun : quantizePure rx env st qsvs = .ok (m', tbl))
    (b p s i : Nat) (tn' : Tensor) (hr : Rewritten env m' b p s i tn') :
    ∃ (tn : Tensor) (d : Arr Rat) (P : Param) (bs : List Nat),
      StoredAt env tbl p tn' tn d P ∧ storedBytes tbl p = some bs ∧
      ∀ hh, P = .nonlinear 16 (some ⟨d.shape, hh⟩) → d.data.mapM Prec.f16.chk = .ok hh →
        tbl[p]? = some P ∧ tn'.dtype = Tables.ttFloat16 ∧
        byteLen tn'.dtype d.data.length = some bs.length ∧
        (∃ bss, d.data.mapM castF16 = .ok bss ∧ bs = bss.flatten) ∧
        decodeStored tn'.dtype d.data.length bs = .inr hh ∧ hh.length = d.data.length ∧
        (∀ (j : Nat) (hj : j < d.data.length), hh[j]? = some (Prec.f16.rn d.data[j])) ∧
        (d.data.length = numel d.shape → d.data.length = numel (shapeNat tn')) := by
  obtain ⟨tn, d, P, bs, H, hbs, hP⟩ := stored_bytes rx env st qsvs m' tbl hnf hrun b p s i tn' hr
  refine ⟨tn, d, P, bs, H, hbs, ?_⟩
  rintro hh rfl hm
  obtain ⟨P0, h0, he, _⟩ := H.entry
  obtain rfl := ConstE2E.entry_f16 P0 16 _ he
  have hty := H.dtype_f16
  obtain ⟨hlen, hcast, hdec, hl, hel⟩ := ConstValue.f16_bytes d.shape d.data hh bs hm hP
  refine ⟨h0, hty, by rw [hty]; exact hlen, hcast, ?_, hl, hel, fun hwf => by rw [hwf, H.dshape]⟩
  rw [hty]
  unfold ConstBytes.decodeStored
  rw [if_pos rfl, hdec]

/-! ## NON-VACUITY: closed runs of the whole pipeline

The kernel compares the evaluated runs with their expected values through the decidable equality that `MatParams` derives for the
array / parameter records (the model derives only `BEq`). -/

theorem Rewritten.of_get {env : Env} {m' : Model} {b p s i k : Nat} {tn' : Tensor}
    (hb : env.model.buffers[b]? = some (some (.inl k))) (h1 : m'.buffers[b]? = some (some (.inr p)))
    (h2 : (m'.subgraphs[s]?.bind fun sg => sg.tensors[i]?) = some tn') (h3 : tn'.buffer = b) :
    Rewritten env m' b p s i tn' := by
  obtain ⟨sg, hs, ht⟩ := Option.bind_eq_some_iff.1 h2
  exact ⟨⟨k, hb⟩, h1, ⟨sg, hs, ht⟩, h3⟩

namespace Inst

def T (n : String) (sh : List Int) (b : Nat) : Tensor := { name := n, dtype := 0, shape := sh, buffer := b }
def rxAll : String → String → Bool := fun _ _ => true
/-- dynamic range (integer compute, no activation config: the `.integer, none` case of `C13.modeOK`),
    symmetric per-channel weights of `bits` bits -/
def cfgW (bits : Int) : OpCfg :=
  { act := none, weight := some { bits := bits, symmetric := true, gran := .channelwise }, cp := .integer,
    skipChecks := true }
def stW (bits : Int) : Recipe.State := [(".*", [⟨".*", "*", Tables.algMinMax, cfgW bits⟩])]
def fcOp : Op := { code := 0, inputs := [0,1,-1], outputs := [2], orig := some 0 }

/-! ### the two dynamic-range instances `y := FC(x, w)`: INT8 with a 2×2 weight; INT4 with a 1×3 weight
(odd element count) -/

def m8 : Model :=
  { subgraphs := [{ tensors := [T "x" [1,2] 0, T "w" [2,2] 1, T "y" [1,2] 0], ops := [fcOp],
                    inputs := [0], outputs := [2] }],
    buffers := [none, some (.inl 0)], opcodes := [9], sigs := [] }
def env8 : Env := { model := m8, consts := [(1, [127, 64, -254, 3])], adjY := [] }
def d8 : Arr Rat := ⟨[2,2], [127, 64, -254, 3]⟩
def qp8 : QParams :=
  { bits := 8, qdim := some 0, scale := ⟨⟨[2,1], [1, 2]⟩, .f32⟩, zp := ⟨⟨[2,1], [0, 0]⟩, 8⟩, symmetric := true }
def q8 : IArr := ⟨⟨[2,2], [127, 64, -127, 2]⟩, 8⟩
def w8' : Tensor := { T "w" [2,2] 1 with dtype := Tables.ttInt8, quant := some 0 }
def m8' : Model :=
  { m8 with subgraphs := [{ tensors := [T "x" [1,2] 0, w8', T "y" [1,2] 0], ops := [fcOp],
                            inputs := [0], outputs := [2] }],
            buffers := [none, some (.inr 0)] }
def oi8 : OpInfo := { sgIdx := 0, op := fcOp, opName := "FULLY_CONNECTED", opId := 0, cfg := cfgW 8 }
def tc8 : TCfg := { bits := 8, symmetric := true, gran := .channelwise }
def mn8 : FArr := ⟨⟨[2,1], [64, -254]⟩, .f32⟩
def mx8 : FArr := ⟨⟨[2,1], [127, 3]⟩, .f32⟩

def m4 : Model :=
  { subgraphs := [{ tensors := [T "x" [1,3] 0, T "w" [1,3] 1, T "y" [1,1] 0], ops := [fcOp],
                    inputs := [0], outputs := [2] }],
    buffers := [none, some (.inl 0)], opcodes := [9], sigs := [] }
def env4 : Env := { model := m4, consts := [(1, [7, -3, 14])], adjY := [] }
def qp4 : QParams :=
  { bits := 4, qdim := some 0, scale := ⟨⟨[1,1], [2]⟩, .f32⟩, zp := ⟨⟨[1,1], [0]⟩, 8⟩, symmetric := true }
def q4 : IArr := ⟨⟨[1,3], [4, -2, 7]⟩, 8⟩
def w4' : Tensor := { T "w" [1,3] 1 with dtype := Tables.ttInt4, quant := some 0 }
def m4' : Model :=
  { m4 with subgraphs := [{ tensors := [T "x" [1,3] 0, w4', T "y" [1,1] 0], ops := [fcOp],
                            inputs := [0], outputs := [2] }],
            buffers := [none, some (.inr 0)] }

/-- everything about the two dynamic-range instances that is checked by running the model, in one kernel evaluation -/
theorem evalW :
    (quantizePure rxAll env8 (stW 8) none = .ok (m8', [.uniform qp8 (some q8)]) ∧
      NFCheck.nfOK env8 (stW 8) = true ∧
      constData env8 (T "w" [2,2] 1) = some d8 ∧ tcfgOf env8 oi8 (T "w" [2,2] 1) = some tc8 ∧
      initMinMax env8 oi8 (T "w" [2,2] 1) d8 = .ok (mn8, mx8) ∧ refQDim env8 oi8 tc8 (some d8) = .ok (some 0) ∧
      refParams tc8.bits.toNat tc8.symmetric (some 0) mn8 mx8 = .ok qp8 ∧
      uniformQuantize ⟨d8, .f32⟩ qp8 = .ok q8) ∧
    (quantizePure rxAll env4 (stW 4) none = .ok (m4', [.uniform qp4 (some q4)]) ∧
      NFCheck.nfOK env4 (stW 4) = true) := by
  decide +kernel

theorem nf8 : PipelineWF.NF env8 (stW 8) := NFCheckProofs.nfOK_sound _ _ evalW.1.2.1

theorem run8 : quantizePure rxAll env8 (stW 8) none = .ok (m8', [.uniform qp8 (some q8)]) := evalW.1.1

theorem rew8 : Rewritten env8 m8' 1 0 0 1 w8' := ⟨⟨0, rfl⟩, rfl, ⟨_, rfl, rfl⟩, rfl⟩

/-- the same from `rewritten_of_inr`: the input model has no `.inr` buffer -/
example : Rewritten env8 m8' w8'.buffer 0 0 1 w8' := by
  refine rewritten_of_inr rxAll env8 (stW 8) none m8' _ nf8 run8 ?_ 0 0 1 _ w8' rfl rfl rfl
  intro b q h
  have e : env8.model.buffers = [none, some (.inl 0)] := rfl
  rw [e] at h
  rcases b with _ | _ | b <;> simp at h

/-- all hypotheses of the end-to-end theorems hold on the instance … -/
example : ∃ (P0 : Param) (bs : List Nat) (n : Nat), [Param.uniform qp8 (some q8)][0]? = some P0 ∧
    storedBytes [.uniform qp8 (some q8)] 0 = some bs ∧ storedCount P0 = some n ∧
    byteLen w8'.dtype n = some bs.length ∧ (Fits P0 (shapeNat w8') → n = numel (shapeNat w8')) :=
  stored_length rxAll env8 (stW 8) none m8' _ nf8 run8 1 0 0 1 w8' rew8

example : ∃ (tn : Tensor) (d : Arr Rat) (P : Param) (bs : List Nat),
    StoredAt env8 [.uniform qp8 (some q8)] 0 w8' tn d P ∧ storedBytes [.uniform qp8 (some q8)] 0 = some bs :=
  let ⟨tn, d, P, bs, h1, h2, _⟩ := stored_decodes_within_step rxAll env8 (stW 8) none m8' _ nf8 run8 1 0 0 1 w8' rew8
  ⟨tn, d, P, bs, h1, h2⟩

/-- … and what they say here: 4 bytes for the 2×2 INT8 tensor, decoding to the codes -/
example : storedBytes [.uniform qp8 (some q8)] 0 = some [127, 64, 129, 2] ∧
    byteLen Tables.ttInt8 (numel [2,2]) = some 4 ∧
    decodeStored Tables.ttInt8 (numel [2,2]) [127, 64, 129, 2] = .inl [127, 64, -127, 2] := by decide +kernel

/-- the stored parameter object IS the reference computation on the weight (`IsOwn`) -/
theorem own8 : IsOwn env8 (T "w" [2,2] 1) d8 qp8 q8 := by
  obtain ⟨⟨_, _, _, hcfg, hminmax, hqdim, hparams, hcodes⟩, _⟩ := evalW
  exact ⟨oi8, tc8, mn8, mx8, some 0, hcfg, hminmax, hqdim, hparams, by decide, hcodes⟩

/-- the per-object theorem applies, and its side conditions (scale in `[2^-100, 2^100]`, element in the
    representable range of its channel) hold for ALL four elements: every stored code dequantizes to
    within `s·(1/2 + 2^11·2^-24)` of the original weight (e.g. `3 ↦ code 2 ↦ 4` at scale 2) -/
example : ∀ j < 4,
    |dqVal true 8 8 .f32 ((decodeInts Tables.ttInt8 4 [127, 64, 129, 2]).getD j 0)
        (qp8.zp.arr.data.getD (bindex [2,2] [2,1] j) 0) (qp8.scale.arr.data.getD (bindex [2,2] [2,1] j) 0)
      - d8.data.getD j 0|
      ≤ qp8.scale.arr.data.getD (bindex [2,2] [2,1] j) 0 * (1/2 + (2:Rat)^(8 + 3) * ArithRounded.u32) := by
  obtain ⟨oi, tc, mn, mx, qdim, _, hi, _, hp, _, hu⟩ := own8
  obtain ⟨_, _, _, _, hbound⟩ :=
    own_stored env8 oi (T "w" [2,2] 1) tc d8 mn mx qdim qp8 q8 Tables.ttInt8 [127, 64, 129, 2]
      evalW.1.2.2.1 hi hp hu (by decide) (by decide +kernel)
  have hside : ∀ j < 4, (2:Rat)^(-100:Int) ≤ qp8.scale.arr.data.getD (bindex [2,2] [2,1] j) 0 ∧
      qp8.scale.arr.data.getD (bindex [2,2] [2,1] j) 0 ≤ (2:Rat)^(100:Int) ∧
      ((qmin 8 + 1 - qp8.zp.arr.data.getD (bindex [2,2] [2,1] j) 0 : Int) : Rat) *
        qp8.scale.arr.data.getD (bindex [2,2] [2,1] j) 0 ≤ d8.data.getD j 0 ∧
      d8.data.getD j 0 ≤ ((qmax 8 - qp8.zp.arr.data.getD (bindex [2,2] [2,1] j) 0 : Int) : Rat) *
        qp8.scale.arr.data.getD (bindex [2,2] [2,1] j) 0 := by decide +kernel
  intro j hj
  obtain ⟨s1, s2, s3, s4⟩ := hside j hj
  exact (hbound (by decide) (by decide) j hj _ _ rfl rfl).2.2.2.2 s1 s2 s3 s4

/-- … and without side conditions on the elements (`ConstOwnAll.own_decode_all`): well-formed data of
    magnitude at most `2^99` -/
example : ∀ j < numel d8.shape,
    |dqVal true (storageBits qp8.bits) (storageBits qp8.bits) .f32 (q8.arr.data.getD j 0)
        (qp8.zp.arr.data.getD (bindex d8.shape qp8.scale.arr.shape j) 0)
        (qp8.scale.arr.data.getD (bindex d8.shape qp8.scale.arr.shape j) 0) - d8.data.getD j 0|
      ≤ qp8.scale.arr.data.getD (bindex d8.shape qp8.scale.arr.shape j) 0
          * (1/2 + (2:Rat)^(qp8.bits + 4) * ArithRounded.u32) := by
  obtain ⟨oi, tc, mn, mx, qdim, _, hi, _, hp, _, hu⟩ := own8
  exact ConstOwnAll.own_decode_all env8 oi (T "w" [2,2] 1) tc d8 mn mx qdim qp8 q8 evalW.1.2.2.1 hi hp hu
    (by decide) (by decide) (by decide) (by decide +kernel)

/-- `decode_minmax` on an ASYMMETRIC channel whose minimum is clipped: `[min, max] = [-0.4, 254.6]` at 8
    bits gives scale 1 and zero point -128, the representable range starts at 0, the element `-0.4` is
    NOT in it (C17.dq_q_rounded does not apply), it is stored as code -128 and dequantizes to 0: `0.4`
    away, within the bound -/
example : zpScale1 .f32 8 false (-2/5) (1273/5) = .ok (-128, 1) ∧
    ¬ (((qmin 8 + 0 - (-128) : Int) : Rat) * 1 ≤ (-2/5 : Rat)) ∧
    roundClip 8 false (qSum .f32 .f32 8 (-2/5) 1 (-128)) = -128 ∧
    |dqVal true (storageBits 8) 8 .f32 (roundClip 8 false (qSum .f32 .f32 8 (-2/5) 1 (-128))) (-128) 1 - (-2/5)|
      ≤ 1 * (1/2 + (2:Rat)^(8 + 4) * ArithRounded.u32) := by
  have h : zpScale1 .f32 8 false (-2/5) (1273/5) = .ok (-128, 1) ∧
      ¬ (((qmin 8 + 0 - (-128) : Int) : Rat) * 1 ≤ (-2/5 : Rat)) ∧
      roundClip 8 false (qSum .f32 .f32 8 (-2/5) 1 (-128)) = -128 := by decide +kernel
  refine ⟨h.1, h.2.1, h.2.2, ?_⟩
  exact decode_minmax 8 (by decide) (by decide) false 8 (.inl rfl) (-2/5) (1273/5) (by norm_num) (-128) 1 h.1
    (by norm_num) (by norm_num) (-2/5) (le_refl _) (by norm_num)

/-! ### INT4, odd element count -/

theorem nf4 : PipelineWF.NF env4 (stW 4) := NFCheckProofs.nfOK_sound _ _ evalW.2.2

theorem run4 : quantizePure rxAll env4 (stW 4) none = .ok (m4', [.uniform qp4 (some q4)]) := evalW.2.1

theorem rew4 : Rewritten env4 m4' 1 0 0 1 w4' := ⟨⟨0, rfl⟩, rfl, ⟨_, rfl, rfl⟩, rfl⟩

example : ∃ (P0 : Param) (bs : List Nat) (n : Nat), [Param.uniform qp4 (some q4)][0]? = some P0 ∧
    storedBytes [.uniform qp4 (some q4)] 0 = some bs ∧ storedCount P0 = some n ∧
    byteLen w4'.dtype n = some bs.length ∧ (Fits P0 (shapeNat w4') → n = numel (shapeNat w4')) :=
  stored_length rxAll env4 (stW 4) none m4' _ nf4 run4 1 0 0 1 w4' rew4

/-- three 4-bit codes `4, -2, 7` in TWO bytes: `4 | (-2 & 15) << 4 = 228`, then `7` with a zero pad
    nibble; decoding (low nibble first, sign-extended) gives the codes back -/
example : storedBytes [.uniform qp4 (some q4)] 0 = some [228, 7] ∧
    byteLen Tables.ttInt4 (numel [1,3]) = some 2 ∧
    decodeStored Tables.ttInt4 (numel [1,3]) [228, 7] = .inl [4, -2, 7] := by decide +kernel

/-! ### bias and float16: `y := FC(x, w, b)` (`PipelineWFExample.envA`: `w = [[1,2],[3,4]]`, `b = [1,1]`) -/

open PipelineWFExample in
theorem nfA' (c : OpCfg) (alg : String) (op : String)
    (hc : ∀ w, c.weight = some w → w.gran ≠ Gran.blockwise) : PipelineWF.NF envA (stOf alg c op) := by
  refine ⟨nfA.wf, nfA.tagged, ?_, nfA.inputsNotConst, nfA.slotRoles, nfA.constWeight, nfA.mandatory⟩
  intro e he r hr w hw
  have : e = (".*", [⟨".*", op, alg, c⟩]) := by simpa [stOf] using he
  subst this
  have : r = ⟨".*", op, alg, c⟩ := by simpa using hr
  subst this
  exact hc w hw

open PipelineWFExample in
def qsA : Qsvs := [("x", some (f32 [1,1] [-1], f32 [1,1] [1])), ("y", some (f32 [1,1] [-4], f32 [1,1] [4]))]

def qpB : QParams :=
  { bits := 32, qdim := none, scale := ⟨⟨[1], [(1060977 : Rat)/4294967296]⟩, .f32⟩, zp := ⟨⟨[1], [0]⟩, 32⟩,
    symmetric := true }
def qB : IArr := ⟨⟨[2], [4048, 4048]⟩, 32⟩
def b' : Tensor := { PipelineWFExample.T "b" 0 [2] 2 with dtype := Tables.ttInt32, quant := some 2 }
def wH : Arr Rat := ⟨[2,2], [1, 2, 3, 4]⟩
def wF' : Tensor := { PipelineWFExample.T "w" 0 [2,2] 1 with dtype := Tables.ttFloat16 }

open PipelineWFExample in
/-- the two runs on `envA`, static-range INT8 and float casting, with what is read off their results
    (one kernel evaluation) -/
theorem evalA :
    (quantizePure rxAll envA (stOf Tables.algMinMax cfgSRQ) (some qsA)).map (fun r =>
      decide (r.1.buffers[2]? = some (some (.inr 2)) ∧
        (r.1.subgraphs[0]?.bind fun sg => sg.tensors[2]?) = some b' ∧ r.2[2]? = some (.uniform qpB (some qB)))) = .ok true ∧
    (quantizePure rxAll envA (stOf Tables.algFloatCasting cfgFC "FULLY_CONNECTED") none).map (fun r =>
      decide (r.1.buffers[1]? = some (some (.inr 0)) ∧
        (r.1.subgraphs[0]?.bind fun sg => sg.tensors[1]?) = some wF' ∧ r.2[0]? = some (.nonlinear 16 (some wH)))) = .ok true := by
  decide +kernel

open PipelineWFExample in
/-- static-range INT8: the run succeeds, `b` becomes INT32 with parameter 2, whose object is `qpB`, `qB` -/
theorem runB : ∃ m' tbl, quantizePure rxAll envA (stOf Tables.algMinMax cfgSRQ) (some qsA) = .ok (m', tbl) ∧
    Rewritten envA m' 2 2 0 2 b' ∧ tbl[2]? = some (.uniform qpB (some qB)) := by
  obtain ⟨r, hq, h⟩ := PyM.map_eq_ok_iff.1 evalA.1
  obtain ⟨h1, h2, h3⟩ := of_decide_eq_true h
  exact ⟨r.1, r.2, hq, .of_get (k := 1) rfl h1 h2 rfl, h3⟩

open PipelineWFExample in
example : ∃ (tbl : List Param) (tn : Tensor) (d : Arr Rat) (P : Param) (bs : List Nat),
    StoredAt envA tbl 2 b' tn d P ∧ storedBytes tbl 2 = some bs := by
  obtain ⟨m', tbl, hrun, hrew, _⟩ := runB
  obtain ⟨tn, d, P, bs, h1, h2, _⟩ := stored_bias rxAll envA _ (some qsA) m' tbl
    (nfA' cfgSRQ _ _ (by intro w hw; simp [cfgSRQ] at hw; subst hw; decide)) hrun 2 2 0 2 b' hrew
  exact ⟨tbl, tn, d, P, bs, h1, h2⟩

/-- the bias `[1, 1]` at scale `s_x·s_w ≈ 2.47e-4`: two INT32 codes `4048 = round(1/s)`, 8 bytes little endian -/
example : paramBytes (.uniform qpB (some qB)) = some [208, 15, 0, 0, 208, 15, 0, 0] ∧
    byteLen Tables.ttInt32 2 = some 8 ∧
    decodeStored Tables.ttInt32 2 [208, 15, 0, 0, 208, 15, 0, 0] = .inl [4048, 4048] ∧
    rhe (qSum .f32 .f32 32 1 ((1060977 : Rat)/4294967296) 0) = 4048 := by decide +kernel

open PipelineWFExample in
/-- float casting: the run succeeds, `w` becomes FLOAT16 over the float16 array `[1,2,3,4]` -/
theorem runF : ∃ m' tbl, quantizePure rxAll envA (stOf Tables.algFloatCasting cfgFC "FULLY_CONNECTED") none = .ok (m', tbl) ∧
    Rewritten envA m' 1 0 0 1 wF' ∧ tbl[0]? = some (.nonlinear 16 (some wH)) := by
  obtain ⟨r, hq, h⟩ := PyM.map_eq_ok_iff.1 evalA.2
  obtain ⟨h1, h2, h3⟩ := of_decide_eq_true h
  exact ⟨r.1, r.2, hq, .of_get (k := 0) rfl h1 h2 rfl, h3⟩

open PipelineWFExample in
example : ∃ (tbl : List Param) (tn : Tensor) (d : Arr Rat) (P : Param) (bs : List Nat),
    StoredAt envA tbl 0 wF' tn d P ∧ storedBytes tbl 0 = some bs := by
  obtain ⟨m', tbl, hrun, hrew, _⟩ := runF
  obtain ⟨tn, d, P, bs, h1, h2, _⟩ := stored_f16 rxAll envA _ none m' tbl
    (nfA' cfgFC _ _ (by intro w hw; simp [cfgFC] at hw; subst hw; decide)) hrun 1 0 0 1 wF' hrew
  exact ⟨tbl, tn, d, P, bs, h1, h2⟩

/-- `1, 2, 3, 4` as binary16, little endian: `0x3C00, 0x4000, 0x4200, 0x4400` -/
example : paramBytes (.nonlinear 16 (some wH)) = some [0, 60, 0, 64, 0, 66, 0, 68] ∧
    byteLen Tables.ttFloat16 4 = some 8 ∧
    decodeStored Tables.ttFloat16 4 [0, 60, 0, 64, 0, 66, 0, 68] = .inr [1, 2, 3, 4] := by decide +kernel

end Inst

/-! ## NECESSITY of `Fits` for borrowed parameters and biases

`quantizePure` takes the calibration statistics as an arbitrary argument.  Statistics of a RUNTIME
tensor with a shape that is not all ones (here: three min/max values, shape `[3,1]`, for the input `x` of
a FULLY_CONNECTED with a one-element bias) give that tensor a scale array of shape `[3,1]`; the bias
scale `s_x·s_w` then has shape `[3]`, numpy broadcasts the one-element bias against it, and
`quantize_tensor` stores THREE int32 codes (12 bytes) in the buffer of a tensor of shape `[1]`.  The model
is in normal form and the run succeeds.  (The library's own calibrator only produces all-ones shapes for
activations, so this needs hand-made statistics; the length statement for non-`own` sources is
nevertheless false without `Fits`.) -/
namespace NeedsFits
open PipelineWFExample

def sgN : Subgraph :=
  { tensors := [T "x" 0 [1,2] 0, T "w" 0 [1,2] 1, T "b" 0 [1] 2, T "y" 0 [1,1] 0], ops := [opA],
    inputs := [0], outputs := [3] }
def mN : Model := { subgraphs := [sgN], buffers := [none, some (.inl 0), some (.inl 1)], opcodes := [9], sigs := [] }
def envN : Env := { model := mN, consts := [(1, [1,2]), (2, [1])], adjY := [] }
def qsN : Qsvs :=
  [("x", some (f32 [3,1] [-1,-2,-3], f32 [3,1] [1,2,3])), ("y", some (f32 [1,1] [-4], f32 [1,1] [4]))]
def bN' : Tensor := { T "b" 0 [1] 2 with dtype := Tables.ttInt32, quant := some 2 }

/-- **the length implied by the tensor's shape is NOT guaranteed without `Fits`**: normal form, successful
    run, the INT32 tensor `b` of shape `[1]` (4 bytes expected) over 12 stored bytes -/
theorem length_needs_fits :
    PipelineWF.NF envN (stOf Tables.algMinMax cfgSRQ) ∧
    ∃ m' tbl, quantizePure Inst.rxAll envN (stOf Tables.algMinMax cfgSRQ) (some qsN) = .ok (m', tbl) ∧
      Rewritten envN m' 2 2 0 2 bN' ∧
      storedBytes tbl 2 = some [160, 31, 0, 0, 208, 15, 0, 0, 139, 10, 0, 0] ∧
      byteLen bN'.dtype (numel (shapeNat bN')) = some 4 := by
  have h : NFCheck.nfOK envN (stOf Tables.algMinMax cfgSRQ) = true ∧
      (quantizePure Inst.rxAll envN (stOf Tables.algMinMax cfgSRQ) (some qsN)).map (fun r =>
        decide (r.1.buffers[2]? = some (some (.inr 2)) ∧
          (r.1.subgraphs[0]?.bind fun sg => sg.tensors[2]?) = some bN' ∧
          storedBytes r.2 2 = some [160, 31, 0, 0, 208, 15, 0, 0, 139, 10, 0, 0])) = .ok true := by
    decide +kernel
  obtain ⟨r, hq, hr⟩ := PyM.map_eq_ok_iff.1 h.2
  obtain ⟨h1, h2, h3⟩ := of_decide_eq_true hr
  exact ⟨NFCheckProofs.nfOK_sound _ _ h.1, r.1, r.2, hq, .of_get (k := 1) rfl h1 h2 rfl, h3, by decide⟩

end NeedsFits

end C05
