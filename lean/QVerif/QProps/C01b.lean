import QProofs.KernelSigMain
/-!
# C01, runtime clause (and the "accepted ⇒ sound" link of C13): kernel signatures

"`quantize()` returns a model that … the LiteRT interpreter can allocate and invoke without an error."
The interpreter is outside the Lean model.  What its kernels check first (`Prepare`) are the OPERAND TYPE
SIGNATURES of the operators.  `KernelSig.accepts` (`QProofs/KernelSig.lean`) is an explicit table of the
signatures the kernels accept, for the 21 operators of the quantizer, QUANTIZE and DEQUANTIZE.  **The table
is an ASSUMPTION about the runtime** (written from the TFLite quantization specification / kernel sources,
validated by execution in the C13 check, never proved).  The theorems are about `Pipeline.quantizePure`;
`C01.E2E.mixed_modes_table` (here) and `C01.E2E.mixed_ops_table` (`QProps/C01bOps.lean`) evaluate every pair of adjacent modes.

## Hypotheses of the main theorem

`PipelineWF.NF env st` (normal form of C01/C02), `MatTotal.NoSkip st` (no `skip_checks` rule, so that every
resolved (algorithm, operator, config) is policy-accepted: `C13.accepted_minmax_legal`,
`accepted_float_casting`, `C08.resolved_registered`; here `KernelSig.accepted_minmax_sig`, which keeps the
operator lists of the policy), a successful run, and three hypotheses on the INPUT:

* `FloatModel env.model` -- the operators of the input have the float signature of the table (Bool; `decide`);
* `DataRuntime rx env st` -- the data operand of FULLY_CONNECTED / CONV_2D / DEPTHWISE_CONV_2D /
  CONV_2D_TRANSPOSE / BATCH_MATMUL selected for dynamic- or static-range quantization is a runtime tensor.
  NECESSARY: the materialisation quantizes a CONSTANT data operand with the WEIGHT config
  (`const_data_drq_violates`: FULLY_CONNECTED(int8, int8) → float32; `bmm_const_lhs_drq_violates`);
* `WeightConst16 rx env st` -- operand 1 of a CONV_2D / DEPTHWISE_CONV_2D / CONV_2D_TRANSPOSE selected for static
  range with 16-bit activations is a constant.  NECESSARY (`runtime_weight_srq16_violates`: a runtime filter
  becomes int16, the int16 kernels read int8 filters).

Nothing is assumed about the OUTPUT.  What the theorems of C03d do not pin is proved here:
the bit widths at the inserted operators (`QProofs/KernelSigBits.lean`, `KernelSigIns.lean`: every request
side with a uniform parameter object has an activation width, or sits on a constant and has 4 bits or is the
`[QUANTIZE_TENSOR]` side of a bias; the parameter of a performed instruction is that of a side with ITS
transformation), and that tensors that are not float32 are never touched (`QProofs/KernelSigF32.lean`), which
covers the `output_shape` operand of a CONV_2D_TRANSPOSE under float casting (`C03.f16_op_typed` is silent
about that slot).
-/
open Graph Mat Cfg Pipeline KernelSig

set_option autoImplicit false

namespace C01

abbrev FloatModel := @KernelSig.FloatModel
abbrev DataRuntime := @KernelSig.DataRuntime
abbrev WeightConst16 := @KernelSig.WeightConst16

/-- **C01.kernel_signatures_ok.**  On a float model in normal form, under a recipe without `skip_checks`: if `quantize()`
    succeeds, EVERY operator of the output model -- original ones in whatever mode the recipe selected, inserted
    QUANTIZE / DEQUANTIZE operators -- has an operand / result type signature that the (assumed) kernel table accepts. -/
theorem kernel_signatures_ok (rx : String → String → Bool) (env : Env) (st : Recipe.State)
    (qsvs : Option Qsvs) (m' : Model) (tbl : List Param) (hnf : PipelineWF.NF env st)
    (hns : MatTotal.NoSkip st) (h : quantizePure rx env st qsvs = .ok (m', tbl))
    (hfl : FloatModel env.model) (hdr : DataRuntime rx env st) (hwc : WeightConst16 rx env st) :
    KernelSig.modelOK m' = true := by
  refine List.all_eq_true.2 fun sg' hsg' => List.all_eq_true.2 fun o ho => ?_
  cases hk : o.orig with
  | none => exact ins_sig rx env st qsvs m' tbl hnf hns h sg' hsg' o ho hk
  | some k =>
    obtain ⟨s, hs⟩ := List.mem_iff_getElem?.1 hsg'
    exact (orig_ok rx env st qsvs m' tbl hnf hns h hfl hdr hwc s sg' hs o ho k hk).1

/-- the same, operator by operator -/
theorem kernel_signature_of_op (rx : String → String → Bool) (env : Env) (st : Recipe.State)
    (qsvs : Option Qsvs) (m' : Model) (tbl : List Param) (hnf : PipelineWF.NF env st)
    (hns : MatTotal.NoSkip st) (h : quantizePure rx env st qsvs = .ok (m', tbl))
    (hfl : FloatModel env.model) (hdr : DataRuntime rx env st) (hwc : WeightConst16 rx env st)
    (s : Nat) (sg' : Subgraph) (hsg' : m'.subgraphs[s]? = some sg') (o : Op) (ho : o ∈ sg'.ops) :
    KernelSig.opOK m' sg' o = true :=
  List.all_eq_true.1 (List.all_eq_true.1 (kernel_signatures_ok rx env st qsvs m' tbl hnf hns h hfl hdr hwc) sg'
    (List.mem_of_getElem? hsg')) o ho

/-- **operators outside the table keep their signature**: an original operator whose builtin code is none of
    the 21 + 2 of the table (ABS, …) has in the output exactly the builtin code, operand types and result
    types it had in the input -/
theorem unsupported_ops_keep_signature (rx : String → String → Bool) (env : Env) (st : Recipe.State)
    (qsvs : Option Qsvs) (m' : Model) (tbl : List Param) (hnf : PipelineWF.NF env st)
    (hns : MatTotal.NoSkip st) (h : quantizePure rx env st qsvs = .ok (m', tbl))
    (hfl : FloatModel env.model) (hdr : DataRuntime rx env st) (hwc : WeightConst16 rx env st)
    (s : Nat) (sg' : Subgraph) (hsg' : m'.subgraphs[s]? = some sg') (o : Op) (ho : o ∈ sg'.ops)
    (k : Nat) (hk : o.orig = some k) :
    ∃ sg op code, env.model.subgraphs[s]? = some sg ∧ sg.ops[k]? = some op ∧
      env.model.opcodes[op.code]? = some code ∧
      (KernelSig.nameOfCode code = none → KernelSig.opSig m' sg' o = KernelSig.opSig env.model sg op) :=
  (KernelSig.orig_ok rx env st qsvs m' tbl hnf hns h hfl hdr hwc s sg' hsg' o ho k hk).2

/-- **C01.inserted_ops_widths** (what `C03.inserted_ops_typed` leaves open): under a recipe without
    `skip_checks`, no inserted operator reads or writes an int32 / int64 tensor -- a bias is never read through
    an inserted operator --, and no inserted QUANTIZE reads or writes an int4 tensor.  (No hypothesis on the
    input beyond the normal form.) -/
theorem inserted_ops_widths (rx : String → String → Bool) (env : Env) (st : Recipe.State)
    (qsvs : Option Qsvs) (m' : Model) (tbl : List Param) (hnf : PipelineWF.NF env st) (hns : MatTotal.NoSkip st)
    (h : quantizePure rx env st qsvs = .ok (m', tbl)) :
    ∀ sg' ∈ m'.subgraphs, ∀ o ∈ sg'.ops, o.orig = none → ∀ t ∈ o.inputs ++ o.outputs,
      KernelSig.dtypeAt sg' t ≠ some Tables.ttInt32 ∧ KernelSig.dtypeAt sg' t ≠ some Tables.ttInt64 ∧
      (m'.opcodes[o.code]? = some Tables.opQuantize → KernelSig.dtypeAt sg' t ≠ some Tables.ttInt4) :=
  KernelSig.inserted_widths rx env st qsvs m' tbl hnf hns h

/-- **C01.nonfloat_operand_untouched**: in the output of a run on a float input model, an operand slot that
    held a tensor that is NOT float32 (index / shape / axis / output-shape tensors) holds the same tensor, with
    its original record -- whatever mode the recipe selected for the operator -/
theorem nonfloat_operand_untouched (rx : String → String → Bool) (env : Env) (st : Recipe.State)
    (qsvs : Option Qsvs) (m' : Model) (tbl : List Param) (hnf : PipelineWF.NF env st)
    (h : quantizePure rx env st qsvs = .ok (m', tbl)) (hfl : FloatModel env.model)
    (s : Nat) (sg sg' : Subgraph) (hsg : env.model.subgraphs[s]? = some sg) (hsg' : m'.subgraphs[s]? = some sg')
    (k : Nat) (op : Op) (hop : sg.ops[k]? = some op) (j : Nat) (t : Int) (hj : op.inputs[j]? = some t)
    (h0 : 0 ≤ t) (tn : Tensor) (htn : sg.tensors[t.toNat]? = some tn) (hd : tn.dtype ≠ Tables.ttFloat32)
    (o' : Op) (ho' : o' ∈ sg'.ops) (hk : o'.orig = some k) :
    o'.inputs[j]? = some t ∧ sg'.tensors[t.toNat]? = some tn :=
  KernelSig.F32.nonf32_slot rx env st qsvs m' tbl hnf h hfl s sg sg' hsg hsg' k op hop j t hj h0 tn htn hd o' ho' hk

namespace E2E

def T (n : String) (sh : List Int) (b : Nat) (dt : Nat := 0) : Tensor :=
  { name := n, dtype := dt, shape := sh, buffer := b }
def f32 (sh : List Nat) (l : List Rat) : Arith.FArr := ⟨⟨sh, l⟩, .f32⟩
/-- regex = scope (the scope of an operator is the `;`-terminated list of its result names) -/
def rxEq : String → String → Bool := fun r s => r == s

def wT : TCfg := { bits := 8, symmetric := true, gran := .tensorwise }
/-- the configs of the five quantizing modes (`skip_checks = false`) -/
def cfgWO : OpCfg := { weight := some wT, cp := .float, explicitDeq := true }
def cfgDRQ : OpCfg := { weight := some wT, cp := .integer }
def cfgS8 : OpCfg := { act := some { bits := 8, symmetric := false }, weight := some wT, cp := .integer }
def cfgS16 : OpCfg := { act := some { bits := 16, symmetric := true }, weight := some wT, cp := .integer }
def cfgF16 : OpCfg := { weight := some { bits := 16, dtype := .float }, cp := .float, explicitDeq := true }

inductive Mode where
  | none | wo | drq | srq8 | srq16 | fp16
  deriving DecidableEq, Repr

def Mode.all : List Mode := [.none, .wo, .drq, .srq8, .srq16, .fp16]

def Mode.rules (regex op : String) : Mode → List Recipe.Rule
  | .none => []
  | .wo => [⟨regex, op, Tables.algMinMax, cfgWO⟩]
  | .drq => [⟨regex, op, Tables.algMinMax, cfgDRQ⟩]
  | .srq8 => [⟨regex, op, Tables.algMinMax, cfgS8⟩]
  | .srq16 => [⟨regex, op, Tables.algMinMax, cfgS16⟩]
  | .fp16 => [⟨regex, op, Tables.algFloatCasting, cfgF16⟩]

/-- the API accepts each of the five quantizing modes for FULLY_CONNECTED -/
example : Policy.accepts Tables.algMinMax "FULLY_CONNECTED" cfgWO = true ∧
    Policy.accepts Tables.algMinMax "FULLY_CONNECTED" cfgDRQ = true ∧
    Policy.accepts Tables.algMinMax "FULLY_CONNECTED" cfgS8 = true ∧
    Policy.accepts Tables.algMinMax "FULLY_CONNECTED" cfgS16 = true ∧
    Policy.accepts Tables.algFloatCasting "FULLY_CONNECTED" cfgF16 = true := by decide +kernel

/-- the recipe: the operator with scope `s1` in mode `a`, the one with scope `s2` in mode `b` -/
def stOf (s1 op1 : String) (a : Mode) (s2 op2 : String) (b : Mode) : Recipe.State :=
  (match a.rules s1 op1 with | [] => [] | r => [(s1, r)]) ++ (match b.rules s2 op2 with | [] => [] | r => [(s2, r)])

def qs : Qsvs :=
  [("x", some (f32 [1,1] [-1], f32 [1,1] [2])), ("h", some (f32 [1,1] [-3], f32 [1,1] [4])),
   ("y", some (f32 [1,1] [-5], f32 [1,1] [6])), ("r", some (f32 [1,1] [-2], f32 [1,1] [6]))]

/-- `some true`: the run succeeds and every operator of the output has a signature of the table;
    `some false`: it succeeds and some operator has not; `none`: `quantize()` raises -/
def verdict (env : Env) (st : Recipe.State) : Option Bool :=
  match quantizePure rxEq env st (some qs) with
  | .ok r => some (KernelSig.modelOK r.1)
  | .error _ => none

/-! ### `h := FC(x, w1)`, `y := FC(h, w2)`: every pair of adjacent modes -/

def mFF : Model :=
  { subgraphs := [{ tensors := [T "x" [1,2] 0, T "w1" [2,2] 1, T "h" [1,2] 0, T "w2" [2,2] 2, T "y" [1,2] 0],
                    ops := [{ code := 0, inputs := [0,1,-1], outputs := [2], orig := some 0 },
                            { code := 0, inputs := [2,3,-1], outputs := [4], orig := some 1 }],
                    inputs := [0], outputs := [4] }],
    buffers := [none, some (.inl 0), some (.inl 1)], opcodes := [9], sigs := [] }
def envFF : Env := { model := mFF, consts := [(1, [1,2,3,4]), (2, [1,-2,3,5])], adjY := [] }

def stFF (a b : Mode) : Recipe.State := stOf "h;" "FULLY_CONNECTED" a "y;" "FULLY_CONNECTED" b

/-- **C01.E2E.mixed_modes_table** (kernel-checked): for every pair (a, b) of modes of two ADJACENT operators --
    FULLY_CONNECTED in mode `a` feeding FULLY_CONNECTED in mode `b`, modes {none, weight-only, dynamic range,
    static int8, static int16, float16} -- the run succeeds and every operator of the output (the two
    FULLY_CONNECTED, the inserted QUANTIZE / DEQUANTIZE / requantizing QUANTIZE between them) has a signature of
    the table; (none, none) is the empty recipe, which `quantize()` refuses.  NO pair violates the table. -/
theorem mixed_modes_table :
    (Mode.all.map fun a => Mode.all.map fun b => verdict envFF (stFF a b)) =
      [[none,      some true, some true, some true, some true, some true],
       [some true, some true, some true, some true, some true, some true],
       [some true, some true, some true, some true, some true, some true],
       [some true, some true, some true, some true, some true, some true],
       [some true, some true, some true, some true, some true, some true],
       [some true, some true, some true, some true, some true, some true]] := by
  decide +kernel

/-! ### the closed instances: input models, recipes and the models `quantize()` returns -/

/-- the output for (static int8, dynamic range): QUANTIZE(x), FC int8, DEQUANTIZE(h), hybrid FC -/
def mFF' : Model :=
  { subgraphs := [{ tensors := [T "x" [1,2] 0, { T "w1" [2,2] 1 with dtype := 9, quant := some 1 },
                                { T "h" [1,2] 0 with dtype := 9, quant := some 2 },
                                { T "w2" [2,2] 2 with dtype := 9, quant := some 3 }, T "y" [1,2] 0,
                                { T "x_quantized" [1,2] 0 with dtype := 9, quant := some 0 }, T "h_dequant" [1,2] 0],
                    ops := [{ code := 1, inputs := [0], outputs := [5] },
                            { code := 0, inputs := [5, 1, -1], outputs := [2], orig := some 0 },
                            { code := 2, inputs := [2], outputs := [6] },
                            { code := 0, inputs := [6, 3, -1], outputs := [4], orig := some 1 }],
                    inputs := [0], outputs := [4] }],
    buffers := [none, some (.inr 1), some (.inr 3)], opcodes := [9, 114, 6], sigs := [] }

/-- `y := CONV_2D_TRANSPOSE(sh, w, x)`, `sh` an int32 constant, `w` a float32 constant -/
def mTF : Model :=
  { subgraphs := [{ tensors := [T "sh" [4] 1 2, T "w" [1,1,1,2] 2, T "x" [1,1,1,2] 0, T "y" [1,1,1,1] 0],
                    ops := [{ code := 0, inputs := [0,1,2], outputs := [3], orig := some 0 }],
                    inputs := [2], outputs := [3] }],
    buffers := [none, some (.inl 0), some (.inl 1)], opcodes := [67], sigs := [] }
def envTF : Env := { model := mTF, consts := [(2, [1,2])], adjY := [] }
def stTF : Recipe.State := stOf "y;" "CONV_2D_TRANSPOSE" .fp16 "" "" .none

def mTF' : Model :=
  { subgraphs := [{ tensors := [T "sh" [4] 1 2, { T "w" [1,1,1,2] 2 with dtype := 1 }, T "x" [1,1,1,2] 0,
                                T "y" [1,1,1,1] 0, T "w_dequant" [1,1,1,2] 0],
                    ops := [{ code := 1, inputs := [1], outputs := [4] },
                            { code := 0, inputs := [0, 4, 2], outputs := [3], orig := some 0 }],
                    inputs := [2], outputs := [3] }],
    buffers := [none, some (.inl 0), some (.inr 0)], opcodes := [67, 6], sigs := [] }

/-- `y := FULLY_CONNECTED(c, w)` with a CONSTANT data operand `c` -/
def mCD : Model :=
  { subgraphs := [{ tensors := [T "c" [1,2] 1, T "w" [2,2] 2, T "y" [1,2] 0],
                    ops := [{ code := 0, inputs := [0,1,-1], outputs := [2], orig := some 0 }],
                    inputs := [], outputs := [2] }],
    buffers := [none, some (.inl 0), some (.inl 1)], opcodes := [9], sigs := [] }
def envCD : Env := { model := mCD, consts := [(1, [1,2]), (2, [1,-2,3,5])], adjY := [] }
def stCD (a : Mode) : Recipe.State := stOf "y;" "FULLY_CONNECTED" a "" "" .none

/-- dynamic range: BOTH constants are quantized like weights, the result stays float32 -/
def mCD' : Model :=
  { subgraphs := [{ tensors := [{ T "c" [1,2] 1 with dtype := 9, quant := some 0 },
                                { T "w" [2,2] 2 with dtype := 9, quant := some 1 }, T "y" [1,2] 0],
                    ops := [{ code := 0, inputs := [0,1,-1], outputs := [2], orig := some 0 }],
                    inputs := [], outputs := [2] }],
    buffers := [none, some (.inr 0), some (.inr 1)], opcodes := [9], sigs := [] }

/-- static int16: the constant data operand is int8 (weight config), the result int16 -/
def mCD16' : Model :=
  { subgraphs := [{ tensors := [{ T "c" [1,2] 1 with dtype := 9, quant := some 0 },
                                { T "w" [2,2] 2 with dtype := 9, quant := some 1 },
                                { T "y" [1,2] 0 with dtype := 7, quant := some 2 }, T "y_dequant" [1,2] 0],
                    ops := [{ code := 0, inputs := [0,1,-1], outputs := [2], orig := some 0 },
                            { code := 1, inputs := [2], outputs := [3] }],
                    inputs := [], outputs := [3] }],
    buffers := [none, some (.inr 0), some (.inr 1)], opcodes := [9, 6], sigs := [] }

/-- `y := BATCH_MATMUL(c, x)` with a CONSTANT left operand -/
def mBL : Model :=
  { subgraphs := [{ tensors := [T "c" [1,2,2] 1, T "x" [1,2,2] 0, T "y" [1,2,2] 0],
                    ops := [{ code := 0, inputs := [0,1], outputs := [2], orig := some 0 }],
                    inputs := [1], outputs := [2] }],
    buffers := [none, some (.inl 0)], opcodes := [126], sigs := [] }
def envBL : Env := { model := mBL, consts := [(1, [1,-2,3,5])], adjY := [] }
def stBL : Recipe.State := stOf "y;" "BATCH_MATMUL" .drq "" "" .none

def mBL' : Model :=
  { subgraphs := [{ tensors := [{ T "c" [1,2,2] 1 with dtype := 9, quant := some 0 }, T "x" [1,2,2] 0, T "y" [1,2,2] 0],
                    ops := [{ code := 0, inputs := [0,1], outputs := [2], orig := some 0 }],
                    inputs := [1], outputs := [2] }],
    buffers := [none, some (.inr 0)], opcodes := [126], sigs := [] }

/-- `y := CONV_2D_TRANSPOSE(sh, r, x)` with a RUNTIME filter `r` (a graph input) -/
def mTC : Model :=
  { subgraphs := [{ tensors := [T "sh" [4] 1 2, T "r" [1,1,1,2] 0, T "x" [1,1,1,2] 0, T "y" [1,1,1,1] 0],
                    ops := [{ code := 0, inputs := [0,1,2], outputs := [3], orig := some 0 }],
                    inputs := [2,1], outputs := [3] }],
    buffers := [none, some (.inl 0)], opcodes := [67], sigs := [] }
def envTC : Env := { model := mTC, consts := [], adjY := [] }
def stTC : Recipe.State := stOf "y;" "CONV_2D_TRANSPOSE" .srq16 "" "" .none

def mTC' : Model :=
  { subgraphs := [{ tensors := [T "sh" [4] 1 2, T "r" [1,1,1,2] 0, T "x" [1,1,1,2] 0,
                                { T "y" [1,1,1,1] 0 with dtype := 7, quant := some 0 },
                                { T "r_quantized" [1,1,1,2] 0 with dtype := 7, quant := some 0 },
                                { T "x_quantized" [1,1,1,2] 0 with dtype := 7, quant := some 1 },
                                T "y_dequant" [1,1,1,1] 0],
                    ops := [{ code := 1, inputs := [1], outputs := [4] },
                            { code := 1, inputs := [2], outputs := [5] },
                            { code := 0, inputs := [0, 4, 5], outputs := [3], orig := some 0 },
                            { code := 2, inputs := [3], outputs := [6] }],
                    inputs := [2, 1], outputs := [6] }],
    buffers := [none, some (.inl 0)], opcodes := [67, 114, 6], sigs := [] }
abbrev RunsTo (env : Env) (st : Recipe.State) (m' : Model) : Prop := (quantizePure rxEq env st (some qs)).map (·.1) = .ok m'

/-- the six runs used below, in one kernel evaluation -/
theorem runs :
    RunsTo envFF (stFF .srq8 .drq) mFF' ∧ RunsTo envTF stTF mTF' ∧ RunsTo envCD (stCD .drq) mCD' ∧
    RunsTo envCD (stCD .srq16) mCD16' ∧ RunsTo envBL stBL mBL' ∧ RunsTo envTC stTC mTC' := by decide +kernel

theorem runFF : ∃ tbl, quantizePure rxEq envFF (stFF .srq8 .drq) (some qs) = .ok (mFF', tbl) := PyM.run_of_map runs.1
theorem runTF : ∃ tbl, quantizePure rxEq envTF stTF (some qs) = .ok (mTF', tbl) := PyM.run_of_map runs.2.1
theorem runCD : ∃ tbl, quantizePure rxEq envCD (stCD .drq) (some qs) = .ok (mCD', tbl) := PyM.run_of_map runs.2.2.1
theorem runCD16 : ∃ tbl, quantizePure rxEq envCD (stCD .srq16) (some qs) = .ok (mCD16', tbl) := PyM.run_of_map runs.2.2.2.1
theorem runBL : ∃ tbl, quantizePure rxEq envBL stBL (some qs) = .ok (mBL', tbl) := PyM.run_of_map runs.2.2.2.2.1
theorem runTC : ∃ tbl, quantizePure rxEq envTC stTC (some qs) = .ok (mTC', tbl) := PyM.run_of_map runs.2.2.2.2.2

/-! ### NON-VACUITY of `kernel_signatures_ok`: static int8 feeding dynamic range -/

theorem nfFF : PipelineWF.NF envFF (stFF .srq8 .drq) := NFCheckProofs.nfOK_sound _ _ (by decide +kernel)

/-- ALL hypotheses of `kernel_signatures_ok` hold on this instance, the theorem applies … -/
theorem instance_ok : KernelSig.modelOK mFF' = true := by
  obtain ⟨tbl, hrun⟩ := runFF
  exact kernel_signatures_ok rxEq envFF (stFF .srq8 .drq) (some qs) mFF' tbl nfFF (by decide +kernel) hrun
    (by decide +kernel) (KernelSig.dataRuntime_of_B _ _ _ (by decide +kernel))
    (KernelSig.weightConst16_of_B _ _ _ (by decide +kernel))

/-- … and what it says here, operator by operator: QUANTIZE float32 → int8; FULLY_CONNECTED int8 × int8 →
    int8; DEQUANTIZE int8 → float32; FULLY_CONNECTED float32 × int8 → float32 (hybrid) -/
example : KernelSig.modelSigs mFF' =
    [some (114, [some 0], [some 9]), some (9, [some 9, some 9, none], [some 9]),
     some (6, [some 9], [some 0]), some (9, [some 0, some 9, none], [some 0])] := by decide +kernel

/-- on the same run: the inserted QUANTIZE / DEQUANTIZE touch no int32 / int64 / int4 tensor -/
example : KernelSig.InsertedWidths mFF' := by
  obtain ⟨tbl, hrun⟩ := runFF
  exact inserted_ops_widths rxEq envFF (stFF .srq8 .drq) (some qs) mFF' tbl nfFF (by decide +kernel) hrun

/-! ### CONV_2D_TRANSPOSE under float casting: the int32 `output_shape` operand is untouched -/

theorem nfTF : PipelineWF.NF envTF stTF := NFCheckProofs.nfOK_sound _ _ (by decide +kernel)

/-- `kernel_signatures_ok` applies (DEQUANTIZE float16 → float32; CONV_2D_TRANSPOSE int32, float32, float32 →
    float32) … -/
theorem instance_cast_ok : KernelSig.modelOK mTF' = true := by
  obtain ⟨tbl, hrun⟩ := runTF
  exact kernel_signatures_ok rxEq envTF stTF (some qs) mTF' tbl nfTF (by decide +kernel) hrun (by decide +kernel)
    (KernelSig.dataRuntime_of_B _ _ _ (by decide +kernel)) (KernelSig.weightConst16_of_B _ _ _ (by decide +kernel))

/-- … and `nonfloat_operand_untouched`: the operator of the output reads `sh` itself, with its record -/
example (o' : Op) (ho' : o' ∈ (mTF'.subgraphs[0]'(by decide)).ops) (hk : o'.orig = some 0) :
    o'.inputs[0]? = some 0 ∧ (mTF'.subgraphs[0]'(by decide)).tensors[0]? = some (T "sh" [4] 1 2) := by
  obtain ⟨tbl, hrun⟩ := runTF
  exact nonfloat_operand_untouched rxEq envTF stTF (some qs) mTF' tbl nfTF hrun (by decide +kernel) 0 _ _ rfl rfl 0 _
    rfl 0 0 rfl (by decide) (T "sh" [4] 1 2) rfl (by decide) o' ho' hk

/-! ### the hypotheses `DataRuntime` and `WeightConst16` are NECESSARY: accepted, then outside the table

In each witness every OTHER hypothesis of `kernel_signatures_ok` holds (normal form, no `skip_checks` -- the
config is accepted by `Policy.accepts` --, float input), the run succeeds, and an operator of the output has
a signature no kernel of the table accepts.  "Accepted, then rejected by the runtime" (C13): every witness
was replayed on the Python library and the interpreter. -/

theorem resolved :
    Recipe.resolve rxEq (stCD .drq) "FULLY_CONNECTED" "y;" = (Tables.algMinMax, cfgDRQ) ∧
    Recipe.resolve rxEq (stCD .srq16) "FULLY_CONNECTED" "y;" = (Tables.algMinMax, cfgS16) ∧
    Recipe.resolve rxEq stBL "BATCH_MATMUL" "y;" = (Tables.algMinMax, cfgDRQ) ∧
    Recipe.resolve rxEq stTC "CONV_2D_TRANSPOSE" "y;" = (Tables.algMinMax, cfgS16) := by decide +kernel

theorem floatCD : FloatModel mCD := by decide +kernel

theorem weightConstCD (a : Mode) : WeightConst16 rxEq envCD (stCD a) :=
  KernelSig.weightConst16_of_B _ _ _ (by decide +kernel)

theorem cd_not_dataRuntime (a : Mode) (cfg : OpCfg) (hcp : cfg.cp = .integer)
    (hres : Recipe.resolve rxEq (stCD a) "FULLY_CONNECTED" "y;" = (Tables.algMinMax, cfg)) :
    ¬ DataRuntime rxEq envCD (stCD a) := fun h =>
  absurd (h (mCD.subgraphs[0]'(by decide)) (by decide) { code := 0, inputs := [0,1,-1], outputs := [2], orig := some 0 }
    (by decide) "FULLY_CONNECTED" cfg ⟨9, "y;", rfl, by decide +kernel, by decide +kernel, hres⟩ hcp (by decide +kernel)
    (by decide +kernel) 0 (by decide +kernel)) (by decide +kernel)

/-- **C01.E2E.const_data_drq_violates.**  FULLY_CONNECTED with a constant data operand under the API-accepted
    dynamic-range config: `quantize()` succeeds and returns FULLY_CONNECTED(int8, int8) → float32, which is
    neither the float, nor the hybrid, nor an integer signature.  (Replayed on the interpreter:
    `fully_connected.cc … output->type == kTfLiteUInt8 || … kTfLiteInt8 || … kTfLiteInt16 was not true`,
    "Node number 0 (FULLY_CONNECTED) failed to prepare".) -/
theorem const_data_drq_violates :
    ∃ tbl, quantizePure rxEq envCD (stCD .drq) (some qs) = .ok (mCD', tbl) ∧
      PipelineWF.NF envCD (stCD .drq) ∧ MatTotal.NoSkip (stCD .drq) ∧ FloatModel mCD ∧
      WeightConst16 rxEq envCD (stCD .drq) ∧ ¬ DataRuntime rxEq envCD (stCD .drq) ∧
      KernelSig.modelOK mCD' = false ∧
      KernelSig.modelSigs mCD' = [some (9, [some Tables.ttInt8, some Tables.ttInt8, none], [some Tables.ttFloat32])] := by
  obtain ⟨tbl, hrun⟩ := runCD
  exact ⟨tbl, hrun, NFCheckProofs.nfOK_sound _ _ (by decide +kernel), by decide +kernel, floatCD, weightConstCD _,
    cd_not_dataRuntime .drq cfgDRQ rfl resolved.1, by decide +kernel, by decide +kernel⟩

/-- **C01.E2E.const_data_srq16_violates.**  The same model under the API-accepted static-range config with 16-bit
    activations: FULLY_CONNECTED(int8, int8) → int16.  (Replayed on the interpreter: the model is prepared and
    invoked, and computes garbage -- the int16 kernel reads the int8 data operand as int16: `x + FC(c, w)` gave
    13.5 where the float model gives -2.5.) -/
theorem const_data_srq16_violates :
    ∃ tbl, quantizePure rxEq envCD (stCD .srq16) (some qs) = .ok (mCD16', tbl) ∧
      PipelineWF.NF envCD (stCD .srq16) ∧ MatTotal.NoSkip (stCD .srq16) ∧ FloatModel mCD ∧
      WeightConst16 rxEq envCD (stCD .srq16) ∧ ¬ DataRuntime rxEq envCD (stCD .srq16) ∧
      KernelSig.modelOK mCD16' = false ∧
      KernelSig.modelSigs mCD16' =
        [some (9, [some Tables.ttInt8, some Tables.ttInt8, none], [some Tables.ttInt16]),
         some (6, [some Tables.ttInt16], [some Tables.ttFloat32])] := by
  obtain ⟨tbl, hrun⟩ := runCD16
  exact ⟨tbl, hrun, NFCheckProofs.nfOK_sound _ _ (by decide +kernel), by decide +kernel, floatCD, weightConstCD _,
    cd_not_dataRuntime .srq16 cfgS16 rfl resolved.2.1, by decide +kernel, by decide +kernel⟩

/-- **C01.E2E.bmm_const_lhs_drq_violates.**  BATCH_MATMUL with a constant LEFT operand under the API-accepted
    dynamic-range config: the left operand is quantized like a weight, BATCH_MATMUL(int8, float32) → float32.
    (Replayed on the interpreter: `batch_matmul.cc … (lhs float32 && rhs int8) || lhs.type == rhs.type || (lhs
    int16 && rhs int8)` was not true, "failed to prepare"; same for static int16.) -/
theorem bmm_const_lhs_drq_violates :
    ∃ tbl, quantizePure rxEq envBL stBL (some qs) = .ok (mBL', tbl) ∧
      PipelineWF.NF envBL stBL ∧ MatTotal.NoSkip stBL ∧ FloatModel mBL ∧
      WeightConst16 rxEq envBL stBL ∧ ¬ DataRuntime rxEq envBL stBL ∧
      KernelSig.modelOK mBL' = false ∧
      KernelSig.modelSigs mBL' = [some (126, [some Tables.ttInt8, some Tables.ttFloat32], [some Tables.ttFloat32])] := by
  obtain ⟨tbl, hrun⟩ := runBL
  refine ⟨tbl, hrun, NFCheckProofs.nfOK_sound _ _ (by decide +kernel), by decide +kernel, by decide +kernel,
    KernelSig.weightConst16_of_B _ _ _ (by decide +kernel), fun h => ?_, by decide +kernel, by decide +kernel⟩
  exact absurd (h (mBL.subgraphs[0]'(by decide)) (by decide) { code := 0, inputs := [0,1], outputs := [2], orig := some 0 }
    (by decide) "BATCH_MATMUL" cfgDRQ ⟨126, "y;", rfl, by decide +kernel, by decide +kernel, resolved.2.2.1⟩ rfl
    (by decide +kernel) (by decide +kernel) 0 (by decide +kernel)) (by decide +kernel)

/-- **C01.E2E.runtime_weight_srq16_violates.**  CONV_2D_TRANSPOSE with a runtime filter under the API-accepted
    static-range config with 16-bit activations: the filter is quantized as an ACTIVATION,
    CONV_2D_TRANSPOSE(int32, int16, int16) → int16, and the int16 kernel reads int8 filters.  (Replayed on the
    interpreter: `transpose_conv.cc … weights->type != kTfLiteInt8 (7 != 9)`, "failed to prepare".  For
    FULLY_CONNECTED and BATCH_MATMUL the int16 × int16 signature is in the table.) -/
theorem runtime_weight_srq16_violates :
    ∃ tbl, quantizePure rxEq envTC stTC (some qs) = .ok (mTC', tbl) ∧
      PipelineWF.NF envTC stTC ∧ MatTotal.NoSkip stTC ∧ FloatModel mTC ∧
      DataRuntime rxEq envTC stTC ∧ ¬ WeightConst16 rxEq envTC stTC ∧
      KernelSig.modelOK mTC' = false ∧
      KernelSig.modelSigs mTC' =
        [some (114, [some Tables.ttFloat32], [some Tables.ttInt16]),
         some (114, [some Tables.ttFloat32], [some Tables.ttInt16]),
         some (67, [some Tables.ttInt32, some Tables.ttInt16, some Tables.ttInt16], [some Tables.ttInt16]),
         some (6, [some Tables.ttInt16], [some Tables.ttFloat32])] := by
  obtain ⟨tbl, hrun⟩ := runTC
  refine ⟨tbl, hrun, NFCheckProofs.nfOK_sound _ _ (by decide +kernel), by decide +kernel, by decide +kernel,
    KernelSig.dataRuntime_of_B _ _ _ (by decide +kernel), fun h => ?_, by decide +kernel, by decide +kernel⟩
  exact absurd (h (mTC.subgraphs[0]'(by decide)) (by decide)
    { code := 0, inputs := [0,1,2], outputs := [3], orig := some 0 } (by decide) "CONV_2D_TRANSPOSE" cfgS16
    { bits := 16, symmetric := true } ⟨67, "y;", rfl, by decide +kernel, by decide +kernel, resolved.2.2.2⟩ rfl rfl
    rfl (by decide +kernel) (by decide +kernel) 1 (by decide +kernel)) (by decide +kernel)

end E2E

end C01
