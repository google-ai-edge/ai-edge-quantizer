import QProofs.StepTypes
/-!
# C03 (per transformation step) — each operand has the type its mode prescribes

`QProps/C03.lean` says which transformation a mode requests for an operand and which tensor type a
parameter object denotes (`dtype_of_bits`).  This file closes the gap to the graph: the exact
postcondition of each of the three graph transformations, for a parameter whose `dtypeOf` is `ty`.

Hypothesis `GraphStep.InpOK` is the one of the C01 step lemmas (tensor index valid, producer and
consumer positions in range).  Instance: `C03.Example`, at the end.
-/
open Graph Perform GraphStep StepTypes

namespace C03

/-- position of the original operator `j` after one operator was inserted at position `opId` -/
def shiftPos (opId : Int) (j : Nat) : Nat := if (j : Int) < opId then j else j + 1

/-- operands equal to `t` become `n`; `orig` (builtin options and everything else the quantizer never
    touches) is kept -/
def retarget (t n : Int) (o : Op) : Op :=
  { o with inputs := o.inputs.map fun i => if i = t then n else i }

theorem retarget_spec (t n : Int) (o : Op) :
    (retarget t n o).code = o.code ∧ (retarget t n o).outputs = o.outputs ∧
    (retarget t n o).orig = o.orig ∧ (retarget t n o).inputs.length = o.inputs.length ∧
    ∀ k : Nat, (retarget t n o).inputs[k]? = (o.inputs[k]?).map fun i => if i = t then n else i := by
  refine ⟨rfl, rfl, rfl, by simp [retarget], fun k => by simp [retarget]⟩

theorem retarget_eq_rew (t n : Int) (o : Op) : GraphStep.rew t n o = retarget t n o := by
  unfold GraphStep.rew retarget
  simp only [beq_iff_eq]

/-- the graph outputs after an insertion: the new tensor replaces `t` as a graph output iff `-1`
    (the graph-output pseudo consumer) is among the listed consumers -/
def outputsAfter (sg : Subgraph) (inp : TIn) : List Int :=
  if (-1 : Int) ∈ inp.consumers
  then sg.outputs.map (fun o => if o = inp.tensor then (sg.tensors.length : Int) else o)
  else sg.outputs

theorem newOutputs_eq (sg : Subgraph) (inp : TIn) : newOutputs sg inp = outputsAfter sg inp := by
  unfold newOutputs outputsAfter
  simp only [memI, List.contains_eq_mem, decide_eq_true_eq, beq_iff_eq]

/-- **`quantize_tensor` retypes exactly tensor `t`** -/
theorem quantizeOnly_types (pt : PTable) (m m' : Model) (sgi : Nat) (sg sg' : Subgraph) (inp : TIn)
    (info : TInfoOut) (p : PId) (pi : PInfo) (ty : Nat)
    (hsg : m.subgraphs[sgi]? = some sg) (hsg' : m'.subgraphs[sgi]? = some sg')
    (hp : inp.param = some p) (hpi : pinfo pt p = some pi) (hty : dtypeOf pi = .ok ty)
    (h0 : 0 ≤ inp.tensor)
    (h : quantizeOnly pt m sgi inp = .ok (m', info)) :
    ∃ tn tn', sg.tensors[inp.tensor.toNat]? = some tn ∧ sg'.tensors[inp.tensor.toNat]? = some tn' ∧
      inp.tensor < sg.tensors.length ∧
      sg'.tensors.length = sg.tensors.length ∧
      tn'.dtype = ty ∧ tn'.quant = (if pi.uniform then some p else tn.quant) ∧
      tn'.name = tn.name ∧ tn'.shape = tn.shape ∧ tn'.buffer = tn.buffer ∧
      (∀ i, i ≠ inp.tensor.toNat → sg'.tensors[i]? = sg.tensors[i]?) ∧
      sg'.ops = sg.ops ∧ sg'.inputs = sg.inputs ∧ sg'.outputs = sg.outputs ∧
      m'.buffers = (if tn.buffer ≠ 0 ∧ pi.hasData = true
                    then m.buffers.set tn.buffer (some (.inr p)) else m.buffers) ∧
      m'.opcodes = m.opcodes ∧ info.added = 0 ∧ info.outTensor = inp.tensor := by
  obtain ⟨p', pi', ty', tn, hp', hpi', hty', hget, -, hr⟩ := (quantizeOnly_ok_iff hsg h0).1 h
  cases hp.symm.trans hp'
  cases hpi.symm.trans hpi'
  cases hty.symm.trans hty'
  obtain ⟨rfl, rfl⟩ := Prod.mk.inj hr
  rw [List.getElem?_set_self (List.getElem?_eq_some_iff.1 hsg).1] at hsg'
  cases hsg'
  have hlt : inp.tensor.toNat < sg.tensors.length := (List.getElem?_eq_some_iff.1 hget).1
  refine ⟨tn, retype pi p ty tn, hget, List.getElem?_set_self hlt, by omega, List.length_set,
    retype_dtype .., retype_quant .., retype_name .., retype_shape .., retype_buffer ..,
    fun i hi => List.getElem?_set_ne (Ne.symm hi), rfl, rfl, rfl, rfl, rfl, rfl, rfl⟩

/-! ## ADD_QUANTIZE and ADD_DEQUANTIZE: the inserted operator and the consumers

Stated once for an op-adding transformation `x`, from the exact result `StepTypes.Exact`. -/

section
open Wiring
variable {pt : PTable} {m m' : Model} {sgi : Nat} {sg sg' : Subgraph} {x : Xf} {inp : TIn}
  {info : TInfoOut} {p : PId} {pi : PInfo} {ty : Nat} {tn : Tensor}

theorem insert_op (E : Exact pt m sgi sg x inp m' info p pi ty tn sg') (ha : addsOp x = true) :
    sg'.ops.length = sg.ops.length + 1 ∧ info.added = 1 ∧
    0 ≤ info.opId ∧ info.opId ≤ sg.ops.length ∧ inp.producer < info.opId ∧
    (∀ c ∈ inp.consumers, 0 ≤ c → info.opId ≤ c) ∧
    ∃ ci, m'.opcodes[ci]? = some (if x = .addQuant then Tables.opQuantize else Tables.opDequantize) ∧
      (∃ ext, m'.opcodes = m.opcodes ++ ext) ∧
      sg'.ops[info.opId.toNat]? =
        some { code := ci, inputs := [inp.tensor], outputs := [(sg.tensors.length : Int)], orig := none } := by
  obtain ⟨k0, k1, -⟩ := E.opId
  obtain ⟨s1, s2, -⟩ := spliced_get inp.consumers inp.tensor (sg.tensors.length : Int) sg.ops info.opId.toNat
    { code := (addOpCode m.opcodes (if x = .addQuant then Tables.opQuantize else Tables.opDequantize)).2,
      inputs := [inp.tensor], outputs := [(sg.tensors.length : Int)] } (Int.toNat_le.2 k1)
  obtain ⟨a1, a2⟩ := GraphBasics.addOpCode_spec m.opcodes
    (if x = .addQuant then Tables.opQuantize else Tables.opDequantize)
  have hC := E.codes
  have hO := E.ops
  rw [if_pos ha] at hC hO
  exact ⟨hO ▸ s1, by rw [E.added, if_pos ha], k0, k1, E.afterProd ha, E.beforeCons ha, _, hC ▸ a1, hC ▸ a2,
    hO ▸ s2⟩

theorem insert_consumers (E : Exact pt m sgi sg x inp m' info p pi ty tn sg') (ha : addsOp x = true)
    (hinp : InpOK pt m sg inp) :
    (∀ (j : Nat) o, sg.ops[j]? = some o →
      sg'.ops[shiftPos info.opId j]? =
        some (if (j : Int) ∈ inp.consumers then retarget inp.tensor (sg.tensors.length : Int) o else o)) ∧
    (∀ c ∈ inp.consumers, 0 ≤ c → ∃ o, sg.ops[c.toNat]? = some o ∧
      sg'.ops[shiftPos info.opId c.toNat]? = some (retarget inp.tensor (sg.tensors.length : Int) o)) := by
  have main : ∀ (j : Nat) o, sg.ops[j]? = some o →
      sg'.ops[shiftPos info.opId j]? =
        some (if (j : Int) ∈ inp.consumers then retarget inp.tensor (sg.tensors.length : Int) o else o) := by
    intro j o hj
    have := E.ops_get hj
    rw [E.added, if_pos ha, shift_one_toNat] at this
    simp only [ha, true_and] at this
    rw [shiftPos, this, retarget_eq_rew]
  refine ⟨main, fun c hc h0 => ?_⟩
  have hlt : c.toNat < sg.ops.length := (hinp.consRange c hc).resolve_left (by omega)
  refine ⟨sg.ops[c.toNat], List.getElem?_eq_getElem hlt, ?_⟩
  rw [main c.toNat _ (List.getElem?_eq_getElem hlt), if_pos (by rwa [Int.toNat_of_nonneg h0])]
end

/-- **tensors after `insert_quant`**: one tensor of the prescribed type is appended; no original
    tensor (in particular not `t`) changes; no buffer changes -/
theorem insertQuant_tensors (pt : PTable) (m m' : Model) (sgi : Nat) (sg sg' : Subgraph) (inp : TIn)
    (info : TInfoOut) (p : PId) (pi : PInfo) (ty : Nat)
    (hsg : m.subgraphs[sgi]? = some sg) (hsg' : m'.subgraphs[sgi]? = some sg')
    (hinp : InpOK pt m sg inp)
    (hp : inp.param = some p) (hpi : pinfo pt p = some pi) (hty : dtypeOf pi = .ok ty)
    (h : insertQuant pt m sgi inp = .ok (m', info)) :
    ∃ tn nt, sg.tensors[inp.tensor.toNat]? = some tn ∧
      sg'.tensors.length = sg.tensors.length + 1 ∧
      info.outTensor = (sg.tensors.length : Int) ∧
      sg'.tensors[sg.tensors.length]? = some nt ∧
      nt.dtype = ty ∧ nt.quant = (if pi.uniform then some p else none) ∧
      nt.shape = tn.shape ∧ nt.buffer = 0 ∧
      nt.name = uniqueName (sg.tensors.map (·.name)) (tn.name ++ "_quantized") ∧
      (∀ i, i < sg.tensors.length → sg'.tensors[i]? = sg.tensors[i]?) ∧
      sg'.tensors[inp.tensor.toNat]? = some tn ∧
      sg'.inputs = sg.inputs ∧ sg'.outputs = outputsAfter sg inp ∧
      m'.buffers = m.buffers := by
  obtain ⟨tn, E⟩ := runXf_exact' (x := .addQuant) hsg hsg' hinp hp hpi hty h
  have hT := E.tensors_addQuant
  refine ⟨tn, retype pi p ty (Wiring.fresh (uniqueName (sg.tensors.map (·.name)) (tn.name ++ "_quantized")) tn),
    E.get, by rw [hT, List.length_append, List.length_singleton], E.outTensor,
    by rw [hT, List.getElem?_concat_length], retype_dtype .., retype_quant .., retype_shape ..,
    retype_buffer .., retype_name .., fun i hi => by rw [hT, List.getElem?_append_left hi],
    by rw [hT, List.getElem?_append_left hinp.tlt, E.get], E.inputs,
    E.outputs.trans (newOutputs_eq sg inp), E.bufs⟩

/-- **the operator inserted by `insert_quant`** is a QUANTIZE `t → new` at position `info.opId`,
    placed after the producer and not after any listed consumer; the opcode table is only extended -/
theorem insertQuant_op (pt : PTable) (m m' : Model) (sgi : Nat) (sg sg' : Subgraph) (inp : TIn)
    (info : TInfoOut) (p : PId) (pi : PInfo) (ty : Nat)
    (hsg : m.subgraphs[sgi]? = some sg) (hsg' : m'.subgraphs[sgi]? = some sg')
    (hinp : InpOK pt m sg inp)
    (hp : inp.param = some p) (hpi : pinfo pt p = some pi) (hty : dtypeOf pi = .ok ty)
    (h : insertQuant pt m sgi inp = .ok (m', info)) :
    sg'.ops.length = sg.ops.length + 1 ∧ info.added = 1 ∧
    0 ≤ info.opId ∧ info.opId ≤ sg.ops.length ∧ inp.producer < info.opId ∧
    (∀ c ∈ inp.consumers, 0 ≤ c → info.opId ≤ c) ∧
    ∃ ci, m'.opcodes[ci]? = some Tables.opQuantize ∧ (∃ ext, m'.opcodes = m.opcodes ++ ext) ∧
      sg'.ops[info.opId.toNat]? =
        some { code := ci, inputs := [inp.tensor], outputs := [(sg.tensors.length : Int)], orig := none } := by
  obtain ⟨tn, E⟩ := runXf_exact' (x := .addQuant) hsg hsg' hinp hp hpi hty h
  exact insert_op E rfl

/-- **consumers after `insert_quant`**: the original operator `j` sits at `shiftPos info.opId j`;
    if it is a listed consumer its operands `t` now read the new tensor, otherwise it is unchanged -/
theorem insertQuant_consumers (pt : PTable) (m m' : Model) (sgi : Nat) (sg sg' : Subgraph) (inp : TIn)
    (info : TInfoOut) (p : PId) (pi : PInfo) (ty : Nat)
    (hsg : m.subgraphs[sgi]? = some sg) (hsg' : m'.subgraphs[sgi]? = some sg')
    (hinp : InpOK pt m sg inp)
    (hp : inp.param = some p) (hpi : pinfo pt p = some pi) (hty : dtypeOf pi = .ok ty)
    (h : insertQuant pt m sgi inp = .ok (m', info)) :
    (∀ (j : Nat) o, sg.ops[j]? = some o →
      sg'.ops[shiftPos info.opId j]? =
        some (if (j : Int) ∈ inp.consumers then retarget inp.tensor (sg.tensors.length : Int) o else o)) ∧
    (∀ c ∈ inp.consumers, 0 ≤ c → ∃ o, sg.ops[c.toNat]? = some o ∧
      sg'.ops[shiftPos info.opId c.toNat]? = some (retarget inp.tensor (sg.tensors.length : Int) o)) := by
  obtain ⟨tn, E⟩ := runXf_exact' (x := .addQuant) hsg hsg' hinp hp hpi hty h
  exact insert_consumers E rfl hinp

/-- **tensors after `insert_dequant`**: tensor `t` itself gets the prescribed type (same name, shape,
    buffer), a float32 tensor without quantization is appended, nothing else changes; the quantized
    data goes into `t`'s buffer iff it has one and the parameter has data -/
theorem insertDequant_tensors (pt : PTable) (m m' : Model) (sgi : Nat) (sg sg' : Subgraph) (inp : TIn)
    (info : TInfoOut) (p : PId) (pi : PInfo) (ty : Nat)
    (hsg : m.subgraphs[sgi]? = some sg) (hsg' : m'.subgraphs[sgi]? = some sg')
    (hinp : InpOK pt m sg inp)
    (hp : inp.param = some p) (hpi : pinfo pt p = some pi) (hty : dtypeOf pi = .ok ty)
    (h : insertDequant pt m sgi inp = .ok (m', info)) :
    ∃ tn tn' nt, sg.tensors[inp.tensor.toNat]? = some tn ∧
      sg'.tensors.length = sg.tensors.length + 1 ∧
      info.outTensor = (sg.tensors.length : Int) ∧
      sg'.tensors[inp.tensor.toNat]? = some tn' ∧
      tn'.dtype = ty ∧ tn'.quant = (if pi.uniform then some p else tn.quant) ∧
      tn'.name = tn.name ∧ tn'.shape = tn.shape ∧ tn'.buffer = tn.buffer ∧
      sg'.tensors[sg.tensors.length]? = some nt ∧
      nt.dtype = Tables.ttFloat32 ∧ nt.quant = none ∧ nt.shape = tn.shape ∧ nt.buffer = 0 ∧
      nt.name = uniqueName (sg.tensors.map (·.name)) (tn.name ++ "_dequant") ∧
      (∀ i, i < sg.tensors.length → i ≠ inp.tensor.toNat → sg'.tensors[i]? = sg.tensors[i]?) ∧
      sg'.inputs = sg.inputs ∧ sg'.outputs = outputsAfter sg inp ∧
      m'.buffers = (if tn.buffer ≠ 0 ∧ pi.hasData = true
                    then m.buffers.set tn.buffer (some (.inr p)) else m.buffers) := by
  obtain ⟨tn, E⟩ := runXf_exact' (x := .addDequant) hsg hsg' hinp hp hpi hty h
  have hT := E.tensors_addDequant
  have hlt := hinp.tlt
  have hlen : (sg.tensors.set inp.tensor.toNat (retype pi p ty tn)).length = sg.tensors.length :=
    List.length_set
  refine ⟨tn, retype pi p ty tn, Wiring.fresh (uniqueName (sg.tensors.map (·.name)) (tn.name ++ "_dequant")) tn,
    E.get, by rw [hT, List.length_append, hlen, List.length_singleton],
    E.outTensor, by rw [hT, List.getElem?_append_left (by omega), List.getElem?_set_self hlt],
    retype_dtype .., retype_quant .., retype_name .., retype_shape .., retype_buffer ..,
    by rw [hT, ← hlen, List.getElem?_concat_length], rfl, rfl, rfl, rfl, rfl, fun i hi hne => ?_,
    E.inputs, E.outputs.trans (newOutputs_eq sg inp), E.bufs⟩
  rw [hT, List.getElem?_append_left (by omega), List.getElem?_set_ne (Ne.symm hne)]

/-- **the operator inserted by `insert_dequant`** is a DEQUANTIZE `t → new` at position `info.opId` -/
theorem insertDequant_op (pt : PTable) (m m' : Model) (sgi : Nat) (sg sg' : Subgraph) (inp : TIn)
    (info : TInfoOut) (p : PId) (pi : PInfo) (ty : Nat)
    (hsg : m.subgraphs[sgi]? = some sg) (hsg' : m'.subgraphs[sgi]? = some sg')
    (hinp : InpOK pt m sg inp)
    (hp : inp.param = some p) (hpi : pinfo pt p = some pi) (hty : dtypeOf pi = .ok ty)
    (h : insertDequant pt m sgi inp = .ok (m', info)) :
    sg'.ops.length = sg.ops.length + 1 ∧ info.added = 1 ∧
    0 ≤ info.opId ∧ info.opId ≤ sg.ops.length ∧ inp.producer < info.opId ∧
    (∀ c ∈ inp.consumers, 0 ≤ c → info.opId ≤ c) ∧
    ∃ ci, m'.opcodes[ci]? = some Tables.opDequantize ∧ (∃ ext, m'.opcodes = m.opcodes ++ ext) ∧
      sg'.ops[info.opId.toNat]? =
        some { code := ci, inputs := [inp.tensor], outputs := [(sg.tensors.length : Int)], orig := none } := by
  obtain ⟨tn, E⟩ := runXf_exact' (x := .addDequant) hsg hsg' hinp hp hpi hty h
  exact insert_op E rfl

/-- **consumers after `insert_dequant`** (as for `insert_quant`) -/
theorem insertDequant_consumers (pt : PTable) (m m' : Model) (sgi : Nat) (sg sg' : Subgraph) (inp : TIn)
    (info : TInfoOut) (p : PId) (pi : PInfo) (ty : Nat)
    (hsg : m.subgraphs[sgi]? = some sg) (hsg' : m'.subgraphs[sgi]? = some sg')
    (hinp : InpOK pt m sg inp)
    (hp : inp.param = some p) (hpi : pinfo pt p = some pi) (hty : dtypeOf pi = .ok ty)
    (h : insertDequant pt m sgi inp = .ok (m', info)) :
    (∀ (j : Nat) o, sg.ops[j]? = some o →
      sg'.ops[shiftPos info.opId j]? =
        some (if (j : Int) ∈ inp.consumers then retarget inp.tensor (sg.tensors.length : Int) o else o)) ∧
    (∀ c ∈ inp.consumers, 0 ≤ c → ∃ o, sg.ops[c.toNat]? = some o ∧
      sg'.ops[shiftPos info.opId c.toNat]? = some (retarget inp.tensor (sg.tensors.length : Int) o)) := by
  obtain ⟨tn, E⟩ := runXf_exact' (x := .addDequant) hsg hsg' hinp hp hpi hty h
  exact insert_consumers E rfl hinp

/-! ## Non-vacuity: the theorems instantiated on a concrete model

`x --op0--> h --op1(h, w)--> y` with constant `w` (buffer 1).  `inpQ` asks for an int8 QUANTIZE of
the activation `h` in front of its consumer `op1`; `inpD` asks for an int8 weight `w` with an explicit
DEQUANTIZE in front of `op1`; `inpT` quantizes `w` in place. -/
namespace Example

def ptE : PTable := [(7, ⟨true, 8, false⟩), (8, ⟨true, 8, true⟩)]
def sgE : Subgraph :=
  { tensors := [{ name := "x", dtype := 0, shape := [1, 2], buffer := 0 },
                { name := "w", dtype := 0, shape := [2, 2], buffer := 1 },
                { name := "h", dtype := 0, shape := [1, 2], buffer := 0 },
                { name := "y", dtype := 0, shape := [1, 2], buffer := 0 }],
    ops := [{ code := 0, inputs := [0], outputs := [2], orig := some 0 },
            { code := 1, inputs := [2, 1], outputs := [3], orig := some 1 }],
    inputs := [0], outputs := [3] }
def mE : Model := { subgraphs := [sgE], buffers := [none, some (.inl 0)], opcodes := [5, 9], sigs := [] }
def inpQ : TIn := ⟨2, 0, [1], some 7⟩
def inpD : TIn := ⟨1, -1, [1], some 8⟩
def inpT : TIn := ⟨1, -1, [1], some 8⟩

/-- expected result of ADD_QUANTIZE on `h` -/
def sgQ : Subgraph :=
  { tensors := [{ name := "x", dtype := 0, shape := [1, 2], buffer := 0 },
                { name := "w", dtype := 0, shape := [2, 2], buffer := 1 },
                { name := "h", dtype := 0, shape := [1, 2], buffer := 0 },
                { name := "y", dtype := 0, shape := [1, 2], buffer := 0 },
                { name := "h_quantized", dtype := Tables.ttInt8, shape := [1, 2], buffer := 0, quant := some 7 }],
    ops := [{ code := 0, inputs := [0], outputs := [2], orig := some 0 },
            { code := 2, inputs := [2], outputs := [4] },
            { code := 1, inputs := [4, 1], outputs := [3], orig := some 1 }],
    inputs := [0], outputs := [3] }
def mQ : Model :=
  { subgraphs := [sgQ], buffers := [none, some (.inl 0)], opcodes := [5, 9, Tables.opQuantize], sigs := [] }

/-- expected result of ADD_DEQUANTIZE on `w` -/
def sgD : Subgraph :=
  { tensors := [{ name := "x", dtype := 0, shape := [1, 2], buffer := 0 },
                { name := "w", dtype := Tables.ttInt8, shape := [2, 2], buffer := 1, quant := some 8 },
                { name := "h", dtype := 0, shape := [1, 2], buffer := 0 },
                { name := "y", dtype := 0, shape := [1, 2], buffer := 0 },
                { name := "w_dequant", dtype := Tables.ttFloat32, shape := [2, 2], buffer := 0 }],
    ops := [{ code := 0, inputs := [0], outputs := [2], orig := some 0 },
            { code := 2, inputs := [1], outputs := [4] },
            { code := 1, inputs := [2, 4], outputs := [3], orig := some 1 }],
    inputs := [0], outputs := [3] }
def mD : Model :=
  { subgraphs := [sgD], buffers := [none, some (.inr 8)], opcodes := [5, 9, Tables.opDequantize], sigs := [] }

/-- expected result of QUANTIZE_TENSOR on `w` -/
def sgT : Subgraph :=
  { sgE with tensors :=
      [{ name := "x", dtype := 0, shape := [1, 2], buffer := 0 },
       { name := "w", dtype := Tables.ttInt8, shape := [2, 2], buffer := 1, quant := some 8 },
       { name := "h", dtype := 0, shape := [1, 2], buffer := 0 },
       { name := "y", dtype := 0, shape := [1, 2], buffer := 0 }] }
def mT : Model := { mE with subgraphs := [sgT], buffers := [none, some (.inr 8)] }

/-- the three transformations succeed on the example, with the displayed results -/
theorem stepQ : insertQuant ptE mE 0 inpQ = .ok (mQ, ⟨1, 1, 4⟩) := rfl
theorem stepD : insertDequant ptE mE 0 inpD = .ok (mD, ⟨1, 1, 4⟩) := rfl
theorem stepT : quantizeOnly ptE mE 0 inpT = .ok (mT, ⟨0, 0, 1⟩) := rfl

theorem pinfo7 : pinfo ptE 7 = some ⟨true, 8, false⟩ := rfl
theorem pinfo8 : pinfo ptE 8 = some ⟨true, 8, true⟩ := rfl
theorem dtype7 : dtypeOf ⟨true, 8, false⟩ = .ok Tables.ttInt8 := rfl
theorem dtype8 : dtypeOf ⟨true, 8, true⟩ = .ok Tables.ttInt8 := rfl

theorem inpQ_ok : InpOK ptE mE sgE inpQ := by
  refine ⟨by decide, by decide, by decide, by decide, ?_⟩
  intro p pi h1 h2 h3
  cases h1
  rw [pinfo7] at h2
  cases h2
  cases h3

theorem inpD_ok : InpOK ptE mE sgE inpD := by
  refine ⟨by decide, by decide, by decide, by decide, ?_⟩
  intro p pi _ _ _
  decide

theorem insertQuant_hyps_sat :
    ∃ pt m m' sgi sg sg' inp info p pi ty, m.subgraphs[sgi]? = some sg ∧ m'.subgraphs[sgi]? = some sg' ∧
      InpOK pt m sg inp ∧ inp.param = some p ∧ pinfo pt p = some pi ∧ dtypeOf pi = .ok ty ∧
      insertQuant pt m sgi inp = .ok (m', info) :=
  ⟨ptE, mE, mQ, 0, sgE, sgQ, inpQ, ⟨1, 1, 4⟩, 7, ⟨true, 8, false⟩, Tables.ttInt8,
    rfl, rfl, inpQ_ok, rfl, pinfo7, dtype7, stepQ⟩

theorem insertDequant_hyps_sat :
    ∃ pt m m' sgi sg sg' inp info p pi ty, m.subgraphs[sgi]? = some sg ∧ m'.subgraphs[sgi]? = some sg' ∧
      InpOK pt m sg inp ∧ inp.param = some p ∧ pinfo pt p = some pi ∧ dtypeOf pi = .ok ty ∧
      insertDequant pt m sgi inp = .ok (m', info) :=
  ⟨ptE, mE, mD, 0, sgE, sgD, inpD, ⟨1, 1, 4⟩, 8, ⟨true, 8, true⟩, Tables.ttInt8,
    rfl, rfl, inpD_ok, rfl, pinfo8, dtype8, stepD⟩

theorem quantizeOnly_hyps_sat :
    ∃ pt m m' sgi sg sg' inp info p pi ty, m.subgraphs[sgi]? = some sg ∧ m'.subgraphs[sgi]? = some sg' ∧
      inp.param = some p ∧ pinfo pt p = some pi ∧ dtypeOf pi = .ok ty ∧ 0 ≤ inp.tensor ∧
      quantizeOnly pt m sgi inp = .ok (m', info) :=
  ⟨ptE, mE, mT, 0, sgE, sgT, inpT, ⟨0, 0, 1⟩, 8, ⟨true, 8, true⟩, Tables.ttInt8,
    rfl, rfl, rfl, pinfo8, dtype8, by decide, stepT⟩

example :=
  quantizeOnly_types ptE mE mT 0 sgE sgT inpT ⟨0, 0, 1⟩ 8 ⟨true, 8, true⟩ Tables.ttInt8
    rfl rfl rfl pinfo8 dtype8 (by decide) stepT

example :=
  insertQuant_tensors ptE mE mQ 0 sgE sgQ inpQ ⟨1, 1, 4⟩ 7 ⟨true, 8, false⟩ Tables.ttInt8
    rfl rfl inpQ_ok rfl pinfo7 dtype7 stepQ

example :=
  insertQuant_op ptE mE mQ 0 sgE sgQ inpQ ⟨1, 1, 4⟩ 7 ⟨true, 8, false⟩ Tables.ttInt8
    rfl rfl inpQ_ok rfl pinfo7 dtype7 stepQ

example :=
  insertQuant_consumers ptE mE mQ 0 sgE sgQ inpQ ⟨1, 1, 4⟩ 7 ⟨true, 8, false⟩ Tables.ttInt8
    rfl rfl inpQ_ok rfl pinfo7 dtype7 stepQ

example :=
  insertDequant_tensors ptE mE mD 0 sgE sgD inpD ⟨1, 1, 4⟩ 8 ⟨true, 8, true⟩ Tables.ttInt8
    rfl rfl inpD_ok rfl pinfo8 dtype8 stepD

example :=
  insertDequant_op ptE mE mD 0 sgE sgD inpD ⟨1, 1, 4⟩ 8 ⟨true, 8, true⟩ Tables.ttInt8
    rfl rfl inpD_ok rfl pinfo8 dtype8 stepD

example :=
  insertDequant_consumers ptE mE mD 0 sgE sgD inpD ⟨1, 1, 4⟩ 8 ⟨true, 8, true⟩ Tables.ttInt8
    rfl rfl inpD_ok rfl pinfo8 dtype8 stepD

/-- what the instantiated theorem says about the listed consumer `op1` of the example: it moved to
    position 2 and reads the new tensor 4 instead of `h` (tensor 2) -/
example : sgQ.ops[2]? = some { code := 1, inputs := [4, 1], outputs := [3], orig := some 1 } := by
  obtain ⟨o, h1, h2⟩ :=
    (insertQuant_consumers ptE mE mQ 0 sgE sgQ inpQ ⟨1, 1, 4⟩ 7 ⟨true, 8, false⟩ Tables.ttInt8
      rfl rfl inpQ_ok rfl pinfo7 dtype7 stepQ).2 1 (by decide) (by decide)
  have ho : o = { code := 1, inputs := [2, 1], outputs := [3], orig := some 1 } := by
    have : sgE.ops[(1 : Int).toNat]? = some { code := 1, inputs := [2, 1], outputs := [3], orig := some 1 } := rfl
    rw [this] at h1; cases h1; rfl
  subst ho
  exact h2

end Example

end C03
