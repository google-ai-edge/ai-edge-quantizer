import QModel.Bytes
/-!
# C05 — stored quantized constants: byte layout

This file proves the storage-format half of C05 for every list of codes: int4 nibble packing and
8-bit little-endian storage.  The value half is composed in `QProps/C05c.lean`.
-/
open Bytes Num

namespace C05

def byteOf (x : Int) : Nat := (x % 256).toNat

theorem byteOf_cast (x : Int) : ((byteOf x : Nat) : Int) = x % 256 :=
  Int.toNat_of_nonneg (Int.emod_nonneg _ (by decide))

theorem encodeLE8 (x : Int) : encodeLE 8 x = [byteOf x] := by
  unfold encodeLE byteOf
  simp [List.range_succ]
  have h : (0:Int) ≤ x % 256 := Int.emod_nonneg _ (by decide)
  have h2 : x % 256 < 256 := Int.emod_lt_of_pos _ (by decide)
  omega

theorem encodeAll8 (xs : List Int) : encodeAllLE 8 xs = xs.map byteOf := by
  unfold encodeAllLE
  induction xs with
  | nil => rfl
  | cons x xs ih => simp [List.flatMap_cons, encodeLE8, ih]

/-- int4 storage: two values per byte, low nibble first, odd tail padded — byte length -/
theorem pack4_length (l : List Nat) : (pack4 l).length = (l.length + 1) / 2 := by
  induction l using pack4.induct with
  | case1 => rfl
  | case2 a => simp [pack4]
  | case3 a b rest ih => simp [pack4, ih]; omega

theorem sext4_low (x : Int) (h1 : -8 ≤ x) (h2 : x < 8) : sext4 (byteOf x % 16) = x := by
  have := byteOf_cast x
  unfold sext4
  split <;> omega

theorem sext4_pack (a b : Int) (ha1 : -8 ≤ a) (ha2 : a < 8) (hb1 : -8 ≤ b) (hb2 : b < 8) :
    sext4 ((byteOf a % 16 + byteOf b * 16 % 256) % 16) = a ∧
    sext4 ((byteOf a % 16 + byteOf b * 16 % 256) / 16) = b := by
  -- the packed byte is `lo + 16·hi` with both nibbles below 16
  have e : byteOf b * 16 % 256 = byteOf b % 16 * 16 := by omega
  have hlo : (byteOf a % 16 + byteOf b % 16 * 16) % 16 = byteOf a % 16 := by omega
  have hhi : (byteOf a % 16 + byteOf b % 16 * 16) / 16 = byteOf b % 16 := by omega
  rw [e, hlo, hhi]
  exact ⟨sext4_low a ha1 ha2, sext4_low b hb1 hb2⟩

theorem unpack_pack_bytes : ∀ (xs : List Int), (∀ x ∈ xs, -8 ≤ x ∧ x < 8) →
    ((pack4 (xs.map byteOf)).flatMap fun b => [sext4 (b % 16), sext4 (b / 16)]).take xs.length = xs
  | [], _ => rfl
  | [a], h => by
    have ha := h a (by simp)
    simp only [List.map_cons, List.map_nil, pack4, List.flatMap_cons, List.flatMap_nil, List.append_nil,
      List.length_singleton, List.take_succ_cons, List.take_zero, Nat.mod_mod]
    rw [sext4_low a ha.1 ha.2]
  | a :: b :: rest, h => by
    have ha := h a (by simp)
    have hb := h b (by simp)
    have ih := unpack_pack_bytes rest fun x hx => h x (by simp [hx])
    obtain ⟨lo, hi⟩ := sext4_pack a b ha.1 ha.2 hb.1 hb.2
    simp only [List.map_cons, pack4, List.flatMap_cons, List.length_cons, List.cons_append,
      List.nil_append, List.take_succ_cons]
    rw [lo, hi, ih]

/-- **int4 round trip**: decoding the packed bytes (low nibble first, sign-extended) returns
    exactly the codes, for every list (odd or even length) of 4-bit codes -/
theorem unpack_pack (xs : List Int) (h : ∀ x ∈ xs, -8 ≤ x ∧ x < 8) :
    unpack4 xs.length (pack4 (encodeAllLE 8 xs)) = xs := by
  rw [encodeAll8]
  exact unpack_pack_bytes xs h

/-- little-endian two's-complement round trip for 8-bit storage (`C05.decode_encode` has every
    whole-byte width) -/
theorem decode_encode8 (z : Int) (h1 : -128 ≤ z) (h2 : z < 128) : decodeLE 8 (encodeLE 8 z) = z := by
  rw [encodeLE8]
  have hu := byteOf_cast z
  unfold decodeLE wrapInt
  simp [List.zipIdx]
  omega

end C05
