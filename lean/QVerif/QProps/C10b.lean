import QProps.C10
import QProofs.PipelineWFExamples
/-!
# C10b — statistics recorded by `calibrate()` are the ones `quantize()` looks up; the
"missing statistics" raise sites are unreachable after a calibration

`Mat.wrapper` (`_get_tensor_transformation_params_wrapper`) has two raise sites that mean "no
statistics for this tensor": the dictionary lookup of a runtime tensor's name
(`tensor_name_to_qsv[name]` → "… not found in tensor_name_to_qsv"), and the empty entry handed to
`_get_tensor_quant_params` ("min and max must be provided").  With a recorded entry neither is taken
(`wrapper_uses_recorded_stats`); composed with `C10.stats_complete` -- calibration and quantization resolve through the same
`opScope` / `Recipe.resolve` -- `quantize()` finds what `calibrate()` recorded (`calibrated_lookup_never_missing`).
-/
open Graph Arith Mat Calib Cfg

namespace C10

/-- with a recorded entry the wrapper neither raises for a missing name nor for an empty entry: it
    computes the parameters from exactly the recorded min/max -/
theorem wrapper_uses_recorded_stats (env : Env) (qsvs : Qsvs) (oi : OpInfo) (t : Tensor) (inbound : Bool)
    (tc : TCfg) (mn mx : FArr) (hnc : constData env t = none) (hact : oi.cfg.act = some tc)
    (hs : Py.dictGet? qsvs t.name = some (some (mn, mx))) :
    wrapper env qsvs oi t inbound none =
      (do let r ← tensorQuantParams env oi (some (mn, mx)) tc none
          mkReq t.name oi inbound (some r) false) := by
  unfold wrapper
  simp only [hnc, Option.isSome_none, Bool.false_and, Bool.false_eq_true, if_false, hact, hs, bind, Except.bind,
    pure, Except.pure]
  cases tensorQuantParams env oi (some (mn, mx)) tc none <;> rfl

/-- … and the parameter computation itself does not take the "min and max must be provided" branch -/
theorem params_from_stats (env : Env) (oi : OpInfo) (tc : TCfg) (mn mx : FArr) (e : PyErr)
    (h : tensorQuantParams env oi (some (mn, mx)) tc none = .error e) :
    (∃ e', zpScale tc.bits.toNat tc.symmetric mn mx = .error e') ∨ tc.gran = .channelwise := by
  unfold tensorQuantParams at h
  rcases PyM.bind_eq_error_iff.1 h with h | ⟨_, hp, h⟩
  · cases h
  obtain rfl := PyM.pure_eq_ok_iff.1 hp
  rcases PyM.bind_eq_error_iff.1 h with h | ⟨_, _, h⟩
  · exact .inl ⟨e, h⟩
  -- with the parameters computed, only the look-up of the quantized dimension can still fail
  cases hg : tc.gran with
  | channelwise => exact .inr rfl
  | tensorwise => rw [hg] at h; cases h
  | blockwise => rw [hg] at h; cases h

/-- **calibrate() then quantize(): the lookup never misses.**  After `calibrate()` on at least one
    sample, for every operator selected for min/max quantization and every non-constant operand the
    materialisation's wrapper call is the parameter computation on the min/max recorded for that tensor -/
theorem calibrated_lookup_never_missing (rx : String → String → Bool) (env : Env) (st : Recipe.State) (sgi : Nat)
    (sg : Subgraph) (hsg : env.model.subgraphs[sgi]? = some sg)
    (previous : Option Qsvs) (samples : List Contents) (hne : samples ≠ []) (qs : Qsvs)
    (hneed : Recipe.needCalibration st = true)
    (h : calibrate rx env st sgi previous samples = .ok qs)
    (op : Op) (k scope : String) (hop : CalibProofs.IsOp env sg op k) (hscope : opScope sg op = .ok scope)
    (hsel : (Recipe.resolve rx st k scope).1 = Tables.algMinMax)
    (i : Int) (hi : i ∈ op.inputs ++ op.outputs) (hi1 : i ≠ -1) (t : Tensor) (ht : tensorAt sg i = .ok t)
    (hnc : constData env t = none)
    (oi : OpInfo) (tc : TCfg) (hact : oi.cfg.act = some tc) (inbound : Bool) :
    ∃ mn mx, Py.dictGet? qs t.name = some (some (mn, mx)) ∧
      wrapper env qs oi t inbound none =
        (do let r ← tensorQuantParams env oi (some (mn, mx)) tc none
            mkReq t.name oi inbound (some r) false) := by
  obtain ⟨mn, mx, hs⟩ := C10.stats_complete rx env st sgi sg hsg previous samples hne qs hneed h op k scope hop hscope hsel
    i hi hi1 t ht hnc
  exact ⟨mn, mx, hs, wrapper_uses_recorded_stats env qs oi t inbound tc mn mx hnc hact hs⟩

/-! ## non-vacuity: a FULLY_CONNECTED under a static-range rule with recorded statistics for its input -/
namespace Witness
open PipelineWFExample

def cfgSRQ : OpCfg :=
  { act := some { bits := 8, symmetric := false }, weight := some { bits := 8, symmetric := true, gran := .channelwise }, cp := .integer }
def oiA : OpInfo := { sgIdx := 0, op := opA, opName := "FULLY_CONNECTED", opId := 0, cfg := cfgSRQ }
def xT : Tensor := T "x" 0 [1,2] 0
def one : FArr := ⟨⟨[1, 1], [1]⟩, .f32⟩
def mone : FArr := ⟨⟨[1, 1], [-1]⟩, .f32⟩
def qsA : Qsvs := [("x", some (mone, one))]

example : constData envA xT = none ∧ oiA.cfg.act = some { bits := 8, symmetric := false } ∧
    Py.dictGet? qsA xT.name = some (some (mone, one)) := ⟨rfl, rfl, rfl⟩

/-- the instance evaluates to a real request (no exception), carrying parameters computed from [-1, 1] -/
example : (match wrapper envA qsA oiA xT true none with | .ok _ => true | .error _ => false) = true := by
  rw [wrapper_uses_recorded_stats envA qsA oiA xT true { bits := 8, symmetric := false } mone one rfl rfl rfl]
  decide +kernel

end Witness

end C10
