import QProofs.KernelSpec
/-!
# C07b — static-range operators: the error of one integer operator over the SPECIFIED kernel semantics

`QProps/C07.lean` proves what the quantizer contributes (`accumulator_exact`, `dot_perturbation`).  This file
closes the loop for ONE operator, over the real-valued TFLite quantization specification of the kernel
(`QProofs/KernelSpec.lean`; the kernels themselves are outside the model): the integer FULLY_CONNECTED row
`fcRowQ` (`qy = clip(r(acc·(sx·sw/sy)) + zy, qmin, qmax)` with the accumulator `C07.acc`) and the integer ADD `addQ`, for
ANY rounding `r` with `|r t − t| ≤ 1/2` (`KernelSpec.IsRounding`).  `deq s z q = s·(q − z)`.

**Not modelled**: the kernels' fixed-point rescaling (the real factor `sx·sw/sy` is a 32-bit multiplier and a
shift in `MultiplyByQuantizedMultiplier`; known findings D29/D33 concern it), accumulator overflow, fused
activations.  The theorems are about the real-valued specification.

Hypotheses on the codes are exactly what the library's quantization provides: each dequantized activation
is within `sx/2` of the float activation when that lies in the calibrated (representable) range
(`C17.dq_q_ideal`, `C17.dq_q_rounded`), each dequantized weight within `sw/2` (C05c: clipped elements
included), the bias within `sx·sw/2` unless saturated.  `fc_row_error_quantized` discharges them from the
library's `uniform_quantize` in ideal arithmetic; `fc_row_error_slack` takes arbitrary tolerances
`dx, dw, db` (for the float32 evaluation: `dx = sx·(1/2 + 2^(bits+3)·2^-24)`, C17.dq_q_rounded).

"The float result" is `dot x w + b = Σ x_i w_i + b` throughout.
-/
open KernelSpec Num

set_option autoImplicit false

namespace C07

/-- **integer FC row, saturating form** (no hypothesis on where the float result lies) -/
theorem fc_row_error_sat (r : Rat → Int) (hr : IsRounding r) (sx sw sy : Rat) (hsy : 0 < sy)
    (zx zy qmin qmax : Int) (hq : qmin ≤ qmax)
    (x w : List Rat) (b : Rat) (qx qw : List Int) (qb : Int)
    (hx : List.Forall₂ (fun t q => |t - deq sx zx q| ≤ sx / 2) x qx)
    (hw : List.Forall₂ (fun t (q : Int) => |t - sw * (q : Rat)| ≤ sw / 2) w qw)
    (hb : |b - sx * sw * (qb : Rat)| ≤ sx * sw / 2) :
    |deq sy zy (fcRowQ r sx sw sy zx zy qmin qmax qx qw qb)
        - clipR (dot x w + b) (deq sy zy qmin) (deq sy zy qmax)|
      ≤ sy / 2 + pertSum (sx / 2) (sw / 2) x w + sx * sw / 2 := by
  have := fc_row_sat_gen r hr sx sw sy hsy zx zy qmin qmax hq _ _ _ x w b qx qw qb hx hw hb
  linarith

/-- **C07, one integer fully-connected row**: the dequantized output is within
    `sy/2 + Σ(|x_i|·sw/2 + |w_i|·sx/2 + sx·sw/4) + sx·sw/2` of the float result, provided the float result lies
    in the representable output range -/
theorem fc_row_error (r : Rat → Int) (hr : IsRounding r) (sx sw sy : Rat) (hsy : 0 < sy)
    (zx zy qmin qmax : Int) (hq : qmin ≤ qmax)
    (x w : List Rat) (b : Rat) (qx qw : List Int) (qb : Int)
    (hx : List.Forall₂ (fun t q => |t - deq sx zx q| ≤ sx / 2) x qx)
    (hw : List.Forall₂ (fun t (q : Int) => |t - sw * (q : Rat)| ≤ sw / 2) w qw)
    (hb : |b - sx * sw * (qb : Rat)| ≤ sx * sw / 2)
    (hlo : deq sy zy qmin ≤ dot x w + b) (hhi : dot x w + b ≤ deq sy zy qmax) :
    |deq sy zy (fcRowQ r sx sw sy zx zy qmin qmax qx qw qb) - (dot x w + b)| ≤ fcBound sx sw sy x w := by
  have := fc_row_error_sat r hr sx sw sy hsy zx zy qmin qmax hq x w b qx qw qb hx hw hb
  rwa [clipR_id _ _ _ hlo hhi] at this

/-- the sum in `fcBound` is the one of the statement: `Σ (|x_i|·sw/2 + |w_i|·sx/2 + sx·sw/4)` -/
theorem fcBound_cons (sx sw sy t u : Rat) (ts us : List Rat) :
    fcBound sx sw sy (t :: ts) (u :: us)
      = (|t| * sw / 2 + |u| * sx / 2 + sx * sw / 4) + fcBound sx sw sy ts us := by
  unfold fcBound; simp only [pertSum]; ring

/-- arbitrary operand tolerances (e.g. half a step plus the float32 evaluation slack of C17.dq_q_rounded) -/
theorem fc_row_error_slack (r : Rat → Int) (hr : IsRounding r) (sx sw sy : Rat) (hsy : 0 < sy)
    (zx zy qmin qmax : Int) (hq : qmin ≤ qmax) (dx dw db : Rat)
    (x w : List Rat) (b : Rat) (qx qw : List Int) (qb : Int)
    (hx : List.Forall₂ (fun t q => |t - deq sx zx q| ≤ dx) x qx)
    (hw : List.Forall₂ (fun t (q : Int) => |t - sw * (q : Rat)| ≤ dw) w qw)
    (hb : |b - sx * sw * (qb : Rat)| ≤ db)
    (hlo : deq sy zy qmin ≤ dot x w + b) (hhi : dot x w + b ≤ deq sy zy qmax) :
    |deq sy zy (fcRowQ r sx sw sy zx zy qmin qmax qx qw qb) - (dot x w + b)|
      ≤ sy / 2 + (pertSum dx dw x w + db) := by
  have := fc_row_sat_gen r hr sx sw sy hsy zx zy qmin qmax hq dx dw db x w b qx qw qb hx hw hb
  rwa [clipR_id _ _ _ hlo hhi] at this

/-- saturation above: a float result beyond the range by more than the bound gives the largest code, so the
    dequantized output is the upper end of the representable range -/
theorem fc_row_saturates_hi (r : Rat → Int) (hr : IsRounding r) (sx sw sy : Rat) (hsy : 0 < sy)
    (zx zy qmin qmax : Int) (hq : qmin ≤ qmax)
    (x w : List Rat) (b : Rat) (qx qw : List Int) (qb : Int)
    (hx : List.Forall₂ (fun t q => |t - deq sx zx q| ≤ sx / 2) x qx)
    (hw : List.Forall₂ (fun t (q : Int) => |t - sw * (q : Rat)| ≤ sw / 2) w qw)
    (hb : |b - sx * sw * (qb : Rat)| ≤ sx * sw / 2)
    (hF : deq sy zy qmax + fcBound sx sw sy x w ≤ dot x w + b) :
    fcRowQ r sx sw sy zx zy qmin qmax qx qw qb = qmax := by
  rw [fcRowQ_eq]
  refine requant_saturates_hi r hr sy hsy zy qmin qmax hq _ _ _
    (deqDot_close sx sw zx _ _ _ b qb hb x qx hx w qw hw) ?_
  unfold fcBound at hF; linarith

theorem fc_row_saturates_lo (r : Rat → Int) (hr : IsRounding r) (sx sw sy : Rat) (hsy : 0 < sy)
    (zx zy qmin qmax : Int) (hq : qmin ≤ qmax)
    (x w : List Rat) (b : Rat) (qx qw : List Int) (qb : Int)
    (hx : List.Forall₂ (fun t q => |t - deq sx zx q| ≤ sx / 2) x qx)
    (hw : List.Forall₂ (fun t (q : Int) => |t - sw * (q : Rat)| ≤ sw / 2) w qw)
    (hb : |b - sx * sw * (qb : Rat)| ≤ sx * sw / 2)
    (hF : dot x w + b ≤ deq sy zy qmin - fcBound sx sw sy x w) :
    fcRowQ r sx sw sy zx zy qmin qmax qx qw qb = qmin := by
  rw [fcRowQ_eq]
  refine requant_saturates_lo r hr sy hsy zy qmin qmax hq _ _ _
    (deqDot_close sx sw zx _ _ _ b qb hb x qx hx w qw hw) ?_
  unfold fcBound at hF; linarith

/-- the output code is always in the output range: outputs are finite -/
theorem fc_row_in_range (r : Rat → Int) (sx sw sy : Rat) (zx zy qmin qmax : Int) (hq : qmin ≤ qmax)
    (qx qw : List Int) (qb : Int) :
    qmin ≤ fcRowQ r sx sw sy zx zy qmin qmax qx qw qb ∧ fcRowQ r sx sw sy zx zy qmin qmax qx qw qb ≤ qmax :=
  C17.clipI_range _ _ _ hq

/-- **the codes the library produces satisfy the hypotheses** (ideal arithmetic): activations quantized
    with `(sx, zx)` at `abits` bits, weights symmetric narrow-range at `wbits` bits, bias symmetric at 32 bits
    with scale `sx·sw`, all inside their representable ranges -/
theorem fc_row_error_quantized (r : Rat → Int) (hr : IsRounding r)
    (abits wbits : Nat) (ha2 : 2 ≤ abits) (ha : abits ≤ 32) (hw2 : 2 ≤ wbits) (hw32 : wbits ≤ 32)
    (anarrow : Bool) (za zw zb : Nat)
    (sx sw sy : Rat) (hsx : 0 < sx) (hsw : 0 < sw) (hsy : 0 < sy) (zx zy qlo qhi : Int) (hq : qlo ≤ qhi)
    (x w : List Rat) (b : Rat)
    (hx : ∀ t ∈ x, deq sx zx (Arith.qmin abits + (if anarrow then 1 else 0)) ≤ t ∧ t ≤ deq sx zx (Arith.qmax abits))
    (hw : ∀ t ∈ w, deq sw 0 (Arith.qmin wbits + 1) ≤ t ∧ t ≤ deq sw 0 (Arith.qmax wbits))
    (hb : deq (sx * sw) 0 (Arith.qmin 32 + 1) ≤ b ∧ b ≤ deq (sx * sw) 0 (Arith.qmax 32))
    (hlo : deq sy zy qlo ≤ dot x w + b) (hhi : dot x w + b ≤ deq sy zy qhi) :
    |deq sy zy (fcRowQ r sx sw sy zx zy qlo qhi
          (x.map (quantIdeal abits anarrow za sx zx)) (w.map (quantIdeal wbits true zw sw 0))
          (quantIdeal 32 true zb (sx * sw) 0 b)) - (dot x w + b)| ≤ fcBound sx sw sy x w := by
  refine fc_row_error r hr sx sw sy hsy zx zy qlo qhi hq x w b _ _ _
    (quantIdeal_list_close abits ha2 ha anarrow za sx hsx zx x hx) ?_ ?_ hlo hhi
  · have := quantIdeal_list_close wbits hw2 hw32 true zw sw hsw 0 w (by simpa using hw)
    simpa only [deq_zero] using this
  · have := quantIdeal_close 32 (by norm_num) (by norm_num) true zb (sx * sw) (mul_pos hsx hsw) 0 b
      (by simpa using hb.1) hb.2
    simpa only [deq_zero] using this

/-! ## the "fixed fraction of the activation magnitude", from the scale definitions -/

/-- scales `sx = Rx/Nx`, `sw = Wmax/Nw`, `|x_i| ≤ Rx`, `|w_i| ≤ Wmax`, `n` accumulated terms: the error is at most
    `sy/2 + (n·(2Nx + 2Nw + 1)/(4·Nx·Nw) + 1/(2·Nx·Nw))·Rx·Wmax` -/
theorem fc_row_error_scales (r : Rat → Int) (hr : IsRounding r) (Nx Nw Rx Wmax : Rat) (hNx : 0 < Nx)
    (hNw : 0 < Nw) (hRx : 0 ≤ Rx) (hWmax : 0 ≤ Wmax) (sy : Rat) (hsy : 0 < sy)
    (zx zy qmin qmax : Int) (hq : qmin ≤ qmax)
    (x w : List Rat) (b : Rat) (qx qw : List Int) (qb : Int)
    (hX : ∀ t ∈ x, |t| ≤ Rx) (hW : ∀ t ∈ w, |t| ≤ Wmax)
    (hx : List.Forall₂ (fun t q => |t - deq (Rx / Nx) zx q| ≤ Rx / Nx / 2) x qx)
    (hw : List.Forall₂ (fun t (q : Int) => |t - Wmax / Nw * (q : Rat)| ≤ Wmax / Nw / 2) w qw)
    (hb : |b - Rx / Nx * (Wmax / Nw) * (qb : Rat)| ≤ Rx / Nx * (Wmax / Nw) / 2)
    (hlo : deq sy zy qmin ≤ dot x w + b) (hhi : dot x w + b ≤ deq sy zy qmax) :
    |deq sy zy (fcRowQ r (Rx / Nx) (Wmax / Nw) sy zx zy qmin qmax qx qw qb) - (dot x w + b)|
      ≤ sy / 2 + ((x.length : Rat) * ((2 * Nx + 2 * Nw + 1) / (4 * Nx * Nw)) + 1 / (2 * Nx * Nw)) * (Rx * Wmax) := by
  have h := fc_row_error r hr (Rx / Nx) (Wmax / Nw) sy hsy zx zy qmin qmax hq x w b qx qw qb hx hw hb hlo hhi
  have hp := pertSum_le (Rx / Nx / 2) (Wmax / Nw / 2) Rx Wmax (by positivity) (by positivity) hRx hWmax x w hX hW
  unfold fcBound at h
  have e : (x.length : Rat) * (Rx * (Wmax / Nw / 2) + Wmax * (Rx / Nx / 2) + Rx / Nx / 2 * (Wmax / Nw / 2))
        + Rx / Nx * (Wmax / Nw) / 2
      = ((x.length : Rat) * ((2 * Nx + 2 * Nw + 1) / (4 * Nx * Nw)) + 1 / (2 * Nx * Nw)) * (Rx * Wmax) := by
    field_simp; ring
  linarith

/-- 8-bit asymmetric activations (`sx = Rx/255`), 8-bit symmetric weights (`sw = Wmax/127`): half an output step
    plus `3/508 ≈ 0.59 %` of `Rx·Wmax` per accumulated term (plus `Rx·Wmax/64770` for the bias) -/
theorem fc_row_error_a8w8 (r : Rat → Int) (hr : IsRounding r) (Rx Wmax : Rat)
    (hRx : 0 ≤ Rx) (hWmax : 0 ≤ Wmax) (sy : Rat) (hsy : 0 < sy)
    (zx zy qmin qmax : Int) (hq : qmin ≤ qmax)
    (x w : List Rat) (b : Rat) (qx qw : List Int) (qb : Int)
    (hX : ∀ t ∈ x, |t| ≤ Rx) (hW : ∀ t ∈ w, |t| ≤ Wmax)
    (hx : List.Forall₂ (fun t q => |t - deq (Rx / 255) zx q| ≤ Rx / 255 / 2) x qx)
    (hw : List.Forall₂ (fun t (q : Int) => |t - Wmax / 127 * (q : Rat)| ≤ Wmax / 127 / 2) w qw)
    (hb : |b - Rx / 255 * (Wmax / 127) * (qb : Rat)| ≤ Rx / 255 * (Wmax / 127) / 2)
    (hlo : deq sy zy qmin ≤ dot x w + b) (hhi : dot x w + b ≤ deq sy zy qmax) :
    |deq sy zy (fcRowQ r (Rx / 255) (Wmax / 127) sy zx zy qmin qmax qx qw qb) - (dot x w + b)|
      ≤ sy / 2 + ((x.length : Rat) * (3 / 508) + 1 / 64770) * (Rx * Wmax) := by
  have := fc_row_error_scales r hr 255 127 Rx Wmax (by norm_num) (by norm_num) hRx hWmax sy hsy zx zy qmin qmax hq
    x w b qx qw qb hX hW hx hw hb hlo hhi
  rwa [show (2 * 255 + 2 * 127 + 1 : Rat) / (4 * 255 * 127) = 3 / 508 by norm_num, show (1 : Rat) / (2 * 255 * 127) = 1 / 64770 by norm_num] at this

/-- 8-bit activations, 4-bit weights (`sw = Wmax/7`): `5/68 ≈ 7.4 %` of `Rx·Wmax` per term -/
theorem fc_row_error_a8w4 (r : Rat → Int) (hr : IsRounding r) (Rx Wmax : Rat)
    (hRx : 0 ≤ Rx) (hWmax : 0 ≤ Wmax) (sy : Rat) (hsy : 0 < sy)
    (zx zy qmin qmax : Int) (hq : qmin ≤ qmax)
    (x w : List Rat) (b : Rat) (qx qw : List Int) (qb : Int)
    (hX : ∀ t ∈ x, |t| ≤ Rx) (hW : ∀ t ∈ w, |t| ≤ Wmax)
    (hx : List.Forall₂ (fun t q => |t - deq (Rx / 255) zx q| ≤ Rx / 255 / 2) x qx)
    (hw : List.Forall₂ (fun t (q : Int) => |t - Wmax / 7 * (q : Rat)| ≤ Wmax / 7 / 2) w qw)
    (hb : |b - Rx / 255 * (Wmax / 7) * (qb : Rat)| ≤ Rx / 255 * (Wmax / 7) / 2)
    (hlo : deq sy zy qmin ≤ dot x w + b) (hhi : dot x w + b ≤ deq sy zy qmax) :
    |deq sy zy (fcRowQ r (Rx / 255) (Wmax / 7) sy zx zy qmin qmax qx qw qb) - (dot x w + b)|
      ≤ sy / 2 + ((x.length : Rat) * (5 / 68) + 1 / 3570) * (Rx * Wmax) := by
  have := fc_row_error_scales r hr 255 7 Rx Wmax (by norm_num) (by norm_num) hRx hWmax sy hsy zx zy qmin qmax hq
    x w b qx qw qb hX hW hx hw hb hlo hhi
  rwa [show (2 * 255 + 2 * 7 + 1 : Rat) / (4 * 255 * 7) = 5 / 68 by norm_num, show (1 : Rat) / (2 * 255 * 7) = 1 / 3570 by norm_num] at this

/-- 16-bit symmetric activations (`sx = Xmax/32767`), 8-bit weights: `65789/16645636 ≈ 0.395 %` per term -/
theorem fc_row_error_a16w8 (r : Rat → Int) (hr : IsRounding r) (Xmax Wmax : Rat)
    (hXmax : 0 ≤ Xmax) (hWmax : 0 ≤ Wmax) (sy : Rat) (hsy : 0 < sy)
    (zx zy qmin qmax : Int) (hq : qmin ≤ qmax)
    (x w : List Rat) (b : Rat) (qx qw : List Int) (qb : Int)
    (hX : ∀ t ∈ x, |t| ≤ Xmax) (hW : ∀ t ∈ w, |t| ≤ Wmax)
    (hx : List.Forall₂ (fun t q => |t - deq (Xmax / 32767) zx q| ≤ Xmax / 32767 / 2) x qx)
    (hw : List.Forall₂ (fun t (q : Int) => |t - Wmax / 127 * (q : Rat)| ≤ Wmax / 127 / 2) w qw)
    (hb : |b - Xmax / 32767 * (Wmax / 127) * (qb : Rat)| ≤ Xmax / 32767 * (Wmax / 127) / 2)
    (hlo : deq sy zy qmin ≤ dot x w + b) (hhi : dot x w + b ≤ deq sy zy qmax) :
    |deq sy zy (fcRowQ r (Xmax / 32767) (Wmax / 127) sy zx zy qmin qmax qx qw qb) - (dot x w + b)|
      ≤ sy / 2 + ((x.length : Rat) * (65789 / 16645636) + 1 / 8322818) * (Xmax * Wmax) := by
  have := fc_row_error_scales r hr 32767 127 Xmax Wmax (by norm_num) (by norm_num) hXmax hWmax sy hsy zx zy qmin
    qmax hq x w b qx qw qb hX hW hx hw hb hlo hhi
  rwa [show (2 * 32767 + 2 * 127 + 1 : Rat) / (4 * 32767 * 127) = 65789 / 16645636 by norm_num, show (1 : Rat) / (2 * 32767 * 127) = 1 / 8322818 by norm_num] at this

/-- 16-bit activations, 4-bit weights: `65549/917476 ≈ 7.1 %` per term -/
theorem fc_row_error_a16w4 (r : Rat → Int) (hr : IsRounding r) (Xmax Wmax : Rat)
    (hXmax : 0 ≤ Xmax) (hWmax : 0 ≤ Wmax) (sy : Rat) (hsy : 0 < sy)
    (zx zy qmin qmax : Int) (hq : qmin ≤ qmax)
    (x w : List Rat) (b : Rat) (qx qw : List Int) (qb : Int)
    (hX : ∀ t ∈ x, |t| ≤ Xmax) (hW : ∀ t ∈ w, |t| ≤ Wmax)
    (hx : List.Forall₂ (fun t q => |t - deq (Xmax / 32767) zx q| ≤ Xmax / 32767 / 2) x qx)
    (hw : List.Forall₂ (fun t (q : Int) => |t - Wmax / 7 * (q : Rat)| ≤ Wmax / 7 / 2) w qw)
    (hb : |b - Xmax / 32767 * (Wmax / 7) * (qb : Rat)| ≤ Xmax / 32767 * (Wmax / 7) / 2)
    (hlo : deq sy zy qmin ≤ dot x w + b) (hhi : dot x w + b ≤ deq sy zy qmax) :
    |deq sy zy (fcRowQ r (Xmax / 32767) (Wmax / 7) sy zx zy qmin qmax qx qw qb) - (dot x w + b)|
      ≤ sy / 2 + ((x.length : Rat) * (65549 / 917476) + 1 / 458738) * (Xmax * Wmax) := by
  have := fc_row_error_scales r hr 32767 7 Xmax Wmax (by norm_num) (by norm_num) hXmax hWmax sy hsy zx zy qmin
    qmax hq x w b qx qw qb hX hW hx hw hb hlo hhi
  rwa [show (2 * 32767 + 2 * 7 + 1 : Rat) / (4 * 32767 * 7) = 65549 / 917476 by norm_num, show (1 : Rat) / (2 * 32767 * 7) = 1 / 458738 by norm_num] at this

/-! ## "in particular": not constant, not saturated -/

/-- **not constant**: two activation vectors (same weights, bias and parameters) whose float outputs differ by
    more than the sum of their error bounds get different output codes -/
theorem not_constant (r : Rat → Int) (hr : IsRounding r) (sx sw sy : Rat) (hsy : 0 < sy)
    (zx zy qmin qmax : Int) (hq : qmin ≤ qmax)
    (x x' w : List Rat) (b : Rat) (qx qx' qw : List Int) (qb : Int)
    (hx : List.Forall₂ (fun t q => |t - deq sx zx q| ≤ sx / 2) x qx)
    (hx' : List.Forall₂ (fun t q => |t - deq sx zx q| ≤ sx / 2) x' qx')
    (hw : List.Forall₂ (fun t (q : Int) => |t - sw * (q : Rat)| ≤ sw / 2) w qw)
    (hb : |b - sx * sw * (qb : Rat)| ≤ sx * sw / 2)
    (hlo : deq sy zy qmin ≤ dot x w + b) (hhi : dot x w + b ≤ deq sy zy qmax)
    (hlo' : deq sy zy qmin ≤ dot x' w + b) (hhi' : dot x' w + b ≤ deq sy zy qmax)
    (hvary : fcBound sx sw sy x w + fcBound sx sw sy x' w < |(dot x w + b) - (dot x' w + b)|) :
    fcRowQ r sx sw sy zx zy qmin qmax qx qw qb ≠ fcRowQ r sx sw sy zx zy qmin qmax qx' qw qb :=
  ne_of_far sy zy _ _ _ _ _ _
    (fc_row_error r hr sx sw sy hsy zx zy qmin qmax hq x w b qx qw qb hx hw hb hlo hhi)
    (fc_row_error r hr sx sw sy hsy zx zy qmin qmax hq x' w b qx' qw qb hx' hw hb hlo' hhi')
    hvary

/-- **not saturated**: a float result further than the bound from both ends of the representable range gives a
    code strictly inside `(qmin, qmax)` -/
theorem fc_row_not_saturated (r : Rat → Int) (hr : IsRounding r) (sx sw sy : Rat) (hsy : 0 < sy)
    (zx zy qmin qmax : Int) (hq : qmin ≤ qmax)
    (x w : List Rat) (b : Rat) (qx qw : List Int) (qb : Int)
    (hx : List.Forall₂ (fun t q => |t - deq sx zx q| ≤ sx / 2) x qx)
    (hw : List.Forall₂ (fun t (q : Int) => |t - sw * (q : Rat)| ≤ sw / 2) w qw)
    (hb : |b - sx * sw * (qb : Rat)| ≤ sx * sw / 2)
    (hlo : deq sy zy qmin + fcBound sx sw sy x w < dot x w + b)
    (hhi : dot x w + b < deq sy zy qmax - fcBound sx sw sy x w) :
    fcRowQ r sx sw sy zx zy qmin qmax qx qw qb ≠ qmin ∧ fcRowQ r sx sw sy zx zy qmin qmax qx qw qb ≠ qmax := by
  have hB : 0 ≤ fcBound sx sw sy x w :=
    le_trans (abs_nonneg _) (fc_row_error_sat r hr sx sw sy hsy zx zy qmin qmax hq x w b qx qw qb hx hw hb)
  exact not_saturated sy zy _ qmin qmax _ _
    (fc_row_error r hr sx sw sy hsy zx zy qmin qmax hq x w b qx qw qb hx hw hb (by linarith) (by linarith))
    hlo hhi

theorem add_error_sat (r : Rat → Int) (hr : IsRounding r) (s1 s2 sy : Rat) (hsy : 0 < sy)
    (z1 z2 zy qmin qmax : Int) (hq : qmin ≤ qmax) (a b : Rat) (q1 q2 : Int)
    (h1 : |a - deq s1 z1 q1| ≤ s1 / 2) (h2 : |b - deq s2 z2 q2| ≤ s2 / 2) :
    |deq sy zy (addQ r s1 s2 sy z1 z2 zy qmin qmax q1 q2) - clipR (a + b) (deq sy zy qmin) (deq sy zy qmax)|
      ≤ sy / 2 + s1 / 2 + s2 / 2 := by
  have := requant_error_sat r hr sy hsy zy qmin qmax hq _ _ _ (add_close a b _ _ _ _ h1 h2)
  unfold addQ; linarith

/-- **integer ADD**: within `sy/2 + s1/2 + s2/2` of the float sum, inside the representable output range -/
theorem add_error (r : Rat → Int) (hr : IsRounding r) (s1 s2 sy : Rat) (hsy : 0 < sy)
    (z1 z2 zy qmin qmax : Int) (hq : qmin ≤ qmax) (a b : Rat) (q1 q2 : Int)
    (h1 : |a - deq s1 z1 q1| ≤ s1 / 2) (h2 : |b - deq s2 z2 q2| ≤ s2 / 2)
    (hlo : deq sy zy qmin ≤ a + b) (hhi : a + b ≤ deq sy zy qmax) :
    |deq sy zy (addQ r s1 s2 sy z1 z2 zy qmin qmax q1 q2) - (a + b)| ≤ sy / 2 + s1 / 2 + s2 / 2 := by
  have := add_error_sat r hr s1 s2 sy hsy z1 z2 zy qmin qmax hq a b q1 q2 h1 h2
  rwa [clipR_id _ _ _ hlo hhi] at this

/-! ## non-vacuity: closed instances satisfying every hypothesis

One FC row with `(sx, zx) = (1/2, -3)`, `sw = 1/4`, `(sy, zy) = (1/8, 1)`, int8 output; activations
`[0.6, -1.2]`, weights `[0.3, 0.55]`, bias `0.2`; the library's codes are `[-2, -5]`, `[1, 2]`, `2`. -/

namespace Ex

def x : List Rat := [3/5, -6/5]
def x' : List Rat := [5, 5]
def w : List Rat := [3/10, 11/20]

/-- the codes are the library's (`uniform_quantize`, ideal arithmetic) -/
example : x.map (quantIdeal 8 false 8 (1/2) (-3)) = [-2, -5] ∧ x'.map (quantIdeal 8 false 8 (1/2) (-3)) = [7, 7] ∧
    w.map (quantIdeal 8 true 8 (1/4) 0) = [1, 2] ∧ quantIdeal 32 true 32 (1/2 * (1/4)) 0 (1/5) = 2 := by
  decide +kernel

theorem hx : List.Forall₂ (fun t q => |t - deq (1/2) (-3) q| ≤ 1/2 / 2) x [-2, -5] :=
  .cons (by decide +kernel) (.cons (by decide +kernel) .nil)
theorem hx' : List.Forall₂ (fun t q => |t - deq (1/2) (-3) q| ≤ 1/2 / 2) x' [7, 7] :=
  .cons (by decide +kernel) (.cons (by decide +kernel) .nil)
theorem hw : List.Forall₂ (fun t (q : Int) => |t - 1/4 * (q : Rat)| ≤ 1/4 / 2) w [1, 2] :=
  .cons (by decide +kernel) (.cons (by decide +kernel) .nil)

/-- `fc_row_error`: output code `0`, dequantized `-1/8`, float result `-7/25`, bound `5/8` -/
example : |deq (1/8) 1 (fcRowQ rhe (1/2) (1/4) (1/8) (-3) 1 (-128) 127 [-2, -5] [1, 2] 2) - (dot x w + 1/5)|
    ≤ fcBound (1/2) (1/4) (1/8) x w :=
  fc_row_error rhe rhe_isRounding (1/2) (1/4) (1/8) (by norm_num) (-3) 1 (-128) 127 (by decide) x w (1/5)
    [-2, -5] [1, 2] 2 hx hw (by decide +kernel) (by decide +kernel) (by decide +kernel)

example : fcRowQ rhe (1/2) (1/4) (1/8) (-3) 1 (-128) 127 [-2, -5] [1, 2] 2 = 0 ∧
    deq (1/8) 1 0 = -1/8 ∧ dot x w + 1/5 = -7/25 ∧ fcBound (1/2) (1/4) (1/8) x w = 5/8 := by decide +kernel

/-- `fc_row_error_quantized` on the same row: the hypotheses are range conditions only -/
example : |deq (1/8) 1 (fcRowQ rha (1/2) (1/4) (1/8) (-3) 1 (-128) 127
      (x.map (quantIdeal 8 false 8 (1/2) (-3))) (w.map (quantIdeal 8 true 8 (1/4) 0))
      (quantIdeal 32 true 32 (1/2 * (1/4)) 0 (1/5))) - (dot x w + 1/5)| ≤ fcBound (1/2) (1/4) (1/8) x w :=
  fc_row_error_quantized rha rha_isRounding 8 8 (by decide) (by decide) (by decide) (by decide) false 8 8 32
    (1/2) (1/4) (1/8) (by norm_num) (by norm_num) (by norm_num) (-3) 1 (-128) 127 (by decide) x w (1/5)
    (by decide +kernel) (by decide +kernel) (by decide +kernel) (by decide +kernel) (by decide +kernel)

/-- `fc_row_error_a8w8`: `Rx = 255/2`, `Wmax = 127/4` give the same scales `1/2`, `1/4` -/
example : |deq (1/8) 1 (fcRowQ rhe (255/2 / 255) (127/4 / 127) (1/8) (-3) 1 (-128) 127 [-2, -5] [1, 2] 2)
      - (dot x w + 1/5)|
    ≤ 1/8 / 2 + ((x.length : Rat) * (3 / 508) + 1 / 64770) * (255/2 * (127/4)) :=
  fc_row_error_a8w8 rhe rhe_isRounding (255/2) (127/4) (by norm_num) (by norm_num) (1/8) (by norm_num) (-3) 1
    (-128) 127 (by decide) x w (1/5) [-2, -5] [1, 2] 2 (by decide +kernel) (by decide +kernel)
    (.cons (by decide +kernel) (.cons (by decide +kernel) .nil))
    (.cons (by decide +kernel) (.cons (by decide +kernel) .nil))
    (by decide +kernel) (by decide +kernel) (by decide +kernel)

/-- `fc_row_saturates_hi`: bias `20` (code `160`) pushes the float result `19.52` beyond the largest
    representable output `15.75` by more than the bound: the code is `127` -/
example : fcRowQ rhe (1/2) (1/4) (1/8) (-3) 1 (-128) 127 [-2, -5] [1, 2] 160 = 127 :=
  fc_row_saturates_hi rhe rhe_isRounding (1/2) (1/4) (1/8) (by norm_num) (-3) 1 (-128) 127 (by decide) x w 20
    [-2, -5] [1, 2] 160 hx hw (by decide +kernel) (by decide +kernel)

/-- `not_constant`: activations `[0.6, -1.2]` and `[5, 5]`: float results `-0.28` and `4.45` differ by `4.73`, the
    bounds add up to `2.275`: the output codes differ (they are `0` and `33`) -/
example : fcRowQ rhe (1/2) (1/4) (1/8) (-3) 1 (-128) 127 [-2, -5] [1, 2] 2
    ≠ fcRowQ rhe (1/2) (1/4) (1/8) (-3) 1 (-128) 127 [7, 7] [1, 2] 2 :=
  not_constant rhe rhe_isRounding (1/2) (1/4) (1/8) (by norm_num) (-3) 1 (-128) 127 (by decide) x x' w (1/5)
    [-2, -5] [7, 7] [1, 2] 2 hx hx' hw (by decide +kernel) (by decide +kernel) (by decide +kernel)
    (by decide +kernel) (by decide +kernel) (by decide +kernel)

example : fcRowQ rhe (1/2) (1/4) (1/8) (-3) 1 (-128) 127 [7, 7] [1, 2] 2 = 33 ∧
    fcBound (1/2) (1/4) (1/8) x w + fcBound (1/2) (1/4) (1/8) x' w = 91/40 ∧
    |(dot x w + 1/5) - (dot x' w + 1/5)| = 473/100 := by decide +kernel

/-- `fc_row_not_saturated` on the first row -/
example : fcRowQ rhe (1/2) (1/4) (1/8) (-3) 1 (-128) 127 [-2, -5] [1, 2] 2 ≠ -128 ∧
    fcRowQ rhe (1/2) (1/4) (1/8) (-3) 1 (-128) 127 [-2, -5] [1, 2] 2 ≠ 127 :=
  fc_row_not_saturated rhe rhe_isRounding (1/2) (1/4) (1/8) (by norm_num) (-3) 1 (-128) 127 (by decide) x w (1/5)
    [-2, -5] [1, 2] 2 hx hw (by decide +kernel) (by decide +kernel) (by decide +kernel)

/-- `add_error`: `0.6 + 0.55` with `(s1, z1) = (1/2, -3)`, `(s2, z2) = (1/4, 0)`, output `(1, 0)`: code `1`,
    error `0.15 ≤ 0.875` -/
example : |deq 1 0 (addQ rhe (1/2) (1/4) 1 (-3) 0 0 (-128) 127 (-2) 2) - (3/5 + 11/20)| ≤ 1 / 2 + 1/2 / 2 + 1/4 / 2 :=
  add_error rhe rhe_isRounding (1/2) (1/4) 1 (by norm_num) (-3) 0 0 (-128) 127 (by decide) (3/5) (11/20) (-2) 2
    (by decide +kernel) (by decide +kernel) (by decide +kernel) (by decide +kernel)

example : addQ rhe (1/2) (1/4) 1 (-3) 0 0 (-128) 127 (-2) 2 = 1 := by decide +kernel

/-- the half-step term of the bound is needed, whatever the operand errors: exact operands (`a = deq q1`,
    `b = deq q2`), sum `1/2` at output scale `1`: every rounding rule is off by exactly `sy/2` -/
example (r : Rat → Int) (hr : IsRounding r) :
    |deq 1 0 (addQ r (1/2) (1/4) 1 0 0 0 (-128) 127 1 0) - (1/2 + 0)| = 1 / 2 := by
  have e : addQ r (1/2) (1/4) 1 0 0 0 (-128) 127 1 0 = clipI (r (1/2) + 0) (-128) 127 := by
    unfold addQ requant; congr 3; norm_num [deq]
  rw [e]
  rcases round_half r hr with h | h <;> rw [h] <;> decide +kernel

end Ex

end C07
