import QProps.C12
import QProps.C13
import QProofs.MatKind
/-!
# C08 — shipped default recipes never reject a supported-op graph (table part)
-/
open Recipe

namespace C08

/-- the function names the model's materialisation dispatch understands -/
def knownFn (alg fn : String) : Bool :=
  if alg == Tables.algFloatCasting then
    ["materialize_fc_conv", "materialize_embedding_lookup", "materialize_conv2d_transpose"].contains fn
  else if alg == Tables.algMinMax then
    ["materialize_input", "materialize_output", "materialize_add", "materialize_sub", "materialize_mul",
     "materialize_batch_matmul", "materialize_gelu", "materialize_rsqrt", "materialize_embedding_lookup",
     "materialize_mean", "materialize_reshape", "materialize_transpose", "materialize_average_pool_2d",
     "materialize_strided_slice", "materialize_split", "materialize_concatenation", "materialize_fc_conv",
     "materialize_conv2d_transpose", "materialize_softmax_and_logistic", "materialize_tanh"].contains fn
  else false

def noSkipB (st : Recipe.State) : Bool := st.all fun e => e.2.all fun r => !r.cfg.skipChecks

/-- the registry and the shipped recipes, evaluated with each recipe loaded once: the three facts below, and
    `knownFn_iff_kind`, `shipped_resolution`, `shipped_coverage` of `C08c` -/
theorem default_facts :
    (Tables.registry.all (fun e => e.2.all (fun p => knownFn e.1 p.2)) = true) ∧
    ((Tables.shippedRecipes.filter (fun e => e.1 != "file:sample_advanced_usage_recipe.json")).all (fun e =>
      match e.2 with
      | .arr l => (match (load false l).1 with
                   | .ok st => st.length == 1 && st.all (fun sc => sc.1 == ".*" && sc.2.length == 1 &&
                                  sc.2.all (fun r => r.operation == Tables.allOpsKey && r.alg == Tables.algMinMax))
                   | .error _ => false)
      | _ => false) = true) ∧
    ((Tables.shippedRecipes.filter (fun e => e.1 != "file:sample_advanced_usage_recipe.json")).all (fun e =>
      match e.2 with
      | .arr l => (match (load false l).1 with
                   | .ok st => st.all (fun sc => sc.2.all (fun r =>
                       Tables.opNames.any (fun op => Policy.accepts r.alg op r.cfg)))
                   | .error _ => false)
      | _ => false) = true) ∧
    (Tables.registry.all (fun e => e.2.all (fun p => knownFn e.1 p.2 == !(MatTotal.kindOf e.1 p.2).isUnknown)) = true) ∧
    (Tables.shippedRecipes.all (fun e =>
      match e.2 with
      | .arr l =>
        (match (load false l).1 with
         | .ok st => noSkipB st && Tables.opNames.all (fun k =>
             let r := Recipe.resolve (fun _ _ => true) st k ""
             r.1 == Tables.algNoQuantize ||
               (match (Py.dictGet? Tables.registry r.1).bind (fun ops => Py.dictGet? ops k) with
                | some fn => !(MatTotal.kindOf r.1 fn).isUnknown && r.1 == Tables.algMinMax && C13.modeOK k r.2
                | none => false))
         | .error _ => false)
      | _ => false) = true) ∧
    Tables.shippedRecipes.map (fun e =>
      (e.1, match e.2 with
        | .arr l => (match (load false l).1 with
          | .ok st => Tables.opNames.filter (fun k => (Recipe.resolve (fun _ _ => true) st k "").1 != Tables.algNoQuantize)
          | .error _ => [])
        | _ => [])) =
    [("file:default_a16w8_recipe.json",
        ["INPUT", "OUTPUT", "FULLY_CONNECTED", "BATCH_MATMUL", "DEPTHWISE_CONV_2D", "CONV_2D", "CONV_2D_TRANSPOSE",
         "AVERAGE_POOL_2D", "RESHAPE", "SOFTMAX", "TANH", "TRANSPOSE", "GELU", "ADD", "SUB", "MUL", "MEAN", "RSQRT",
         "CONCATENATION", "STRIDED_SLICE", "SPLIT", "LOGISTIC"]),
     ("file:default_a8w8_recipe.json",
        ["INPUT", "OUTPUT", "FULLY_CONNECTED", "BATCH_MATMUL", "DEPTHWISE_CONV_2D", "CONV_2D", "CONV_2D_TRANSPOSE",
         "AVERAGE_POOL_2D", "RESHAPE", "SOFTMAX", "TANH", "TRANSPOSE", "GELU", "ADD", "SUB", "MUL", "MEAN", "RSQRT",
         "CONCATENATION", "STRIDED_SLICE", "SPLIT", "LOGISTIC"]),
     ("file:default_af32w4float_recipe.json", ["FULLY_CONNECTED", "BATCH_MATMUL", "EMBEDDING_LOOKUP"]),
     ("file:default_af32w8float_recipe.json",
        ["FULLY_CONNECTED", "BATCH_MATMUL", "DEPTHWISE_CONV_2D", "CONV_2D", "CONV_2D_TRANSPOSE", "EMBEDDING_LOOKUP"]),
     ("file:dynamic_wi8_afp32_recipe.json",
        ["FULLY_CONNECTED", "BATCH_MATMUL", "DEPTHWISE_CONV_2D", "CONV_2D", "CONV_2D_TRANSPOSE", "EMBEDDING_LOOKUP"]),
     ("file:sample_advanced_usage_recipe.json",
        ["INPUT", "OUTPUT", "FULLY_CONNECTED", "BATCH_MATMUL", "DEPTHWISE_CONV_2D", "CONV_2D_TRANSPOSE", "AVERAGE_POOL_2D",
         "RESHAPE", "SOFTMAX", "TANH", "TRANSPOSE", "GELU", "ADD", "SUB", "MUL", "MEAN", "RSQRT", "CONCATENATION",
         "STRIDED_SLICE", "SPLIT", "LOGISTIC"]),
     ("func:dynamic_wi8_afp32",
        ["FULLY_CONNECTED", "BATCH_MATMUL", "DEPTHWISE_CONV_2D", "CONV_2D", "CONV_2D_TRANSPOSE", "EMBEDDING_LOOKUP"])] := by
  decide +kernel

/-- every (algorithm, operator, materialize function) of the live registry is modelled: the
    dispatch of `Mat.materializeOp` never ends in its `unsupported` fall-through for a registered op -/
theorem dispatch_total :
    Tables.registry.all (fun e => e.2.all (fun p => knownFn e.1 p.2)) = true :=
  default_facts.1

theorem shipped_load_ok :
    Tables.shippedRecipes.all (fun e =>
      match e.2 with
      | .arr l => (match (load false l).1 with | .ok _ => true | .error _ => false)
      | _ => false) = true := C12.shipped_load

/-- the default recipes (everything shipped but the advanced-usage sample) consist of a single
    `'.*'` / `'*'` rule -/
theorem shipped_star_only :
    (Tables.shippedRecipes.filter (fun e => e.1 != "file:sample_advanced_usage_recipe.json")).all (fun e =>
      match e.2 with
      | .arr l => (match (load false l).1 with
                   | .ok st => st.length == 1 && st.all (fun sc => sc.1 == ".*" && sc.2.length == 1 &&
                                  sc.2.all (fun r => r.operation == Tables.allOpsKey && r.alg == Tables.algMinMax))
                   | .error _ => false)
      | _ => false) = true :=
  default_facts.2.1

/-- each default recipe's config is accepted by the policy for at least one operator (it is not a
    recipe that silently quantizes nothing) -/
theorem shipped_configs_accepted_somewhere :
    (Tables.shippedRecipes.filter (fun e => e.1 != "file:sample_advanced_usage_recipe.json")).all (fun e =>
      match e.2 with
      | .arr l => (match (load false l).1 with
                   | .ok st => st.all (fun sc => sc.2.all (fun r =>
                       Tables.opNames.any (fun op => Policy.accepts r.alg op r.cfg)))
                   | .error _ => false)
      | _ => false) = true :=
  default_facts.2.2.1

end C08
