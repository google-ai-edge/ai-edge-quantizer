import QProofs.RecipeHistory
/-!
# C12 — a saved recipe reloads to the same rules
-/
open Cfg Recipe

namespace C12

theorem gran_roundtrip (g : Gran) : Gran.ofStr? g.toStr = some g := Gran.ofStr?_toStr g
theorem dt_roundtrip (d : DT) : DT.ofStr? d.toStr = some d := DT.ofStr?_toStr d
theorem cp_roundtrip (c : CP) : CP.ofStr? c.toStr = some c := CP.ofStr?_toStr c

/-- tensor configs survive `to_dict` → `from_dict` -/
theorem tcfg_roundtrip (t : TCfg) : TCfg.fromDict t.toDict = .ok t := TCfg.fromDict_toDict t

/-- **op configs survive `to_dict` → (JSON) → `from_dict`**, for every
    config the constructor accepts: with or without activation / weight sections, any enum
    values, `skip_checks`, block sizes. -/
theorem cfg_roundtrip (c : OpCfg) (h : ctorOk c = true) : OpCfg.fromDict false c.toDict = .ok c :=
  OpCfg.fromDict_toDict c h

/-- defect D19: a `from_dict` that requires the weight section cannot reload
    the default config, which `update_quantization_recipe('.*', '*')` accepts -/
theorem d19_witness : OpCfg.fromDict true ({} : OpCfg).toDict = .error .keyError := by
  rfl

/-- every exported rule (any algorithm, `no_quantize` included) reloads as the very same `add` call -/
theorem rule_reload (r : Rule) (h : ctorOk r.cfg = true) (st : State) :
    loadFrom false st [ruleToJ r] =
      (match add st r.regex r.operation (some r.cfg) r.alg with
       | .ok st' => (.ok st', st')
       | .error e => (.error e, st)) := by
  rw [loadFrom_rule_cons r h]
  cases add st r.regex r.operation (some r.cfg) r.alg <;> rfl

/-- both facts about the shipped recipes, with each recipe loaded once -/
theorem shipped_tables :
    Tables.shippedRecipes.all (fun e =>
      match e.2 with
      | .arr l => (match (load false l).1 with | .ok _ => true | .error _ => false)
      | _ => false) = true ∧
    (Tables.shippedRecipes.filter (fun e => e.1 != "file:sample_advanced_usage_recipe.json")).all (fun e =>
      match e.2 with
      | .arr l => (match (load false l).1 with
                   | .ok st => J.arr (getRecipe st) == e.2
                   | .error _ => false)
      | _ => false) = true := by
  decide +kernel

/-- every shipped recipe (files under recipes/ and the helpers of recipe.py, as regenerated
    from the live tree) loads without error -/
theorem shipped_load :
    Tables.shippedRecipes.all (fun e =>
      match e.2 with
      | .arr l => (match (load false l).1 with | .ok _ => true | .error _ => false)
      | _ => false) = true :=
  shipped_tables.1

/-- the shipped default recipes re-export to themselves: `get (load r) = r` -/
theorem defaults_fixpoint :
    (Tables.shippedRecipes.filter (fun e => e.1 != "file:sample_advanced_usage_recipe.json")).all (fun e =>
      match e.2 with
      | .arr l => (match (load false l).1 with
                   | .ok st => J.arr (getRecipe st) == e.2
                   | .error _ => false)
      | _ => false) = true :=
  shipped_tables.2

end C12
