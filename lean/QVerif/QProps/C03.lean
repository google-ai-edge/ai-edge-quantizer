import QModel.Pipeline
import QProofs.PipeStdShape
/-!
# C03 — each op runs in exactly the mode its recipe rule selected

The operand dtypes of the output graph are the composition of three facts: which
transformation a mode requests for an operand (`xfs_*`, below), that non-float operands are
never handed to a quantizing transformation (`nonfloat_never_quantized`), and which tensor type
a transformation with given parameters produces (`dtype_of_bits`).  The wiring of the requests
into the graph is the subject of C01/C02 (QProofs/GraphStep, GraphInv).
-/
open Graph Mat Cfg

namespace C03

/-- static-range mode: activations get QUANTIZE in front, constants are quantized in place,
    results are produced quantized (DEQUANTIZE after, eliminated against a quantized consumer) -/
theorem xfs_srq (c : OpCfg) (h : isSRQ c = true) (inbound isConst : Bool) :
    tensorXfs c inbound isConst =
      .ok (if inbound then (if isConst then [Xf.quantTensor] else [Xf.addQuant]) else [Xf.addDequant]) := by
  unfold isSRQ at h
  simp only [Bool.and_eq_true, beq_iff_eq] at h
  unfold tensorXfs
  simp only [h.1, h.2, beq_self_eq_true, Bool.and_self, if_true]
  cases inbound <;> cases isConst <;> rfl

/-- dynamic-range mode: only constant operands are quantized (in place), everything else stays float -/
theorem xfs_drq (c : OpCfg) (hcp : c.cp = .integer) (hact : c.act = none) (inbound isConst : Bool) :
    tensorXfs c inbound isConst = .ok (if inbound && isConst then [Xf.quantTensor] else [Xf.noQuant]) := by
  unfold tensorXfs
  cases inbound <;> cases isConst <;> simp [hcp, hact]

/-- weight-only mode: constant operands get an explicit DEQUANTIZE, everything else stays float -/
theorem xfs_wo (c : OpCfg) (hcp : c.cp = .float) (hed : c.explicitDeq = true)
    (hblk : ∀ w, c.weight = some w → w.gran ≠ .blockwise) (inbound isConst : Bool) :
    tensorXfs c inbound isConst = .ok (if inbound && isConst then [Xf.addDequant] else [Xf.noQuant]) := by
  unfold tensorXfs
  cases hw : c.weight with
  | none => cases inbound <;> cases isConst <;> simp [hcp, hed]
  | some w =>
    have := hblk w hw
    cases inbound <;> cases isConst <;> simp [hcp, hed, this]

/-- operand slots whose tensor is not float32 (indices, shapes, axes) are always on the ignore
    list of `materialize_standard_op`, hence receive `NO_QUANTIZE` -/
theorem nonfloat_never_quantized (sg : Subgraph) (slots : List Int) (given ign : List Nat)
    (h : ignoredSlots sg slots given = .ok ign) (i : Nat) (t : Int) (tn : Tensor)
    (hi : slots[i]? = some t) (ht : tensorAt sg t = .ok tn) (hd : tn.dtype ≠ Tables.ttFloat32) :
    i ∈ ign :=
  List.contains_iff_mem.1 ((Pipe.ignoredSlots_spec sg slots given ign h i t tn hi ht).2 (.inl hd))

/-- the tensor type produced by an integer quantization of `bits` bits -/
theorem dtype_of_bits (bits : Nat) (hasData : Bool) (h : bits ≤ 64) :
    Perform.dtypeOf ⟨true, bits, hasData⟩ = .ok
      (if bits ≤ 4 then Tables.ttInt4 else if bits ≤ 8 then Tables.ttInt8 else if bits ≤ 16 then Tables.ttInt16
       else if bits ≤ 32 then Tables.ttInt32 else Tables.ttInt64) := by
  unfold Perform.dtypeOf
  simp only [if_true, if_pos h, apply_ite (Except.ok (ε := PyErr))]

end C03
