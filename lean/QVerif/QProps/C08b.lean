import QProofs.GraphTotal
/-!
# C08b — the graph stage cannot raise (totality)

`C01.performer_wf` / `C01.modify_wf` are PARTIAL correctness statements: *if* the graph stage returns,
the result is well-formed.  Here the dual: under the same hypotheses plus

* `ParamsKnown`  -- every quantizing instruction carries a parameter that the parameter table and the
                    type table know (excludes AttributeError on `None.quantized_data`, the model's
                    `unsupported` for an unknown parameter object, ValueError of
                    `quant_params_to_tflite_type`);
* `HasConsumers` -- an instruction that inserts an operator has at least one consumer (excludes
                    ValueError of `min([])` in `insert_quant` / `insert_dequant`);

the performer returns (`performer_total`), and under `ReqOK` plus the request-level `ReqParamsKnown`
and `NoMixed` (excludes ValueError of `_check_tensor_transformation_instructions_valid`) so does
instruction generation followed by the performer (`modify_total`; `HasConsumers` is *derived* there).

Every other raise site is excluded by the hypotheses C01 already had:
* `applySingle`: instruction index (loop range), `origMap` / `addedMap` / subgraph lookups
  (`Inv.nom`, `Inv.nam`, `Inv.nsg`), producer / consumer translation through the op-id map
  (`InstOK.prodRange`, `InstOK.consAfter`, `SgInv.len`), `noQuant → KeyError` (never dispatched:
  `isInsertion`), `emulated → unsupported` (`InstOK.notEmulated`, also for the check after the loop);
* `quantizeTensor`: tensor index (`InstOK.tvalid`, `SgInv.tlen`), buffer index (`WF.sgOK`: every
  tensor's buffer is in range; buffer 0 exists);
* `rewire`: consumer positions (`InpOK.consAfter` through the op-id map);
* `tensorInsts`: unknown tensor name (`ReqOK.known`).

The added hypotheses are necessary: `Counter` below gives, for each of them, an input that satisfies
all the other hypotheses and on which the stage evaluates to `.error _`.
-/
open Graph Perform InstGen

namespace C08

abbrev ParamsKnown := @GraphTotal.ParamsKnown
abbrev HasConsumers := @GraphTotal.HasConsumers
/-- request-level `ParamsKnown`: an operator entry asking for a quantizing transformation has a
    usable parameter -/
abbrev ReqParamsKnown := @GraphTotal.ReqParamsKnown
/-- a `NO_QUANTIZE` entry (producer or consumer) never meets a consumer entry `QUANTIZE_TENSOR` /
    `ADD_DEQUANTIZE` -/
abbrev NoMixed := @GraphTotal.NoMixed

/-- **the performer cannot raise** on consistent, chain-free instruction lists over a well-formed model -/
theorem performer_total (pt : PTable) (m : Model) (tis : List TInsts)
    (hwf : WF.modelOK m = true) (hok : ∀ ti ∈ tis, GraphInv.TInstsOK pt m ti)
    (hpar : ParamsKnown pt tis) (hcons : HasConsumers tis) :
    ∃ m', transformGraph pt m tis = .ok m' :=
  GraphTotal.transformGraph_total pt m tis hwf hok hpar hcons

/-- … and, with `C01.performer_wf`, the result is well-formed -/
theorem performer_total_wf (pt : PTable) (m : Model) (tis : List TInsts)
    (hwf : WF.modelOK m = true) (hok : ∀ ti ∈ tis, GraphInv.TInstsOK pt m ti)
    (hpar : ParamsKnown pt tis) (hcons : HasConsumers tis) :
    ∃ m', transformGraph pt m tis = .ok m' ∧ WF.modelOK m' = true := by
  obtain ⟨m', h⟩ := performer_total pt m tis hwf hok hpar hcons
  exact ⟨m', h, GraphInv.transformGraph_ok pt m m' tis hwf hok h⟩

/-- **instruction generation followed by the performer cannot raise** on requests of the closed shape -/
theorem modify_total (pt : PTable) (m : Model) (reqs : List TReq)
    (hwf : WF.modelOK m = true) (hnames : GenInstsOK.namesUnique m)
    (hreq : ∀ r ∈ reqs, GenInstsOK.ReqOK pt m r)
    (hpar : ∀ r ∈ reqs, ReqParamsKnown pt r) (hmix : ∀ r ∈ reqs, NoMixed r) :
    ∃ m', Perform.modify pt m reqs = .ok m' :=
  GraphTotal.modify_total pt m reqs hwf hnames hreq hpar hmix

theorem modify_total_wf (pt : PTable) (m : Model) (reqs : List TReq)
    (hwf : WF.modelOK m = true) (hnames : GenInstsOK.namesUnique m)
    (hreq : ∀ r ∈ reqs, GenInstsOK.ReqOK pt m r)
    (hpar : ∀ r ∈ reqs, ReqParamsKnown pt r) (hmix : ∀ r ∈ reqs, NoMixed r) :
    ∃ m', Perform.modify pt m reqs = .ok m' ∧ WF.modelOK m' = true := by
  obtain ⟨m', h⟩ := modify_total pt m reqs hwf hnames hreq hpar hmix
  exact ⟨m', h, GenInstsOK.modify_ok pt m m' reqs hwf hreq h⟩

/-- instruction generation alone: it returns, and what it returns satisfies ALL hypotheses of
    `performer_total` (`HasConsumers` is a consequence of the closed request shape) -/
theorem genInsts_total (pt : PTable) (m : Model) (reqs : List TReq)
    (hwf : WF.modelOK m = true)
    (hreq : ∀ r ∈ reqs, GenInstsOK.ReqOK pt m r)
    (hpar : ∀ r ∈ reqs, ReqParamsKnown pt r) (hmix : ∀ r ∈ reqs, NoMixed r) :
    ∃ tis, genInsts m reqs = .ok tis ∧ (∀ ti ∈ tis, GraphInv.TInstsOK pt m ti) ∧
      ParamsKnown pt tis ∧ HasConsumers tis := by
  obtain ⟨tis, h, h1, h2⟩ := GraphTotal.genInsts_total pt m reqs hreq hpar hmix
  exact ⟨tis, h, GenInstsOK.genInsts_ok pt m reqs tis hwf hreq h, h1, h2⟩

namespace Witness

def t (n : String) (b : Nat) : Tensor := { name := n, dtype := 0, shape := [2], buffer := b }

/-- `y := OP9(x, w)`, `x` graph input, `w` constant (buffer 1), `y` graph output -/
def sg : Subgraph :=
  { tensors := [t "x" 0, t "w" 1, t "y" 0],
    ops := [{ code := 0, inputs := [0, 1], outputs := [2], orig := some 0 }],
    inputs := [0], outputs := [2] }

def m : Model :=
  { subgraphs := [sg], buffers := [none, some (.inl 0)], opcodes := [9],
    sigs := [{ key := "a", sg := 0, inputs := [("x", 0)], outputs := [("y", 2)] }] }

/-- parameter 0: int8 activations; parameter 1: int8 weights with packed data;
    parameter 2: a 128-bit "uniform" parameter the type table rejects -/
def pt : PTable :=
  [(0, { uniform := true, bits := 8, hasData := false }), (1, { uniform := true, bits := 8, hasData := true }),
   (2, { uniform := true, bits := 128, hasData := false })]

/-- static-range style requests: `x` float at the graph input and quantized for operator 0
    (QUANTIZE inserted), `w` quantized in place, `y` produced quantized and dequantized for the graph
    output (DEQUANTIZE inserted) -/
def rx : TReq := ⟨"x", some ⟨-1, [.noQuant], none⟩, some [⟨0, [.addQuant], some 0⟩]⟩
def rw : TReq := ⟨"w", none, some [⟨0, [.quantTensor], some 1⟩]⟩
def ry : TReq := ⟨"y", some ⟨0, [.addDequant], some 0⟩, some [⟨-1, [.noQuant], none⟩]⟩
def reqs : List TReq := [rx, rw, ry]

/-- the generated instructions … -/
def tis : List TInsts :=
  [⟨"x", 0, [⟨.noQuant, 0, -1, [0], none⟩, ⟨.addQuant, 0, -1, [0], some 0⟩]⟩,
   ⟨"w", 0, [⟨.quantTensor, 1, -1, [0], some 1⟩]⟩,
   ⟨"y", 0, [⟨.addDequant, 2, 0, [-1], some 0⟩]⟩]

/-- … and the result: QUANTIZE before and DEQUANTIZE after the operator -/
def m' : Model :=
  { subgraphs :=
      [{ tensors := [t "x" 0, { name := "w", dtype := 9, shape := [2], buffer := 1, quant := some 1 },
                     { name := "y", dtype := 9, shape := [2], buffer := 0, quant := some 0 },
                     { name := "x_quantized", dtype := 9, shape := [2], buffer := 0, quant := some 0 },
                     t "y_dequant" 0],
         ops := [{ code := 1, inputs := [0], outputs := [3] },
                 { code := 0, inputs := [3, 1], outputs := [2], orig := some 0 },
                 { code := 2, inputs := [2], outputs := [4] }],
         inputs := [0], outputs := [4] }]
    buffers := [none, some (.inr 1)]
    opcodes := [9, 114, 6]
    sigs := [{ key := "a", sg := 0, inputs := [("x", 0)], outputs := [("y", 4)] }] }

theorem closed : WF.modelOK m = true ∧ reqs.all (GenInstsOK.reqOKB pt m) = true ∧
    genInsts m reqs = .ok tis ∧ Perform.modify pt m reqs = .ok m' := by
  decide +kernel

theorem wf : WF.modelOK m = true := closed.1
theorem names : GenInstsOK.namesUnique m := by unfold GenInstsOK.namesUnique; decide +kernel
theorem reqOK : ∀ r ∈ reqs, GenInstsOK.ReqOK pt m r := GenInstsOK.reqOK_of_b closed.2.1
theorem params : ∀ r ∈ reqs, ReqParamsKnown pt r := GraphTotal.reqParamsKnown_of pt reqs (by decide)
theorem noMixed : ∀ r ∈ reqs, NoMixed r := GraphTotal.noMixed_of reqs (by decide)
theorem gen_run : genInsts m reqs = .ok tis := closed.2.2.1
theorem run : Perform.modify pt m reqs = .ok m' := closed.2.2.2

end Witness

/-- NON-VACUITY of `modify_total`: all five hypotheses hold on `Witness` … -/
example : WF.modelOK Witness.m = true ∧ GenInstsOK.namesUnique Witness.m ∧
    (∀ r ∈ Witness.reqs, GenInstsOK.ReqOK Witness.pt Witness.m r) ∧
    (∀ r ∈ Witness.reqs, ReqParamsKnown Witness.pt r) ∧ (∀ r ∈ Witness.reqs, NoMixed r) :=
  ⟨Witness.wf, Witness.names, Witness.reqOK, Witness.params, Witness.noMixed⟩

/-- … so the theorem applies; the run inserts one QUANTIZE and one DEQUANTIZE and quantizes `w` in place -/
example : ∃ m', Perform.modify Witness.pt Witness.m Witness.reqs = .ok m' :=
  modify_total Witness.pt Witness.m Witness.reqs Witness.wf Witness.names Witness.reqOK Witness.params
    Witness.noMixed

example : Perform.modify Witness.pt Witness.m Witness.reqs = .ok Witness.m' := Witness.run

/-- NON-VACUITY of `performer_total`: besides `WF.modelOK Witness.m` (above), its three hypotheses hold on
    the generated instructions -/
example : (∀ ti ∈ Witness.tis, GraphInv.TInstsOK Witness.pt Witness.m ti) ∧
    ParamsKnown Witness.pt Witness.tis ∧ HasConsumers Witness.tis := by
  obtain ⟨tis, h, h1, h2, h3⟩ := genInsts_total Witness.pt Witness.m Witness.reqs Witness.wf
    Witness.reqOK Witness.params Witness.noMixed
  rw [Witness.gen_run] at h
  cases h
  exact ⟨h1, h2, h3⟩

namespace Counter
open Witness

def tiOf (xf : Xf) (cons : List Int) (param : Option PId) : TInsts := ⟨"x", 0, [⟨xf, 0, -1, cons, param⟩]⟩

/-- **`NoMixed` is necessary** (`_check_tensor_transformation_instructions_valid`): the graph input `x`
    stays float on the producer side while operator 0 asks for it to be quantized in place.  The request
    has the closed shape `ReqOK` and known parameters -- ValueError. -/
def rBad : TReq := ⟨"x", some ⟨-1, [.noQuant], none⟩, some [⟨0, [.quantTensor], some 0⟩]⟩

/-- request-level `ParamsKnown` is necessary as well: the consumer entry of `Witness.rw` without its
    parameter -- AttributeError in the performer -/
def rNoParam : TReq := ⟨"w", none, some [⟨0, [.quantTensor], none⟩]⟩

theorem raises :
    transformGraph pt m [tiOf .addQuant [] (some 0)] = .error .valueError ∧
    transformGraph pt m [tiOf .quantTensor [0] none] = .error .attributeError ∧
    transformGraph pt m [tiOf .quantTensor [0] (some 7)] = .error .unsupported ∧
    transformGraph pt m [tiOf .quantTensor [0] (some 2)] = .error .valueError ∧
    genInsts m [rBad] = .error .valueError ∧
    Perform.modify pt m [rBad] = .error .valueError ∧
    Perform.modify pt m [rNoParam] = .error .attributeError ∧
    [tiOf .addQuant [] (some 0)].all (GraphInv.tinstsOKB pt m) = true ∧
    [tiOf .quantTensor [0] (some 2)].all (GraphInv.tinstsOKB pt m) = true ∧
    [rBad].all (GenInstsOK.reqOKB pt m) = true ∧ [rNoParam].all (GenInstsOK.reqOKB pt m) = true := by
  decide +kernel

theorem noConsumers_raises : transformGraph pt m [tiOf .addQuant [] (some 0)] = .error .valueError := raises.1
theorem badBits_raises : transformGraph pt m [tiOf .quantTensor [0] (some 2)] = .error .valueError := raises.2.2.2.1
theorem rBad_raises : Perform.modify pt m [rBad] = .error .valueError := raises.2.2.2.2.2.1
theorem rNoParam_raises : Perform.modify pt m [rNoParam] = .error .attributeError := raises.2.2.2.2.2.2.1

/-- **`HasConsumers` is necessary** (`min([])`): a QUANTIZE insertion without consumers on the graph
    input.  Well-formed model, consistent chain-free instruction, known parameter -- ValueError. -/
example : transformGraph pt m [tiOf .addQuant [] (some 0)] = .error .valueError := noConsumers_raises

theorem hasConsumers_needed :
    ¬ ∀ (pt : PTable) (m : Model) (tis : List TInsts), WF.modelOK m = true →
        (∀ ti ∈ tis, GraphInv.TInstsOK pt m ti) → ParamsKnown pt tis →
        ∃ m', transformGraph pt m tis = .ok m' := by
  intro H
  obtain ⟨m', h⟩ := H pt m [tiOf .addQuant [] (some 0)] wf
    (GraphInv.tinstsOK_of_b raises.2.2.2.2.2.2.2.1) (GraphTotal.paramsKnown_of _ _ (by decide))
  rw [noConsumers_raises] at h
  cases h

/-- **`ParamsKnown` is necessary**, all three parts: no parameter (AttributeError), a parameter the
    table does not know (out of model: `unsupported`), a bit width the type table rejects (ValueError).
    Each instruction is consistent, chain-free and has a consumer. -/
example : transformGraph pt m [tiOf .quantTensor [0] none] = .error .attributeError := raises.2.1
example : transformGraph pt m [tiOf .quantTensor [0] (some 7)] = .error .unsupported := raises.2.2.1
example : transformGraph pt m [tiOf .quantTensor [0] (some 2)] = .error .valueError := badBits_raises

theorem paramsKnown_needed :
    ¬ ∀ (pt : PTable) (m : Model) (tis : List TInsts), WF.modelOK m = true →
        (∀ ti ∈ tis, GraphInv.TInstsOK pt m ti) → HasConsumers tis →
        ∃ m', transformGraph pt m tis = .ok m' := by
  intro H
  obtain ⟨m', h⟩ := H pt m [tiOf .quantTensor [0] (some 2)] wf
    (GraphInv.tinstsOK_of_b raises.2.2.2.2.2.2.2.2.1) (by unfold HasConsumers GraphTotal.HasConsumers; decide)
  rw [badBits_raises] at h
  cases h

example : genInsts m [rBad] = .error .valueError := raises.2.2.2.2.1
example : Perform.modify pt m [rBad] = .error .valueError := rBad_raises

theorem noMixed_needed :
    ¬ ∀ (pt : PTable) (m : Model) (reqs : List TReq), WF.modelOK m = true → GenInstsOK.namesUnique m →
        (∀ r ∈ reqs, GenInstsOK.ReqOK pt m r) → (∀ r ∈ reqs, ReqParamsKnown pt r) →
        ∃ m', Perform.modify pt m reqs = .ok m' := by
  intro H
  obtain ⟨m', h⟩ := H pt m [rBad] wf names
    (GenInstsOK.reqOK_of_b raises.2.2.2.2.2.2.2.2.2.1) (GraphTotal.reqParamsKnown_of pt _ (by decide))
  rw [rBad_raises] at h
  cases h

example : Perform.modify pt m [rNoParam] = .error .attributeError := rNoParam_raises

theorem reqParamsKnown_needed :
    ¬ ∀ (pt : PTable) (m : Model) (reqs : List TReq), WF.modelOK m = true → GenInstsOK.namesUnique m →
        (∀ r ∈ reqs, GenInstsOK.ReqOK pt m r) → (∀ r ∈ reqs, NoMixed r) →
        ∃ m', Perform.modify pt m reqs = .ok m' := by
  intro H
  obtain ⟨m', h⟩ := H pt m [rNoParam] wf names
    (GenInstsOK.reqOK_of_b raises.2.2.2.2.2.2.2.2.2.2) (GraphTotal.noMixed_of _ (by decide))
  rw [rNoParam_raises] at h
  cases h

end Counter

end C08
