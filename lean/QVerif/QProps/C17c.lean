import QProps.C17
/-!
# C17c — 64-bit codes (the bias of 16-bit-activation operators) stay inside the range: no wrap-around on saturation

`C17.q_in_range` covers widths up to 32 bits, where the clip bounds are exact floats.  For 64 bits the
exact bounds are not floats.  Clipping to `float(2**63 - 1) = 2**63` and casting to int64 wraps to
`-2**63`: a large POSITIVE bias becomes the most NEGATIVE code (defect D34: bias 3e12 at scale 3e-7 gives
−9223372036854775808).  The code saturates at the nearest floats inside the range (`2^63 − 1024`, and `−2^63 + 1024` when narrow), modelled by
`Arith.qHiI` / `Arith.qLoI`.
-/
open Num Arith ArithL

namespace C17

/-- **64-bit codes lie in the (narrow, when symmetric) range for every input value** -/
theorem q_in_range_64 (narrow : Bool) (v : Rat) :
    qmin 64 + (if narrow then 1 else 0) ≤ roundClip 64 narrow v ∧ roundClip 64 narrow v ≤ qmax 64 :=
  roundClip_range 64 (by norm_num) le_rfl narrow v

/-- saturation keeps the sign: a value at or above the upper bound gets the largest code, never a negative one -/
theorem saturates_high_64 (narrow : Bool) (v : Rat) (h : (2:Int)^63 - 1024 ≤ rhe v) :
    roundClip 64 narrow v = (2:Int)^63 - 1024 := by
  have hhi : qHiI 64 = (2:Int)^63 - 1024 := by unfold qHiI qmax; norm_num
  have hlh := (qLoHi 64 (by norm_num) narrow).2.1
  rw [roundClip_eq_clip 64 (by norm_num) le_rfl]
  rw [hhi] at hlh ⊢
  exact clipI_of_ge hlh h

/-- D34: clipping to `2^63` and casting wraps to the most negative code -/
theorem d34_pinned_wraps : wrapInt 64 (clipI ((2:Int)^64) (-(2:Int)^63) ((2:Int)^63)) = -(2:Int)^63 := by decide

/-- non-vacuity: a huge positive value saturates to a POSITIVE code -/
example : roundClip 64 true ((10:Rat)^19) = 9223372036854774784 := by
  rw [saturates_high_64 true _ (by rw [show ((10:Rat)^19) = ((10^19 : Int) : Rat) by norm_num, Rounding.rhe_int]; norm_num)]
  norm_num

end C17
