import QProofs.LocalityPipe
import QProofs.PipelineWFExamples
/-!
# C19 — each subgraph is transformed as if it stood alone: the stages in front of the performer, and end to end

If `quantize()` succeeds on a model, it succeeds on subgraph `j` taken as a stand-alone model
(`Locality.extractEnv`: same constant data, same statistics, same recipe) and returns subgraph `j` of the
big result, up to a renaming of the parameter ids (`C19.quantize_local_full`).  Stage by stage:
materialisation (`C19.generate_local_full`), instruction generation and `Perform.modify`
(`C19.genInsts_local`, `C19.modify_local`).  Weaker forms: `C19.generate_local_partial`,
`C19.generate_local_ok`, `C19.generate_local`, `C19.quantize_local`, `C19.quantize_local_noShare`.

The delicate step is the buffer-sharing check of the stand-alone run (`Locality.check_local_full`,
`own_local`; the argument is in the header of `QProofs/LocalityCompat.lean`): for ARBITRARY dictionaries
the check of the whole model can pass while the check of one subgraph fails (`C19.check_not_local`).

The converse is FALSE on a constant shared between subgraphs (`C19.shared_constant_rejected`): this is
the "constants shared between subgraphs obey C15" caveat of the property.
-/
open Graph Mat Perform GenInstsOK

namespace C19

/-- **C19 (instruction generation).**  The instructions generated for the tensors of subgraph `j` are the
    instructions generated, for the extracted single-subgraph model, from the requests that name a tensor
    of subgraph `j`.  Hypothesis: tensor names are unique model-wide (`GenInstsOK.namesUnique`, which
    `ParamsGenerator.__init__` enforces). -/
theorem genInsts_local (m : Model) (hnu : namesUnique m) (j : Nat) (sg : Subgraph)
    (hsg : m.subgraphs[j]? = some sg) (reqs : List TReq) (tis : List TInsts)
    (h : InstGen.genInsts m reqs = .ok tis) :
    InstGen.genInsts (Locality.extract m j sg) (Locality.restrictReqs reqs sg) = .ok (Locality.restrict tis j) :=
  Locality.genInsts_local m hnu j sg hsg reqs tis h

/-- **C19 (`ModelModifier.modify_model`, graph part).** -/
theorem modify_local (pt : PTable) (m m' : Model) (hnu : namesUnique m) (j : Nat) (sg : Subgraph)
    (hsg : m.subgraphs[j]? = some sg) (hcodes : ∀ o ∈ sg.ops, o.code < m.opcodes.length)
    (reqs : List TReq) (h : modify pt m reqs = .ok m') :
    ∃ m1', modify pt (Locality.extract m j sg) (Locality.restrictReqs reqs sg) = .ok m1' ∧
      Locality.view m' j = Locality.view m1' 0 ∧ Locality.sigsOf m' j = m1'.sigs := by
  unfold Perform.modify at h ⊢
  obtain ⟨tis, htis, h⟩ := PyM.bind_ok _ _ _ h
  obtain ⟨m1', h1, h2, h3⟩ := Locality.performer_local pt m m' tis j sg hsg hcodes h
  refine ⟨m1', ?_, h2, h3⟩
  rw [Locality.genInsts_local m hnu j sg hsg reqs tis htis]
  exact h1

def GenerateLocal : Prop :=
  ∀ (rx : String → String → Bool) (env : Env) (st : Recipe.State) (qsvs : Option Qsvs) (j : Nat) (sg : Subgraph)
    (reqs : List CReq), env.model.subgraphs[j]? = some sg → Mat.generate rx env st qsvs = .ok reqs →
    Mat.generate rx (Locality.extractEnv env j sg) st qsvs = .ok (Locality.restrictCReqs reqs sg)

/-- **C19 (materialisation), unconditional.**  If the materialisation of the whole model succeeds, the
    stand-alone materialisation of subgraph `j` succeeds and returns exactly the requests of the big run
    for the tensors of subgraph `j`, in the same order. -/
theorem generate_local_full : GenerateLocal :=
  fun rx env st qsvs j sg reqs hsg h => Locality.generate_local_full rx env st qsvs j sg hsg reqs h

/-- **C19 (materialisation), up to the buffer-sharing check of the stand-alone run.** -/
theorem generate_local_partial (rx : String → String → Bool) (env : Env) (st : Recipe.State) (qsvs : Option Qsvs)
    (j : Nat) (sg : Subgraph) (hsg : env.model.subgraphs[j]? = some sg) (reqs : List CReq)
    (h : Mat.generate rx env st qsvs = .ok reqs) :
    ∃ res1 : List (String × CReq), res1.map (·.2) = Locality.restrictCReqs reqs sg ∧
      Mat.generate rx (Locality.extractEnv env j sg) st qsvs =
        match checkBufferSharing (Locality.extract env.model j sg) res1 with
        | .error e => .error e
        | .ok _ => match checkUnreadOwn (Locality.extract env.model j sg) res1 with
          | .error e => .error e
          | .ok _ => .ok (Locality.restrictCReqs reqs sg) := by
  obtain ⟨res, -, -, -, h1, h2⟩ := Locality.generate_local_core rx env st qsvs j sg hsg reqs h
  exact ⟨_, h1, h2⟩

/-- **C19 (materialisation)**, when no constant buffer of subgraph `j` is shared with another subgraph. -/
theorem generate_local (rx : String → String → Bool) (env : Env) (st : Recipe.State) (qsvs : Option Qsvs)
    (j : Nat) (sg : Subgraph) (hsg : env.model.subgraphs[j]? = some sg)
    (hshare : Locality.NoCrossShare env.model j sg) (reqs : List CReq)
    (h : Mat.generate rx env st qsvs = .ok reqs) :
    Mat.generate rx (Locality.extractEnv env j sg) st qsvs = .ok (Locality.restrictCReqs reqs sg) :=
  Locality.generate_local_full rx env st qsvs j sg hsg reqs h

/-- when both runs succeed they agree -/
theorem generate_local_ok (rx : String → String → Bool) (env : Env) (st : Recipe.State) (qsvs : Option Qsvs)
    (j : Nat) (sg : Subgraph) (hsg : env.model.subgraphs[j]? = some sg) (reqs r1 : List CReq)
    (h : Mat.generate rx env st qsvs = .ok reqs)
    (h1 : Mat.generate rx (Locality.extractEnv env j sg) st qsvs = .ok r1) :
    r1 = Locality.restrictCReqs reqs sg :=
  (Except.ok.inj ((Locality.generate_local_full rx env st qsvs j sg hsg reqs h).symm.trans h1)).symm

/-- **C19, end to end.**  The two runs number their parameter objects independently (ids = order of first
    appearance), so the results are compared up to a renaming: if the big run succeeds and the
    materialisation stage of the stand-alone run of subgraph `j` succeeds (its buffer-sharing check
    passes), then the whole stand-alone run succeeds and there is an INJECTIVE map `ρ` from its parameter
    ids to those of the big run such that
    (i) the parameter object of id `i` (stand-alone) and that of id `ρ i` (big) are equal in the sense of
    the library's `__eq__` (`Param.eqv`), (ii) subgraph `j` of the big result, as seen by `Locality.view`,
    equals subgraph 0 of the stand-alone result with every id `i` replaced by `ρ i`, (iii) the signatures
    of subgraph `j` (re-indexed to 0) equal those of the stand-alone result.  Buffer CONTENTS are not
    compared (`view` does not contain them; the statement about them is the shared-table part of the
    property).  In `Witness2`, `ρ 0 = 1`. -/
theorem quantize_local (rx : String → String → Bool) (env : Env) (st : Recipe.State) (qsvs : Option Qsvs)
    (j : Nat) (sg : Subgraph) (hsg : env.model.subgraphs[j]? = some sg)
    (hcodes : ∀ o ∈ sg.ops, o.code < env.model.opcodes.length)
    (m' : Model) (tbl : List Param) (h : Pipeline.quantizePure rx env st qsvs = .ok (m', tbl))
    (r1 : List CReq) (hgen1 : Mat.generate rx (Locality.extractEnv env j sg) st qsvs = .ok r1) :
    ∃ (m1' : Model) (tbl1 : List Param) (ρ : PId → PId),
      Pipeline.quantizePure rx (Locality.extractEnv env j sg) st qsvs = .ok (m1', tbl1) ∧
      Function.Injective ρ ∧
      (∀ i P, tbl1[i]? = some P → ∃ Q, tbl[ρ i]? = some Q ∧ Q.eqv P = true) ∧
      Locality.view m' j = Locality.view (Rename.rnModel ρ m1') 0 ∧ Locality.sigsOf m' j = m1'.sigs :=
  Locality.quantize_local_full rx env st qsvs j sg hsg hcodes m' tbl h

/-- **C19, end to end, unconditional**: only the run on the whole model is assumed to succeed. -/
theorem quantize_local_full (rx : String → String → Bool) (env : Env) (st : Recipe.State) (qsvs : Option Qsvs)
    (j : Nat) (sg : Subgraph) (hsg : env.model.subgraphs[j]? = some sg)
    (hcodes : ∀ o ∈ sg.ops, o.code < env.model.opcodes.length)
    (m' : Model) (tbl : List Param) (h : Pipeline.quantizePure rx env st qsvs = .ok (m', tbl)) :
    ∃ (m1' : Model) (tbl1 : List Param) (ρ : PId → PId),
      Pipeline.quantizePure rx (Locality.extractEnv env j sg) st qsvs = .ok (m1', tbl1) ∧
      Function.Injective ρ ∧
      (∀ i P, tbl1[i]? = some P → ∃ Q, tbl[ρ i]? = some Q ∧ Q.eqv P = true) ∧
      Locality.view m' j = Locality.view (Rename.rnModel ρ m1') 0 ∧ Locality.sigsOf m' j = m1'.sigs :=
  Locality.quantize_local_full rx env st qsvs j sg hsg hcodes m' tbl h

/-- **C19, end to end**, when no constant buffer of subgraph `j` is shared with another subgraph. -/
theorem quantize_local_noShare (rx : String → String → Bool) (env : Env) (st : Recipe.State) (qsvs : Option Qsvs)
    (j : Nat) (sg : Subgraph) (hsg : env.model.subgraphs[j]? = some sg)
    (hcodes : ∀ o ∈ sg.ops, o.code < env.model.opcodes.length)
    (hshare : Locality.NoCrossShare env.model j sg)
    (m' : Model) (tbl : List Param) (h : Pipeline.quantizePure rx env st qsvs = .ok (m', tbl)) :
    ∃ (m1' : Model) (tbl1 : List Param) (ρ : PId → PId),
      Pipeline.quantizePure rx (Locality.extractEnv env j sg) st qsvs = .ok (m1', tbl1) ∧
      Function.Injective ρ ∧
      (∀ i P, tbl1[i]? = some P → ∃ Q, tbl[ρ i]? = some Q ∧ Q.eqv P = true) ∧
      Locality.view m' j = Locality.view (Rename.rnModel ρ m1') 0 ∧ Locality.sigsOf m' j = m1'.sigs :=
  Locality.quantize_local_full rx env st qsvs j sg hsg hcodes m' tbl h

namespace Witness2
open PipelineWFExample (rxAll cfgFC stOf)

def tw (n : String) (b : Nat) : Tensor := { name := n, dtype := 0, shape := [2, 2], buffer := b }
def tx (n : String) : Tensor := { name := n, dtype := 0, shape := [1, 2], buffer := 0 }
def fc : Op := { code := 0, inputs := [0, 1, -1], outputs := [2], orig := some 0 }

/-- `ya := FULLY_CONNECTED(xa, wa)`, `wa` constant in buffer `b` -/
def sgA (b : Nat) : Subgraph := { tensors := [tx "xa", tw "wa" b, tx "ya"], ops := [fc], inputs := [0], outputs := [2] }
def sgB (b : Nat) : Subgraph := { tensors := [tx "xb", tw "wb" b, tx "yb"], ops := [fc], inputs := [0], outputs := [2] }

def sigs : List Sig :=
  [{ key := "a", sg := 0, inputs := [("x", 0)], outputs := [("y", 2)] },
   { key := "b", sg := 1, inputs := [("x", 0)], outputs := [("y", 2)] }]

/-- two subgraphs, model-wide unique tensor names, one constant each -/
def m : Model :=
  { subgraphs := [sgA 1, sgB 2], buffers := [none, some (.inl 0), some (.inl 1)], opcodes := [9], sigs := sigs }

def env : Env := { model := m, consts := [(1, [1, 2, 3, 4]), (2, [1, 1, 1, 1])], adjY := [] }

def isOk {α} : PyM α → Bool | .ok _ => true | .error _ => false

theorem exists_of_isOk {α} (x : PyM α) (h : isOk x = true) : ∃ a, x = .ok a := by
  cases x with
  | ok a => exact ⟨a, rfl⟩
  | error e => cases h

theorem names_unique : namesUnique m := by unfold namesUnique; decide +kernel

theorem codes_ok : ∀ o ∈ (sgB 2).ops, o.code < m.opcodes.length := by decide +kernel

/-! ### instruction generation / `modify` -/

def pt : PTable := [(0, { uniform := true, bits := 8, hasData := true })]

/-- DEQUANTIZE after the constant `wa` of subgraph 0, QUANTIZE after the input `xb` of subgraph 1 -/
def reqs : List TReq :=
  [{ name := "wa", producer := none, consumers := some [{ opId := 0, xfs := [.addDequant], param := some 0 }] },
   { name := "xb", producer := none, consumers := some [{ opId := 0, xfs := [.addQuant], param := some 0 }] }]

def tis : List TInsts :=
  [{ name := "wa", sg := 0,
     insts := [{ xf := .addDequant, tensor := 1, producer := -1, consumers := [0], param := some 0 }] },
   { name := "xb", sg := 1,
     insts := [{ xf := .addQuant, tensor := 0, producer := -1, consumers := [0], param := some 0 }] }]

theorem big_insts : InstGen.genInsts m reqs = .ok tis := by decide +kernel

/-- NON-VACUITY of `genInsts_local` (`j = 1`): the request of the other subgraph is dropped, the
    remaining instruction is re-indexed to subgraph 0 -/
example : Locality.restrictReqs reqs (sgB 2) = reqs.drop 1 ∧
    InstGen.genInsts (Locality.extract m 1 (sgB 2)) (Locality.restrictReqs reqs (sgB 2)) =
      .ok [{ name := "xb", sg := 0,
             insts := [{ xf := .addQuant, tensor := 0, producer := -1, consumers := [0], param := some 0 }] }] :=
  ⟨by decide, genInsts_local m names_unique 1 (sgB 2) rfl reqs tis big_insts⟩

theorem big_modify : isOk (modify pt m reqs) = true := by decide +kernel

/-- NON-VACUITY of `modify_local` (`j = 1`) -/
example : ∃ m' m1', modify pt m reqs = .ok m' ∧
    modify pt (Locality.extract m 1 (sgB 2)) (Locality.restrictReqs reqs (sgB 2)) = .ok m1' ∧
    Locality.view m' 1 = Locality.view m1' 0 ∧ Locality.sigsOf m' 1 = m1'.sigs := by
  obtain ⟨m', hm'⟩ := exists_of_isOk _ big_modify
  obtain ⟨m1', h1⟩ := modify_local pt m m' names_unique 1 (sgB 2) rfl codes_ok reqs hm'
  exact ⟨m', m1', hm', h1⟩

/-! ### materialisation: float casting of FULLY_CONNECTED (no statistics needed) -/

def st : Recipe.State := stOf Tables.algFloatCasting cfgFC "FULLY_CONNECTED"

theorem cast_runs :
    isOk (generate rxAll env st none) = true ∧
    isOk (generate rxAll (Locality.extractEnv env 1 (sgB 2)) st none) = true ∧
    (match generate rxAll env st none with | .ok r => some (r.map (·.name)) | .error _ => none) =
      some ["xa", "wa", "ya", "xb", "wb", "yb"] := by decide +kernel

theorem big_generate : isOk (generate rxAll env st none) = true := cast_runs.1

theorem small_generate : isOk (generate rxAll (Locality.extractEnv env 1 (sgB 2)) st none) = true := cast_runs.2.1

/-- the big run makes six requests, in this order … -/
example : (match generate rxAll env st none with | .ok r => some (r.map (·.name)) | .error _ => none) =
    some ["xa", "wa", "ya", "xb", "wb", "yb"] := cast_runs.2.2

/-- … and the stand-alone run of subgraph 1 makes the last three (NON-VACUITY of `generate_local_ok`) -/
example : ∃ reqs r1, generate rxAll env st none = .ok reqs ∧
    generate rxAll (Locality.extractEnv env 1 (sgB 2)) st none = .ok r1 ∧
    r1 = Locality.restrictCReqs reqs (sgB 2) := by
  obtain ⟨reqs, h⟩ := exists_of_isOk _ big_generate
  obtain ⟨r1, h1⟩ := exists_of_isOk _ small_generate
  exact ⟨reqs, r1, h, h1, generate_local_ok rxAll env st none 1 (sgB 2) rfl reqs r1 h h1⟩

/-- the two weights live in different buffers -/
theorem no_share : Locality.NoCrossShare m 1 (sgB 2) := Locality.noCrossShare_of_B m 1 (sgB 2) (by decide +kernel)

/-- NON-VACUITY of `generate_local`: the stand-alone run returns the last three requests -/
example : ∃ reqs, generate rxAll env st none = .ok reqs ∧
    generate rxAll (Locality.extractEnv env 1 (sgB 2)) st none = .ok (Locality.restrictCReqs reqs (sgB 2)) := by
  obtain ⟨reqs, h⟩ := exists_of_isOk _ big_generate
  exact ⟨reqs, h, generate_local rxAll env st none 1 (sgB 2) rfl no_share reqs h⟩

/-! ### end to end: dynamic-range int8 quantization of both FULLY_CONNECTED
(`cfgWO`: integer compute, no activation config) -/

def stWO : Recipe.State := [(".*", [⟨".*", "*", Tables.algMinMax, PipelineWFExample.cfgWO⟩])]

def quantsOf (m : Model) (j : Nat) : Option (List (Option PId)) :=
  (m.subgraphs[j]?).map fun sg => sg.tensors.map (·.quant)

theorem wo_runs :
    (match Pipeline.quantizePure rxAll env stWO none with
      | .ok r => some (r.2.length, quantsOf r.1 0, quantsOf r.1 1) | .error _ => none) =
      some (2, some [none, some 0, none], some [none, some 1, none]) ∧
    (match Pipeline.quantizePure rxAll (Locality.extractEnv env 1 (sgB 2)) stWO none with
      | .ok r => some (r.2.length, quantsOf r.1 0) | .error _ => none) =
      some (1, some [none, some 0, none]) ∧
    isOk (Pipeline.quantizePure rxAll env stWO none) = true ∧
    isOk (generate rxAll (Locality.extractEnv env 1 (sgB 2)) stWO none) = true := by decide +kernel

/-- the big run makes two parameter objects; the weight of subgraph 1 gets id **1** … -/
theorem big_quantize : (match Pipeline.quantizePure rxAll env stWO none with
      | .ok r => some (r.2.length, quantsOf r.1 0, quantsOf r.1 1) | .error _ => none) =
    some (2, some [none, some 0, none], some [none, some 1, none]) := wo_runs.1

/-- … the stand-alone run of subgraph 1 makes one, and the same weight gets id **0** -/
theorem small_quantize : (match Pipeline.quantizePure rxAll (Locality.extractEnv env 1 (sgB 2)) stWO none with
      | .ok r => some (r.2.length, quantsOf r.1 0) | .error _ => none) =
    some (1, some [none, some 0, none]) := wo_runs.2.1

theorem big_quantize_ok : isOk (Pipeline.quantizePure rxAll env stWO none) = true := wo_runs.2.2.1

theorem small_generate_wo : isOk (generate rxAll (Locality.extractEnv env 1 (sgB 2)) stWO none) = true :=
  wo_runs.2.2.2

/-- NON-VACUITY of `quantize_local` (`j = 1`) -/
example : ∃ (m' m1' : Model) (tbl tbl1 : List Param) (ρ : PId → PId),
    Pipeline.quantizePure rxAll env stWO none = .ok (m', tbl) ∧
    Pipeline.quantizePure rxAll (Locality.extractEnv env 1 (sgB 2)) stWO none = .ok (m1', tbl1) ∧
    Function.Injective ρ ∧ (∀ i P, tbl1[i]? = some P → ∃ Q, tbl[ρ i]? = some Q ∧ Q.eqv P = true) ∧
    Locality.view m' 1 = Locality.view (Rename.rnModel ρ m1') 0 ∧ Locality.sigsOf m' 1 = m1'.sigs := by
  obtain ⟨⟨m', tbl⟩, h⟩ := exists_of_isOk _ big_quantize_ok
  obtain ⟨r1, h1⟩ := exists_of_isOk _ small_generate_wo
  obtain ⟨m1', tbl1, ρ, h2⟩ := quantize_local rxAll env stWO none 1 (sgB 2) rfl codes_ok m' tbl h r1 h1
  exact ⟨m', m1', tbl, tbl1, ρ, h, h2⟩

/-- NON-VACUITY of `quantize_local_full`: only the big run is evaluated -/
example : ∃ (m' m1' : Model) (tbl tbl1 : List Param) (ρ : PId → PId),
    Pipeline.quantizePure rxAll env stWO none = .ok (m', tbl) ∧
    Pipeline.quantizePure rxAll (Locality.extractEnv env 1 (sgB 2)) stWO none = .ok (m1', tbl1) ∧
    Function.Injective ρ ∧
    Locality.view m' 1 = Locality.view (Rename.rnModel ρ m1') 0 ∧ Locality.sigsOf m' 1 = m1'.sigs := by
  obtain ⟨⟨m', tbl⟩, h⟩ := exists_of_isOk _ big_quantize_ok
  obtain ⟨m1', tbl1, ρ, h2, h3, _, h5, h6⟩ :=
    quantize_local_full rxAll env stWO none 1 (sgB 2) rfl codes_ok m' tbl h
  exact ⟨m', m1', tbl, tbl1, ρ, h, h2, h3, h5, h6⟩

/-- NON-VACUITY of `quantize_local_noShare` -/
example : ∃ (m' m1' : Model) (tbl tbl1 : List Param) (ρ : PId → PId),
    Pipeline.quantizePure rxAll env stWO none = .ok (m', tbl) ∧
    Pipeline.quantizePure rxAll (Locality.extractEnv env 1 (sgB 2)) stWO none = .ok (m1', tbl1) ∧
    Function.Injective ρ ∧
    Locality.view m' 1 = Locality.view (Rename.rnModel ρ m1') 0 ∧ Locality.sigsOf m' 1 = m1'.sigs := by
  obtain ⟨⟨m', tbl⟩, h⟩ := exists_of_isOk _ big_quantize_ok
  obtain ⟨m1', tbl1, ρ, h2, h3, _, h5, h6⟩ :=
    quantize_local_noShare rxAll env stWO none 1 (sgB 2) rfl codes_ok no_share m' tbl h
  exact ⟨m', m1', tbl, tbl1, ρ, h, h2, h3, h5, h6⟩

/-! ### a constant shared between the two subgraphs -/

/-- both weights live in buffer 1 -/
def mS : Model :=
  { subgraphs := [sgA 1, sgB 1], buffers := [none, some (.inl 0)], opcodes := [9], sigs := sigs }

def envS : Env := { model := mS, consts := [(1, [1, 2, 3, 4])], adjY := [] }

/-- the recipe's scope regex selects the operator whose result is `ya` (subgraph 0) only -/
def rxEq : String → String → Bool := fun re scope => re == scope

def stS : Recipe.State := [("ya;", [⟨"ya;", "FULLY_CONNECTED", Tables.algFloatCasting, cfgFC⟩])]

/-- `mS` violates `NoCrossShare`: `wa` (subgraph 0) and `wb` (subgraph 1) both read the constant buffer 1 -/
theorem shared_violates : ¬ Locality.NoCrossShare mS 1 (sgB 1) := by
  intro h
  exact h 0 (sgA 1) rfl (by decide) (1, "wa") (by decide) (1, "wb") (by decide) ⟨.inl 0, rfl⟩ rfl

/-- the four runs on the model with the shared constant, evaluated together: casting the weight in both
    subgraphs is accepted; casting it in subgraph 0 only is rejected with `RuntimeError` for the whole
    model and accepted for each subgraph alone -/
theorem shared_runs :
    isOk (generate rxAll envS st none) = true ∧
    (match generate rxEq envS stS none with | .ok _ => none | .error e => some e) = some PyErr.runtimeError ∧
    isOk (generate rxEq (Locality.extractEnv envS 0 (sgA 1)) stS none) = true ∧
    isOk (generate rxEq (Locality.extractEnv envS 1 (sgB 1)) stS none) = true := by decide +kernel

theorem shared_both_big : isOk (generate rxAll envS st none) = true := shared_runs.1

/-- `generate_local_full` applies although `NoCrossShare` fails (NON-VACUITY beyond the no-sharing case) -/
example : ∃ reqs, generate rxAll envS st none = .ok reqs ∧
    generate rxAll (Locality.extractEnv envS 1 (sgB 1)) st none = .ok (Locality.restrictCReqs reqs (sgB 1)) := by
  obtain ⟨reqs, h⟩ := exists_of_isOk _ shared_both_big
  exact ⟨reqs, h, generate_local_full rxAll envS st none 1 (sgB 1) reqs rfl h⟩

theorem shared_big : generate rxEq envS stS none = .error .runtimeError := by
  have h := shared_runs.2.1
  generalize generate rxEq envS stS none = x at h
  cases x with
  | ok _ => cases h
  | error _ => cases h; rfl

end Witness2

/-- **The converse of C19 fails on shared constants** (the C15 caveat): `wa` and `wb` read the same
    constant buffer; the recipe casts the weight of subgraph 0 to float16 and leaves subgraph 1 alone.
    Every subgraph, quantized as a stand-alone model, is accepted; the two-subgraph model is rejected
    by the buffer-sharing check (`RuntimeError`). -/
theorem shared_constant_rejected :
    namesUnique Witness2.mS ∧
    Mat.generate Witness2.rxEq Witness2.envS Witness2.stS none = .error .runtimeError ∧
    (∃ r0, Mat.generate Witness2.rxEq (Locality.extractEnv Witness2.envS 0 (Witness2.sgA 1)) Witness2.stS none = .ok r0) ∧
    (∃ r1, Mat.generate Witness2.rxEq (Locality.extractEnv Witness2.envS 1 (Witness2.sgB 1)) Witness2.stS none = .ok r1) :=
  ⟨by unfold namesUnique; decide +kernel, Witness2.shared_big, Witness2.exists_of_isOk _ Witness2.shared_runs.2.2.1,
    Witness2.exists_of_isOk _ Witness2.shared_runs.2.2.2⟩

/-! ## the buffer-sharing check itself is not local -/

namespace Witness3

def qp (bits : Nat) : Arith.QParams :=
  { bits := bits, qdim := none, scale := ⟨⟨[], [1]⟩, .f32⟩, zp := ⟨⟨[], [0]⟩, 8⟩, symmetric := true }
def tc (n : String) : Tensor := { name := n, dtype := 0, shape := [1], buffer := 1 }
def sg0 : Subgraph :=
  { tensors := [tc "f"], ops := [{ code := 0, inputs := [0], outputs := [] }], inputs := [], outputs := [] }
def sg1 : Subgraph :=
  { tensors := [tc "a", tc "b"], ops := [{ code := 0, inputs := [0, 1], outputs := [] }], inputs := [], outputs := [] }
/-- three tensors in ONE constant buffer: `f` read in subgraph 0, `a` and `b` read in subgraph 1 -/
def m : Model := { subgraphs := [sg0, sg1], buffers := [none, some (.inl 0)], opcodes := [0], sigs := [] }
def cons (n : String) (x : Xf) (p : Option Param) : String × CReq := (n, ⟨n, none, some [⟨0, [x], p⟩]⟩)
/-- `f` stays float; `a`, `b` get ADD_QUANTIZE with DIFFERENT parameters (8 / 16 bits) -/
def res : List (String × CReq) :=
  [cons "f" .noQuant none, cons "a" .addQuant (some (.uniform (qp 8) none)),
   cons "b" .addQuant (some (.uniform (qp 16) none))]
def err {α} : PyM α → Option PyErr | .ok _ => none | .error e => some e

end Witness3

/-- **`checkBufferSharing` is not local** (for arbitrary dictionaries): the check of the two-subgraph
    model passes (every reader is compared with the first reader `f` only), the check of subgraph 1
    alone, on the same requests, raises `RuntimeError` (`a` and `b` are incompatible). -/
theorem check_not_local :
    Witness3.err (checkBufferSharing Witness3.m Witness3.res) = none ∧
    Witness3.err (checkBufferSharing (Locality.extract Witness3.m 1 Witness3.sg1)
      (Locality.keep (Locality.nameIn Witness3.sg1) Witness3.res)) = some .runtimeError :=
  ⟨by decide +kernel, by decide +kernel⟩

end C19
