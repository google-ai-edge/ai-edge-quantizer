import QProofs.ArithRounded
/-!
# C17 — quantization arithmetic obeys its algebraic laws on all inputs

Statements are about the scalar cores of `QModel/Arith.lean` (one channel of
`tensor_zp_scale_from_min_max`, one element of `uniform_quantize` /
`uniform_dequantize`); the array functions map these cores over broadcast indices.

`pr` ranges over the numpy float formats *and* `Prec.exact` (ideal arithmetic).
Theorems named `…_ideal` are the exact textbook laws (`pr = exact`); the others
hold for IEEE float32/float64 arithmetic as numpy performs it.
-/
open Num Arith PrecL ArithL

namespace C17

/-- the model's rounding operator is monotone (all formats) -/
theorem rn_mono (pr : Prec) {x y : Rat} (h : x ≤ y) : pr.rn x ≤ pr.rn y := PrecL.rn_mono pr h

/-- standard model of floating point: relative error at most `2^-p` in the normal range -/
theorem rn_relerr (pr : Prec) (x : Rat) (hn : (2:Rat)^pr.emin ≤ |x|) :
    |pr.rn x - x| ≤ (2:Rat)^(-(pr.p:Int)) * |x| := PrecL.rn_relerr pr x hn

/-- symmetric quantization always has zero point 0 -/
theorem sym_zp_zero (pr : Prec) (bits : Nat) (mn mx : Rat) (zp : Int) (s : Rat)
    (h : zpScale1 pr bits true mn mx = .ok (zp, s)) : zp = 0 := (zpScale1_sym_ok h).1

/-- the scale is positive: every finite range, both symmetries, bit widths 2..16,
    float32 / float64 / ideal arithmetic (a non-finite scale is the `.error` branch) -/
theorem scale_pos (pr : Prec) (h16 : pr ≠ .f16) (bits : Nat) (hb2 : 2 ≤ bits) (hb16 : bits ≤ 16)
    (sym : Bool) (mn mx : Rat) (zp : Int) (s : Rat)
    (h : zpScale1 pr bits sym mn mx = .ok (zp, s)) : 0 < s :=
  (zpScale1_ok_iff.1 h).2.2 ▸ (Rounding.two_zpow_pos (-30)).trans_le (chanScale_ge pr h16 bits hb2 hb16 sym mn mx)

/-- zero is exactly representable: the zero point dequantizes to exactly 0 -/
theorem zero_exact (widen : Bool) (qw zw : Nat) (hqw : 1 ≤ qw) (spr : Prec) (zp : Int) (scale : Rat) :
    dqVal widen qw zw spr zp zp scale = 0 := by
  have hw : 1 ≤ subWidth widen qw zw := by unfold subWidth; split_ifs <;> omega
  have hpos : (0:Int) < 2 ^ (subWidth widen qw zw - 1) := by positivity
  unfold dqVal
  rw [sub_self, BytesProofs.wrapInt_id _ hw 0 (by omega) hpos, Int.cast_zero, zero_mul, rn_zero]

theorem clipI_range (v lo hi : Int) (h : lo ≤ hi) : lo ≤ clipI v lo hi ∧ clipI v lo hi ≤ hi :=
  ArithL.clipI_range v lo hi h

/-- quantized codes always lie in the (narrow, when symmetric) integer range -/
theorem q_in_range (bits : Nat) (hb2 : 2 ≤ bits) (hb : bits ≤ 32) (narrow : Bool) (v : Rat) :
    qmin bits + (if narrow then 1 else 0) ≤ roundClip bits narrow v
      ∧ roundClip bits narrow v ≤ qmax bits :=
  roundClip_range bits hb2 (by omega) narrow v

/-- `uniform_quantize` is monotone in its input (IEEE arithmetic, any non-negative scale) -/
theorem q_mono (xpr spr : Prec) (zw bits : Nat) (narrow : Bool) (scale : Rat) (hs : 0 ≤ scale)
    (zp : Int) {x y : Rat} (hxy : x ≤ y) (hb2 : 2 ≤ bits) (hb : bits ≤ 32) :
    roundClip bits narrow (qSum xpr spr zw x scale zp) ≤ roundClip bits narrow (qSum xpr spr zw y scale zp) := by
  have hinv : 0 ≤ qInv spr scale := PrecL.rn_nonneg spr (by positivity)
  refine roundClip_mono bits hb2 (by omega) narrow (PrecL.rn_mono _ (add_le_add ?_ le_rfl))
  exact PrecL.rn_mono _ (mul_le_mul_of_nonneg_right hxy hinv)

theorem roundClip_of_in_range (bits : Nat) (hb2 : 2 ≤ bits) (hb : bits ≤ 32) (narrow : Bool) (v : Rat)
    (h1 : qmin bits + (if narrow then 1 else 0) ≤ rhe v) (h2 : rhe v ≤ qmax bits) :
    roundClip bits narrow v = rhe v := by
  rw [roundClip_eq bits hb2 hb, clipI_of_mem h1 h2]

/-- ideal arithmetic: quantize ∘ dequantize is the identity on every integer code of the range -/
theorem q_dq_ideal (bits : Nat) (hb2 : 2 ≤ bits) (hb : bits ≤ 32) (narrow : Bool) (zw : Nat)
    (s : Rat) (hs : 0 < s) (zp c : Int)
    (h1 : qmin bits + (if narrow then 1 else 0) ≤ c) (h2 : c ≤ qmax bits) :
    roundClip bits narrow (qSum .exact .exact zw (((c - zp : Int) : Rat) * s) s zp) = c := by
  have hv : qSum .exact .exact zw (((c - zp : Int) : Rat) * s) s zp = (c : Rat) := by
    rw [qSum_exact, mul_div_assoc, div_self hs.ne']; push_cast; ring
  rw [hv, roundClip_of_in_range bits hb2 hb narrow _ (by rwa [Rounding.rhe_int])
    (by rwa [Rounding.rhe_int]), Rounding.rhe_int]

/-- ideal arithmetic: dequantize ∘ quantize moves an in-range value by at most half a step -/
theorem dq_q_ideal (bits : Nat) (hb2 : 2 ≤ bits) (hb : bits ≤ 32) (narrow : Bool) (zw : Nat)
    (s : Rat) (hs : 0 < s) (zp : Int) (x : Rat)
    (hlo : ((qmin bits + (if narrow then 1 else 0) - zp : Int) : Rat) * s ≤ x)
    (hhi : x ≤ ((qmax bits - zp : Int) : Rat) * s) :
    |((roundClip bits narrow (qSum .exact .exact zw x s zp) - zp : Int) : Rat) * s - x| ≤ s / 2 := by
  have hLH := (qLoHi bits hb2 narrow).2.1
  rw [qLoI_of_le53 bits (by omega), qHiI_of_le53 bits (by omega)] at hLH
  have hA := (le_div_iff₀ hs).mpr hlo
  have hB := (div_le_iff₀ hs).mpr hhi
  rw [qSum_exact, roundClip_eq bits hb2 hb]
  generalize qmin bits + (if narrow then 1 else 0) = L at hLH hA ⊢
  push_cast at hA hB
  -- the code is within `1/2` of `x/s + zp`; exact arithmetic adds nothing
  have key := rhe_clip_near (x / s + zp) (x / s + zp) 0 0 L (qmax bits) hLH
    (by rw [sub_self, abs_zero]) le_rfl (by linarith only [hA]) (by linarith only [hB])
  generalize clipI (rhe (x / s + zp)) L (qmax bits) = cl at key ⊢
  rw [show ((cl - zp : Int) : Rat) * s - x = ((cl:Rat) - (x / s + zp)) * s by
    push_cast; field_simp; ring, abs_mul, abs_of_pos hs]
  calc |(cl:Rat) - (x / s + zp)| * s ≤ (1/2 + 0 + 0) * s := mul_le_mul_of_nonneg_right key hs.le
    _ = s / 2 := by ring

/-- ideal arithmetic, asymmetric: the zero point is in range and `[min,max]` is covered up to
    half a step by the dequantized integer range -/
theorem cover_ideal (bits : Nat) (hb2 : 2 ≤ bits) (hb16 : bits ≤ 16) (mn mx : Rat)
    (zp : Int) (s : Rat) (h : zpScale1 .exact bits false mn mx = .ok (zp, s)) :
    qmin bits ≤ zp ∧ zp ≤ qmax bits ∧
    ((qmin bits - zp : Int) : Rat) * s ≤ mn + s / 2 ∧ mx - s / 2 ≤ ((qmax bits - zp : Int) : Rat) * s := by
  obtain ⟨rfl, rfl⟩ := zpScale1_asym_ok h
  -- the rounded law at `u = 0`: the scale's steps span `bmax - bmin` exactly, the zero point is within `1/2`
  obtain ⟨a1, hD, ⟨r1, r2⟩, hz⟩ := ArithRounded.asym_rounded RAux.Err.exact bits hb2 hb16 (by norm_num) mn mx
  rw [mul_zero, zero_mul, add_zero] at hz
  obtain ⟨c1, c2⟩ := cover_of_zp_err (θ := 3 * 0) (h := 1/2) ((Rounding.two_zpow_pos _).trans_le a1) hD hz le_rfl
    (by norm_num)
  refine ⟨r1, r2, ?_, ?_⟩
  · push_cast; rw [qmin_cast]; linarith only [c1, minR_le_left mn 0]
  · push_cast; rw [qmax_cast]; linarith only [c2, maxR_ge_left mx 0]

end C17
