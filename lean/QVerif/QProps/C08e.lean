import QProps.C08d
/-!
# C08e — `quantize()` is total on the statistics a user really has in hand: calibrated in several sessions, restored from a file

`C08d`: `quantize_total` under `Hyp` and `Bounded`, the statistics clauses from ONE fresh `calibrate()` of a one-subgraph model.  Here:

1. **Sessions**: any list of `Quantizer.calibrate` calls, each resumed from the result of the previous one (several signatures,
   several batches, any order, any starting `previous_calibration_result` that satisfies the invariant).  What is recorded for the
   float32 tensors that matter is good, ordered, of one format and of the rank of the contents, and nothing recorded is lost; so
   `quantize_total_of_sessions` has hypotheses on the model and on the sample contents only.
2. **Formats**: `Bounded` admits statistics in the format `exact` (integer tensors; python numbers) beside float32 / float64, so
   statistics that were saved and restored (same numbers, another format) keep `Hyp` and `Bounded`, and can be resumed.  Only
   FLOAT32 tensors are constrained (`StatName`): the entries of integer tensors are never read by `generate`.
3. **`fix_quantization_params_rank`**: on calibrated statistics the ranks agree (its first branch).  The rank-1 expansion branch is
   unreachable from them, and on per-tensor parameters it cannot succeed: numpy `expand_dims` over all `r` axes yields rank
   `r + 1`, which `_is_valid_quantization_params` rejects (ValueError).
-/
open Graph Mat MatTotal Arith Num Nd

namespace C08

/-- a calibration history: one `Quantizer.calibrate(data, signature, previous_calibration_result)` per session, resumed from
    the previous result -/
abbrev calibrateSessions := @MatTotal.calibrateSessions
/-- good, ordered statistics of rank `k`: one format (float32 / float64 / `exact`) for `min` and `max`, one all-ones shape of
    rank `k`, magnitudes at most `B`, `min ≤ max` -/
abbrev StatOrdK := @MatTotal.StatOrdK
/-- the invariant of calibration on the names `P`: no statistics yet, or `StatOrdK (rk n)` -/
abbrev SInv := @MatTotal.SInv
/-- contents of one sample on the names `P`: arrays of rank `rk n` in one of the three formats, magnitudes at most `B` -/
abbrev ContOK := @MatTotal.ContOK
/-- same-as-input operators selected for quantization act on runtime float tensors -/
abbrev PassRuntime := @MatTotal.PassRuntime
/-- `Hyp` without the clauses about the statistics -/
abbrev HypModel := @MatTotal.HypModel
/-- `Bounded` without the clause about the statistics; `concat` as a condition on declared ranks -/
abbrev BoundedModel := @MatTotal.BoundedModel

theorem StatOrdK.good {k : Nat} {mn mx : FArr} (h : StatOrdK k mn mx) : StatGood mn mx := MatTotal.StatOrdK.good h

/-- `moving_average_update` in every format: two float32 pairs give a float32 pair, all other combinations (integer
    statistics are `exact`) a float64 pair; good ordered statistics of rank `k` stay so -/
theorem ema_ordered_any (k : Nat) (mn mx nmn nmx : FArr) (O : StatOrdK k mn mx) (N : StatOrdK k nmn nmx) (v : Mat.Qsv)
    (h : Calib.ema (some (mn, mx)) (some (nmn, nmx)) = .ok v) : ∃ a b, v = some (a, b) ∧ StatOrdK k a b :=
  MatTotal.ema_ordK k mn mx nmn nmx O N v h

/-- **the invariant holds after any list of sessions**, from any `previous` that satisfies it, for any set of names `P` none
    of which names a constant -/
theorem sessions_invariant (P : String → Prop) (rk : String → Nat) (rx : String → String → Bool) (env : Env) (st : Recipe.State)
    (hP : ∀ n, P n → ¬ CalibExact.ConstNamed env n) (hneed : Recipe.needCalibration st = true)
    (previous : Option Qsvs) (L : List (Nat × List Calib.Contents)) (r : Option Qsvs)
    (hprev : SInv P rk (previous.getD []))
    (hcont : ∀ s ∈ L, ∀ c ∈ s.2, ContOK P rk c)
    (h : calibrateSessions rx env st previous L = .ok r) : SInv P rk (r.getD []) :=
  MatTotal.sessions_sinv P rk rx env st hP hneed previous L r hprev hcont h

/-- **after the sessions, `Bounded.stats` holds** (with `min ≤ max` and the rank of the contents in addition) -- model with
    unique tensor names, any number of subgraphs -/
theorem sessions_stats_good (rx : String → String → Bool) (env : Env) (st : Recipe.State)
    (hnu : GenInstsOK.namesUnique env.model) (hp : PassRuntime rx env st) (hneed : Recipe.needCalibration st = true)
    (rk : String → Nat) (previous : Option Qsvs) (L : List (Nat × List Calib.Contents)) (r : Option Qsvs)
    (hprev : SInv (StatName rx env st) rk (previous.getD []))
    (hcont : ∀ s ∈ L, ∀ c ∈ s.2, ContOK (StatName rx env st) rk c)
    (h : calibrateSessions rx env st previous L = .ok r) :
    ∀ n, StatName rx env st n → ∀ mn mx, Py.dictGet? (r.getD []) n = some (some (mn, mx)) → StatOrdK (rk n) mn mx :=
  MatTotal.stats_of_sessions rx env st hnu hp hneed rk previous L r hprev hcont h

/-- **after the sessions, `Hyp.stats` holds**: nothing recorded is ever lost, and every subgraph is calibrated by a session
    with at least one sample -/
theorem sessions_stats_complete (rx : String → String → Bool) (env : Env) (st : Recipe.State) (hns : NoSkip st)
    (hp : PassRuntime rx env st) (hneed : Recipe.needCalibration st = true)
    (previous : Option Qsvs) (L : List (Nat × List Calib.Contents)) (r : Option Qsvs)
    (h : calibrateSessions rx env st previous L = .ok r)
    (hcov : ∀ i sg, env.model.subgraphs[i]? = some sg → ∃ s ∈ L, s.1 = i ∧ s.2 ≠ []) :
    StatsComplete rx env st (r.getD []) :=
  MatTotal.statsComplete_of_sessions rx env st hns hp hneed previous L r h hcov

/-- … subgraph by subgraph: a session on subgraph `s.1` with at least one sample records statistics for every runtime operand /
    result of every operator of that subgraph selected for min/max, and NO LATER SESSION REMOVES THEM (whatever the other
    sessions calibrate) -/
theorem sessions_subgraph_complete (rx : String → String → Bool) (env : Env) (st : Recipe.State)
    (hneed : Recipe.needCalibration st = true) (previous : Option Qsvs) (L : List (Nat × List Calib.Contents))
    (r : Option Qsvs) (h : calibrateSessions rx env st previous L = .ok r)
    (s : Nat × List Calib.Contents) (hs : s ∈ L) (hne : s.2 ≠ [])
    (sg : Subgraph) (hsg : env.model.subgraphs[s.1]? = some sg)
    (op : Op) (k scope : String) (hop : CalibProofs.IsOp env sg op k) (hscope : opScope sg op = .ok scope)
    (hsel : (Recipe.resolve rx st k scope).1 = Tables.algMinMax)
    (i : Int) (hi : i ∈ op.inputs ++ op.outputs) (hi1 : i ≠ -1) (t : Tensor) (ht : tensorAt sg i = .ok t)
    (hnc : Calib.constAny env t = none) : ∃ mm, Py.dictGet? (r.getD []) t.name = some (some mm) :=
  MatTotal.sessions_complete rx env st hneed previous L r h s hs hne sg hsg op k scope hop hscope hsel i hi hi1 t ht hnc

/-- a history of one session is one call of `Quantizer.calibrate` -/
theorem sessions_single (rx : String → String → Bool) (env : Env) (st : Recipe.State) (previous : Option Qsvs) (i : Nat)
    (D : List Calib.Contents) :
    calibrateSessions rx env st previous [(i, D)] =
      (match Calib.calibrate rx env st i previous D with | .ok q => .ok (some q) | .error e => .error e) := by
  unfold calibrateSessions MatTotal.calibrateSessions
  simp only [List.foldlM_cons, List.foldlM_nil, bind, Except.bind, pure, Except.pure]
  cases Calib.calibrate rx env st i previous D <;> rfl

/-- one session (or a given `previous`) suffices for the result to be a dictionary -/
theorem sessions_isSome (rx : String → String → Bool) (env : Env) (st : Recipe.State) (L : List (Nat × List Calib.Contents))
    (previous r : Option Qsvs) (hne : L ≠ [] ∨ previous.isSome = true)
    (h : calibrateSessions rx env st previous L = .ok r) : r.isSome = true :=
  MatTotal.sessions_isSome rx env st L previous r hne h

/-- **C08, `quantize()` after a calibration history**: a normal-form model (any number of subgraphs / signatures) without
    shared constants, bounded constants, a non-empty recipe without `skip_checks`; every subgraph calibrated by some session
    on at least one sample; the contents of the float32 tensors that are quantized finite (within `B = 2^63`) and of the
    declared rank.  Then `quantize()` on the statistics the history returns yields a well-formed model. -/
theorem quantize_total_of_sessions (rx : String → String → Bool) (env : Env) (st : Recipe.State)
    (M : HypModel rx env st) (U : Unshared env.model) (hp : PassRuntime rx env st) (rk : String → Nat)
    (BM : BoundedModel rx env st rk) (hneed : Recipe.needCalibration st = true)
    (hrec : (Recipe.getRecipe st).isEmpty = false)
    (previous : Option Qsvs) (L : List (Nat × List Calib.Contents)) (qs : Qsvs)
    (hprev : SInv (StatName rx env st) rk (previous.getD []))
    (hcov : ∀ i sg, env.model.subgraphs[i]? = some sg → ∃ s ∈ L, s.1 = i ∧ s.2 ≠ [])
    (hcont : ∀ s ∈ L, ∀ c ∈ s.2, ContOK (StatName rx env st) rk c)
    (h : calibrateSessions rx env st previous L = .ok (some qs)) :
    ∃ m' tbl, Pipeline.quantizePure rx env st (some qs) = .ok (m', tbl) ∧ WF.modelOK m' = true :=
  quantize_total rx env st (some qs) (hyp_of_sessions rx env st M hp hneed previous L qs h hcov) U
    (bounded_of_sessions rx env st M.names hp hneed rk BM previous L (some qs) hprev hcont h) hrec

/-- … in particular from scratch (`previous_calibration_result=None` in the first session) -/
theorem quantize_total_of_fresh_sessions (rx : String → String → Bool) (env : Env) (st : Recipe.State)
    (M : HypModel rx env st) (U : Unshared env.model) (hp : PassRuntime rx env st) (rk : String → Nat)
    (BM : BoundedModel rx env st rk) (hneed : Recipe.needCalibration st = true)
    (hrec : (Recipe.getRecipe st).isEmpty = false)
    (L : List (Nat × List Calib.Contents)) (qs : Qsvs)
    (hcov : ∀ i sg, env.model.subgraphs[i]? = some sg → ∃ s ∈ L, s.1 = i ∧ s.2 ≠ [])
    (hcont : ∀ s ∈ L, ∀ c ∈ s.2, ContOK (StatName rx env st) rk c)
    (h : calibrateSessions rx env st none L = .ok (some qs)) :
    ∃ m' tbl, Pipeline.quantizePure rx env st (some qs) = .ok (m', tbl) ∧ WF.modelOK m' = true :=
  quantize_total_of_sessions rx env st M U hp rk BM hneed hrec none L qs (sInv_nil _ _) hcov hcont h

/-- **one channel of `tensor_zp_scale_from_min_max` on `exact` statistics** (integer tensors, python numbers): total for
    2..16 bits on `|min|, |max| ≤ B`; the scale lies in `[2^-30, B]` -- the same statement as for float32 / float64
    (`C08.zpScale1_total` takes the three formats) -/
theorem zpScale1_total_exact (bits : Nat) (hb2 : 2 ≤ bits) (hb16 : bits ≤ 16) (sym : Bool)
    (mn mx : Rat) (hmn : |mn| ≤ B) (hmx : |mx| ≤ B) :
    ∃ z s, zpScale1 .exact bits sym mn mx = .ok (z, s) ∧ (2:Rat)^(-30:Int) ≤ s ∧ s ≤ B :=
  zpScale1_total .exact (.inr (.inr rfl)) bits hb2 hb16 sym mn mx hmn hmx

/-- `exact` statistics are good statistics (`Bounded.stats` admits them) -/
theorem statGood_exact (mn mx : Arr Rat) (hs : mn.shape = mx.shape) (hones : ∀ d ∈ mn.shape, d = 1)
    (hmn : ∀ v ∈ mn.data, |v| ≤ B) (hmx : ∀ v ∈ mx.data, |v| ≤ B) : StatGood ⟨mn, .exact⟩ ⟨mx, .exact⟩ :=
  ⟨⟨.inr (.inr rfl), .inr (.inr rfl), hs, hmn, hmx⟩, hones⟩

/-- the same statistics in the format `p`: what a saved and restored calibration result is -/
abbrev reformat := @MatTotal.reformat

/-- **C08, `quantize()` on restored statistics**: whenever the hypotheses of `quantize_total` hold of the statistics `qs`,
    `quantize()` also returns on the same numbers in any of the formats float32 / float64 / `exact` -/
theorem quantize_total_restored (rx : String → String → Bool) (env : Env) (st : Recipe.State) (qs : Qsvs)
    (H : Hyp rx env st (some qs)) (U : Unshared env.model) (Bd : Bounded rx env st (some qs))
    (hrec : (Recipe.getRecipe st).isEmpty = false) (p : Prec) (hp : p = .f32 ∨ p = .f64 ∨ p = .exact) :
    ∃ m' tbl, Pipeline.quantizePure rx env st (some (reformat p qs)) = .ok (m', tbl) ∧ WF.modelOK m' = true :=
  quantize_total rx env st (some (reformat p qs)) (hyp_reformat rx env st qs H p) U (bounded_reformat rx env st qs Bd p hp) hrec

/-- restored statistics can be RESUMED: they satisfy the invariant the sessions start from -/
theorem restored_resumable (P : String → Prop) (rk : String → Nat) (qs : Qsvs) (h : SInv P rk qs) (p : Prec)
    (hp : p = .f32 ∨ p = .f64 ∨ p = .exact) : SInv P rk (reformat p qs) :=
  sInv_reformat P rk qs h p hp

/-- parameters computed from calibrated statistics of rank `k` need no rank fixing on a tensor of rank `k` -/
theorem fixRank_calibrated (k : Nat) (mn mx : FArr) (O : StatOrdK k mn mx) (bits : Nat) (sym : Bool) (qdim : Option Nat)
    (zp : IArr) (scale : FArr) (h : zpScale bits sym mn mx = .ok (zp, scale)) (sh : List Nat) (hk : sh.length = k) :
    fixRank sh { bits := bits, qdim := qdim, scale := scale, zp := zp, symmetric := sym } =
      .ok { bits := bits, qdim := qdim, scale := scale, zp := zp, symmetric := sym } :=
  MatTotal.fixRank_calibrated k mn mx O bits sym qdim zp scale h sh hk

/-- **`Bounded.concat` is a consequence of the rank clause**: the statistics of the result of a CONCATENATION have the rank
    of its constant operand (whose declared rank is that of the result) -/
theorem concat_of_rank (rx : String → String → Bool) (env : Env) (st : Recipe.State) (rk : String → Nat)
    (BM : BoundedModel rx env st rk) (qs : Qsvs) (hI : SInv (StatName rx env st) rk qs) :
    ∀ sg ∈ env.model.subgraphs, ∀ q ∈ Pipe.allOps sg, ∀ k scope ops fn, Selected rx env st sg q k scope ops fn →
    ∀ gi, kindOf (Recipe.resolve rx st k scope).1 fn = .std .sameAsOutput gi →
    ∀ a ∈ q.1.inputs, a ≠ -1 → ∀ t, tensorAt sg a = .ok t → t.dtype = Tables.ttFloat32 → constData env t ≠ none →
    ∀ b ∈ q.1.outputs, b ≠ -1 → ∀ t', tensorAt sg b = .ok t' →
    ∀ mn mx, Py.dictGet? qs t'.name = some (some (mn, mx)) → mn.arr.shape.length = t.shape.length :=
  MatTotal.concat_of_rank rx env st rk BM qs hI

/-- **the rank-1 expansion branch cannot succeed on per-tensor parameters** (`quantized_dimension = None`, or one that is not
    an axis of the tensor): `uniform_quantize` raises ValueError -/
theorem fixRank_expand_fails (x : FArr) (qp : QParams) (h0 : x.arr.shape.length ≠ 0)
    (h1 : x.arr.shape.length ≠ qp.scale.arr.rank) (hr : qp.scale.arr.rank = 1 ∧ qp.zp.arr.rank = 1)
    (hq : qp.qdim = none ∨ ∃ q, qp.qdim = some q ∧ x.arr.shape.length ≤ q) :
    uniformQuantize x qp = .error .valueError :=
  MatTotal.fixRank_expand_fails x qp h0 h1 hr hq

/-- non-vacuity of `fixRank_expand_fails`: per-tensor parameters of shape `[1]` for a `2 × 2` tensor -/
example : uniformQuantize ⟨⟨[2, 2], [1, 2, 3, 4]⟩, .f32⟩
    { bits := 8, qdim := none, scale := ⟨⟨[1], [1/100]⟩, .f32⟩, zp := ⟨⟨[1], [0]⟩, 8⟩, symmetric := false } = .error .valueError :=
  fixRank_expand_fails _ _ (by decide +kernel) (by decide +kernel) ⟨rfl, rfl⟩ (.inl rfl)

/-! ## NON-VACUITY: a two-signature model, calibrated in three sessions, quantized with the shipped `default_a8w8` recipe -/

namespace Inst2
open Inst (T f32 rxAll st qFC errIs)

def opTanhB : Op := { code := 1, inputs := [0], outputs := [1], orig := some 0 }
/-- the subgraph of the second signature: `v := TANH(u)` -/
def sgB : Subgraph := { tensors := [T "u" [1, 2] 0, T "v" [1, 2] 0], ops := [opTanhB], inputs := [0], outputs := [1] }
/-- signature `first`: `Inst.sg` (`y := FULLY_CONNECTED(x, w)`, `z := TANH(y)`); signature `second`: `sgB` -/
def m : Model :=
  { subgraphs := [Inst.sg, sgB], buffers := [none, some (.inl 0)], opcodes := [9, 28],
    sigs := [⟨"first", 0, [("x", 0)], [("z", 3)]⟩, ⟨"second", 1, [("u", 0)], [("v", 1)]⟩] }
def env : Env := { model := m, consts := [(1, [1, 2, 3, 4])], adjY := [] }

def row (a b : Rat) : FArr := ⟨⟨[1, 2], [a, b]⟩, .f32⟩
/-- tensor contents of two samples of signature `first` (the interpreter also reports the constant `w`) … -/
def cA : Calib.Contents := [("x", row (-1) 1), ("w", ⟨⟨[2, 2], [1, 2, 3, 4]⟩, .f32⟩), ("y", row 1 5), ("z", row (3/4) 1)]
def cA' : Calib.Contents := [("x", row (-2) (1/2)), ("w", ⟨⟨[2, 2], [1, 2, 3, 4]⟩, .f32⟩), ("y", row (-3) 2), ("z", row (-1) (1/2))]
/-- … and of one sample of signature `second` -/
def cB : Calib.Contents := [("u", row (-1/2) (1/4)), ("v", row (-1/2) (1/4))]
/-- **the history**: signature `first`, then signature `second`, then `first` again, each call resumed from the previous result -/
def L : List (Nat × List Calib.Contents) := [(0, [cA]), (1, [cB]), (0, [cA'])]

def qs2 : Qsvs := match calibrateSessions rxAll env st none L with | .ok (some q) => q | _ => []

/-- the first session alone, saved and restored as python numbers -/
def q1x : Qsvs := match calibrateSessions rxAll env st none [(0, [cA])] with | .ok (some q) => reformat .exact q | _ => []

def contOKB (c : Calib.Contents) : Bool :=
  c.all fun e => e.2.pr == .f32 && e.2.arr.shape.length == 2 && e.2.arr.data.all finB

theorem contOKB_sound (P : String → Prop) (c : Calib.Contents) (h : contOKB c = true) : ContOK P (fun _ => 2) c := by
  intro n _ d hd
  have hm := Py.dictGet?_mem _ _ _ hd
  have := List.all_eq_true.1 h _ hm
  simp only [Bool.and_eq_true, beq_iff_eq, List.all_eq_true] at this
  exact ⟨.inl this.1.1, this.1.2, fun v hv => finB_sound v (this.2 v hv)⟩

/-- what is checked about the instance by running the model, in one `decide` -/
theorem runs :
    (hypB rxAll env st (some qs2) = true ∧ unsharedB env.model = true ∧ kindsB rxAll env st [(qFC, "FULLY_CONNECTED")] = true ∧
      constsB env = true ∧ L.all (fun s => s.2.all contOKB) = true) ∧
    calibrateSessions rxAll env st none L = .ok (some qs2) ∧
    qs2.map (·.1) = ["x", "w", "y", "z", "u", "v"] ∧
    Py.dictGet? qs2 "x" =
      some (some (⟨⟨[1, 1], [Prec.f32.rn (Prec.f32.rn (CalibExact.c1 * (-1)) + Prec.f32.rn (CalibExact.c2 * (-2)))]⟩, .f32⟩,
                  ⟨⟨[1, 1], [Prec.f32.rn (Prec.f32.rn (CalibExact.c1 * 1) + Prec.f32.rn (CalibExact.c2 * (1/2)))]⟩, .f32⟩)) ∧
    (match Pipeline.quantizePure rxAll env st (some qs2) with
     | .ok r => r.1.subgraphs.map (fun (s : Subgraph) => s.tensors.map (fun (t : Tensor) => (t.name, t.dtype))) ==
           [[("x", 9), ("w", 9), ("y", 9), ("z", 9)], [("u", 9), ("v", 9)]] && WF.modelOK r.1
     | .error _ => false) = true ∧
    ((match Pipeline.quantizePure rxAll env st (some (reformat .exact qs2)) with | .ok r => WF.modelOK r.1 | .error _ => false) = true ∧
     (match Pipeline.quantizePure rxAll env st (some (reformat .f64 qs2)) with | .ok r => WF.modelOK r.1 | .error _ => false) = true) ∧
    (match calibrateSessions rxAll env st (some q1x) [(1, [cB]), (0, [cA'])] with
     | .ok (some q) =>
       (match Py.dictGet? q "x" with | some (some mm) => mm.1.pr == .f64 && mm.2.pr == .f64 | _ => false) &&
       (match Pipeline.quantizePure rxAll env st (some q) with | .ok r => WF.modelOK r.1 | .error _ => false)
     | _ => false) = true ∧
    (match calibrateSessions rxAll env st (some q1x) [(1, [cB]), (0, [cA'])] with
     | .ok (some q) =>
       (match Py.dictGet? q "x", Py.dictGet? qs2 "x" with
        | some (some a), some (some b) => decide (a.1.arr ≠ b.1.arr) && decide (a.1.arr.shape = b.1.arr.shape)
        | _, _ => false)
     | _ => false) = true ∧
    errIs (Mat.generate rxAll (InstC.envCat [1, 2]) st
      (some [("x", some (f32 [-1], f32 [1])), ("y", some (⟨⟨[1], [-2]⟩, .f32⟩, ⟨⟨[1], [2]⟩, .f32⟩))])) .valueError = true := by
  decide +kernel

theorem sessions_eq : calibrateSessions rxAll env st none L = .ok (some qs2) := runs.2.1

/-- the recorded dictionary: the constant `w` keeps the per-channel min/max `initModel` took from its
    data; `x`, `y`, `z` hold the moving average of the two samples of signature `first`; `u`, `v` the sample of `second` -/
theorem qs2_names : qs2.map (·.1) = ["x", "w", "y", "z", "u", "v"] := runs.2.2.1

theorem qs2_x : Py.dictGet? qs2 "x" =
    some (some (⟨⟨[1, 1], [Prec.f32.rn (Prec.f32.rn (CalibExact.c1 * (-1)) + Prec.f32.rn (CalibExact.c2 * (-2)))]⟩, .f32⟩,
                ⟨⟨[1, 1], [Prec.f32.rn (Prec.f32.rn (CalibExact.c1 * 1) + Prec.f32.rn (CalibExact.c2 * (1/2)))]⟩, .f32⟩)) :=
  runs.2.2.2.1

theorem hypModel : HypModel rxAll env st := (hypB_sound _ _ _ _ runs.1.1).model

theorem unshared : Unshared env.model := unsharedB_sound _ runs.1.2.1

theorem kinds_ok : kindsB rxAll env st [(qFC, "FULLY_CONNECTED")] = true := runs.1.2.2.1

theorem consts_ok : constsB env = true := runs.1.2.2.2.1

theorem samples_ok : L.all (fun s => s.2.all contOKB) = true := runs.1.2.2.2.2

/-- no selected operator is a same-as-input operator -/
theorem passRuntime : PassRuntime rxAll env st := by
  intro sg' hsg q hq k scope ops fn S hpass
  rcases kindsB_sound kinds_ok hsg hq S with ⟨_, h⟩ | h | h <;> rw [h] at hpass <;> cases hpass

/-- all tensors have rank 2; the constants are small; there is no CONCATENATION, no bias, no float cast -/
theorem boundedModel : BoundedModel rxAll env st (fun _ => 2) := by
  refine { consts := constsB_sound consts_ok, cat := ?_, bias := ?_, cast := ?_ }
  · intro sg' hsg q hq k scope ops fn S gi hk
    rcases kindsB_sound kinds_ok hsg hq S with ⟨_, h⟩ | h | h <;> rw [h] at hk <;> cases hk
  · intro sg' hsg q hq k scope ops fn S _ iIn iW iB hcs a bt ha
    rcases kindsB_sound kinds_ok hsg hq S with ⟨hm, h⟩ | h | h <;> rw [h] at hcs <;> cases hcs
    obtain ⟨rfl, -⟩ := Prod.mk.inj (List.mem_singleton.1 hm)
    cases ha
  · intro sg' hsg q hq k scope ops fn S a b c hk
    rcases kindsB_sound kinds_ok hsg hq S with ⟨_, h⟩ | h | h <;> rw [h] at hk <;> cases hk

theorem hcont : ∀ s ∈ L, ∀ c ∈ s.2, ContOK (StatName rxAll env st) (fun _ => 2) c := by
  intro s hs c hc
  exact contOKB_sound _ c (List.all_eq_true.1 (List.all_eq_true.1 samples_ok s hs) c hc)

theorem hcov : ∀ i sg, env.model.subgraphs[i]? = some sg → ∃ s ∈ L, s.1 = i ∧ s.2 ≠ [] := by
  intro i sg hi
  rcases i with _ | _ | i
  · exact ⟨(0, [cA]), by simp [L], rfl, by simp⟩
  · exact ⟨(1, [cB]), by simp [L], rfl, by simp⟩
  · simp [env, m] at hi

/-- **ALL hypotheses of `quantize_total_of_fresh_sessions` hold on the instance** -/
theorem quantize_ok : ∃ m' tbl, Pipeline.quantizePure rxAll env st (some qs2) = .ok (m', tbl) ∧ WF.modelOK m' = true :=
  quantize_total_of_fresh_sessions rxAll env st hypModel unshared passRuntime (fun _ => 2) boundedModel (by decide +kernel) (by decide +kernel)
    L qs2 hcov hcont sessions_eq

/-- (cross-check by kernel evaluation: calibration in three sessions, then the whole `quantize()`; six int8 tensors) -/
theorem quantize_runs :
    (match Pipeline.quantizePure rxAll env st (some qs2) with
     | .ok r => r.1.subgraphs.map (fun (s : Subgraph) => s.tensors.map (fun (t : Tensor) => (t.name, t.dtype))) ==
           [[("x", 9), ("w", 9), ("y", 9), ("z", 9)], [("u", 9), ("v", 9)]] && WF.modelOK r.1
     | .error _ => false) = true :=
  runs.2.2.2.2.1

theorem hyp : Hyp rxAll env st (some qs2) :=
  hyp_of_sessions rxAll env st hypModel passRuntime (by decide +kernel) none L qs2 sessions_eq hcov

theorem bounded : Bounded rxAll env st (some qs2) :=
  bounded_of_sessions rxAll env st hypModel.names passRuntime (by decide +kernel) (fun _ => 2) boundedModel none L (some qs2)
    (sInv_nil _ _) hcont sessions_eq

/-! ### restored statistics (`exact` / float64), and resuming from them -/

/-- **ALL hypotheses of `quantize_total_restored` hold**: the recorded statistics, saved and restored as python numbers -/
theorem restored_ok : ∃ m' tbl, Pipeline.quantizePure rxAll env st (some (reformat .exact qs2)) = .ok (m', tbl) ∧
    WF.modelOK m' = true :=
  quantize_total_restored rxAll env st qs2 hyp unshared bounded (by decide +kernel) .exact (.inr (.inr rfl))

/-- (cross-check by kernel evaluation, `exact` and float64) -/
theorem restored_runs :
    (match Pipeline.quantizePure rxAll env st (some (reformat .exact qs2)) with | .ok r => WF.modelOK r.1 | .error _ => false) = true ∧
    (match Pipeline.quantizePure rxAll env st (some (reformat .f64 qs2)) with | .ok r => WF.modelOK r.1 | .error _ => false) = true :=
  runs.2.2.2.2.2.1

/-- the first session alone, saved and restored as python numbers (`q1x`), then RESUMED with the two other sessions (the
    moving average of `exact` and float32 statistics is float64), then quantized: kernel evaluation -/
theorem resumed_runs :
    (match calibrateSessions rxAll env st (some q1x) [(1, [cB]), (0, [cA'])] with
     | .ok (some q) =>
       (match Py.dictGet? q "x" with | some (some mm) => mm.1.pr == .f64 && mm.2.pr == .f64 | _ => false) &&
       (match Pipeline.quantizePure rxAll env st (some q) with | .ok r => WF.modelOK r.1 | .error _ => false)
     | _ => false) = true :=
  runs.2.2.2.2.2.2.1

/-- (observation, C09) the law "resume = one pass" does not survive a save / restore: resumed from restored statistics the
    moving average runs in float64, and the recorded minimum of `x` differs in the last bits from the one of the
    uninterrupted history `L` -- both are good statistics and both histories quantize (`resumed_runs`, `quantize_runs`) -/
theorem restored_resume_differs :
    (match calibrateSessions rxAll env st (some q1x) [(1, [cB]), (0, [cA'])] with
     | .ok (some q) =>
       (match Py.dictGet? q "x", Py.dictGet? qs2 "x" with
        | some (some a), some (some b) => decide (a.1.arr ≠ b.1.arr) && decide (a.1.arr.shape = b.1.arr.shape)
        | _, _ => false)
     | _ => false) = true :=
  runs.2.2.2.2.2.2.2.1

/-! ### the rank-1 expansion branch: a statistic that `calibrate()` cannot produce -/

/-- `y := CONCATENATION(x, c)` with a constant `c` of rank 2 (`C08.InstC.envCat [1, 2]`), and a hand-made statistic of rank 1
    for the rank-2 result `y`: the parameters lent to `c` enter the rank-1 expansion branch of `fix_quantization_params_rank`
    and are rejected -- ValueError (`fixRank_expand_fails`).  `calibrate()` records rank 2 for `y` (`sessions_stats_good`), with
    which the run succeeds. -/
theorem rank1_stat_fails :
    errIs (Mat.generate rxAll (InstC.envCat [1, 2]) st
      (some [("x", some (f32 [-1], f32 [1])), ("y", some (⟨⟨[1], [-2]⟩, .f32⟩, ⟨⟨[1], [2]⟩, .f32⟩))])) .valueError = true ∧
    (match Mat.generate rxAll (InstC.envCat [1, 2]) st (some InstC.qsCat) with | .ok r => r.length | .error _ => 0) = 3 :=
  ⟨runs.2.2.2.2.2.2.2.2, InstC.runs.1.2⟩

end Inst2

end C08
