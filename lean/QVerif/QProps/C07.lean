import QProps.C17b
/-!
# C07 — what the quantizer contributes to the numerics of a full-integer model

The fixed-point kernels of LiteRT are outside this repository.  What makes their integer accumulation
*meaningful* is decided here: the bias is stored with zero point 0 at scale `s_x · s_w`
(`C04.bias_params`), weights are symmetric (`C17.sym_zp_zero`), so the int32 accumulator of a
fully-connected / convolution output channel, multiplied by `s_x · s_w`, is **exactly** the float
operator applied to the dequantized operands (`accumulator_exact`); each dequantized operand is within
half a step of the float value it replaces (`C17.dq_q_rounded`), which bounds the deviation of that
float operator from the original one (`dot_perturbation`).  The requantization of the accumulator to
the output scale and the saturation behaviour are the runtime's: `QProps/C07b.lean` treats them over the
real-valued specification of the kernels.
-/

namespace C07

/-- integer accumulator of one output channel: Σ (q_x − z_x)·q_w + q_b -/
def acc (zx : Int) : List Int → List Int → Int → Int
  | qx :: xs, qw :: ws, qb => (qx - zx) * qw + acc zx xs ws qb
  | _, _, qb => qb

/-- the float operator on dequantized operands: Σ s_x(q_x − z_x) · s_w q_w + (s_x s_w) q_b -/
def deqDot (sx sw : Rat) (zx : Int) : List Int → List Int → Int → Rat
  | qx :: xs, qw :: ws, qb => (sx * ((qx - zx : Int) : Rat)) * (sw * (qw : Rat)) + deqDot sx sw zx xs ws qb
  | _, _, qb => (sx * sw) * (qb : Rat)

/-- **bias scale = input scale × weight scale, zero point 0 ⇒ the integer accumulator is exact** -/
theorem accumulator_exact (sx sw : Rat) (zx : Int) (qx qw : List Int) (qb : Int) :
    (sx * sw) * ((acc zx qx qw qb : Int) : Rat) = deqDot sx sw zx qx qw qb := by
  induction qx generalizing qw with
  | nil => simp [acc, deqDot]
  | cons x xs ih =>
    cases qw with
    | nil => simp [acc, deqDot]
    | cons w ws =>
      simp only [acc, deqDot]
      rw [← ih ws]
      push_cast
      ring

/-- with any other bias scale `sb ≠ s_x s_w` (or a bias zero point) the identity fails already for the
    empty operand vector: the rule is necessary, not a convention -/
theorem bias_scale_necessary (sx sw sb : Rat) (h : sb ≠ sx * sw) :
    ∃ qb : Int, (sx * sw) * ((acc 0 [] [] qb : Int) : Rat) ≠ sb * (qb : Rat) := by
  refine ⟨1, ?_⟩
  simp only [acc, Int.cast_one, mul_one]
  exact fun e => h e.symm

def dot : List Rat → List Rat → Rat
  | x :: xs, w :: ws => x * w + dot xs ws
  | _, _ => 0

/-- perturbation bound: operands within `dx` / `dw` of the float values, |x| ≤ X, |w'| ≤ W ⇒ the dot
    product moves by at most n·(X·dw + W·dx) — the "fixed fraction of the activation magnitude" of
    the statement comes from `dx = s_x/2`, `dw = s_w/2` (C17.dq_q_rounded) -/
theorem dot_perturbation (X W dx dw : Rat) (hX : 0 ≤ X) (hW : 0 ≤ W) (hdx : 0 ≤ dx) (hdw : 0 ≤ dw) :
    ∀ (xs xs' ws ws' : List Rat), xs.length = xs'.length → ws.length = ws'.length → xs.length = ws.length →
      (∀ p ∈ xs.zip xs', |p.1 - p.2| ≤ dx ∧ |p.1| ≤ X) →
      (∀ p ∈ ws.zip ws', |p.1 - p.2| ≤ dw ∧ |p.2| ≤ W) →
      |dot xs ws - dot xs' ws'| ≤ (xs.length : Rat) * (X * dw + W * dx) := by
  intro xs
  induction xs with
  | nil =>
    intro xs' ws ws' h1 h2 h3 _ _
    have e1 : xs' = [] := List.length_eq_zero_iff.mp (by simpa using h1.symm)
    have e2 : ws = [] := List.length_eq_zero_iff.mp (by simpa using h3.symm)
    subst e1 e2
    have e3 : ws' = [] := List.length_eq_zero_iff.mp (by simpa using h2.symm)
    subst e3
    simp [dot]
  | cons x xs ih =>
    intro xs' ws ws' h1 h2 h3 hx hw
    cases xs' with
    | nil => simp at h1
    | cons x' xs' =>
      cases ws with
      | nil => simp at h3
      | cons w ws =>
        cases ws' with
        | nil => simp at h2
        | cons w' ws' =>
          simp only [List.length_cons, Nat.add_right_cancel_iff] at h1 h2 h3
          have hx0 := hx (x, x') (by simp)
          have hw0 := hw (w, w') (by simp)
          have ihh := ih xs' ws ws' h1 h2 h3
            (fun p hp => hx p (by simp only [List.zip_cons_cons, List.mem_cons]; exact Or.inr hp))
            (fun p hp => hw p (by simp only [List.zip_cons_cons, List.mem_cons]; exact Or.inr hp))
          simp only [dot, List.length_cons, Nat.cast_add, Nat.cast_one]
          have e : x * w + dot xs ws - (x' * w' + dot xs' ws') =
              (x * (w - w') + w' * (x - x')) + (dot xs ws - dot xs' ws') := by ring
          rw [e]
          have t1 : |x * (w - w')| ≤ X * dw := by
            rw [abs_mul]; exact mul_le_mul hx0.2 hw0.1 (abs_nonneg _) hX
          have t2 : |w' * (x - x')| ≤ W * dx := by
            rw [abs_mul]; exact mul_le_mul hw0.2 hx0.1 (abs_nonneg _) hW
          have t3 := abs_add_le (x * (w - w') + w' * (x - x')) (dot xs ws - dot xs' ws')
          have t4 := abs_add_le (x * (w - w')) (w' * (x - x'))
          linarith

/-- `acc` evaluated: input zero point −3, two operands, bias code 9 -/
example : acc (-3) [5, -7] [2, 4] 9 = (5 + 3) * 2 + ((-7 + 3) * 4 + 9) := by decide

end C07
