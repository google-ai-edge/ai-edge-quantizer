import QProofs.EvalProofs
/-!
# C06 — weight-only / float16 rewrites compute the reference model's values

The kernels are parameters (`Eval.Sem`): for *every* kernel semantics and every input, running the
rewritten subgraph (constants stored quantized, DEQUANTIZE operators inserted in front of their
consumers) gives the same values as running the input subgraph on the dequantized constants.
-/
open Graph Eval

namespace C06

/-- C06: whenever the rewritten subgraph runs, the input subgraph run on the reference environment
    (constants replaced by their dequantized values) runs too and agrees on every tensor that is not an
    operand/result of an inserted operator (for the graph outputs: `weight_only_outputs`). -/
theorem weight_only_equiv {V : Type} (S : Sem V) (sg sg' : Subgraph)
    (hsk : Skeleton.sameSkeleton sg sg' = true) (hd : deqOnConst sg' = true)
    (e0 e0' : Env V) (href : RefEnv S sg' e0' e0) (e' : Env V)
    (hrun : run S sg'.ops e0' = some e') :
    ∃ e, run S sg.ops e0 = some e ∧ AgreeOff sg' e e' :=
  EvalProofs.weight_only_equiv S sg sg' hsk hd e0 e0' href e' hrun

/-- graph outputs are not operands/results of inserted operators when no graph output is derived, so
    the two runs agree on them -/
theorem weight_only_outputs {V : Type} (S : Sem V) (sg sg' : Subgraph)
    (hsk : Skeleton.sameSkeleton sg sg' = true) (hd : deqOnConst sg' = true)
    (hout : sg'.outputs.all (fun t => !(insInputs sg').contains t && !(insOutputs sg').contains t) = true)
    (e0 e0' : Env V) (href : RefEnv S sg' e0' e0) (e' : Env V)
    (hrun : run S sg'.ops e0' = some e') :
    sg'.outputs = sg.outputs ∧ ∃ e, run S sg.ops e0 = some e ∧ ∀ t ∈ sg.outputs, e t = e' t := by
  obtain ⟨heq, hall⟩ := EvalProofs.outputs_eq hsk hout
  obtain ⟨e, h1, hag⟩ := EvalProofs.weight_only_equiv S sg sg' hsk hd e0 e0' href e' hrun
  exact ⟨heq, e, h1, fun t ht => hag t (hall t ht).1 (hall t ht).2⟩

/-- the converse: under the ordering condition `Eval.insBeforeUse` (every operator reading the
    result of an inserted operator occurs after an inserted operator producing it) and when every
    constant read by an inserted operator has data in the rewritten model, the rewritten subgraph
    runs whenever the input subgraph runs on the reference environment, with the same agreement.
    (`hconst` is needed only for inserted operators whose result nobody reads: such an operator makes
    the rewritten run fail on a missing constant although the reference run never looks at it.) -/
theorem weight_only_equiv_conv {V : Type} (S : Sem V) (sg sg' : Subgraph)
    (hsk : Skeleton.sameSkeleton sg sg' = true) (hd : deqOnConst sg' = true)
    (hord : Eval.insBeforeUse sg' = true)
    (e0 e0' : Env V) (href : RefEnv S sg' e0' e0)
    (hconst : ∀ c ∈ insInputs sg', e0' c ≠ none) (e : Env V)
    (hrun : run S sg.ops e0 = some e) :
    ∃ e', run S sg'.ops e0' = some e' ∧ AgreeOff sg' e e' := by
  rw [← (EvalProofs.eraseOps_of_sameSkeleton hsk).1] at hrun
  obtain ⟨e', h1, hinv⟩ := EvalProofs.run_sim_conv hd sg'.ops (fun _ h => h) [] e0 e0' e
    (EvalProofs.inv_init href) hconst hord hrun
  exact ⟨e', h1, hinv.a⟩

namespace Witness

def t (name : String) (buffer : Nat) : Tensor := { name := name, dtype := 0, shape := [2], buffer := buffer }

/-- input subgraph: one FULLY_CONNECTED-like operator `2 := op(0, 1)`, tensor 1 a constant -/
def sg : Subgraph :=
  { tensors := [t "x" 0, t "w" 1, t "y" 0],
    ops := [{ code := 9, inputs := [0, 1], outputs := [2], orig := some 0 }],
    inputs := [0], outputs := [2] }

/-- rewritten subgraph: `3 := DEQUANTIZE(1)` inserted, the operator now reads `[0, 3]` -/
def sg' : Subgraph :=
  { tensors := [t "x" 0, t "w" 1, t "y" 0, t "w_dequant" 0],
    ops := [{ code := 6, inputs := [1], outputs := [3], orig := none },
            { code := 9, inputs := [0, 3], outputs := [2], orig := some 0 }],
    inputs := [0], outputs := [2] }

/-- kernels over `Nat`: every original operator sums its operands, DEQUANTIZE doubles -/
def S : Sem Nat :=
  { op := fun _ args => some [args.foldl (fun a x => a + x.getD 0) 0],
    ins := fun _ v => 2 * v }

/-- rewritten model: input `5`, stored constant `7` -/
def e0' : Env Nat := fun x => if x = 0 then some 5 else if x = 1 then some 7 else none
/-- reference model: input `5`, dequantized constant `14` -/
def e0 : Env Nat := fun x => if x = 0 then some 5 else if x = 1 then some 14 else none

theorem shape : Skeleton.sameSkeleton sg sg' = true ∧ deqOnConst sg' = true ∧
    Eval.insBeforeUse sg' = true ∧
    sg'.outputs.all (fun t => !(insInputs sg').contains t && !(insOutputs sg').contains t) = true := by
  decide

theorem refEnv : RefEnv S sg' e0' e0 := by
  have hi : insInputs sg' = [1] := rfl
  have ho : insOutputs sg' = [3] := rfl
  have hops : insOps sg' = [{ code := 6, inputs := [1], outputs := [3], orig := none }] := rfl
  refine ⟨?_, ?_, ?_⟩
  · intro x hx
    rw [hi] at hx
    have : x ≠ 1 := by simpa using hx
    simp [e0, e0', this]
  · intro o ho' c n hc hn
    rw [hops] at ho'
    simp only [List.mem_singleton] at ho'
    subst ho'
    simp only [List.cons.injEq, and_true] at hc hn
    subst hc hn
    rfl
  · intro n hn
    rw [ho] at hn
    simp only [List.mem_singleton] at hn
    subst hn
    rfl

theorem runs : ∃ e', run S sg'.ops e0' = some e' ∧ e' 2 = some 19 := ⟨_, rfl, rfl⟩

theorem const_data : ∀ c ∈ insInputs sg', e0' c ≠ none := by
  have hi : insInputs sg' = [1] := rfl
  intro c hc
  rw [hi] at hc
  simp only [List.mem_singleton] at hc
  subst hc
  simp [e0']

end Witness

/-- the hypotheses of `weight_only_equiv` / `weight_only_outputs` are jointly satisfiable (the rewritten
    run outputs 19) … -/
example : ∃ (sg sg' : Subgraph) (S : Sem Nat) (e0 e0' e' : Env Nat),
    Skeleton.sameSkeleton sg sg' = true ∧ deqOnConst sg' = true ∧
    sg'.outputs.all (fun t => !(insInputs sg').contains t && !(insOutputs sg').contains t) = true ∧
    RefEnv S sg' e0' e0 ∧ run S sg'.ops e0' = some e' ∧ e' 2 = some 19 := by
  obtain ⟨e', h1, h2⟩ := Witness.runs
  exact ⟨Witness.sg, Witness.sg', Witness.S, Witness.e0, Witness.e0', e',
    Witness.shape.1, Witness.shape.2.1, Witness.shape.2.2.2, Witness.refEnv, h1, h2⟩

/-- … and applying the theorem to the witness gives the expected reference output -/
example : ∃ e, run Witness.S Witness.sg.ops Witness.e0 = some e ∧ e 2 = some 19 := by
  obtain ⟨e', h1, h2⟩ := Witness.runs
  obtain ⟨_, e, hr, hag⟩ := weight_only_outputs Witness.S Witness.sg Witness.sg'
    Witness.shape.1 Witness.shape.2.1 Witness.shape.2.2.2 Witness.e0 Witness.e0' Witness.refEnv e' h1
  exact ⟨e, hr, by rw [hag 2 (by decide)]; exact h2⟩

/-- the converse's hypotheses are satisfiable as well -/
example : ∃ e', run Witness.S Witness.sg'.ops Witness.e0' = some e' :=
  have ⟨e, hr⟩ : ∃ e, run Witness.S Witness.sg.ops Witness.e0 = some e := ⟨_, rfl⟩
  have ⟨e', h, _⟩ := weight_only_equiv_conv Witness.S Witness.sg Witness.sg' Witness.shape.1
    Witness.shape.2.1 Witness.shape.2.2.1 Witness.e0 Witness.e0' Witness.refEnv Witness.const_data e hr
  ⟨e', h⟩

end C06
