import QProofs.SharingProofs
/-!
# C15 — shared constants are quantized consistently or the request is rejected (decision part)

`checkBufferSharing` accepts a buffer referenced by several tensor uses only if all requests are
pairwise `compatO2T`-compatible with the first one.  The theorems below say what that relation
guarantees: the same source class (all read the float constant, or all read the quantized constant)
and, for quantized uses, `==`-equal parameters — hence one set of stored bytes.  Writing those
bytes is idempotent.
-/
open Graph Mat

namespace C15

def floatSrc (x : Xf) : Bool := x == .addQuant || x == .noQuant
def quantSrc (x : Xf) : Bool := x == .quantTensor || x == .addDequant

/-- compatible requests read the constant through the same kind of source -/
theorem compat_same_class (a b : CO2T) (xa xb : Xf) (ha : a.xfs.head? = some xa) (hb : b.xfs.head? = some xb)
    (h : compatO2T a b = .ok true) :
    (floatSrc xa = true ∧ floatSrc xb = true) ∨ (quantSrc xa = true ∧ quantSrc xb = true) ∨
      (a.xfs = b.xfs ∧ optParamEq a.param b.param = true) := by
  rcases (SharingProofs.compatO2T_ok_iff a b).1 h with h | ⟨x, y, hx, hy, -, hcls⟩
  · exact .inr (.inr h)
  · rw [ha] at hx; rw [hb] at hy; cases hx; cases hy
    rcases Bool.or_eq_true_iff.1 hcls with h | h
    · exact .inl (Bool.and_eq_true_iff.1 h)
    · exact .inr (.inl (Bool.and_eq_true_iff.1 h))

/-- two compatible quantizing requests carry `==`-equal parameter objects -/
theorem compat_params (a b : CO2T) (xa xb : Xf) (ha : a.xfs.head? = some xa) (hb : b.xfs.head? = some xb)
    (hqa : xa ≠ .noQuant) (hqb : xb ≠ .noQuant)
    (h : compatO2T a b = .ok true) : optParamEq a.param b.param = true := by
  rcases (SharingProofs.compatO2T_ok_iff a b).1 h with h | ⟨x, y, hx, hy, hp, -⟩
  · exact h.2
  · rw [ha] at hx; rw [hb] at hy; cases hx; cases hy
    rcases hp with hp | hp | hp
    · exact absurd hp hqa
    · exact absurd hp hqb
    · exact hp

/-- writing the packed data of the same parameter object into a shared buffer twice is the same as
    writing it once: a tied constant is effectively quantized exactly once -/
theorem shared_write_idempotent (bufs : List BufContent) (i : Nat) (p : PId) :
    (bufs.set i (some (.inr p))).set i (some (.inr p)) = bufs.set i (some (.inr p)) := by
  simp

end C15
