import QProofs.Locality
/-!
# C19 — each subgraph is transformed as if it stood alone (whole run)

What the performer does to subgraph `j` of a multi-subgraph model is exactly what it does to the
single-subgraph model extracted from it (`Locality.extract`: the subgraph alone, all buffers and
opcodes kept, its signatures re-indexed to 0) with the instructions of that subgraph
(`Locality.restrict`), up to the position of QUANTIZE/DEQUANTIZE in the shared opcode table
(`Locality.view` resolves the operator codes through the table).

The statement needs one well-formedness fact: the operators of subgraph `j` refer to existing
entries of the opcode table (`hcodes`).  Without it the statement is false
(`C19.hcodes_needed`): a dangling code starts to resolve as soon as an instruction of ANOTHER
subgraph appends QUANTIZE/DEQUANTIZE to the shared table, which the stand-alone run never sees.
-/
open Graph Perform

namespace C19

theorem performer_local (pt : PTable) (m m' : Model) (tis : List TInsts) (j : Nat) (sg : Subgraph)
    (hsg : m.subgraphs[j]? = some sg)
    (hcodes : ∀ o ∈ sg.ops, o.code < m.opcodes.length)
    (h : transformGraph pt m tis = .ok m') :
    ∃ m1', transformGraph pt (Locality.extract m j sg) (Locality.restrict tis j) = .ok m1' ∧
      Locality.view m' j = Locality.view m1' 0 ∧
      Locality.sigsOf m' j = m1'.sigs :=
  Locality.performer_local pt m m' tis j sg hsg hcodes h

namespace Witness

def t (n : String) (b : Nat) : Tensor := { name := n, dtype := 0, shape := [2], buffer := b }

/-- `y := OP9(x, w)`, `w` constant in buffer `b` -/
def sgW (b : Nat) : Subgraph :=
  { tensors := [t "x" 0, t "w" b, t "y" 0],
    ops := [{ code := 0, inputs := [0, 1], outputs := [2], orig := some 0 }],
    inputs := [0], outputs := [2] }

def m : Model :=
  { subgraphs := [sgW 1, sgW 2]
    buffers := [none, some (.inl 0), some (.inl 1)]
    opcodes := [9]
    sigs := [{ key := "a", sg := 0, inputs := [("x", 0)], outputs := [("y", 2)] },
             { key := "b", sg := 1, inputs := [("x", 0)], outputs := [("y", 2)] }] }

def pt : PTable := [(0, { uniform := true, bits := 8, hasData := true })]

/-- (i) DEQUANTIZE after the constant `w` of subgraph 0, (ii) QUANTIZE after the input `x` of subgraph 1 -/
def tis : List TInsts :=
  [{ name := "w", sg := 0,
     insts := [{ xf := .addDequant, tensor := 1, producer := -1, consumers := [0], param := some 0 }] },
   { name := "x", sg := 1,
     insts := [{ xf := .addQuant, tensor := 0, producer := -1, consumers := [0], param := some 0 }] }]

/-- result of the big run: DEQUANTIZE is opcode 1, QUANTIZE is opcode **2** -/
def m' : Model :=
  { subgraphs :=
      [{ tensors := [t "x" 0, { name := "w", dtype := 9, shape := [2], buffer := 1, quant := some 0 }, t "y" 0,
                     t "w_dequant" 0],
         ops := [{ code := 1, inputs := [1], outputs := [3] },
                 { code := 0, inputs := [0, 3], outputs := [2], orig := some 0 }],
         inputs := [0], outputs := [2] },
       { tensors := [t "x" 0, t "w" 2, t "y" 0,
                     { name := "x_quantized", dtype := 9, shape := [2], buffer := 0, quant := some 0 }],
         ops := [{ code := 2, inputs := [0], outputs := [3] },
                 { code := 0, inputs := [3, 1], outputs := [2], orig := some 0 }],
         inputs := [0], outputs := [2] }]
    buffers := [none, some (.inr 0), some (.inl 1)]
    opcodes := [9, 6, 114]
    sigs := m.sigs }

/-- result of the stand-alone run of subgraph 1: QUANTIZE is opcode **1** -/
def m1' : Model :=
  { subgraphs :=
      [{ tensors := [t "x" 0, t "w" 2, t "y" 0,
                     { name := "x_quantized", dtype := 9, shape := [2], buffer := 0, quant := some 0 }],
         ops := [{ code := 1, inputs := [0], outputs := [3] },
                 { code := 0, inputs := [3, 1], outputs := [2], orig := some 0 }],
         inputs := [0], outputs := [2] }]
    buffers := [none, some (.inl 0), some (.inl 1)]
    opcodes := [9, 114]
    sigs := [{ key := "b", sg := 0, inputs := [("x", 0)], outputs := [("y", 2)] }] }

theorem big_run : transformGraph pt m tis = .ok m' := by rfl

theorem small_run : transformGraph pt (Locality.extract m 1 (sgW 2)) (Locality.restrict tis 1) = .ok m1' := by
  rfl

theorem codes_ok : ∀ o ∈ (sgW 2).ops, o.code < m.opcodes.length := by decide +kernel

/-- dangling opcode in subgraph 1 (code 1, table `[9]`) -/
def sgBad : Subgraph :=
  { sgW 2 with ops := [{ code := 1, inputs := [0, 1], outputs := [2], orig := some 0 }] }

def mBad : Model := { m with subgraphs := [sgW 1, sgBad] }

def mBad' : Model :=
  { m' with subgraphs := [m'.subgraphs[0]!, sgBad], opcodes := [9, 6] }

theorem bad_run : transformGraph pt mBad (tis.take 1) = .ok mBad' := by rfl

theorem bad_small_run :
    transformGraph pt (Locality.extract mBad 1 sgBad) (Locality.restrict (tis.take 1) 1) =
      .ok (Locality.extract mBad 1 sgBad) := by rfl

end Witness

/-- NON-VACUITY: the hypotheses of `performer_local` hold on a two-subgraph model whose two runs
    put QUANTIZE at DIFFERENT opcode indices (2 in the shared table, 1 stand-alone) … -/
example : ∃ m', Witness.m.subgraphs[1]? = some (Witness.sgW 2) ∧
    (∀ o ∈ (Witness.sgW 2).ops, o.code < Witness.m.opcodes.length) ∧
    transformGraph Witness.pt Witness.m Witness.tis = .ok m' ∧
    (m'.subgraphs[1]?).map (fun s => s.ops.map (·.code)) = some [2, 0] :=
  ⟨Witness.m', rfl, Witness.codes_ok, Witness.big_run, rfl⟩

/-- … and the theorem applied to it gives the conclusion for `j = 1`: the stand-alone run succeeds and
    subgraph 1 of the big result looks like subgraph 0 of the small result. -/
example : ∃ m1', transformGraph Witness.pt (Locality.extract Witness.m 1 (Witness.sgW 2))
      (Locality.restrict Witness.tis 1) = .ok m1' ∧
    Locality.view Witness.m' 1 = Locality.view m1' 0 ∧ Locality.sigsOf Witness.m' 1 = m1'.sigs :=
  performer_local Witness.pt Witness.m Witness.m' Witness.tis 1 (Witness.sgW 2) rfl Witness.codes_ok
    Witness.big_run

/-- the raw operator codes of the two results really differ (only the resolved view agrees) -/
example : (Witness.m'.subgraphs[1]?).map (fun s => s.ops.map (·.code)) = some [2, 0] ∧
    (Witness.m1'.subgraphs[0]?).map (fun s => s.ops.map (·.code)) = some [1, 0] ∧
    Locality.view Witness.m' 1 = Locality.view Witness.m1' 0 := ⟨rfl, rfl, rfl⟩

/-- **COUNTEREXAMPLE to the statement without `hcodes`.**  Subgraph 1 has an operator with the dangling
    code 1 (the table is `[9]`); the only instruction inserts a DEQUANTIZE in subgraph 0, which appends
    code 6 at index 1 of the SHARED table.  In the big result the operator of subgraph 1 resolves to
    `some 6`; the stand-alone run of subgraph 1 has nothing to do and the operator resolves to `none`. -/
theorem hcodes_needed :
    ¬ ∀ (pt : PTable) (m m' : Model) (tis : List TInsts) (j : Nat) (sg : Subgraph),
        m.subgraphs[j]? = some sg → transformGraph pt m tis = .ok m' →
        ∃ m1', transformGraph pt (Locality.extract m j sg) (Locality.restrict tis j) = .ok m1' ∧
          Locality.view m' j = Locality.view m1' 0 ∧ Locality.sigsOf m' j = m1'.sigs := by
  intro H
  obtain ⟨m1', h1, h2, -⟩ := H Witness.pt Witness.mBad Witness.mBad' (Witness.tis.take 1) 1 Witness.sgBad rfl
    Witness.bad_run
  rw [Witness.bad_small_run] at h1
  cases h1
  have h3 : (some [some 6] : Option (List (Option Nat))) = some [none] :=
    congrArg (fun v => v.map (fun x => x.2.1.map (·.1))) h2
  exact absurd h3 (by decide)

end C19
