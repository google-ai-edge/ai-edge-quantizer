import QProofs.KernelSpec
/-!
# C06b — dynamic-range operators: the analytically computed bound of the runtime's 8-bit activation quantization

Property C06 says that a dynamic-range model agrees with the float model run on the DEQUANTIZED constants
"within the analytically computed bound of the runtime's dynamic 8-bit activation quantization".  The
kernels are outside `QModel/**`; this file states what that bound IS, for the hybrid fully-connected kernel
as the TFLite specification describes it (`QProofs/KernelSpec.lean`, over exact `Rat`): `hybridRow` against the
reference `refRow` of C06, for ANY rounding to a nearest integer (`IsRounding`; numpy's half-to-even and
`std::round`'s half-away-from-zero are instances: no statement depends on tie-breaking).

## Relation to the tolerance of the C06 check (`harness/fam_numeric.py: compare_float_modes`)

The check does NOT use this bound.  Its tolerance for outputs depending on a dynamic-range operator is
`0.08 · mag · max(1, #ops) + 1e-3`, `mag = max(max|y_ref|, amag)`, where `amag` is the reference run on
`|inputs|` with `|constants|` (`absRow` for one row).  The analytic bound is relative to `max|x| · Σ|sw·qw_i|` with
constant `1/254`: below the check's `0.08·mag` whenever `max|x|·Σ|sw·qw_i| ≤ 20.32·mag` (`drq_within_check_tolerance`),
but not in general (`check_tolerance_not_analytic`: one large activation makes the step `sx` large while `amag` only
sees the small activations that meet non-zero weights).  The check's constant is a heuristic for random inputs, not a
sound tolerance for all inputs: a mismatch between the property's wording and the check.
-/
open KernelSpec Num

set_option autoImplicit false

namespace C06

/-- **C06, dynamic-range row**: the hybrid kernel is within `(sx/2)·sw·Σ|qw_i|` of the float operator on the
    dequantized weights, `sx = max|x|/127` -/
theorem drq_row_bound (r : Rat → Int) (hr : IsRounding r) (x : List Rat) (qw : List Int) (sw b : Rat)
    (hsw : 0 ≤ sw) :
    |hybridRow r x qw sw b - refRow x qw sw b| ≤ drqScale x / 2 * sw * l1 qw :=
  KernelSpec.drq_row_bound r hr x qw sw b hsw

/-- relative form: `(max|x| / 254)·Σ|sw·qw_i|` (no hypothesis on the sign of `sw`) -/
theorem drq_row_bound_rel (r : Rat → Int) (hr : IsRounding r) (x : List Rat) (qw : List Int) (sw b : Rat) :
    |hybridRow r x qw sw b - refRow x qw sw b| ≤ maxAbs x / 254 * absSum (deqW sw qw) :=
  KernelSpec.drq_row_bound_rel r hr x qw sw b

/-- the bound is attained WITH EQUALITY (so certainly "up to a factor"): activations `[127, 1/2]` (`sx = 1`,
    the second one a tie), weight codes `[0, 1]`, any weight scale, any bias, any rounding rule -/
theorem drq_row_bound_attained (r : Rat → Int) (hr : IsRounding r) (sw b : Rat) (hsw : 0 ≤ sw) :
    |hybridRow r [127, 1/2] [0, 1] sw b - refRow [127, 1/2] [0, 1] sw b|
      = drqScale [127, 1/2] / 2 * sw * l1 [0, 1] :=
  KernelSpec.drq_row_bound_attained r hr sw b hsw

/-- whole operator, per-channel weight scales: output channel `j` of the batch row `x` obeys the bound with
    ITS weight scale and the batch row's activation scale -/
theorem drq_fc_bound (r : Rat → Int) (hr : IsRounding r) (x : List Rat) (rows : List Row)
    (hsw : ∀ ρ ∈ rows, 0 ≤ ρ.sw) (j : Nat) (hj : j < rows.length) :
    |(hybridFC r x rows)[j]'(by rw [hybridFC_length]; exact hj)
        - (refFC x rows)[j]'(by rw [refFC_length]; exact hj)|
      ≤ drqScale x / 2 * rows[j].sw * l1 rows[j].qw :=
  KernelSpec.drq_fc_bound r hr x rows hsw j hj

/-- per-tensor weight scale: the same `sw` in every channel -/
theorem drq_fc_bound_per_tensor (r : Rat → Int) (hr : IsRounding r) (x : List Rat) (rows : List Row)
    (sw : Rat) (hsw : 0 ≤ sw) (hall : ∀ ρ ∈ rows, ρ.sw = sw) (j : Nat) (hj : j < rows.length) :
    |(hybridFC r x rows)[j]'(by rw [hybridFC_length]; exact hj)
        - (refFC x rows)[j]'(by rw [refFC_length]; exact hj)|
      ≤ drqScale x / 2 * sw * l1 rows[j].qw := by
  have := KernelSpec.drq_fc_bound r hr x rows (fun ρ h => by rw [hall ρ h]; exact hsw) j hj
  rwa [hall _ (List.getElem_mem hj)] at this

/-- a batch: row `i` of the activations has its own scale `drqScale xs[i]` -/
theorem drq_fc_batch_bound (r : Rat → Int) (hr : IsRounding r) (xs : List (List Rat)) (rows : List Row)
    (hsw : ∀ ρ ∈ rows, 0 ≤ ρ.sw) (i : Nat) (hi : i < xs.length) (j : Nat) (hj : j < rows.length) :
    |((hybridFCBatch r xs rows)[i]'(by simp [hybridFCBatch]; exact hi))[j]'(by
          simp [hybridFCBatch, hybridFC]; exact hj)
        - ((refFCBatch xs rows)[i]'(by simp [refFCBatch]; exact hi))[j]'(by
          simp [refFCBatch, refFC]; exact hj)|
      ≤ drqScale xs[i] / 2 * rows[j].sw * l1 rows[j].qw := by
  simp only [hybridFCBatch, refFCBatch, List.getElem_map]
  exact KernelSpec.drq_fc_bound r hr xs[i] rows hsw j hj

/-- when the check's magnitude `mag` is at least `max|x|·Σ|sw·qw_i| / 20.32`, the analytic bound is below the
    check's relative tolerance `0.08·mag` -/
theorem drq_within_check_tolerance (r : Rat → Int) (hr : IsRounding r) (x : List Rat) (qw : List Int)
    (sw b mag : Rat) (hmag : maxAbs x * absSum (deqW sw qw) ≤ 508 / 25 * mag) :
    |hybridRow r x qw sw b - refRow x qw sw b| ≤ 2 / 25 * mag := by
  have := KernelSpec.drq_row_bound_rel r hr x qw sw b
  linarith

/-- the check's tolerance `0.08·max(|y_ref|, amag)·1 + 0.001` is NOT implied by the specification: on this
    input every kernel that follows the specification is off by exactly `1/2`, more than ten times the
    tolerance `0.041` -/
theorem check_tolerance_not_analytic (r : Rat → Int) (hr : IsRounding r) :
    |hybridRow r [127, 1/2] [0, 1] 1 0 - refRow [127, 1/2] [0, 1] 1 0| = 1 / 2 ∧
    2 / 25 * max |refRow [127, 1/2] [0, 1] 1 0| (absRow [127, 1/2] [0, 1] 1 0) * 1 + 1 / 1000 = 41 / 1000 := by
  constructor
  · rw [KernelSpec.drq_row_bound_attained r hr 1 0 (by norm_num)]
    unfold drqScale; rw [maxAbs_witness]; norm_num [l1]
  · norm_num [refRow, absRow, deqW, C07.dot]

/-- a run of the specified kernel with numpy's rounding: `sx = 2/127`, codes `[64, -127, 32]` (the first is a
    tie, rounded to even), result `0.8531…` against the reference `0.85`; error `0.0031 ≤ 0.0047` -/
example : hybridRow rhe [1, -2, 1/2] [3, -1, 2] (1/10) (1/4) = 2167 / 2540 ∧
    refRow [1, -2, 1/2] [3, -1, 2] (1/10) (1/4) = 17 / 20 ∧
    drqScale [1, -2, 1/2] / 2 * (1/10) * l1 [3, -1, 2] = 3 / 635 := by
  decide +kernel

/-- the same with `std::round`: the tie `63.5` goes to `64` as well here -/
example : hybridRow rha [1, -2, 1/2] [3, -1, 2] (1/10) (1/4) = 2167 / 2540 := by decide +kernel

/-- all-zero activations: the kernel returns the bias, the bound is 0 -/
example : hybridRow rhe [0, 0] [5, -7] (1/3) (9/4) = 9 / 4 ∧ drqScale [0, 0] = 0 := by decide +kernel

/-- a 2-channel operator with per-channel scales -/
example : hybridFC rhe [1, -2, 1/2] [⟨[3, -1, 2], 1/10, 1/4⟩, ⟨[0, 4, -4], 1/5, 0⟩]
    = [2167 / 2540, -1272 / 635] := by decide +kernel

end C06
