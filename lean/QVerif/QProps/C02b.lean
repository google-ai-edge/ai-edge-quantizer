import QProofs.IOContract
import QProps.C03d
import QProps.C08c
/-!
# C02, the I/O contract, end to end on `Pipeline.quantizePure`

"Every subgraph keeps the number, order, names and shapes of its inputs and outputs; every signature keeps
its key and argument names, and each signature input/output denotes the same tensor as the corresponding
subgraph input/output.  Model inputs and outputs stay float32 unless a recipe rule covers the model's
INPUT/OUTPUT."

`C02.quantize_skeleton` (`QProps/C02.lean`) gives the skeleton (`Skeleton.sameModelSkeleton`: operators,
wiring, names/shapes of the original tensors, `inputs` unchanged, `outputs.map root` unchanged, signatures
up to the retargeted outputs).  This file states the I/O contract itself; the only hypothesis besides a
successful run is the normal form `PipelineWF.NF` of C01/C02.

About the pseudo-operators of `Mat.generate`: INPUT has no operand and the graph inputs as results, so
its scope (`Mat.opScope`) is the concatenation of the graph-input names, each followed by `;`
(`"x;"` in the instances below); OUTPUT has the graph outputs as operands and NO result, so its scope
is the empty string (`IOContract.outputScope`) -- a recipe rule covers OUTPUT iff its regex matches `""`.
-/
open Graph Mat Perform

namespace C02

/-- what graph output position `j` (original tensor `o`, record `tn`) holds in the output:
    * `o` itself, which keeps name and shape; or
    * a NEW tensor `n` (index ≥ the number of original tensors), the result of the inserted operator
      `op(o) → n`, a QUANTIZE or a DEQUANTIZE, which `Skeleton.root` maps back to `o`; `n` has the shape of
      `o`, references the empty buffer 0, and its name is
      `uniqueName (names of the tensors 0 … n-1 of the output) (name of o ++ "_quantized" / "_dequant")`;
      the result of a DEQUANTIZE is float32 without quantization parameters. -/
abbrev OutputSlot := @IOContract.OutputSlot

/-- **the form of a made-unique name** (`_get_unique_tensor_name`): the base name itself when no
    tensor has it, else the base name followed by `_k`, `k ≥ 1` -- or, a fall-back of the model that the
    search bound `|names| + 1` makes unreachable, by `_` and underscores only -/
theorem uniqueName_form (names : List String) (base : String) :
    (base ∉ names ∧ uniqueName names base = base) ∨
    (base ∈ names ∧ ((∃ k, 1 ≤ k ∧ uniqueName names base = base ++ "_" ++ toString k) ∨
      uniqueName names base = longName names base)) :=
  IOContract.uniqueName_form names base

theorem uniqueName_fresh (names : List String) (base : String) : uniqueName names base ∉ names :=
  GraphBasics.uniqueName_fresh names base

/-- **C02.io_counts_names_shapes.**  If `quantize()` succeeds on a model in normal form then, for every subgraph,
    * the list of graph inputs is unchanged (graph inputs are never retargeted), every graph input is an
      original tensor and keeps name, shape and buffer index;
    * the list of graph outputs has the same length, `Skeleton.root` maps it back to the original list, and
      position `j` is an `OutputSlot`: the original tensor (same name, same shape), or the result of an
      inserted QUANTIZE / DEQUANTIZE of it with the same shape and the name given by `uniqueName`. -/
theorem io_counts_names_shapes (rx : String → String → Bool) (env : Env) (st : Recipe.State)
    (qsvs : Option Qsvs) (m' : Model) (tbl : List Param) (hnf : PipelineWF.NF env st)
    (h : Pipeline.quantizePure rx env st qsvs = .ok (m', tbl))
    (s : Nat) (sg sg' : Subgraph) (hsg : env.model.subgraphs[s]? = some sg) (hsg' : m'.subgraphs[s]? = some sg') :
    sg'.inputs = sg.inputs ∧ sg'.outputs.length = sg.outputs.length ∧
    sg'.outputs.map (Skeleton.root sg') = sg.outputs ∧
    (∀ i ∈ sg.inputs, ∃ tn tn', 0 ≤ i ∧ sg.tensors[i.toNat]? = some tn ∧ sg'.tensors[i.toNat]? = some tn' ∧
      tn'.name = tn.name ∧ tn'.shape = tn.shape ∧ tn'.buffer = tn.buffer) ∧
    ∀ (j : Nat) (o : Int), sg.outputs[j]? = some o → OutputSlot m' sg sg' j o :=
  IOContract.io_shape rx env st qsvs m' tbl hnf h s sg sg' hsg hsg'

/-- **C02.io_signatures.**  Every signature keeps key, subgraph index, its inputs and the number and NAMES of its outputs; an
    output entry that denoted tensor `e0.2` denotes what every graph output position that held `e0.2` now holds ("each
    signature output denotes the same tensor as the corresponding subgraph output"), and is unchanged if `e0.2` was no graph
    output (`WF.modelOK` only requires signature entries to be valid tensor indices, hence the two cases). -/
theorem io_signatures (rx : String → String → Bool) (env : Env) (st : Recipe.State)
    (qsvs : Option Qsvs) (m' : Model) (tbl : List Param) (hnf : PipelineWF.NF env st)
    (h : Pipeline.quantizePure rx env st qsvs = .ok (m', tbl)) :
    m'.sigs.length = env.model.sigs.length ∧
    ∀ (i : Nat) (s0 : Sig), env.model.sigs[i]? = some s0 →
      ∃ (s1 : Sig) (sg sg' : Subgraph), m'.sigs[i]? = some s1 ∧ env.model.subgraphs[s0.sg]? = some sg ∧
        m'.subgraphs[s0.sg]? = some sg' ∧
        s1.key = s0.key ∧ s1.sg = s0.sg ∧ s1.inputs = s0.inputs ∧ sg'.inputs = sg.inputs ∧
        s1.outputs.length = s0.outputs.length ∧
        ∀ (k : Nat) (e0 : String × Int), s0.outputs[k]? = some e0 →
          ∃ e1, s1.outputs[k]? = some e1 ∧ e1.1 = e0.1 ∧
            (∀ j : Nat, sg.outputs[j]? = some e0.2 → sg'.outputs[j]? = some e1.2) ∧
            (e0.2 ∉ sg.outputs → e1 = e0) :=
  IOContract.io_signatures rx env st qsvs m' tbl hnf h

/-- corollary (the converter's layout): a signature whose outputs are the subgraph outputs, in order, is
    still one in the output -/
theorem sig_outputs_aligned (rx : String → String → Bool) (env : Env) (st : Recipe.State)
    (qsvs : Option Qsvs) (m' : Model) (tbl : List Param) (hnf : PipelineWF.NF env st)
    (h : Pipeline.quantizePure rx env st qsvs = .ok (m', tbl))
    (i : Nat) (s0 s1 : Sig) (sg sg' : Subgraph) (h0 : env.model.sigs[i]? = some s0)
    (h1 : m'.sigs[i]? = some s1) (hsg : env.model.subgraphs[s0.sg]? = some sg)
    (hsg' : m'.subgraphs[s0.sg]? = some sg')
    (hal : s0.outputs.map (·.2) = sg.outputs) : s1.outputs.map (·.2) = sg'.outputs :=
  IOContract.sig_outputs_aligned rx env st qsvs m' tbl hnf h i s0 s1 sg sg' h0 h1 hsg hsg' hal

abbrev inputOp := @IOContract.inputOp
abbrev outputOp := @IOContract.outputOp

/-- the recipe resolves the INPUT pseudo-operator of `sg` to `no_quantize`: no rule matches, an explicit
    `no_quantize` rule, or only rules whose config INPUT does not support -/
abbrev InputNoQuant := @IOContract.InputNoQuant
/-- the recipe resolves the OUTPUT pseudo-operator (scope `""`) to `no_quantize` -/
abbrev OutputNoQuant := @IOContract.OutputNoQuant

/-- a recipe none of whose regexes matches `""` (e.g. only rules written for a name scope such as `dense/`)
    leaves the graph outputs unquantized, whatever its `operation` fields say -/
theorem outputNoQuant_of_nomatch (rx : String → String → Bool) (st : Recipe.State)
    (h : ∀ e ∈ st, rx e.1 "" = false) : OutputNoQuant rx st :=
  IOContract.outputNoQuant_of_nomatch rx st h

/-- what graph output position `j` (original tensor `o`) holds when OUTPUT is not covered: `o` itself
    with its ORIGINAL record, or -- `o` a float32 runtime tensor that is produced quantized -- a NEW float32
    tensor without quantization parameters over buffer 0 (shape of `o`, name `uniqueName … (name ++
    "_dequant")`), the result of an inserted `DEQUANTIZE(o)` -/
abbrev FloatOutput := @IOContract.FloatOutput

/-- **C02.io_float_unless_covered.**
    * If the recipe resolves INPUT to `no_quantize`, every graph input of the output is the original tensor
      with its ORIGINAL record (name, dtype, shape, buffer) and has no quantization parameters: float32
      inputs stay float32.
    * If the recipe resolves OUTPUT to `no_quantize`, every graph output position is a `FloatOutput`: the
      original tensor with its original record, or the float32 result of an inserted DEQUANTIZE of a float32
      tensor; in both cases without quantization parameters. -/
theorem io_float_unless_covered (rx : String → String → Bool) (env : Env) (st : Recipe.State)
    (qsvs : Option Qsvs) (m' : Model) (tbl : List Param) (hnf : PipelineWF.NF env st)
    (h : Pipeline.quantizePure rx env st qsvs = .ok (m', tbl))
    (s : Nat) (sg sg' : Subgraph) (hsg : env.model.subgraphs[s]? = some sg) (hsg' : m'.subgraphs[s]? = some sg') :
    (InputNoQuant rx st sg → sg'.inputs = sg.inputs ∧
      ∀ i ∈ sg.inputs, ∃ tn, 0 ≤ i ∧ sg.tensors[i.toNat]? = some tn ∧ sg'.tensors[i.toNat]? = some tn ∧
        tn.quant = none) ∧
    (OutputNoQuant rx st → ∀ (j : Nat) (o : Int), sg.outputs[j]? = some o → FloatOutput env m' sg sg' j o) :=
  ⟨IOContract.input_float rx env st qsvs m' tbl hnf h s sg sg' hsg hsg',
   IOContract.output_float rx env st qsvs m' tbl hnf h s sg sg' hsg hsg'⟩

/-- corollary, in terms of the tensors of the OUTPUT model only: with OUTPUT not covered, the tensor at
    graph output position `j` has the dtype and shape of the original output tensor and no quantization
    parameters (float32 outputs stay float32) -/
theorem io_dtype_unless_covered (rx : String → String → Bool) (env : Env) (st : Recipe.State)
    (qsvs : Option Qsvs) (m' : Model) (tbl : List Param) (hnf : PipelineWF.NF env st)
    (h : Pipeline.quantizePure rx env st qsvs = .ok (m', tbl))
    (s : Nat) (sg sg' : Subgraph) (hsg : env.model.subgraphs[s]? = some sg) (hsg' : m'.subgraphs[s]? = some sg')
    (hout : OutputNoQuant rx st) (j : Nat) (o : Int) (hj : sg.outputs[j]? = some o) :
    ∃ (o' : Int) (tn tn' : Tensor), sg'.outputs[j]? = some o' ∧ 0 ≤ o' ∧ sg.tensors[o.toNat]? = some tn ∧
      sg'.tensors[o'.toNat]? = some tn' ∧ tn'.dtype = tn.dtype ∧ tn'.shape = tn.shape ∧ tn'.quant = none := by
  obtain ⟨tn, h0, htn, hq, hcase⟩ :=
    (io_float_unless_covered rx env st qsvs m' tbl hnf h s sg sg' hsg hsg').2 hout j o hj
  rcases hcase with ⟨a, b⟩ | ⟨hf, -, n, ci, a, -, b, -⟩
  · exact ⟨o, tn, tn, a, h0, htn, b, rfl, rfl, hq⟩
  · exact ⟨(n : Int), tn, Wiring.fresh _ tn, a, by omega, htn, by rw [Int.toNat_natCast]; exact b, hf.symm,
      rfl, rfl⟩

/-! ## NON-VACUITY: FULLY_CONNECTED under a FULLY_CONNECTED-only static-range rule, with a signature

`y := FC(x, w)`; signature `serving_default(x) → y`; recipe: FULLY_CONNECTED ↦ static-range int8, nothing
else matches, so INPUT and OUTPUT resolve to `no_quantize`: a QUANTIZE is inserted after the graph input,
a DEQUANTIZE in front of the graph output, the graph I/O stay float32, the signature output follows the
retargeted graph output.  The model also contains an unused tensor that already has the name
`y_dequant`, so the new output tensor is named `y_dequant_1`. -/
namespace E2E
open C15.E2E C15.Defect C03.E2E

def sgS : Subgraph :=
  { tensors := [T "x" [1,2] 0, T "w" [2,2] 1, T "y" [1,2] 0, T "y_dequant" [1] 0],
    ops := [{ code := 0, inputs := [0,1,-1], outputs := [2], orig := some 0 }],
    inputs := [0], outputs := [2] }
def mS : Model :=
  { subgraphs := [sgS], buffers := [none, some (.inl 0)], opcodes := [9],
    sigs := [{ key := "serving_default", sg := 0, inputs := [("x", 0)], outputs := [("y", 2)] }] }
def envS : Env := { model := mS, consts := [(1, [1,2,3,4])], adjY := [] }
def qsS : Qsvs := [("x", some (f32 [1,1] [1], f32 [1,1] [2])), ("y", some (f32 [1,1] [1], f32 [1,1] [4]))]

def sgS' : Subgraph :=
  { tensors := [T "x" [1,2] 0, { T "w" [2,2] 1 with dtype := 9, quant := some 1 },
                { T "y" [1,2] 0 with dtype := 9, quant := some 2 }, T "y_dequant" [1] 0,
                { T "x_quantized" [1,2] 0 with dtype := 9, quant := some 0 }, T "y_dequant_1" [1,2] 0],
    ops := [{ code := 1, inputs := [0], outputs := [4] },
            { code := 0, inputs := [4, 1, -1], outputs := [2], orig := some 0 },
            { code := 2, inputs := [2], outputs := [5] }],
    inputs := [0], outputs := [5] }
def mS' : Model :=
  { subgraphs := [sgS'], buffers := [none, some (.inr 1)], opcodes := [9, 114, 6],
    sigs := [{ key := "serving_default", sg := 0, inputs := [("x", 0)], outputs := [("y", 5)] }] }

/-- the result of the same model under `C15.Defect.stG` (instance (b) below) -/
def sgQ' : Subgraph :=
  { tensors := [{ T "x" [1,2] 0 with dtype := 9, quant := some 0 }, T "w" [2,2] 1, T "y" [1,2] 0,
                T "y_dequant" [1] 0, T "x_dequant" [1,2] 0,
                { T "y_quantized" [1,2] 0 with dtype := 9, quant := some 1 }],
    ops := [{ code := 1, inputs := [0], outputs := [4] },
            { code := 0, inputs := [4, 1, -1], outputs := [2], orig := some 0 },
            { code := 2, inputs := [2], outputs := [5] }],
    inputs := [0], outputs := [5] }
def mQ' : Model :=
  { subgraphs := [sgQ'], buffers := [none, some (.inl 0)], opcodes := [9, 6, 114],
    sigs := [{ key := "serving_default", sg := 0, inputs := [("x", 0)], outputs := [("y", 5)] }] }

theorem evaluated :
    -- `mS` under the FULLY_CONNECTED-only recipe `stA`: normal form, the run, INPUT (scope `"x;"`)
    -- and OUTPUT (scope `""`) are not covered
    (NFCheck.nfOK envS stA = true ∧
      (Pipeline.quantizePure rxAll envS stA (some qsS)).map (·.1) = .ok mS' ∧
      Mat.opScope sgS (inputOp sgS) = .ok "x;" ∧
      (Recipe.resolve rxAll stA "INPUT" "x;").1 = Tables.algNoQuantize ∧
      (Recipe.resolve rxAll stA "OUTPUT" "").1 = Tables.algNoQuantize) ∧
    -- `C08.Inst` under the shipped recipe: INPUT and OUTPUT are covered (the run is `C08.Inst.run`)
    (Mat.opScope C08.Inst.sg (inputOp C08.Inst.sg) = .ok "x;" ∧
      (Recipe.resolve C08.Inst.rxAll C08.Inst.st "INPUT" "x;").1 = Tables.algMinMax ∧
      (Recipe.resolve C08.Inst.rxAll C08.Inst.st "OUTPUT" "").1 = Tables.algMinMax ∧
      Tables.algMinMax ≠ Tables.algNoQuantize) ∧
    -- `mS` under `stG`: normal form, the run, OUTPUT is covered, FULLY_CONNECTED is not
    (NFCheck.nfOK envS stG = true ∧
      (Pipeline.quantizePure rxAll envS stG (some qsS)).map (·.1) = .ok mQ' ∧
      (Recipe.resolve rxAll stG "OUTPUT" "").1 ≠ Tables.algNoQuantize ∧
      (Recipe.resolve rxAll stG "FULLY_CONNECTED" "y;").1 = Tables.algNoQuantize) := by
  decide +kernel

theorem nfS : PipelineWF.NF envS stA := NFCheckProofs.nfOK_sound envS stA evaluated.1.1

theorem runS : ∃ tbl, Pipeline.quantizePure rxAll envS stA (some qsS) = .ok (mS', tbl) :=
  PyM.run_of_map evaluated.1.2.1

theorem inputNoQuantS : InputNoQuant rxAll stA sgS := ⟨"x;", evaluated.1.2.2.1, evaluated.1.2.2.2.1⟩
theorem outputNoQuantS : OutputNoQuant rxAll stA := evaluated.1.2.2.2.2

/-- all hypotheses of `io_counts_names_shapes` hold on the instance, the theorem applies … -/
theorem shape_instance :
    sgS'.inputs = sgS.inputs ∧ sgS'.outputs.length = sgS.outputs.length ∧
    sgS'.outputs.map (Skeleton.root sgS') = sgS.outputs ∧
    (∀ i ∈ sgS.inputs, ∃ tn tn', 0 ≤ i ∧ sgS.tensors[i.toNat]? = some tn ∧ sgS'.tensors[i.toNat]? = some tn' ∧
      tn'.name = tn.name ∧ tn'.shape = tn.shape ∧ tn'.buffer = tn.buffer) ∧
    ∀ (j : Nat) (o : Int), sgS.outputs[j]? = some o → OutputSlot mS' sgS sgS' j o := by
  obtain ⟨tbl, hrun⟩ := runS
  exact io_counts_names_shapes rxAll envS stA (some qsS) mS' tbl nfS hrun 0 sgS sgS' rfl rfl

/-- … and what it says here: output position 0 holds the NEW tensor 5, named `y_dequant_1` (the name
    `y_dequant` is taken), shape of `y`, float32 without parameters, produced by the inserted operator
    `{code := 2} : 2 → 5`, a DEQUANTIZE (builtin code 6), whose root is `y` -/
example : sgS'.outputs = [5] ∧ sgS'.tensors[5]? = some (T "y_dequant_1" [1,2] 0) ∧
    uniqueName ((sgS'.tensors.take 5).map (·.name)) ("y" ++ "_dequant") = "y_dequant_1" ∧
    ({ code := 2, inputs := [2], outputs := [5], orig := none } : Op) ∈ sgS'.ops ∧
    mS'.opcodes[2]? = some Tables.opDequantize ∧ Skeleton.root sgS' 5 = 2 := by decide +kernel

/-- the second alternative of `OutputSlot` is the one realised (position 0 does not hold `y` itself) -/
example : ¬ (sgS'.outputs[0]? = some 2) := by decide

/-- `io_signatures` applies: the signature keeps key / subgraph / inputs, and its output `y` now denotes
    tensor 5, the tensor at graph output position 0 -/
theorem sig_instance :
    ∃ s1, mS'.sigs[0]? = some s1 ∧ s1.key = "serving_default" ∧ s1.sg = 0 ∧ s1.inputs = [("x", 0)] ∧
      s1.outputs.map (·.2) = sgS'.outputs := by
  obtain ⟨tbl, hrun⟩ := runS
  obtain ⟨-, hall⟩ := io_signatures rxAll envS stA (some qsS) mS' tbl nfS hrun
  obtain ⟨s1, sg, sg', a1, a2, a3, a4, a5, a6, -⟩ := hall 0 _ rfl
  exact ⟨s1, a1, a4, a5, a6,
    sig_outputs_aligned rxAll envS stA (some qsS) mS' tbl nfS hrun 0 _ s1 sgS sgS' rfl a1 rfl rfl rfl⟩

example : mS'.sigs = [{ key := "serving_default", sg := 0, inputs := [("x", 0)], outputs := [("y", 5)] }] := rfl

/-- all hypotheses of `io_float_unless_covered` hold (INPUT and OUTPUT are not covered): the graph input
    `x` has its original float32 record, the graph output position 0 is a `FloatOutput` -/
theorem float_instance :
    (∀ i ∈ sgS.inputs, ∃ tn, 0 ≤ i ∧ sgS.tensors[i.toNat]? = some tn ∧ sgS'.tensors[i.toNat]? = some tn ∧
      tn.quant = none) ∧
    FloatOutput envS mS' sgS sgS' 0 2 := by
  obtain ⟨tbl, hrun⟩ := runS
  obtain ⟨hin, hout⟩ := io_float_unless_covered rxAll envS stA (some qsS) mS' tbl nfS hrun 0 sgS sgS' rfl rfl
  exact ⟨(hin inputNoQuantS).2, hout outputNoQuantS 0 2 rfl⟩

/-- read on the instance: `x` is untouched and float32, the graph output is the float32 tensor `y_dequant_1`
    (the quantized FULLY_CONNECTED sits between an inserted QUANTIZE and an inserted DEQUANTIZE) -/
example : sgS'.tensors[0]? = some (T "x" [1,2] 0) ∧ (T "x" [1,2] 0).dtype = Tables.ttFloat32 ∧
    sgS'.tensors[5]? = some (Wiring.fresh "y_dequant_1" (T "y" [1,2] 0)) ∧
    (Wiring.fresh "y_dequant_1" (T "y" [1,2] 0)).dtype = Tables.ttFloat32 ∧
    (sgS'.ops[0]'(by decide)) = { code := 1, inputs := [0], outputs := [4] } ∧
    mS'.opcodes[1]? = some Tables.opQuantize := by decide +kernel

/-! ### converse sanity facts

**(a) the shipped static-range recipe covers INPUT / OUTPUT.**  `C08.Inst`: `y := FC(x, w)`, `z := TANH(y)`
under `recipes/default_a8w8_recipe.json` (`C08.Inst.st_shipped`): the single `'.*'` / `'*'` rule matches the
scopes `"x;"` and `""` of INPUT and OUTPUT, the hypotheses of `io_float_unless_covered` FAIL, and the graph
input and output of the result are int8 with quantization parameters (no QUANTIZE / DEQUANTIZE at the
border): the documented behaviour of full-integer recipes. -/

theorem shipped_covers_io :
    ¬ InputNoQuant C08.Inst.rxAll C08.Inst.st C08.Inst.sg ∧ ¬ OutputNoQuant C08.Inst.rxAll C08.Inst.st ∧
    (Recipe.resolve C08.Inst.rxAll C08.Inst.st "INPUT" "x;").1 = Tables.algMinMax ∧
    (Recipe.resolve C08.Inst.rxAll C08.Inst.st "OUTPUT" "").1 = Tables.algMinMax := by
  obtain ⟨hs, hi, ho, hne⟩ := evaluated.2.1
  refine ⟨?_, fun h => hne (ho.symm.trans h), hi, ho⟩
  rintro ⟨scope, hsc, hr⟩
  rw [hs] at hsc
  cases hsc
  exact hne (hi.symm.trans hr)

theorem shipped_io_integer :
    (match Pipeline.quantizePure C08.Inst.rxAll C08.Inst.env C08.Inst.st (some C08.Inst.qs) with
     | .ok r => r.1.subgraphs.map (fun (s : Subgraph) => (s.inputs, s.outputs,
           s.inputs.map (fun i => (s.tensors[i.toNat]?).map (fun (t : Tensor) => (t.name, t.dtype, t.quant.isSome))),
           s.outputs.map (fun i => (s.tensors[i.toNat]?).map (fun (t : Tensor) => (t.name, t.dtype, t.quant.isSome))),
           s.ops.all (·.orig.isSome))) ==
         [([0], [3], [some ("x", Tables.ttInt8, true)], [some ("z", Tables.ttInt8, true)], true)]
     | .error _ => false) = true := by
  rw [C08.Inst.run]
  decide

/-! **(b) an OUTPUT-covering rule with a float producer inserts a QUANTIZE in front of the graph output.**
The model `mS` under `C15.Defect.stG`: `'*'` ↦ static-range int8, then FULLY_CONNECTED ↦ `no_quantize`.
INPUT and OUTPUT are covered, the FULLY_CONNECTED stays float: the graph input `x` becomes int8 and is
dequantized for the operator; the operator's float32 result `y` is quantized for the graph output, which
is the NEW int8 tensor `y_quantized` (first alternative of the name clause of `OutputSlot`). -/

theorem nfQ : PipelineWF.NF envS stG := NFCheckProofs.nfOK_sound envS stG evaluated.2.2.1

theorem runQ : ∃ tbl, Pipeline.quantizePure rxAll envS stG (some qsS) = .ok (mQ', tbl) :=
  PyM.run_of_map evaluated.2.2.2.1

/-- OUTPUT is covered (the hypothesis of the OUTPUT half of `io_float_unless_covered` fails), the
    FULLY_CONNECTED is not; the graph output of the result is the int8 tensor 5 `y_quantized`, the result of
    the inserted QUANTIZE (builtin code 114) of the float32 tensor `y` -/
theorem output_covered_quantize_inserted :
    ¬ OutputNoQuant rxAll stG ∧ (Recipe.resolve rxAll stG "FULLY_CONNECTED" "y;").1 = Tables.algNoQuantize ∧
    sgQ'.outputs = [5] ∧ sgQ'.tensors[2]? = some (T "y" [1,2] 0) ∧
    sgQ'.tensors[5]? = some { T "y_quantized" [1,2] 0 with dtype := Tables.ttInt8, quant := some 1 } ∧
    ({ code := 2, inputs := [2], outputs := [5], orig := none } : Op) ∈ sgQ'.ops ∧
    mQ'.opcodes[2]? = some Tables.opQuantize ∧ sgQ'.tensors[0]? = some { T "x" [1,2] 0 with dtype := Tables.ttInt8, quant := some 0 } := by
  obtain ⟨_, _, ⟨_, _, hout, hfc⟩⟩ := evaluated
  exact ⟨hout, hfc, by decide +kernel⟩

/-- `io_counts_names_shapes` still applies (it does not depend on what the recipe covers): output position 0
    is an `OutputSlot`, here through its QUANTIZE alternative -/
theorem shape_instance_covered : OutputSlot mQ' sgS sgQ' 0 2 := by
  obtain ⟨tbl, hrun⟩ := runQ
  exact (io_counts_names_shapes rxAll envS stG (some qsS) mQ' tbl nfQ hrun 0 sgS sgQ' rfl rfl).2.2.2.2 0 2 rfl

example : uniqueName ((sgQ'.tensors.take 5).map (·.name)) ("y" ++ "_quantized") = "y_quantized" := by decide +kernel

end E2E

end C02
