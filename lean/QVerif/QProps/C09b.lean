import QProofs.CalibExact
import QProofs.GenInstsOK
/-!
# C09b — calibration statistics are EXACT and order-faithful

"After calibrating on a dataset, the recorded min/max of every runtime tensor equals the
exponential moving average (weight 0.95 on the old value, first sample initialises) of that
tensor's true per-sample min and max in the float model, taken in dataset order, and every
constant's statistics equal its true per-tensor or per-channel min/max."

* `emaSpec` is the declarative value: `[] ↦ {}`, `q :: rest ↦ rest.foldlM ema q`.
* `sampleStat n c` is the statistic sample `c` contributes to the tensor named `n`:
  `minMaxAll (c[n])`, the whole-tensor min / max of the contents the interpreter reports.
* The interpreter is external, so "true per-sample min and max in the float model" is: of the
  contents handed to the calibrator for that sample.

What the runtime statement needs and does not need:
* unique tensor names inside the calibrated subgraph are NOT needed for the runtime statement
  (contents and statistics are both keyed by name, and the `updated` list makes every name count
  once per sample);
* what IS needed is that the name does not start with statistics of a CONSTANT: statistics are
  keyed by tensor name across ALL subgraphs, so a constant called `n` in an earlier subgraph (or an
  earlier operator) seeds the entry of a runtime tensor called `n` and the first sample is averaged
  into the constant's min/max instead of initialising (`Collision.not_exact`).
-/
open Graph Arith Cfg Num Nd Mat Calib

namespace C09

export CalibExact (emaSpec sampleStat ConstNamed Selected UsesName Touches)

theorem emaSpec_eq (vs : List Qsv) : emaSpec vs = vs.foldlM ema none :=
  CalibExact.emaSpec_eq_foldlM vs

theorem emaSpec_cons (q : Qsv) (rest : List Qsv) : emaSpec (q :: rest) = rest.foldlM ema q := rfl

/-- **runtime statistics are exact** (sharpest form).  `hinit` says that the entry
    `_initialize_model_qsvs` creates for the name carries no statistics; it is necessary
    (`Collision.not_exact`). -/
theorem runtime_stats_exact_of_init (rx : String → String → Bool) (env : Env) (st : Recipe.State)
    (sgi : Nat) (sg : Subgraph) (hsg : env.model.subgraphs[sgi]? = some sg)
    (samples : List Contents) (hne : samples ≠ []) (qs : Qsvs)
    (hneed : Recipe.needCalibration st = true)
    (h : calibrate rx env st sgi none samples = .ok qs)
    (op : Op) (k scope : String) (hop : CalibProofs.IsOp env sg op k) (hscope : opScope sg op = .ok scope)
    (hsel : (Recipe.resolve rx st k scope).1 = Tables.algMinMax)
    (i : Int) (hi : i ∈ op.inputs ++ op.outputs) (hi1 : i ≠ -1) (t : Tensor) (ht : tensorAt sg i = .ok t)
    (hnc : constAny env t = none)
    (hinit : ∀ q0, initModel rx env st = .ok q0 → (Py.dictGet? q0 t.name).join = none) :
    ∃ vs, samples.mapM (sampleStat t.name) = .ok vs ∧
      ∃ v, emaSpec vs = .ok v ∧ Py.dictGet? qs t.name = some v :=
  CalibExact.runtime_stats_exact_of_init rx env st sgi sg hsg samples hne qs hneed h t
    ⟨op, k, scope, i, hop, hscope, hsel, hi, hi1, ht, hnc⟩ hinit

/-- **runtime statistics are exact**: after a fresh `calibrate()` on a non-empty dataset, the entry
    of every non-constant operand / result `t` of every operator (or INPUT / OUTPUT pseudo-operator)
    selected for min/max is the left fold of `ema` over the per-sample whole-tensor min / max of
    `t`'s contents, in dataset order, each sample counted once — provided no tensor of that name,
    anywhere in the model, is a constant with data (`¬ ConstNamed env t.name`). -/
theorem runtime_stats_exact (rx : String → String → Bool) (env : Env) (st : Recipe.State)
    (sgi : Nat) (sg : Subgraph) (hsg : env.model.subgraphs[sgi]? = some sg)
    (samples : List Contents) (hne : samples ≠ []) (qs : Qsvs)
    (hneed : Recipe.needCalibration st = true)
    (h : calibrate rx env st sgi none samples = .ok qs)
    (op : Op) (k scope : String) (hop : CalibProofs.IsOp env sg op k) (hscope : opScope sg op = .ok scope)
    (hsel : (Recipe.resolve rx st k scope).1 = Tables.algMinMax)
    (i : Int) (hi : i ∈ op.inputs ++ op.outputs) (hi1 : i ≠ -1) (t : Tensor) (ht : tensorAt sg i = .ok t)
    (hnc : constAny env t = none)
    (hname : ¬ ConstNamed env t.name) :
    ∃ vs, samples.mapM (sampleStat t.name) = .ok vs ∧
      ∃ v, emaSpec vs = .ok v ∧ Py.dictGet? qs t.name = some v :=
  CalibExact.runtime_stats_exact rx env st sgi sg hsg samples hne qs hneed h op k scope hop
    hscope hsel i hi hi1 t ht hnc hname

/-- **resumed calibration is exact**: calibrating `D2` on top of the result of `D1` records the
    specification of `D1 ++ D2` -/
theorem resumed_stats_exact (rx : String → String → Bool) (env : Env) (st : Recipe.State)
    (sgi : Nat) (sg : Subgraph) (hsg : env.model.subgraphs[sgi]? = some sg)
    (D1 D2 : List Contents) (hne : D1 ++ D2 ≠ []) (q1 q2 : Qsvs)
    (hneed : Recipe.needCalibration st = true)
    (h1 : calibrate rx env st sgi none D1 = .ok q1)
    (h2 : calibrate rx env st sgi (some q1) D2 = .ok q2)
    (op : Op) (k scope : String) (hop : CalibProofs.IsOp env sg op k) (hscope : opScope sg op = .ok scope)
    (hsel : (Recipe.resolve rx st k scope).1 = Tables.algMinMax)
    (i : Int) (hi : i ∈ op.inputs ++ op.outputs) (hi1 : i ≠ -1) (t : Tensor) (ht : tensorAt sg i = .ok t)
    (hnc : constAny env t = none)
    (hname : ¬ ConstNamed env t.name) :
    ∃ vs, (D1 ++ D2).mapM (sampleStat t.name) = .ok vs ∧
      ∃ v, emaSpec vs = .ok v ∧ Py.dictGet? q2 t.name = some v :=
  CalibExact.resumed_stats_exact rx env st sgi sg hsg D1 D2 hne q1 q2 hneed h1 h2 op k scope hop
    hscope hsel i hi hi1 t ht hnc hname

/-- **statistics of constants are exact and never changed by the samples.**
    Let `(P, J)` be the first position in model order (subgraph index, then operator index) of an
    operator that is selected for min/max and has an operand / result named like `t` (`hfirst`),
    let `t` be the tensor of that name among its operands (`huses`, `huniq`; `huniq` follows from
    unique tensor names in subgraph `P`, see `uniq_of_nodup`), and let no NON-constant tensor of
    the calibrated subgraph carry the name (`hnr`).  Then after `calibrate()` the entry of the name
    is `initTensor` of `t` computed with the `OpInfo` of THAT operator, whatever the samples are. -/
theorem const_stats_exact (rx : String → String → Bool) (env : Env) (st : Recipe.State)
    (sgi : Nat) (sgc : Subgraph) (hsgc : env.model.subgraphs[sgi]? = some sgc)
    (samples : List Contents) (qs : Qsvs) (hneed : Recipe.needCalibration st = true)
    (h : calibrate rx env st sgi none samples = .ok qs)
    (P J : Nat) (sg : Subgraph) (op : Op) (k : String) (cfg : OpCfg) (t : Tensor)
    (hsg : env.model.subgraphs[P]? = some sg) (hop : sg.ops[J]? = some op)
    (hsel : Selected rx env st sg op k cfg) (huses : UsesName sg op t.name)
    (huniq : ∀ i ∈ op.inputs ++ op.outputs, ∀ t', tensorAt sg i = .ok t' → t'.name = t.name → t' = t)
    (hfirst : ∀ P' J' sg' op', (P' < P ∨ (P' = P ∧ J' < J)) → env.model.subgraphs[P']? = some sg' →
      sg'.ops[J']? = some op' → ¬ Touches rx env st sg' op' t.name)
    (hnr : ∀ t' ∈ sgc.tensors, t'.name = t.name → constAny env t' ≠ none) :
    ∃ v, Py.dictGet? qs t.name = some v ∧
      initTensor env { sgIdx := P, op := op, opName := k, opId := J, cfg := cfg } t = .ok v :=
  CalibExact.const_stats_exact rx env st sgi sgc hsgc samples qs hneed h P J sg op k cfg t hsg hop
    hsel huses huniq hfirst hnr

/-- … and for a constant with data that value is its true per-tensor / per-channel min and max
    (`initMinMax`: reduction over all axes but the quantized dimension of that operator) -/
theorem const_stats_minmax (env : Env) (oi : OpInfo) (t : Tensor) (qs : Qsvs)
    (h : ∃ v, Py.dictGet? qs t.name = some v ∧ initTensor env oi t = .ok v)
    (d : Arr Rat) (hc : constAny env t = some d) (hd : d.data.isEmpty = false) :
    ∃ mn mx, initMinMax env oi t d = .ok (mn, mx) ∧
      Py.dictGet? qs t.name = some (some (⟨mn.arr, statPrec t⟩, ⟨mx.arr, statPrec t⟩)) := by
  obtain ⟨v, hv, hi⟩ := h
  obtain ⟨mn, mx, hm, rfl⟩ := CalibExact.initTensor_const env _ t d v hc hd hi
  exact ⟨mn, mx, hm, hv⟩

theorem uniq_of_nodup (sg : Subgraph) (hnd : (sg.tensors.map (·.name)).Nodup) (t : Tensor)
    (ht : t ∈ sg.tensors) (op : Op) :
    ∀ i ∈ op.inputs ++ op.outputs, ∀ t', tensorAt sg i = .ok t' → t'.name = t.name → t' = t :=
  fun _ _ t' ht' hn => List.nodup_map_inj (·.name) sg.tensors hnd t' (Py.index_mem _ _ _ ht') t ht hn

/-- **"weight 0.95 on the old value"** on float32 statistics: every element of `emaArr old new` is
    `rn32 (rn32 (c1·old) + rn32 (c2·new))`, `c1 = rn32 (rn64 (19/20))`, `c2 = rn32 (rn64 (1 − rn64 (19/20)))` -/
theorem emaArr_f32 (w u r : FArr) (hw : w.pr = .f32) (hu : u.pr = .f32) (h : emaArr w u = .ok r) :
    r.pr = .f32 ∧ ∃ rs, bshapeAny w.arr.shape u.arr.shape = some rs ∧ r.arr.shape = rs ∧
      r.arr.data = (List.range (numel rs)).map fun i =>
        Prec.f32.rn (Prec.f32.rn (CalibExact.c1 * w.arr.data.getD (bindex rs w.arr.shape i) 0) +
                     Prec.f32.rn (CalibExact.c2 * u.arr.data.getD (bindex rs u.arr.shape i) 0)) :=
  CalibExact.emaArr_f32_elem w u r hw hu h

/-- the two float32 weights: 0.949999988… and 0.0500000007… (they do not sum to 1) -/
theorem weights : CalibExact.c1 = 15938355 / 16777216 ∧ CalibExact.c2 = 13421773 / 268435456 := by
  decide +kernel

/-! ## order-faithfulness: the specification distinguishes the two orders of two samples -/

def sc (x : Rat) : FArr := ⟨⟨[1], [x]⟩, .f32⟩

/-- the two values: `0.95·1 + 0.05·3`, … in float32 versus `0.95·3 + 0.05·1`, … -/
theorem emaSpec_order_values :
    emaSpec [some (sc 1, sc 2), some (sc 3, sc 4)] = .ok (some (sc (9227469/8388608), sc (4404019/2097152))) ∧
    emaSpec [some (sc 3, sc 4), some (sc 1, sc 2)] = .ok (some (sc (12163481/4194304), sc (16357785/4194304))) := by
  decide +kernel

theorem emaSpec_order :
    emaSpec [some (sc 1, sc 2), some (sc 3, sc 4)] ≠ emaSpec [some (sc 3, sc 4), some (sc 1, sc 2)] := by
  rw [emaSpec_order_values.1, emaSpec_order_values.2]
  decide +kernel

/-! ## a closed instance of `runtime_stats_exact`: `c = ADD(a, b)`, rule `'*'`, two samples -/

/-- calibration results are compared by evaluation in the closed instances below -/
instance : DecidableEq (PyM Qsvs) := inferInstance

namespace Ex

def rxAll : String → String → Bool := fun _ _ => true
def tA : Tensor := { name := "a", dtype := Tables.ttFloat32, shape := [2], buffer := 0 }
def tB : Tensor := { name := "b", dtype := Tables.ttFloat32, shape := [2], buffer := 0 }
def tC : Tensor := { name := "c", dtype := Tables.ttFloat32, shape := [2], buffer := 0 }
def add : Op := { code := 0, inputs := [0, 1], outputs := [2] }
def sg0 : Subgraph := { tensors := [tA, tB, tC], ops := [add], inputs := [0, 1], outputs := [2] }
def env0 : Env :=
  { model := { subgraphs := [sg0], buffers := [none], opcodes := [0], sigs := [] }, consts := [], adjY := [] }
/-- a config of the default policy -/
def cfg8 : OpCfg :=
  { act := some { bits := 8, symmetric := false }, weight := some { bits := 8, gran := .channelwise },
    cp := .integer }
def st0 : Recipe.State := [(".*", [⟨".*", "*", Tables.algMinMax, cfg8⟩])]
def f32 (l : List Rat) : FArr := ⟨⟨[l.length], l⟩, .f32⟩
def s1 : Contents := [("a", f32 [1, -2]), ("b", f32 [3, 1/2]), ("c", f32 [4, -3/2])]
def s2 : Contents := [("a", f32 [5, 0]), ("b", f32 [-1, 1]), ("c", f32 [4, 1])]

def qs : Qsvs :=
  [("a", some (sc (-15938355/8388608), sc (5033165/4194304))),
   ("b", some (sc (14260633/33554432), sc (12163481/4194304))),
   ("c", some (sc (-11/8), sc 4))]

/-- the result of `[s1]` alone, from which `[s2]` resumes -/
def q1 : Qsvs := [("a", some (sc (-2), sc 1)), ("b", some (sc (1/2), sc 3)), ("c", some (sc (-3/2), sc 4))]

/-- what evaluation settles about the instance -/
structure Facts : Prop where
  run : calibrate rxAll env0 st0 0 none [s1, s2] = .ok qs
  order : calibrate rxAll env0 st0 0 none [s2, s1] ≠ .ok qs
  run1 : calibrate rxAll env0 st0 0 none [s1] = .ok q1
  run2 : calibrate rxAll env0 st0 0 (some q1) [s2] = .ok qs
  key : opKey env0 add = .ok (some "ADD")
  scope : opScope sg0 add = .ok "c;"
  sel : (Recipe.resolve rxAll st0 "ADD" "c;").1 = Tables.algMinMax
  scopeIn : opScope sg0 { code := 0, inputs := [], outputs := sg0.inputs } = .ok "a;b;"
  selIn : (Recipe.resolve rxAll st0 "INPUT" "a;b;").1 = Tables.algMinMax
  slotA : tensorAt sg0 0 = .ok tA
  runtimeA : constAny env0 tA = none
  notNamed : CalibExact.constNamedB env0 tA.name = false

/-- one evaluation of the conjunction of the fields (the runs share most of their work) -/
theorem facts : Facts := by
  have h : (calibrate rxAll env0 st0 0 none [s1, s2] = .ok qs ∧
        calibrate rxAll env0 st0 0 none [s2, s1] ≠ .ok qs ∧
        calibrate rxAll env0 st0 0 none [s1] = .ok q1 ∧
        calibrate rxAll env0 st0 0 (some q1) [s2] = .ok qs) ∧
      (opKey env0 add = .ok (some "ADD") ∧ opScope sg0 add = .ok "c;" ∧
        (Recipe.resolve rxAll st0 "ADD" "c;").1 = Tables.algMinMax ∧
        opScope sg0 { code := 0, inputs := [], outputs := sg0.inputs } = .ok "a;b;" ∧
        (Recipe.resolve rxAll st0 "INPUT" "a;b;").1 = Tables.algMinMax ∧
        tensorAt sg0 0 = .ok tA ∧ constAny env0 tA = none ∧ CalibExact.constNamedB env0 tA.name = false) := by
    decide +kernel
  obtain ⟨⟨run, order, run1, run2⟩, key, scope, sel, scopeIn, selIn, slotA, runtimeA, notNamed⟩ := h
  exact ⟨run, order, run1, run2, key, scope, sel, scopeIn, selIn, slotA, runtimeA, notNamed⟩

theorem need : Recipe.needCalibration st0 = true := by decide +kernel
theorem isOp : CalibProofs.IsOp env0 sg0 add "ADD" := .real add "ADD" (by decide) facts.key
theorem noConst : ¬ ConstNamed env0 tA.name :=
  fun h => Bool.false_ne_true (facts.notNamed.symm.trans ((CalibExact.constNamed_iff _ _).1 h))

/-- all hypotheses of `runtime_stats_exact` hold for the operand `a` of the ADD … -/
theorem instance_a :
    ∃ vs, [s1, s2].mapM (sampleStat "a") = .ok vs ∧
      ∃ v, emaSpec vs = .ok v ∧ Py.dictGet? qs "a" = some v :=
  runtime_stats_exact rxAll env0 st0 0 sg0 rfl [s1, s2] (by simp) qs need facts.run add "ADD" "c;" isOp facts.scope facts.sel
    0 (by decide) (by decide) tA facts.slotA facts.runtimeA noConst

/-- … and this is what the conclusion says, in numbers: per-sample (min, max) of `a` are `(-2, 1)`
    and `(0, 5)`; the recorded value is `ema (-2, 1) (0, 5)` -/
theorem instance_a_values :
    [s1, s2].mapM (sampleStat "a") = .ok [some (sc (-2), sc 1), some (sc 0, sc 5)] ∧
    emaSpec [some (sc (-2), sc 1), some (sc 0, sc 5)] =
      .ok (some (sc (-15938355/8388608), sc (5033165/4194304))) ∧
    Py.dictGet? qs "a" = some (some (sc (-15938355/8388608), sc (5033165/4194304))) :=
  by decide +kernel

/-- the other order of the same two samples records different statistics -/
theorem order_matters :
    calibrate rxAll env0 st0 0 none [s2, s1] ≠ calibrate rxAll env0 st0 0 none [s1, s2] := by
  rw [facts.run]; exact facts.order

/-- `a` is touched by two selected operators in each sample (INPUT and ADD) and still counted once:
    the INPUT pseudo-operator gives the same instance -/
theorem instance_a_via_input :
    ∃ vs, [s1, s2].mapM (sampleStat "a") = .ok vs ∧
      ∃ v, emaSpec vs = .ok v ∧ Py.dictGet? qs "a" = some v :=
  runtime_stats_exact rxAll env0 st0 0 sg0 rfl [s1, s2] (by simp) qs need facts.run _ "INPUT" "a;b;" .input
    facts.scopeIn facts.selIn 0 (by decide) (by decide) tA facts.slotA facts.runtimeA noConst

/-- resumption instance: `[s1]`, then `[s2]` on top of its result -/
theorem resumed_instance :
    ∃ vs, ([s1] ++ [s2]).mapM (sampleStat "a") = .ok vs ∧
      ∃ v, emaSpec vs = .ok v ∧ Py.dictGet? qs "a" = some v :=
  resumed_stats_exact rxAll env0 st0 0 sg0 rfl [s1] [s2] (by simp) q1 qs need facts.run1 facts.run2 add "ADD" "c;" isOp
    facts.scope facts.sel 0 (by decide) (by decide) tA facts.slotA facts.runtimeA noConst

end Ex

/-! ## the hypothesis `¬ ConstNamed` is necessary: a name shared with a constant of another subgraph

Subgraph 0 holds a CONSTANT called `"a"` (data `[10, 20]`) read by a selected ADD; subgraph 1 is the
model `Ex.sg0`, whose runtime input is also called `"a"`.  Statistics are keyed by the bare tensor
name, so `_initialize_model_qsvs` seeds `"a"` with the constant's `(10, 20)` and the first sample of
subgraph 1 is AVERAGED into it (`0.95·10 + 0.05·(-2)`) instead of initialising the entry. -/

namespace Collision
open Ex

def kA : Tensor := { name := "a", dtype := Tables.ttFloat32, shape := [2], buffer := 1 }
def kU : Tensor := { name := "u", dtype := Tables.ttFloat32, shape := [2], buffer := 0 }
def kW : Tensor := { name := "w", dtype := Tables.ttFloat32, shape := [2], buffer := 0 }
def sgK : Subgraph := { tensors := [kA, kU, kW], ops := [add], inputs := [1], outputs := [2] }
def env1 : Env :=
  { model := { subgraphs := [sgK, sg0], buffers := [none, some (.inl 0)], opcodes := [0], sigs := [] },
    consts := [(1, [10, 20])], adjY := [] }

def qsK : Qsvs :=
  [("a", some (sc (4928307/524288), sc (4993843/262144))), ("u", none), ("w", none),
   ("b", some (sc (1/2), sc 3)), ("c", some (sc (-3/2), sc 4))]

/-! a closed instance of `const_stats_exact` comes from calibrating subgraph 0 itself, where the name
    `"a"` belongs to the constant only -/

def k1 : Contents := [("u", f32 [1, 2]), ("w", f32 [11, 22])]
def qsC : Qsvs :=
  [("a", some (sc 10, sc 20)), ("u", some (sc 1, sc 2)), ("w", some (sc 11, sc 22)), ("b", none), ("c", none)]

/-! `huniq` of `const_stats_exact` is necessary too: inside ONE operator the LAST operand of a name
    wins (`op_qsvs[name] = …` overwrites), across operators the FIRST operator wins.  In `env2` both
    operands of the ADD are constants called `"a"`; the entry is that of the second one
    (`last_operand_wins`). -/

def kA2 : Tensor := { name := "a", dtype := Tables.ttFloat32, shape := [2], buffer := 2 }
def sgD : Subgraph := { tensors := [kA, kA2, kW], ops := [add], inputs := [], outputs := [2] }
def env2 : Env :=
  { model := { subgraphs := [sgD], buffers := [none, some (.inl 0), some (.inl 1)], opcodes := [0], sigs := [] },
    consts := [(1, [10, 20]), (2, [30, 40])], adjY := [] }

/-- what evaluation settles about `env1` (the runs and what `initModel` seeds; the operands `a` of the
    two ADDs) and about `env2`, evaluated once -/
theorem facts :
    (calibrate rxAll env1 st0 1 none [s1] = .ok qsK ∧
      initModel rxAll env1 st0 =
        .ok [("a", some (sc 10, sc 20)), ("u", none), ("w", none), ("b", none), ("c", none)] ∧
      calibrate rxAll env1 st0 0 none [k1] = .ok qsC) ∧
    (opKey env1 add = .ok (some "ADD") ∧ constAny env1 tA = none ∧
      CalibExact.constNamedB env1 tA.name = true ∧
      opScope sgK add = .ok "w;" ∧ Recipe.resolve rxAll st0 "ADD" "w;" = (Tables.algMinMax, cfg8) ∧
      tensorAt sgK 0 = .ok kA ∧ (∀ t' ∈ sgK.tensors, t'.name = kA.name → constAny env1 t' ≠ none) ∧
      constAny env1 kA = some ⟨[2], [10, 20]⟩) ∧
    (initModel rxAll env2 st0 = .ok [("a", some (sc 30, sc 40)), ("w", none)] ∧
      tensorAt sgD 0 = .ok kA ∧
      initTensor env2 { sgIdx := 0, op := add, opName := "ADD", opId := (0 : Nat), cfg := cfg8 } kA =
        .ok (some (sc 10, sc 20))) := by
  decide +kernel

theorem run : calibrate rxAll env1 st0 1 none [s1] = .ok qsK := facts.1.1

/-- every hypothesis of `runtime_stats_exact` except `¬ ConstNamed` holds … -/
theorem hyps :
    env1.model.subgraphs[1]? = some sg0 ∧ Recipe.needCalibration st0 = true ∧
    CalibProofs.IsOp env1 sg0 add "ADD" ∧ opScope sg0 add = .ok "c;" ∧
    (Recipe.resolve rxAll st0 "ADD" "c;").1 = Tables.algMinMax ∧
    (0 : Int) ∈ add.inputs ++ add.outputs ∧ tensorAt sg0 0 = .ok tA ∧ constAny env1 tA = none ∧
    ConstNamed env1 tA.name := by
  obtain ⟨_, ⟨hkey, hruntime, hnamed, _⟩, _⟩ := facts
  exact ⟨rfl, need, .real add "ADD" (by decide) hkey, Ex.facts.scope, Ex.facts.sel, by decide, Ex.facts.slotA,
    hruntime, (CalibExact.constNamed_iff _ _).2 hnamed⟩

/-- … and the conclusion FAILS: the recorded value of `"a"` is not the specification of its samples
    (it is `(9.4, 19.05)` instead of `(-2, 1)`) -/
theorem not_exact :
    ¬ ∃ vs, [s1].mapM (sampleStat tA.name) = .ok vs ∧
        ∃ v, emaSpec vs = .ok v ∧ Py.dictGet? qsK tA.name = some v := by
  rintro ⟨vs, hvs, v, hv, hg⟩
  have e1 : [s1].mapM (sampleStat tA.name) = .ok [some (sc (-2), sc 1)] := by decide +kernel
  rw [e1] at hvs
  cases hvs
  have e2 : emaSpec [some (sc (-2), sc 1)] = .ok (some (sc (-2), sc 1)) := rfl
  rw [e2] at hv
  cases hv
  revert hg
  decide +kernel

/-- the same run also shows that `hnr` of `const_stats_exact` is necessary: the constant's entry
    `(10, 20)` written by `initModel` has been changed by the sample -/
theorem const_changed :
    (∃ q0, initModel rxAll env1 st0 = .ok q0 ∧ Py.dictGet? q0 "a" = some (some (sc 10, sc 20))) ∧
    Py.dictGet? qsK "a" ≠ some (some (sc 10, sc 20)) :=
  ⟨⟨_, facts.1.2.1, by decide +kernel⟩, by decide +kernel⟩

theorem const_instance :
    ∃ mn mx, initMinMax env1 { sgIdx := 0, op := add, opName := "ADD", opId := (0 : Nat), cfg := cfg8 } kA
        ⟨[2], [10, 20]⟩ = .ok (mn, mx) ∧
      Py.dictGet? qsC kA.name = some (some (⟨mn.arr, statPrec kA⟩, ⟨mx.arr, statPrec kA⟩)) := by
  obtain ⟨⟨_, _, hrunC⟩, ⟨hkey, _, _, hscope, hsel, hslot, hconsts, hdata⟩, _⟩ := facts
  exact const_stats_minmax env1 _ kA qsC
    (const_stats_exact rxAll env1 st0 0 sgK rfl [k1] qsC need hrunC 0 0 sgK add "ADD" cfg8 kA rfl rfl
      ⟨hkey, "w;", hscope, hsel⟩
      ⟨0, by decide, by decide, kA, hslot, rfl⟩
      (uniq_of_nodup sgK (by decide) kA (by decide) add)
      (fun P' J' _ _ h => by omega)
      hconsts) ⟨[2], [10, 20]⟩ hdata rfl

theorem last_operand_wins :
    initModel rxAll env2 st0 = .ok [("a", some (sc 30, sc 40)), ("w", none)] ∧
    tensorAt sgD 0 = .ok kA ∧
    initTensor env2 { sgIdx := 0, op := add, opName := "ADD", opId := (0 : Nat), cfg := cfg8 } kA =
      .ok (some (sc 10, sc 20)) :=
  facts.2.2

end Collision

/-! ## the hypothesis `¬ ConstNamed` follows from the library's own requirement of model-wide unique tensor names

`quantize()` refuses a model in which two tensors carry the same name ("Tensor name … is not unique in the model … ParamsGenerator
assumes tensor names are unique", a `ValueError`); `calibrate()` does not check it (`Collision.not_exact`, replayed on the real
code).  Under the library's assumption the exactness theorem needs no further premise. -/

theorem not_constNamed_of_unique (env : Env) (hu : GenInstsOK.namesUnique env.model)
    (sg : Subgraph) (hsg : sg ∈ env.model.subgraphs) (t : Tensor) (ht : t ∈ sg.tensors)
    (hnc : constAny env t = none) : ¬ ConstNamed env t.name := by
  rintro ⟨sg', hsg', t', ht', hn, d, hd, _⟩
  have hu' : ((env.model.subgraphs.flatMap (·.tensors)).map (·.name)).Nodup := by
    unfold GenInstsOK.namesUnique at hu
    rwa [List.map_flatMap]
  have h1 : t' ∈ env.model.subgraphs.flatMap (·.tensors) := List.mem_flatMap.mpr ⟨sg', hsg', ht'⟩
  have h2 : t ∈ env.model.subgraphs.flatMap (·.tensors) := List.mem_flatMap.mpr ⟨sg, hsg, ht⟩
  have : t' = t := List.nodup_map_inj (·.name) _ hu' t' h1 t h2 hn
  subst this
  rw [hnc] at hd
  cases hd

/-- **C09, runtime tensors, under the library's own model assumption (tensor names unique model-wide)** -/
theorem runtime_stats_exact_unique (rx : String → String → Bool) (env : Env) (st : Recipe.State)
    (hu : GenInstsOK.namesUnique env.model)
    (sgi : Nat) (sg : Subgraph) (hsg : env.model.subgraphs[sgi]? = some sg)
    (samples : List Contents) (hne : samples ≠ []) (qs : Qsvs)
    (hneed : Recipe.needCalibration st = true)
    (h : calibrate rx env st sgi none samples = .ok qs)
    (op : Op) (k scope : String) (hop : CalibProofs.IsOp env sg op k) (hscope : opScope sg op = .ok scope)
    (hsel : (Recipe.resolve rx st k scope).1 = Tables.algMinMax)
    (i : Int) (hi : i ∈ op.inputs ++ op.outputs) (hi1 : i ≠ -1) (t : Tensor) (ht : tensorAt sg i = .ok t)
    (hnc : constAny env t = none) :
    ∃ vs, samples.mapM (sampleStat t.name) = .ok vs ∧
      ∃ v, emaSpec vs = .ok v ∧ Py.dictGet? qs t.name = some v :=
  runtime_stats_exact rx env st sgi sg hsg samples hne qs hneed h op k scope hop hscope hsel i hi hi1 t ht hnc
    (not_constNamed_of_unique env hu sg (List.mem_of_getElem? hsg) t (Py.index_mem _ _ _ ht) hnc)

example : GenInstsOK.namesUnique Ex.env0.model := by unfold GenInstsOK.namesUnique; decide

end C09
