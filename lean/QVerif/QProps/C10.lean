import QProofs.CalibProofs
/-!
# C10 — calibration and quantization select the same ops; statistics are never missing

Both stages build an operator's scope in the same way: the model has ONE function `Mat.opScope`, and
both real functions (`Calibrator._get_op_scope`, `ParamsGenerator._get_op_scope`) are tied to it by
the correspondence runs.
-/
open Graph Mat Calib

namespace C10

/-- **statistics are never missing**: after `calibrate()` on at least one sample, every
    non-constant operand/result of every operator selected for min/max quantization has recorded
    min/max statistics -/
theorem stats_complete (rx : String → String → Bool) (env : Env) (st : Recipe.State) (sgi : Nat)
    (sg : Subgraph) (hsg : env.model.subgraphs[sgi]? = some sg)
    (previous : Option Qsvs) (samples : List Contents) (hne : samples ≠ []) (qs : Qsvs)
    (hneed : Recipe.needCalibration st = true)
    (h : calibrate rx env st sgi previous samples = .ok qs)
    (op : Op) (k scope : String) (hop : CalibProofs.IsOp env sg op k) (hscope : opScope sg op = .ok scope)
    (hsel : (Recipe.resolve rx st k scope).1 = Tables.algMinMax)
    (i : Int) (hi : i ∈ op.inputs ++ op.outputs) (hi1 : i ≠ -1) (t : Tensor) (ht : tensorAt sg i = .ok t)
    (hnc : constAny env t = none) :
    ∃ mn mx, Py.dictGet? qs t.name = some (some (mn, mx)) :=
  CalibProofs.stats_complete rx env st sgi sg hsg previous samples hne qs hneed h op k scope hop hscope hsel i hi hi1 t ht hnc

end C10
