import QProofs.BytesProofs
/-!
# C05 (continued) — little-endian storage of integer constants for every storage width that is a
whole number of bytes (int8, int16, int32, int64, …): byte count, round trip on the signed range,
modular behaviour outside it; and the float16 round trip
-/
open Bytes Num BytesProofs

namespace C05

theorem encodeLE_bytes (w : Nat) (z : Int) : ∀ b ∈ encodeLE w z, b < 256 := by
  intro b hb
  unfold encodeLE at hb
  simp only [List.mem_map] at hb
  obtain ⟨i, _, rfl⟩ := hb
  exact Nat.mod_lt _ (by decide)

theorem encodeLE_length (w : Nat) (z : Int) : (encodeLE w z).length = w / 8 := by
  unfold encodeLE
  simp

theorem encodeAllLE_length (w : Nat) (zs : List Int) :
    (encodeAllLE w zs).length = zs.length * (w / 8) := by
  unfold encodeAllLE
  induction zs with
  | nil => simp
  | cons z zs ih =>
    rw [List.flatMap_cons, List.length_append, ih, encodeLE_length, List.length_cons, Nat.succ_mul,
      Nat.add_comm]

/-- values outside the signed range are stored modulo 2^w (what numpy's astype does) -/
theorem decode_encode_wrap (k : Nat) (hk : 1 ≤ k) (z : Int) :
    decodeLE (8*k) (encodeLE (8*k) z) = wrapInt (8*k) z := by
  unfold decodeLE
  simp only
  rw [decode_sum, Int.toNat_of_nonneg (Int.emod_nonneg _ (ne_of_gt (Int.pow_pos (by decide)))),
    wrapInt_emod]

/-- **round trip for every storage width that is a whole number of bytes** (8, 16, 32, 64, …):
    decoding the stored bytes gives back every value of the signed range -/
theorem decode_encode (k : Nat) (hk : 1 ≤ k) (z : Int) (h1 : -(2:Int)^(8*k-1) ≤ z)
    (h2 : z < (2:Int)^(8*k-1)) : decodeLE (8*k) (encodeLE (8*k) z) = z := by
  rw [decode_encode_wrap k hk, wrapInt_id (8*k) (by omega) z h1 h2]

theorem decodeAll_encodeAll (k : Nat) (hk : 1 ≤ k) (zs : List Int)
    (h : ∀ z ∈ zs, -(2:Int)^(8*k-1) ≤ z ∧ z < (2:Int)^(8*k-1)) :
    (List.range zs.length).map
      (fun i => decodeLE (8*k) (((encodeAllLE (8*k) zs).drop (i*k)).take k)) = zs := by
  induction zs with
  | nil => rfl
  | cons z zs ih =>
    have hz := h z (by simp)
    have hlen : (encodeLE (8*k) z).length = k := by
      rw [encodeLE_length, Nat.mul_div_cancel_left k (by decide : 0 < 8)]
    have ih' := ih (fun x hx => h x (by simp [hx]))
    rw [List.length_cons, List.range_succ_eq_map, List.map_cons, List.map_map]
    have e0 : ((encodeAllLE (8*k) (z :: zs)).drop (0*k)).take k = encodeLE (8*k) z := by
      unfold encodeAllLE
      rw [List.flatMap_cons, Nat.zero_mul, List.drop_zero, List.take_append_of_le_length (by omega),
        List.take_of_length_le (by omega)]
    rw [e0, decode_encode k hk z hz.1 hz.2]
    congr 1
    refine Eq.trans ?_ ih'
    apply List.map_congr_left
    intro i _
    have : (encodeAllLE (8*k) (z :: zs)).drop ((i+1)*k) = (encodeAllLE (8*k) zs).drop (i*k) := by
      unfold encodeAllLE
      rw [List.flatMap_cons, Nat.succ_mul, Nat.add_comm (i*k) k, ← List.drop_drop]
      congr 1
      rw [List.drop_append_of_le_length (by omega), List.drop_of_length_le (by omega), List.nil_append]
    simp only [Function.comp, Nat.succ_eq_add_one, this]

/-- **float16 storage round trip**: the independent binary16 decoder `BytesProofs.f16Val`
    (sign bit, 5-bit exponent field, 10-bit mantissa; sub-normals when the exponent field is 0)
    applied to the stored bit pattern gives back every exactly representable finite value
    (the hypothesis is `BytesProofs.F16Repr x`) -/
theorem f16Val_f16Bits (x : Rat)
    (h : x = 0 ∨
      (∃ (s : Bool) (m : Nat) (e : Int), 1024 ≤ m ∧ m < 2048 ∧ -14 ≤ e ∧ e ≤ 15 ∧
        x = (if s then -1 else 1) * (m : Rat) * (2:Rat)^(e - 10)) ∨
      (∃ (s : Bool) (m : Nat), 0 < m ∧ m < 1024 ∧
        x = (if s then -1 else 1) * (m : Rat) * (2:Rat)^(-24 : Int))) :
    BytesProofs.f16Val (f16Bits x) = x := by
  rcases h with rfl | ⟨s, m, e, hm1, hm2, he1, he2, rfl⟩ | ⟨s, m, hm1, hm2, rfl⟩
  · simp [f16Bits, f16Val]
  · have hmag := f16Mag_normal m e hm1 hm2 he1 he2
    rw [mul_assoc]
    refine f16Val_f16Bits_signed s _
      (mul_pos (by exact_mod_cast (by omega : 0 < m)) (zpow_pos (by norm_num) _)) ?_ ?_
    · rw [hmag]; omega
    · rw [hmag, f16Val_normal m e hm1 hm2 he1 he2]
  · have hmag := f16Mag_sub m hm1 hm2
    rw [mul_assoc]
    refine f16Val_f16Bits_signed s _ (mul_pos (by exact_mod_cast hm1) (zpow_pos (by norm_num) _)) ?_ ?_
    · rw [hmag]; omega
    · rw [hmag, f16Val_sub m hm2]

end C05
