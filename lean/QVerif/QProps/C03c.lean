import QProofs.RunDesc
import QProps.C03b
import QProps.C08b
import QProps.C19b
/-!
# C03 (whole performer) — each operand of each operator has the type its mode prescribes

`QProps/C03b.lean` gives the exact postcondition of ONE transformation.  This file states what holds
after the WHOLE `transformGraph`, in terms of the ORIGINAL operator ids that the instructions use
(positions shift with every insertion; the `orig` tag identifies an operator): `addQuant_wired`,
`addDequant_consumers` / `addDequant_wired`, `quantTensor_typed`.

Hypotheses beyond those of C01/C02 (`WF.modelOK`, `origTagged`, `TInstsOK` = consistent and
chain-free instruction lists):

* `TensorsDisjoint tis` -- one tensor is the subject of at most one entry of `tis` per subgraph
  (needed by all three; `tensorsDisjoint_needed`);
* `OneRetype ti.insts` -- within one entry at most one instruction per tensor writes the tensor's own
  record (QUANTIZE_TENSOR / ADD_DEQUANTIZE; needed by `quantTensor_typed` and the typing half of `addDequant_wired` only;
  `oneRetype_needed`).  `[QUANTIZE_TENSOR, ADD_QUANTIZE]` (requantize) is allowed.

Within one entry the consumer sets of an op-adding instruction and any later instruction are disjoint
by `NoChain` (part of `TInstsOK`); nothing more is needed there, because every instruction acts on an
ORIGINAL tensor (`InstOK.tvalid`), so a slot that was rewired to a NEW tensor is never rewired again
and a NEW tensor is never retyped.
-/
open Graph Perform

namespace C03

abbrev TensorsDisjoint := @Wiring.TensorsDisjoint
abbrev OneRetype := @Wiring.OneRetype

/-- **ADD_QUANTIZE, whole run.**  For every instruction of kind ADD_QUANTIZE of a tensor `t` with
    parameters `p`: every listed real consumer `c` (an ORIGINAL operator id) now reads, in every
    operand slot in which the original operator read `t`, a tensor that (i) stands for `t`,
    (ii) has the type `dtypeOf p` and (iii) carries `p`. -/
theorem addQuant_wired (pt : PTable) (m m' : Model) (tis : List TInsts)
    (hwf : WF.modelOK m = true) (htag : Skeleton.origTagged m = true)
    (hok : ∀ ti ∈ tis, GraphInv.TInstsOK pt m ti) (hdisj : TensorsDisjoint tis)
    (h : transformGraph pt m tis = .ok m')
    (ti : TInsts) (hti : ti ∈ tis) (ins : Inst) (hins : ins ∈ ti.insts) (hx : ins.xf = .addQuant)
    (p : PId) (pi : PInfo) (ty : Nat) (hp : ins.param = some p) (hpi : pinfo pt p = some pi)
    (hty : dtypeOf pi = .ok ty)
    (sg sg' : Subgraph) (hsg : m.subgraphs[ti.sg]? = some sg) (hsg' : m'.subgraphs[ti.sg]? = some sg')
    (c : Int) (hc : c ∈ ins.consumers) (hc0 : 0 ≤ c) (o : Op) (ho : sg.ops[c.toNat]? = some o) :
    ∃ o' ∈ sg'.ops, o'.orig = some c.toNat ∧ o'.inputs.length = o.inputs.length ∧
      ∀ j : Nat, o.inputs[j]? = some ins.tensor →
        ∃ x tn, o'.inputs[j]? = some x ∧ sg'.tensors[x.toNat]? = some tn ∧ 0 ≤ x ∧
          tn.dtype = ty ∧ (pi.uniform = true → tn.quant = some p) ∧
          Skeleton.root sg' x = ins.tensor := by
  obtain ⟨o', ho', h1, h2, h3⟩ := Wiring.wired_core pt m m' tis hwf htag hok hdisj h ti hti ins hins
    (by rw [hx]; rfl) p pi ty hp hpi hty sg sg' hsg hsg' c hc hc0 o ho
  refine ⟨o', ho', h1, h2, fun j hj => ?_⟩
  obtain ⟨x, tn, g1, g2, g3, -, ⟨nm, tn0, rfl⟩, g6⟩ := h3 j hj
  rw [if_pos hx] at g2
  refine ⟨x, _, g1, g2, g3, StepTypes.retype_dtype .., ?_, g6⟩
  intro hu
  rw [StepTypes.retype_quant, if_pos hu]

/-- **ADD_DEQUANTIZE, whole run, the consumers**: every listed real consumer reads, in the slots where
    the original operator read `t`, a FLOAT32 tensor without quantization that stands for `t` -/
theorem addDequant_consumers (pt : PTable) (m m' : Model) (tis : List TInsts)
    (hwf : WF.modelOK m = true) (htag : Skeleton.origTagged m = true)
    (hok : ∀ ti ∈ tis, GraphInv.TInstsOK pt m ti) (hdisj : TensorsDisjoint tis)
    (h : transformGraph pt m tis = .ok m')
    (ti : TInsts) (hti : ti ∈ tis) (ins : Inst) (hins : ins ∈ ti.insts) (hx : ins.xf = .addDequant)
    (p : PId) (pi : PInfo) (ty : Nat) (hp : ins.param = some p) (hpi : pinfo pt p = some pi)
    (hty : dtypeOf pi = .ok ty)
    (sg sg' : Subgraph) (hsg : m.subgraphs[ti.sg]? = some sg) (hsg' : m'.subgraphs[ti.sg]? = some sg')
    (c : Int) (hc : c ∈ ins.consumers) (hc0 : 0 ≤ c) (o : Op) (ho : sg.ops[c.toNat]? = some o) :
    ∃ o' ∈ sg'.ops, o'.orig = some c.toNat ∧ o'.inputs.length = o.inputs.length ∧
      ∀ j : Nat, o.inputs[j]? = some ins.tensor →
        ∃ x tn, o'.inputs[j]? = some x ∧ sg'.tensors[x.toNat]? = some tn ∧ 0 ≤ x ∧
          tn.dtype = Tables.ttFloat32 ∧ tn.quant = none ∧ Skeleton.root sg' x = ins.tensor := by
  obtain ⟨o', ho', h1, h2, h3⟩ := Wiring.wired_core pt m m' tis hwf htag hok hdisj h ti hti ins hins
    (by rw [hx]; rfl) p pi ty hp hpi hty sg sg' hsg hsg' c hc hc0 o ho
  refine ⟨o', ho', h1, h2, fun j hj => ?_⟩
  obtain ⟨x, tn, g1, g2, g3, -, ⟨nm, tn0, rfl⟩, g6⟩ := h3 j hj
  rw [if_neg (by rw [hx]; decide)] at g2
  exact ⟨x, _, g1, g2, g3, rfl, rfl, g6⟩

/-- **ADD_DEQUANTIZE, whole run** (both halves) -/
theorem addDequant_wired (pt : PTable) (m m' : Model) (tis : List TInsts)
    (hwf : WF.modelOK m = true) (htag : Skeleton.origTagged m = true)
    (hok : ∀ ti ∈ tis, GraphInv.TInstsOK pt m ti) (hdisj : TensorsDisjoint tis)
    (h : transformGraph pt m tis = .ok m')
    (ti : TInsts) (hti : ti ∈ tis) (hret : OneRetype ti.insts)
    (ins : Inst) (hins : ins ∈ ti.insts) (hx : ins.xf = .addDequant)
    (p : PId) (pi : PInfo) (ty : Nat) (hp : ins.param = some p) (hpi : pinfo pt p = some pi)
    (hty : dtypeOf pi = .ok ty)
    (sg sg' : Subgraph) (hsg : m.subgraphs[ti.sg]? = some sg) (hsg' : m'.subgraphs[ti.sg]? = some sg') :
    (∃ tn0 tn', sg.tensors[ins.tensor.toNat]? = some tn0 ∧ sg'.tensors[ins.tensor.toNat]? = some tn' ∧
      0 ≤ ins.tensor ∧ tn'.dtype = ty ∧ (pi.uniform = true → tn'.quant = some p) ∧
      tn'.name = tn0.name ∧ tn'.shape = tn0.shape ∧ tn'.buffer = tn0.buffer) ∧
    ∀ (c : Int), c ∈ ins.consumers → 0 ≤ c → ∀ (o : Op), sg.ops[c.toNat]? = some o →
      ∃ o' ∈ sg'.ops, o'.orig = some c.toNat ∧ o'.inputs.length = o.inputs.length ∧
        ∀ j : Nat, o.inputs[j]? = some ins.tensor →
          ∃ x tn, o'.inputs[j]? = some x ∧ sg'.tensors[x.toNat]? = some tn ∧ 0 ≤ x ∧
            tn.dtype = Tables.ttFloat32 ∧ tn.quant = none ∧ Skeleton.root sg' x = ins.tensor :=
  ⟨Wiring.typed_core pt m m' tis hwf htag hok hdisj h ti hti hret ins hins (by rw [hx]; rfl)
      p pi ty hp hpi hty sg sg' hsg hsg',
    fun c hc hc0 o ho => addDequant_consumers pt m m' tis hwf htag hok hdisj h ti hti ins hins hx
      p pi ty hp hpi hty sg sg' hsg hsg' c hc hc0 o ho⟩

/-- **QUANTIZE_TENSOR, whole run**: the tensor has the prescribed type and carries `p`; name, shape
    and buffer are those of the input model -/
theorem quantTensor_typed (pt : PTable) (m m' : Model) (tis : List TInsts)
    (hwf : WF.modelOK m = true) (htag : Skeleton.origTagged m = true)
    (hok : ∀ ti ∈ tis, GraphInv.TInstsOK pt m ti) (hdisj : TensorsDisjoint tis)
    (h : transformGraph pt m tis = .ok m')
    (ti : TInsts) (hti : ti ∈ tis) (hret : OneRetype ti.insts)
    (ins : Inst) (hins : ins ∈ ti.insts) (hx : ins.xf = .quantTensor)
    (p : PId) (pi : PInfo) (ty : Nat) (hp : ins.param = some p) (hpi : pinfo pt p = some pi)
    (hty : dtypeOf pi = .ok ty)
    (sg sg' : Subgraph) (hsg : m.subgraphs[ti.sg]? = some sg) (hsg' : m'.subgraphs[ti.sg]? = some sg') :
    ∃ tn0 tn', sg.tensors[ins.tensor.toNat]? = some tn0 ∧ sg'.tensors[ins.tensor.toNat]? = some tn' ∧
      0 ≤ ins.tensor ∧ tn'.dtype = ty ∧ (pi.uniform = true → tn'.quant = some p) ∧
      tn'.name = tn0.name ∧ tn'.shape = tn0.shape ∧ tn'.buffer = tn0.buffer :=
  Wiring.typed_core pt m m' tis hwf htag hok hdisj h ti hti hret ins hins (by rw [hx]; rfl)
    p pi ty hp hpi hty sg sg' hsg hsg'

/-! ## NON-VACUITY: `C08.Witness` (QUANTIZE before, QUANTIZE_TENSOR on the weight, DEQUANTIZE after)

`y := OP9(x, w)`; the generated instruction lists are
`x: [NO_QUANTIZE, ADD_QUANTIZE → op 0]`, `w: [QUANTIZE_TENSOR]`, `y: [ADD_DEQUANTIZE → graph output]`. -/
namespace Example1
open C08.Witness

theorem closed : transformGraph pt m tis = .ok m' ∧ Skeleton.origTagged m = true ∧
    Wiring.tensorsDisjointB tis = true ∧ (∀ ti ∈ tis, Wiring.oneRetypeB ti.insts = true) ∧
    tis.all (GraphInv.tinstsOKB pt m) = true := by
  decide +kernel

theorem hrun : transformGraph pt m tis = .ok m' := closed.1

theorem htag : Skeleton.origTagged m = true := closed.2.1

theorem hdisj : TensorsDisjoint tis := Wiring.tensorsDisjoint_of_b _ closed.2.2.1

theorem hret : ∀ ti ∈ tis, OneRetype ti.insts := fun ti hti =>
  Wiring.oneRetype_of_b _ (closed.2.2.2.1 ti hti)

theorem hok : ∀ ti ∈ tis, GraphInv.TInstsOK pt m ti := GraphInv.tinstsOK_of_b closed.2.2.2.2

def tiX : TInsts := ⟨"x", 0, [⟨.noQuant, 0, -1, [0], none⟩, ⟨.addQuant, 0, -1, [0], some 0⟩]⟩
def insQ : Inst := ⟨.addQuant, 0, -1, [0], some 0⟩
def tiW : TInsts := ⟨"w", 0, [⟨.quantTensor, 1, -1, [0], some 1⟩]⟩
def insT : Inst := ⟨.quantTensor, 1, -1, [0], some 1⟩
def tiY : TInsts := ⟨"y", 0, [⟨.addDequant, 2, 0, [-1], some 0⟩]⟩
def insD : Inst := ⟨.addDequant, 2, 0, [-1], some 0⟩

/-- `addQuant_wired` applies to the entry of `x` (real consumer: operator 0) -/
theorem addQuant_instance :
    ∃ o' ∈ (m'.subgraphs[0]'(by decide)).ops, o'.orig = some 0 ∧ o'.inputs.length = 2 ∧
      ∀ j : Nat, ([0, 1] : List Int)[j]? = some 0 →
        ∃ x tn, o'.inputs[j]? = some x ∧ (m'.subgraphs[0]'(by decide)).tensors[x.toNat]? = some tn ∧
          0 ≤ x ∧ tn.dtype = Tables.ttInt8 ∧ ((true : Bool) = true → tn.quant = some 0) ∧
          Skeleton.root (m'.subgraphs[0]'(by decide)) x = 0 :=
  addQuant_wired pt m m' tis wf htag hok hdisj hrun tiX (by decide) insQ (by decide) rfl
    0 ⟨true, 8, false⟩ Tables.ttInt8 rfl (by decide) rfl sg _ rfl rfl 0 (by decide) (by decide)
    { code := 0, inputs := [0, 1], outputs := [2], orig := some 0 } rfl

/-- … what it says on the witness: operator 0 now reads the int8 tensor 3 (`x_quantized`, parameters
    0) in slot 0, and tensor 3 stands for `x` -/
example : ∃ x tn, ((m'.subgraphs[0]'(by decide)).ops[1]'(by decide)).inputs[0]? = some x ∧
    (m'.subgraphs[0]'(by decide)).tensors[x.toNat]? = some tn ∧ tn.dtype = Tables.ttInt8 ∧
    tn.quant = some 0 ∧ Skeleton.root (m'.subgraphs[0]'(by decide)) x = 0 :=
  ⟨3, _, rfl, rfl, rfl, rfl, by decide⟩

/-- `quantTensor_typed` applies to the entry of `w` -/
theorem quantTensor_instance :
    ∃ tn0 tn', sg.tensors[insT.tensor.toNat]? = some tn0 ∧
      (m'.subgraphs[0]'(by decide)).tensors[insT.tensor.toNat]? = some tn' ∧
      0 ≤ insT.tensor ∧ tn'.dtype = Tables.ttInt8 ∧ ((true : Bool) = true → tn'.quant = some 1) ∧
      tn'.name = tn0.name ∧ tn'.shape = tn0.shape ∧ tn'.buffer = tn0.buffer :=
  quantTensor_typed pt m m' tis wf htag hok hdisj hrun tiW (by decide) (hret tiW (by decide))
    insT (by decide) rfl 1 ⟨true, 8, true⟩ Tables.ttInt8 rfl (by decide) rfl sg _ rfl rfl

/-- `addDequant_wired` applies to the entry of `y` (its only consumer is the graph output, so the
    consumer half is about no operator; the typing half says `y` is int8 with parameters 0) -/
theorem addDequant_instance :
    (∃ tn0 tn', sg.tensors[insD.tensor.toNat]? = some tn0 ∧
      (m'.subgraphs[0]'(by decide)).tensors[insD.tensor.toNat]? = some tn' ∧
      0 ≤ insD.tensor ∧ tn'.dtype = Tables.ttInt8 ∧ ((true : Bool) = true → tn'.quant = some 0) ∧
      tn'.name = tn0.name ∧ tn'.shape = tn0.shape ∧ tn'.buffer = tn0.buffer) ∧
    ∀ (c : Int), c ∈ insD.consumers → 0 ≤ c → ∀ (o : Op), sg.ops[c.toNat]? = some o →
      ∃ o' ∈ (m'.subgraphs[0]'(by decide)).ops, o'.orig = some c.toNat ∧
        o'.inputs.length = o.inputs.length ∧
        ∀ j : Nat, o.inputs[j]? = some insD.tensor →
          ∃ x tn, o'.inputs[j]? = some x ∧
            (m'.subgraphs[0]'(by decide)).tensors[x.toNat]? = some tn ∧ 0 ≤ x ∧
            tn.dtype = Tables.ttFloat32 ∧ tn.quant = none ∧
            Skeleton.root (m'.subgraphs[0]'(by decide)) x = insD.tensor :=
  addDequant_wired pt m m' tis wf htag hok hdisj hrun tiY (by decide) (hret tiY (by decide))
    insD (by decide) rfl 0 ⟨true, 8, false⟩ Tables.ttInt8 rfl (by decide) rfl sg _ rfl rfl

end Example1

/-! ## NON-VACUITY 2: two subgraphs, ADD_DEQUANTIZE with a real consumer

The model of `C19.Witness` (two copies of `y := OP9(x, w)`): DEQUANTIZE after the constant `w` of
subgraph 0 (real consumer: operator 0); in subgraph 1 QUANTIZE (int16) after the input `x` and
QUANTIZE_TENSOR on `w`.  Tensor index 1 is the subject of an entry in BOTH subgraphs
(`TensorsDisjoint` is per subgraph). -/
namespace Example2
open C19.Witness

def pt2 : PTable := [(0, ⟨true, 8, true⟩), (1, ⟨true, 16, false⟩)]
def insD : Inst := ⟨.addDequant, 1, -1, [0], some 0⟩
def insQ : Inst := ⟨.addQuant, 0, -1, [0], some 1⟩
def insT : Inst := ⟨.quantTensor, 1, -1, [0], some 0⟩
def tiD : TInsts := ⟨"w", 0, [insD]⟩
def tiQ : TInsts := ⟨"x", 1, [insQ]⟩
def tiT : TInsts := ⟨"w", 1, [insT]⟩
def tis2 : List TInsts := [tiD, tiQ, tiT]

def m2' : Model :=
  { subgraphs :=
      [{ tensors := [t "x" 0, { name := "w", dtype := 9, shape := [2], buffer := 1, quant := some 0 },
                     t "y" 0, t "w_dequant" 0],
         ops := [{ code := 1, inputs := [1], outputs := [3] },
                 { code := 0, inputs := [0, 3], outputs := [2], orig := some 0 }],
         inputs := [0], outputs := [2] },
       { tensors := [t "x" 0, { name := "w", dtype := 9, shape := [2], buffer := 2, quant := some 0 },
                     t "y" 0,
                     { name := "x_quantized", dtype := 7, shape := [2], buffer := 0, quant := some 1 }],
         ops := [{ code := 2, inputs := [0], outputs := [3] },
                 { code := 0, inputs := [3, 1], outputs := [2], orig := some 0 }],
         inputs := [0], outputs := [2] }]
    buffers := [none, some (.inr 0), some (.inr 0)]
    opcodes := [9, 6, 114]
    sigs := m.sigs }

theorem closed : transformGraph pt2 m tis2 = .ok m2' ∧ WF.modelOK m = true ∧
    Skeleton.origTagged m = true ∧ Wiring.tensorsDisjointB tis2 = true ∧
    tis2.all (GraphInv.tinstsOKB pt2 m) = true := by
  decide +kernel

theorem hrun : transformGraph pt2 m tis2 = .ok m2' := closed.1
theorem hwf : WF.modelOK m = true := closed.2.1
theorem htag : Skeleton.origTagged m = true := closed.2.2.1

theorem hok : ∀ ti ∈ tis2, GraphInv.TInstsOK pt2 m ti := GraphInv.tinstsOK_of_b closed.2.2.2.2

theorem hdisj : TensorsDisjoint tis2 := Wiring.tensorsDisjoint_of_b _ closed.2.2.2.1

/-- the DEQUANTIZE entry: `w` of subgraph 0 is int8 with parameters 0, and operator 0 reads, in slot 1
    (where it read `w`), a float32 tensor standing for `w` -/
theorem addDequant_instance :
    (∃ tn0 tn', (sgW 1).tensors[insD.tensor.toNat]? = some tn0 ∧
      (m2'.subgraphs[0]'(by decide)).tensors[insD.tensor.toNat]? = some tn' ∧
      0 ≤ insD.tensor ∧ tn'.dtype = Tables.ttInt8 ∧ ((true : Bool) = true → tn'.quant = some 0) ∧
      tn'.name = tn0.name ∧ tn'.shape = tn0.shape ∧ tn'.buffer = tn0.buffer) ∧
    ∀ (c : Int), c ∈ insD.consumers → 0 ≤ c → ∀ (o : Op), (sgW 1).ops[c.toNat]? = some o →
      ∃ o' ∈ (m2'.subgraphs[0]'(by decide)).ops, o'.orig = some c.toNat ∧
        o'.inputs.length = o.inputs.length ∧
        ∀ j : Nat, o.inputs[j]? = some insD.tensor →
          ∃ x tn, o'.inputs[j]? = some x ∧
            (m2'.subgraphs[0]'(by decide)).tensors[x.toNat]? = some tn ∧ 0 ≤ x ∧
            tn.dtype = Tables.ttFloat32 ∧ tn.quant = none ∧
            Skeleton.root (m2'.subgraphs[0]'(by decide)) x = insD.tensor :=
  addDequant_wired pt2 m m2' tis2 hwf htag hok hdisj hrun tiD (by decide)
    (Wiring.oneRetype_of_b _ (by decide)) insD (by decide) rfl 0 ⟨true, 8, true⟩ Tables.ttInt8 rfl
    (by decide) rfl (sgW 1) _ rfl rfl

/-- the consumer half is about a real operator here -/
example : (0 : Int) ∈ insD.consumers ∧ (sgW 1).ops[(0 : Int).toNat]? =
    some { code := 0, inputs := [0, 1], outputs := [2], orig := some 0 } := ⟨by decide, rfl⟩

/-- the QUANTIZE entry of subgraph 1: operator 0 of subgraph 1 reads an int16 tensor with parameters 1
    standing for `x` -/
theorem addQuant_instance :
    ∃ o' ∈ (m2'.subgraphs[1]'(by decide)).ops, o'.orig = some 0 ∧ o'.inputs.length = 2 ∧
      ∀ j : Nat, ([0, 1] : List Int)[j]? = some 0 →
        ∃ x tn, o'.inputs[j]? = some x ∧ (m2'.subgraphs[1]'(by decide)).tensors[x.toNat]? = some tn ∧
          0 ≤ x ∧ tn.dtype = Tables.ttInt16 ∧ ((true : Bool) = true → tn.quant = some 1) ∧
          Skeleton.root (m2'.subgraphs[1]'(by decide)) x = 0 :=
  addQuant_wired pt2 m m2' tis2 hwf htag hok hdisj hrun tiQ (by decide) insQ (by decide) rfl
    1 ⟨true, 16, false⟩ Tables.ttInt16 rfl (by decide) rfl (sgW 2) _ rfl rfl 0 (by decide) (by decide)
    { code := 0, inputs := [0, 1], outputs := [2], orig := some 0 } rfl

end Example2

/-! ## NON-VACUITY 3: the requantize pair `[QUANTIZE_TENSOR, ADD_QUANTIZE]` inside ONE entry

The model of `C03.Example` (`x --op0--> h --op1(h, w)--> y`): `h` is produced int8 (QUANTIZE_TENSOR,
parameters 7) and requantized to int16 (ADD_QUANTIZE, parameters 9) for its consumer `op1`; `w` is
quantized in place.  `NoChain`, `OneRetype` and `TensorsDisjoint` all allow the pair. -/
namespace Example3
open C03.Example

def pt3 : PTable := [(7, ⟨true, 8, false⟩), (9, ⟨true, 16, false⟩)]
def insHT : Inst := ⟨.quantTensor, 2, 0, [1], some 7⟩
def insHQ : Inst := ⟨.addQuant, 2, 0, [1], some 9⟩
def insWT : Inst := ⟨.quantTensor, 1, -1, [1], some 7⟩
def tiH : TInsts := ⟨"h", 0, [insHT, insHQ]⟩
def tiW : TInsts := ⟨"w", 0, [insWT]⟩
def tis3 : List TInsts := [tiH, tiW]

def sg3' : Subgraph :=
  { tensors := [{ name := "x", dtype := 0, shape := [1, 2], buffer := 0 },
                { name := "w", dtype := 9, shape := [2, 2], buffer := 1, quant := some 7 },
                { name := "h", dtype := 9, shape := [1, 2], buffer := 0, quant := some 7 },
                { name := "y", dtype := 0, shape := [1, 2], buffer := 0 },
                { name := "h_quantized", dtype := 7, shape := [1, 2], buffer := 0, quant := some 9 }],
    ops := [{ code := 0, inputs := [0], outputs := [2], orig := some 0 },
            { code := 2, inputs := [2], outputs := [4] },
            { code := 1, inputs := [4, 1], outputs := [3], orig := some 1 }],
    inputs := [0], outputs := [3] }

def m3' : Model := { mE with subgraphs := [sg3'], opcodes := [5, 9, 114] }

theorem closed : transformGraph pt3 mE tis3 = .ok m3' ∧ WF.modelOK mE = true ∧
    Skeleton.origTagged mE = true ∧ Wiring.tensorsDisjointB tis3 = true ∧
    Wiring.oneRetypeB tiH.insts = true ∧ tis3.all (GraphInv.tinstsOKB pt3 mE) = true := by
  decide +kernel

theorem hrun : transformGraph pt3 mE tis3 = .ok m3' := closed.1
theorem hwf : WF.modelOK mE = true := closed.2.1
theorem htag : Skeleton.origTagged mE = true := closed.2.2.1
theorem hdisj : TensorsDisjoint tis3 := Wiring.tensorsDisjoint_of_b _ closed.2.2.2.1
theorem hretH : OneRetype tiH.insts := Wiring.oneRetype_of_b _ closed.2.2.2.2.1

theorem hok : ∀ ti ∈ tis3, GraphInv.TInstsOK pt3 mE ti := GraphInv.tinstsOK_of_b closed.2.2.2.2.2

/-- ADD_QUANTIZE of the pair: `op1` reads, where it read `h`, an int16 tensor with parameters 9
    standing for `h` -/
theorem addQuant_instance :
    ∃ o' ∈ sg3'.ops, o'.orig = some 1 ∧ o'.inputs.length = 2 ∧
      ∀ j : Nat, ([2, 1] : List Int)[j]? = some 2 →
        ∃ x tn, o'.inputs[j]? = some x ∧ sg3'.tensors[x.toNat]? = some tn ∧
          0 ≤ x ∧ tn.dtype = Tables.ttInt16 ∧ ((true : Bool) = true → tn.quant = some 9) ∧
          Skeleton.root sg3' x = 2 :=
  addQuant_wired pt3 mE m3' tis3 hwf htag hok hdisj hrun tiH (by decide) insHQ (by decide) rfl
    9 ⟨true, 16, false⟩ Tables.ttInt16 rfl (by decide) rfl sgE sg3' rfl rfl 1 (by decide) (by decide)
    { code := 1, inputs := [2, 1], outputs := [3], orig := some 1 } rfl

/-- QUANTIZE_TENSOR of the pair: `h` itself is int8 with parameters 7 -/
theorem quantTensor_instance :
    ∃ tn0 tn', sgE.tensors[insHT.tensor.toNat]? = some tn0 ∧
      sg3'.tensors[insHT.tensor.toNat]? = some tn' ∧
      0 ≤ insHT.tensor ∧ tn'.dtype = Tables.ttInt8 ∧ ((true : Bool) = true → tn'.quant = some 7) ∧
      tn'.name = tn0.name ∧ tn'.shape = tn0.shape ∧ tn'.buffer = tn0.buffer :=
  quantTensor_typed pt3 mE m3' tis3 hwf htag hok hdisj hrun tiH (by decide) hretH insHT (by decide) rfl
    7 ⟨true, 8, false⟩ Tables.ttInt8 rfl (by decide) rfl sgE sg3' rfl rfl

end Example3

namespace Counter
open C08.Witness

/-- int8 (parameter 0) and int16 (parameter 3) activations, no packed data -/
def ptC : PTable := [(0, ⟨true, 8, false⟩), (3, ⟨true, 16, false⟩)]

/-- an instruction on the graph input `x` of `C08.Witness.m` for operator 0 -/
def onX (xf : Xf) (p : PId) : Inst := ⟨xf, 0, -1, [0], some p⟩

/-- **`TensorsDisjoint` is necessary for `addQuant_wired`.**  Two entries for the same tensor `x`, each
    one ADD_QUANTIZE for operator 0, int8 then int16.  The first rewires operator 0 to its new int8
    tensor; the second finds no operand `x` left to rewire: its QUANTIZE dangles and operator 0 does
    NOT read an int16 tensor. -/
def tisQQ : List TInsts := [⟨"x", 0, [onX .addQuant 0]⟩, ⟨"x", 0, [onX .addQuant 3]⟩]

def sgQQ : Subgraph :=
  { tensors := [t "x" 0, t "w" 1, t "y" 0,
                { name := "x_quantized", dtype := 9, shape := [2], buffer := 0, quant := some 0 },
                { name := "x_quantized_1", dtype := 7, shape := [2], buffer := 0, quant := some 3 }],
    ops := [{ code := 1, inputs := [0], outputs := [3] },
            { code := 1, inputs := [0], outputs := [4] },
            { code := 0, inputs := [3, 1], outputs := [2], orig := some 0 }],
    inputs := [0], outputs := [2] }

def mQQ : Model := { m with subgraphs := [sgQQ], opcodes := [9, 114] }

/-- **`OneRetype` is necessary for `quantTensor_typed`.**  One entry with two QUANTIZE_TENSOR on `x`,
    int8 then int16: the second overwrites the first. -/
def tisTT : List TInsts := [⟨"x", 0, [onX .quantTensor 0, onX .quantTensor 3]⟩]

def mTT : Model :=
  { m with subgraphs := [{ sg with tensors :=
      [{ name := "x", dtype := 7, shape := [2], buffer := 0, quant := some 3 }, t "w" 1, t "y" 0] }] }

/-- **`TensorsDisjoint` is necessary for `quantTensor_typed`** as well: the same two instructions in
    two entries (each entry satisfies `OneRetype`). -/
def tisT2 : List TInsts := [⟨"x", 0, [onX .quantTensor 0]⟩, ⟨"x", 0, [onX .quantTensor 3]⟩]

theorem runs : transformGraph ptC m tisQQ = .ok mQQ ∧ transformGraph ptC m tisTT = .ok mTT ∧
    transformGraph ptC m tisT2 = .ok mTT ∧ (tisQQ ++ tisTT ++ tisT2).all (GraphInv.tinstsOKB ptC m) = true := by
  decide +kernel

theorem oks : ∀ ti ∈ tisQQ ++ tisTT ++ tisT2, GraphInv.TInstsOK ptC m ti := GraphInv.tinstsOK_of_b runs.2.2.2

theorem okQQ : ∀ ti ∈ tisQQ, GraphInv.TInstsOK ptC m ti := fun ti h =>
  oks ti (List.mem_append_left _ (List.mem_append_left _ h))

theorem tensorsDisjoint_needed :
    ¬ ∀ (pt : PTable) (m m' : Model) (tis : List TInsts), WF.modelOK m = true →
      Skeleton.origTagged m = true → (∀ ti ∈ tis, GraphInv.TInstsOK pt m ti) →
      transformGraph pt m tis = .ok m' →
      ∀ (ti : TInsts), ti ∈ tis → ∀ (ins : Inst), ins ∈ ti.insts → ins.xf = .addQuant →
      ∀ (p : PId) (pi : PInfo) (ty : Nat), ins.param = some p → pinfo pt p = some pi →
      dtypeOf pi = .ok ty →
      ∀ (sg sg' : Subgraph), m.subgraphs[ti.sg]? = some sg → m'.subgraphs[ti.sg]? = some sg' →
      ∀ (c : Int), c ∈ ins.consumers → 0 ≤ c → ∀ (o : Op), sg.ops[c.toNat]? = some o →
      ∃ o' ∈ sg'.ops, o'.orig = some c.toNat ∧ o'.inputs.length = o.inputs.length ∧
        ∀ j : Nat, o.inputs[j]? = some ins.tensor →
          ∃ x tn, o'.inputs[j]? = some x ∧ sg'.tensors[x.toNat]? = some tn ∧ 0 ≤ x ∧
            tn.dtype = ty ∧ (pi.uniform = true → tn.quant = some p) ∧
            Skeleton.root sg' x = ins.tensor := by
  intro H
  obtain ⟨o', ho', h1, -, h3⟩ := H ptC m mQQ tisQQ wf Example1.htag okQQ runs.1
    ⟨"x", 0, [onX .addQuant 3]⟩ (by decide) (onX .addQuant 3) (by decide) rfl
    3 ⟨true, 16, false⟩ Tables.ttInt16 rfl (by decide) rfl sg sgQQ rfl rfl 0 (by decide) (by decide)
    { code := 0, inputs := [0, 1], outputs := [2], orig := some 0 } rfl
  simp only [sgQQ, List.mem_cons, List.mem_nil_iff, or_false] at ho'
  rcases ho' with rfl | rfl | rfl
  · cases h1
  · cases h1
  · obtain ⟨x, tn, g1, g2, -, g4, -⟩ := h3 0 rfl
    cases g1
    cases g2
    cases g4

theorem okTT : ∀ ti ∈ tisTT, GraphInv.TInstsOK ptC m ti := fun ti h =>
  oks ti (List.mem_append_left _ (List.mem_append_right _ h))

theorem oneRetype_needed :
    ¬ ∀ (pt : PTable) (m m' : Model) (tis : List TInsts), WF.modelOK m = true →
      Skeleton.origTagged m = true → (∀ ti ∈ tis, GraphInv.TInstsOK pt m ti) → TensorsDisjoint tis →
      transformGraph pt m tis = .ok m' →
      ∀ (ti : TInsts), ti ∈ tis → ∀ (ins : Inst), ins ∈ ti.insts → ins.xf = .quantTensor →
      ∀ (p : PId) (pi : PInfo) (ty : Nat), ins.param = some p → pinfo pt p = some pi →
      dtypeOf pi = .ok ty →
      ∀ (sg sg' : Subgraph), m.subgraphs[ti.sg]? = some sg → m'.subgraphs[ti.sg]? = some sg' →
      ∃ tn', sg'.tensors[ins.tensor.toNat]? = some tn' ∧ tn'.dtype = ty := by
  intro H
  obtain ⟨tn', g1, g2⟩ := H ptC m mTT tisTT wf Example1.htag okTT
    (Wiring.tensorsDisjoint_of_b _ (by decide)) runs.2.1
    ⟨"x", 0, [onX .quantTensor 0, onX .quantTensor 3]⟩ (by decide) (onX .quantTensor 0) (by decide) rfl
    0 ⟨true, 8, false⟩ Tables.ttInt8 rfl (by decide) rfl sg _ rfl rfl
  cases g1
  cases g2

theorem okT2 : ∀ ti ∈ tisT2, GraphInv.TInstsOK ptC m ti := fun ti h => oks ti (List.mem_append_right _ h)

theorem tensorsDisjoint_needed_typed :
    ¬ ∀ (pt : PTable) (m m' : Model) (tis : List TInsts), WF.modelOK m = true →
      Skeleton.origTagged m = true → (∀ ti ∈ tis, GraphInv.TInstsOK pt m ti) →
      (∀ ti ∈ tis, OneRetype ti.insts) → transformGraph pt m tis = .ok m' →
      ∀ (ti : TInsts), ti ∈ tis → ∀ (ins : Inst), ins ∈ ti.insts → ins.xf = .quantTensor →
      ∀ (p : PId) (pi : PInfo) (ty : Nat), ins.param = some p → pinfo pt p = some pi →
      dtypeOf pi = .ok ty →
      ∀ (sg sg' : Subgraph), m.subgraphs[ti.sg]? = some sg → m'.subgraphs[ti.sg]? = some sg' →
      ∃ tn', sg'.tensors[ins.tensor.toNat]? = some tn' ∧ tn'.dtype = ty := by
  intro H
  obtain ⟨tn', g1, g2⟩ := H ptC m mTT tisT2 wf Example1.htag okT2
    (fun ti hti => Wiring.oneRetype_of_b _ (by revert ti; decide)) runs.2.2.1
    ⟨"x", 0, [onX .quantTensor 0]⟩ (by decide) (onX .quantTensor 0) (by decide) rfl
    0 ⟨true, 8, false⟩ Tables.ttInt8 rfl (by decide) rfl sg _ rfl rfl
  cases g1
  cases g2

end Counter

end C03
