import QProps.C15
/-!
# C15b — soundness of the buffer-sharing check

What `Mat.checkBufferSharing m res = .ok ()` guarantees for every constant buffer (a buffer that holds data), in
three parts: `sharing_pairwise` (1), `sharing_single` (2), `sharing_unread` (3).  `QProps/C15.lean` says what
compatibility of two single requests means; `single_consumers_agree` combines both.
-/
open Graph Mat

namespace C15

/-- (1) all operand occurrences of one constant buffer carry requests that are `compatReq`-compatible with the request
    of the first one.
    (`bufferToTensors m` is a dictionary, `SharingProofs.b2t_mem_iff`: the hypotheses `(b, l) ∈ bufferToTensors m` below can
    equally be read as `Py.dictGet? (bufferToTensors m) b = some l`.) -/
theorem sharing_pairwise (m : Model) (res : List (String × CReq)) (h : checkBufferSharing m res = .ok ())
    (b : Nat) (first : String) (rest : List String) (hb : (b, first :: rest) ∈ bufferToTensors m)
    (hne : rest ≠ []) (hdata : ∃ c, m.buffers[b]? = some (some c)) :
    ∃ fp, Py.dictGet? res first = some fp ∧
      ∀ n ∈ rest, ∃ tp, Py.dictGet? res n = some tp ∧ compatReq fp tp = .ok true := by
  have hR := ((SharingProofs.checkBufferSharing_ok_iff m res).1 h).1 _ hb hdata
  cases rest with
  | nil => exact absurd rfl hne
  | cons _ _ => exact hR

/-- (2) a constant with a single operand occurrence has mutually compatible consumers (incl. the
    graph output pseudo consumer): its request is self-compatible -/
theorem sharing_single (m : Model) (res : List (String × CReq)) (h : checkBufferSharing m res = .ok ())
    (b : Nat) (only : String) (hb : (b, [only]) ∈ bufferToTensors m)
    (hdata : ∃ c, m.buffers[b]? = some (some c))
    (p : CReq) (hp : Py.dictGet? res only = some p) : compatReq p p = .ok true :=
  ((SharingProofs.checkBufferSharing_ok_iff m res).1 h).1 _ hb hdata p hp

/-- (3) a constant that no operator reads never shares a buffer that is rewritten for an operand (`quantTensor` /
    `addDequant` as the first transformation of a consumer) -/
theorem sharing_unread (m : Model) (res : List (String × CReq)) (h : checkBufferSharing m res = .ok ())
    (sg : Subgraph) (hsg : sg ∈ m.subgraphs) (t : Tensor) (ht : t ∈ sg.tensors)
    (hun : t.name ∉ (bufferToTensors m).flatMap (·.2))
    (hdata : ∃ c, m.buffers[t.buffer]? = some (some c))
    (n : String) (hn : n ∈ (Py.dictGet? (bufferToTensors m) t.buffer).getD [])
    (sp : CReq) (hsp : Py.dictGet? res n = some sp) :
    ∀ c ∈ sp.consumers.getD [], ∀ x, c.xfs.head? = some x → x ≠ .quantTensor ∧ x ≠ .addDequant :=
  (SharingProofs.rewritesB_false_iff sp).1 (((SharingProofs.checkBufferSharing_ok_iff m res).1 h).2 sg hsg t ht hun hdata n hn sp hsp)

/-- (3) with the sharing tensors given as an entry of `bufferToTensors m` -/
theorem sharing_unread_entry (m : Model) (res : List (String × CReq)) (h : checkBufferSharing m res = .ok ())
    (sg : Subgraph) (hsg : sg ∈ m.subgraphs) (t : Tensor) (ht : t ∈ sg.tensors)
    (hun : t.name ∉ (bufferToTensors m).flatMap (·.2))
    (hdata : ∃ c, m.buffers[t.buffer]? = some (some c))
    (l : List String) (hl : (t.buffer, l) ∈ bufferToTensors m) (n : String) (hn : n ∈ l)
    (sp : CReq) (hsp : Py.dictGet? res n = some sp) :
    ∀ c ∈ sp.consumers.getD [], ∀ x, c.xfs.head? = some x → x ≠ .quantTensor ∧ x ≠ .addDequant := by
  refine sharing_unread m res h sg hsg t ht hun hdata n ?_ sp hsp
  rw [(SharingProofs.b2t_mem_iff m t.buffer l).1 hl]
  exact hn

theorem self_compat_consumers (p : CReq) (h : compatReq p p = .ok true)
    (cs : List CO2T) (hcs : p.consumers = some cs) :
    ∃ c0, cs.head? = some c0 ∧ ∀ c ∈ cs, compatO2T c c0 = .ok true := by
  rcases ((SharingProofs.compatReq_ok_iff p p).1 h).2 with ⟨hn, _⟩ | ⟨ca, _, hca, _, a0, _, ha0, _, hA, _, _⟩
  · rw [hn] at hcs; cases hcs
  · rw [hca] at hcs; cases hcs
    exact ⟨a0, ha0, hA⟩

/-- consequence of (2): all consumers of such a constant read it through the same kind of source
    as the first consumer (or carry literally the same transformations and `==`-equal parameters) -/
theorem single_consumers_agree (p : CReq) (h : compatReq p p = .ok true)
    (cs : List CO2T) (hcs : p.consumers = some cs) (c0 : CO2T) (hc0 : cs.head? = some c0)
    (x0 : Xf) (hx0 : c0.xfs.head? = some x0) :
    ∀ c ∈ cs, ∀ xc, c.xfs.head? = some xc →
      (floatSrc xc = true ∧ floatSrc x0 = true) ∨ (quantSrc xc = true ∧ quantSrc x0 = true) ∨
        (c.xfs = c0.xfs ∧ optParamEq c.param c0.param = true) := by
  obtain ⟨c0', h0', hall⟩ := self_compat_consumers p h cs hcs
  rw [hc0] at h0'; cases h0'
  intro c hc xc hxc
  exact compat_same_class c c0 xc x0 hxc hx0 (hall c hc)

/-- consequence of (2): every quantizing consumer carries parameters `==`-equal to those of the
    first consumer, when that one quantizes too -/
theorem single_consumers_params (p : CReq) (h : compatReq p p = .ok true)
    (cs : List CO2T) (hcs : p.consumers = some cs) (c0 : CO2T) (hc0 : cs.head? = some c0)
    (x0 : Xf) (hx0 : c0.xfs.head? = some x0) (hq0 : x0 ≠ .noQuant) :
    ∀ c ∈ cs, ∀ xc, c.xfs.head? = some xc → xc ≠ .noQuant →
      optParamEq c.param c0.param = true := by
  obtain ⟨c0', h0', hall⟩ := self_compat_consumers p h cs hcs
  rw [hc0] at h0'; cases h0'
  intro c hc xc hxc hqc
  exact compat_params c c0 xc x0 hxc hx0 hqc hq0 (hall c hc)

/-- (2) + C15, end to end: a checked model, a constant with a single operand occurrence -/
theorem sharing_single_consumers (m : Model) (res : List (String × CReq))
    (h : checkBufferSharing m res = .ok ())
    (b : Nat) (only : String) (hb : (b, [only]) ∈ bufferToTensors m)
    (hdata : ∃ c, m.buffers[b]? = some (some c))
    (p : CReq) (hp : Py.dictGet? res only = some p)
    (cs : List CO2T) (hcs : p.consumers = some cs) (c0 : CO2T) (hc0 : cs.head? = some c0)
    (x0 : Xf) (hx0 : c0.xfs.head? = some x0) :
    ∀ c ∈ cs, ∀ xc, c.xfs.head? = some xc →
      (floatSrc xc = true ∧ floatSrc x0 = true) ∨ (quantSrc xc = true ∧ quantSrc x0 = true) ∨
        (c.xfs = c0.xfs ∧ optParamEq c.param c0.param = true) :=
  single_consumers_agree p (sharing_single m res h b only hb hdata p hp) cs hcs c0 hc0 x0 hx0

/-! ## non-vacuity: the check passes on compatible requests and fails on incompatible ones -/

def exReq (name : String) (cons : List (Xf × Nat)) : String × CReq :=
  (name, ⟨name, none, some (cons.map fun c => ⟨0, [c.1], some (.nonlinear c.2 none)⟩)⟩)

def exOut : String × CReq := ("out", ⟨"out", some ⟨0, [.noQuant], none⟩, none⟩)

/-- part (1). One operator `out = op(w1, w2)`; `w1` and `w2` share the constant buffer 1 -/
def exModel : Model :=
  { subgraphs := [{ tensors := [⟨"out", 0, [], 0, none⟩, ⟨"w1", 0, [], 1, none⟩, ⟨"w2", 0, [], 1, none⟩],
                    ops := [{ code := 0, inputs := [1, 2], outputs := [0] }],
                    inputs := [], outputs := [0] }],
    buffers := [none, some (.inl 0)], opcodes := [0], sigs := [] }

/-- both tensors are quantized with `==`-equal parameters -/
def exResOk : List (String × CReq) := [exOut, exReq "w1" [(.quantTensor, 8)], exReq "w2" [(.quantTensor, 8)]]

/-- the two tensors ask for different parameters -/
def exResBad : List (String × CReq) := [exOut, exReq "w1" [(.quantTensor, 8)], exReq "w2" [(.quantTensor, 4)]]

theorem exModel_b2t : bufferToTensors exModel = [(0, ["out"]), (1, ["w1", "w2"])] := by decide +kernel
theorem exModel_ok : checkBufferSharing exModel exResOk = .ok () := by rfl
theorem exModel_bad : checkBufferSharing exModel exResBad = .error .runtimeError := by rfl

/-- `sharing_pairwise` applies to the accepted instance -/
example : ∃ fp, Py.dictGet? exResOk "w1" = some fp ∧
    ∀ n ∈ ["w2"], ∃ tp, Py.dictGet? exResOk n = some tp ∧ compatReq fp tp = .ok true :=
  sharing_pairwise exModel exResOk exModel_ok 1 "w1" ["w2"] (exModel_b2t ▸ .tail _ (.head _))
    (List.cons_ne_nil _ _) ⟨_, rfl⟩

/-- parts (2) and (3). One operator `out = op(w)`; the tensor `g` (read by no operator, e.g. a graph
    output) shares the constant buffer 1 with `w` -/
def exModel2 : Model :=
  { subgraphs := [{ tensors := [⟨"out", 0, [], 0, none⟩, ⟨"w", 0, [], 1, none⟩, ⟨"g", 0, [], 1, none⟩],
                    ops := [{ code := 0, inputs := [1], outputs := [0] }],
                    inputs := [], outputs := [0, 2] }],
    buffers := [none, some (.inl 0)], opcodes := [0], sigs := [] }

theorem exModel2_b2t : bufferToTensors exModel2 = [(0, ["out"]), (1, ["w"])] := by decide +kernel

/-- accepted: `w` is read as a float constant by both of its consumers -/
theorem exModel2_ok :
    checkBufferSharing exModel2 [exOut, exReq "w" [(.addQuant, 8), (.noQuant, 8)]] = .ok () := by rfl
/-- rejected by part (2): the two consumers of `w` disagree on the parameters -/
theorem exModel2_bad_single :
    checkBufferSharing exModel2 [exOut, exReq "w" [(.addQuant, 8), (.addQuant, 4)]] = .error .runtimeError := by rfl
/-- rejected by part (3): the buffer of `w` would be rewritten although the unread tensor `g` shares it -/
theorem exModel2_bad_unread :
    checkBufferSharing exModel2 [exOut, exReq "w" [(.quantTensor, 8)]] = .error .runtimeError := by rfl
/-- the same request is accepted when nothing else shares the buffer (so it is part (3) that rejects) -/
theorem exModel2_ok_unshared :
    checkBufferSharing { exModel2 with subgraphs := exModel2.subgraphs.map fun sg => { sg with tensors := sg.tensors.take 2 } }
      [exOut, exReq "w" [(.quantTensor, 8)]] = .ok () := by rfl

end C15
