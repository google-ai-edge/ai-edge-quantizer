import QProofs.EmulatedThms
/-!
# C01c — the EMULATED_SUBCHANNEL transformation (`transformations/emulated_subchannel.py`)

`Emulated.apply` (QModel/Emulated.lean) models the transformation function on its own; it is tied to the
Python function by the correspondence script `fam_emulated.py` (driver command `"emulated"`).
`Perform.applySingle` answers `.unsupported` for `.emulated`: these theorems are about ONE application of
the transformation to a well-formed model, not about the performer.

Hypotheses `EmuOK` (each one is necessary, see the closed counterexamples at the end):
* `tvalid`  the weight tensor id is a valid NON-NEGATIVE index (Python would accept a negative alias);
* `wconst`  the weight tensor holds constant data (the transformation writes the weight's buffer without
            looking at it: for a tensor over buffer 0 it fills buffer 0);
* `single`  the replaced operator has exactly one result, a real tensor (a second result loses its producer).
Not needed: that the weight is read by this operator only, that the bias is a constant, that the operands
are distinct (the weight may also be the bias operand) — see `weight_as_bias_wf`, `computed_bias_wf`.
-/
open Graph Perform Emulated

namespace C01

abbrev EmuOK := EmuWF.EmuOK

section
variable (pt : PTable) (env : EmuEnv) (m m' : Model) (sgi : Nat) (sg : Subgraph) (inp : TIn) (info : TInfoOut)

/-- **(a)** the result is well-formed -/
theorem emulated_wf (hsg : m.subgraphs[sgi]? = some sg) (hwf : WF.modelOK m = true) (hinp : EmuOK m sg inp)
    (h : Emulated.apply pt env m sgi inp = .ok (m', info)) : WF.modelOK m' = true :=
  EmuThms.emulated_wf pt env m m' sgi sg inp info hsg hwf hinp h

/-- **(b) frame**: only subgraph `sgi` changes; the operator-code table and the buffer list grow at the end,
    except for the weight's own buffer; signatures, graph inputs and outputs are unchanged as index lists;
    the operator list is the old one with the operator at `k = consumers[0]` replaced by new
    (`orig = none`) operators: all other operators are still there, in the same order, with the same operands -/
theorem emulated_frame (hsg : m.subgraphs[sgi]? = some sg) (hwf : WF.modelOK m = true) (hinp : EmuOK m sg inp)
    (h : Emulated.apply pt env m sgi inp = .ok (m', info)) :
    ∃ (k : Nat) (N : List Op) (sg' : Subgraph) (wT : Tensor) (c : BufContent) (bext : List BufContent)
      (cext : List Nat),
      inp.consumers = [(k : Int)] ∧ k < sg.ops.length ∧
      m'.subgraphs = m.subgraphs.set sgi sg' ∧ (∀ j, j ≠ sgi → m'.subgraphs[j]? = m.subgraphs[j]?) ∧
      m'.opcodes = m.opcodes ++ cext ∧
      sg.tensors[inp.tensor.toNat]? = some wT ∧ m'.buffers = m.buffers.set wT.buffer c ++ bext ∧
      m'.sigs = m.sigs ∧ sg'.inputs = sg.inputs ∧ sg'.outputs = sg.outputs ∧
      sg'.ops = sg.ops.take k ++ N ++ sg.ops.drop (k + 1) ∧ (∀ o ∈ N, o.orig = none) :=
  EmuThms.emulated_frame pt env m m' sgi sg inp info hsg hwf hinp h

/-- **(c) bookkeeping** (what `transformation_performer._update_op_id_map` assumes): `info.opId` is the
    position `k` of the replaced operator = of the first new operator; exactly `info.added + 1` new operators
    occupy the positions `[k, k + added]`; the operators before `k` are untouched, those after `k` moved by
    exactly `info.added` (so the replaced operator is gone) -/
theorem emulated_bookkeeping (hsg : m.subgraphs[sgi]? = some sg) (hwf : WF.modelOK m = true)
    (hinp : EmuOK m sg inp) (h : Emulated.apply pt env m sgi inp = .ok (m', info)) :
    ∃ (k : Nat) (sg' : Subgraph), inp.consumers = [(k : Int)] ∧ m'.subgraphs[sgi]? = some sg' ∧
      info.opId = (k : Int) ∧
      sg'.ops.length = sg.ops.length + info.added ∧
      (∀ j, j < k → sg'.ops[j]? = sg.ops[j]?) ∧
      (∀ j, k ≤ j → j ≤ k + info.added → ∃ o, sg'.ops[j]? = some o ∧ o.orig = none) ∧
      (∀ j, k < j → sg'.ops[j + info.added]? = sg.ops[j]?) :=
  EmuThms.emulated_bookkeeping pt env m m' sgi sg inp info hsg hwf hinp h

/-- **(d)** the result tensor of the replaced operator (= `info.outTensor`) is produced by the LAST new operator -/
theorem emulated_result_tensor (hsg : m.subgraphs[sgi]? = some sg) (hwf : WF.modelOK m = true)
    (hinp : EmuOK m sg inp) (h : Emulated.apply pt env m sgi inp = .ok (m', info)) :
    ∃ (k : Nat) (fc : Op) (y : Int) (sg' : Subgraph) (last : Op),
      inp.consumers = [(k : Int)] ∧ sg.ops[k]? = some fc ∧ fc.outputs = [y] ∧
      m'.subgraphs[sgi]? = some sg' ∧ info.outTensor = y ∧
      sg'.ops[k + info.added]? = some last ∧ last.outputs = [y] ∧ last.orig = none :=
  EmuThms.emulated_result_tensor pt env m m' sgi sg inp info hsg hwf hinp h

/-- **(e)** at least 8 tensors are appended and every new tensor has a name that did not occur in the subgraph;
    the old tensors keep their index; apart from the weight (type, shape, quantization record) and the result
    tensor they are unchanged; the result tensor keeps its name or (fused RELU) gets a name that did not occur -/
theorem emulated_tensors (hsg : m.subgraphs[sgi]? = some sg) (hwf : WF.modelOK m = true)
    (hinp : EmuOK m sg inp) (h : Emulated.apply pt env m sgi inp = .ok (m', info)) :
    ∃ (sg' : Subgraph), m'.subgraphs[sgi]? = some sg' ∧ sg.tensors.length + 8 ≤ sg'.tensors.length ∧
      (∀ i t, sg.tensors.length ≤ i → sg'.tensors[i]? = some t → t.name ∉ sg.tensors.map (·.name)) ∧
      (∀ i, i < sg.tensors.length → i ≠ inp.tensor.toNat → i ≠ info.outTensor.toNat →
        sg'.tensors[i]? = sg.tensors[i]?) ∧
      (∀ t t', sg.tensors[info.outTensor.toNat]? = some t → sg'.tensors[info.outTensor.toNat]? = some t' →
        t'.name = t.name ∨ t'.name ∉ sg.tensors.map (·.name)) :=
  EmuThms.emulated_tensors pt env m m' sgi sg inp info hsg hwf hinp h
end

/-! ## A closed instance: FULLY_CONNECTED in the middle, with bias and fused RELU -/

namespace EmuExample

def T (n : String) (dt : Nat) (sh : List Int) (b : Nat) (q : Option PId := none) : Tensor :=
  { name := n, dtype := dt, shape := sh, buffer := b, quant := q }

/-- `x → TANH → h → FULLY_CONNECTED(h, w, b; fused RELU) → y → TANH → z` -/
def sgE : Subgraph :=
  { tensors := [T "x" 0 [1,2,32] 0, T "h" 0 [1,2,32] 0, T "w" 0 [4,32] 1, T "b" 0 [4] 2, T "y" 0 [1,2,4] 0,
                T "z" 0 [1,2,4] 0],
    ops := [ { code := 1, inputs := [0], outputs := [1], orig := some 0 },
             { code := 0, inputs := [1, 2, 3], outputs := [4], orig := some 1 },
             { code := 1, inputs := [4], outputs := [5], orig := some 2 } ],
    inputs := [0], outputs := [5] }
def mE : Model :=
  { subgraphs := [sgE], buffers := [none, some (.inl 0), some (.inl 1)], opcodes := [9, 28],
    sigs := [⟨"serving_default", 0, [("in0", 0)], [("out0", 5)]⟩] }
def ptE : PTable := [(0, { uniform := true, bits := 8, hasData := true })]
/-- block size 16: `quantized_data` has shape `[1, 32/16, 16, 4]` -/
def envE : EmuEnv :=
  { fused := some actRelu, weightHasQuant := true, qshape := [1, 2, 16, 4], scaleShape := [1, 2, 1, 4],
    zpAllZero := true, unitQ := 7, axesTok := 10, shape1Tok := 11, shape2Tok := 12 }
def inpE : TIn := { tensor := 2, producer := -1, consumers := [1], param := some 0 }

/-- the expected result: RESHAPE, BATCH_MATMUL, MUL, SUM, RESHAPE, ADD, RELU at positions 1..7; the result
    tensor renamed `y_relu` -/
def sgE' : Subgraph :=
  { tensors := [T "x" 0 [1,2,32] 0, T "h" 0 [1,2,32] 0, T "w" 9 [1,2,16,4] 1 (some 7), T "b" 0 [4] 2,
                T "y_relu" 0 [1,2,4] 0, T "z" 0 [1,2,4] 0,
                T "w_scale" 0 [1,2,1,4] 3, T "w_reduce_axes" 2 [1] 4,
                T "y_reshape_op1_shape" 2 [4] 5, T "y_reshape_op2_shape" 2 [3] 6,
                T "y_bmm_input" 0 [2,2,1,16] 0, T "y_mul_input" 0 [2,2,1,4] 0, T "y_reduce_sum_input" 0 [2,2,1,4] 0,
                T "y_reshape_op2_input" 0 [2,1,1,4] 0, T "y_reshape_op2_output" 0 [1,2,4] 0,
                T "y_relu_relu_input" 0 [1,2,4] 0],
    ops := [ { code := 1, inputs := [0], outputs := [1], orig := some 0 },
             { code := 2, inputs := [1, 8], outputs := [10] },
             { code := 3, inputs := [10, 2], outputs := [11] },
             { code := 4, inputs := [11, 6], outputs := [12] },
             { code := 5, inputs := [12, 7], outputs := [13] },
             { code := 2, inputs := [13, 9], outputs := [14] },
             { code := 6, inputs := [14, 3], outputs := [15] },
             { code := 7, inputs := [15], outputs := [4] },
             { code := 1, inputs := [4], outputs := [5], orig := some 2 } ],
    inputs := [0], outputs := [5] }
def mE' : Model :=
  { subgraphs := [sgE'],
    buffers := [none, some (.inr 0), some (.inl 1), some (.inr 0), some (.inl 10), some (.inl 11), some (.inl 12)],
    opcodes := [9, 28, opReshape, opBatchMatmul, opMul, opSum, opAdd, opRelu],
    sigs := [⟨"serving_default", 0, [("in0", 0)], [("out0", 5)]⟩] }

deriving instance DecidableEq for TInfoOut
deriving instance DecidableEq for Except

theorem evalE : Emulated.apply ptE envE mE 0 inpE = .ok (mE', ⟨1, 6, 4⟩) ∧ WF.modelOK mE = true ∧
    WF.modelOK mE' = true := by decide +kernel

theorem run : Emulated.apply ptE envE mE 0 inpE = .ok (mE', ⟨1, 6, 4⟩) := evalE.1

theorem hwf : WF.modelOK mE = true := evalE.2.1

theorem hok : EmuOK mE sgE inpE := by
  refine ⟨by decide, by decide, ?_⟩
  intro k fc hk hfc
  have hk1 : k = 1 := by
    simp only [inpE, List.cons.injEq, and_true] at hk
    omega
  subst hk1
  have : fc = { code := 0, inputs := [1, 2, 3], outputs := [4], orig := some 1 } := by
    simp [sgE] at hfc; exact hfc.symm
  subst this
  exact ⟨4, rfl, by decide⟩

/-- all hypotheses of the five theorems hold on the example -/
example : WF.modelOK mE' = true := emulated_wf ptE envE mE mE' 0 sgE inpE ⟨1, 6, 4⟩ rfl hwf hok run
/-- … and the conclusion can also be checked directly -/
example : WF.modelOK mE' = true := evalE.2.2

/-! ### operands that need not be distinct or constant -/

/-- the weight tensor is ALSO the bias operand: the hypotheses hold, the result is well-formed -/
def sgW : Subgraph :=
  { tensors := [T "x" 0 [1,2,32] 0, T "w" 0 [4,32] 1, T "y" 0 [1,2,4] 0],
    ops := [ { code := 0, inputs := [0, 1, 1], outputs := [2], orig := some 0 } ],
    inputs := [0], outputs := [2] }
def mW : Model := { subgraphs := [sgW], buffers := [none, some (.inl 0)], opcodes := [9], sigs := [] }
def envN : EmuEnv := { envE with fused := some actNone }
def inpW : TIn := { tensor := 1, producer := -1, consumers := [0], param := some 0 }

theorem okW : EmuOK mW sgW inpW := by
  refine ⟨by decide, by decide, ?_⟩
  intro k fc hk hfc
  have hk0 : k = 0 := by
    simp only [inpW, List.cons.injEq, and_true] at hk
    omega
  subst hk0
  have : fc = { code := 0, inputs := [0, 1, 1], outputs := [2], orig := some 0 } := by
    simp [sgW] at hfc; exact hfc.symm
  subst this
  exact ⟨2, rfl, by decide⟩

theorem weight_as_bias_wf : ∃ m' info, Emulated.apply ptE envN mW 0 inpW = .ok (m', info) ∧ info.added = 5 ∧
    WF.modelOK m' = true := by
  refine ⟨(match Emulated.apply ptE envN mW 0 inpW with | .ok r => r.1 | .error _ => default),
    ⟨0, 5, 2⟩, rfl, rfl, ?_⟩
  exact emulated_wf ptE envN mW _ 0 sgW inpW ⟨0, 5, 2⟩ rfl (by decide) okW rfl

/-- the bias operand is the result of an earlier operator (`ABS(bias_in)`) -/
def sgC : Subgraph :=
  { tensors := [T "x" 0 [1,2,32] 0, T "bias_in" 0 [4] 0, T "bias_act" 0 [4] 0, T "w" 0 [4,32] 1, T "y" 0 [1,2,4] 0],
    ops := [ { code := 1, inputs := [1], outputs := [2], orig := some 0 },
             { code := 0, inputs := [0, 3, 2], outputs := [4], orig := some 1 } ],
    inputs := [0, 1], outputs := [4] }
def mC : Model := { subgraphs := [sgC], buffers := [none, some (.inl 0)], opcodes := [9, 101], sigs := [] }
def inpC : TIn := { tensor := 3, producer := -1, consumers := [1], param := some 0 }

theorem okC : EmuOK mC sgC inpC := by
  refine ⟨by decide, by decide, ?_⟩
  intro k fc hk hfc
  have hk1 : k = 1 := by
    simp only [inpC, List.cons.injEq, and_true] at hk
    omega
  subst hk1
  have : fc = { code := 0, inputs := [0, 3, 2], outputs := [4], orig := some 1 } := by
    simp [sgC] at hfc; exact hfc.symm
  subst this
  exact ⟨4, rfl, by decide⟩

theorem computed_bias_wf : ∃ m' info, Emulated.apply ptE envE mC 0 inpC = .ok (m', info) ∧ info.added = 6 ∧
    WF.modelOK m' = true := by
  refine ⟨(match Emulated.apply ptE envE mC 0 inpC with | .ok r => r.1 | .error _ => default),
    ⟨1, 6, 4⟩, rfl, rfl, ?_⟩
  exact emulated_wf ptE envE mC _ 0 sgC inpC ⟨1, 6, 4⟩ rfl (by decide) okC rfl

/-! ### the hypotheses are necessary: well-formed inputs with ill-formed results -/

/-- **`single` is necessary.**  A FULLY_CONNECTED with a SECOND result `y2` (here a graph output): the
    transformation deletes the operator, only `outputs[0]` gets a new producer, `y2` is left without one. -/
def sgS : Subgraph :=
  { tensors := [T "x" 0 [1,2,32] 0, T "w" 0 [4,32] 1, T "y" 0 [1,2,4] 0, T "y2" 0 [1,2,4] 0],
    ops := [ { code := 0, inputs := [0, 1, -1], outputs := [2, 3], orig := some 0 } ],
    inputs := [0], outputs := [2, 3] }
def mS : Model := { subgraphs := [sgS], buffers := [none, some (.inl 0)], opcodes := [9], sigs := [] }

theorem second_result_not_wf : ∃ m' info, WF.modelOK mS = true ∧
    Emulated.apply ptE envN mS 0 inpW = .ok (m', info) ∧ WF.modelOK m' = false := by
  refine ⟨(match Emulated.apply ptE envN mS 0 inpW with | .ok r => r.1 | .error _ => default),
    ⟨0, 4, 2⟩, by decide +kernel⟩

/-- **`wconst` is necessary.**  The "weight" is a graph input without data (buffer 0): the transformation
    stores the quantized data in `buffers[weight.buffer]` = buffer 0, which must stay empty. -/
def sgR : Subgraph :=
  { tensors := [T "x" 0 [1,2,32] 0, T "w" 0 [4,32] 0, T "y" 0 [1,2,4] 0],
    ops := [ { code := 0, inputs := [0, 1, -1], outputs := [2], orig := some 0 } ],
    inputs := [0, 1], outputs := [2] }
def mR : Model := { subgraphs := [sgR], buffers := [none], opcodes := [9], sigs := [] }

theorem runtime_weight_not_wf : ∃ m' info, WF.modelOK mR = true ∧
    Emulated.apply ptE envN mR 0 inpW = .ok (m', info) ∧ m'.buffers.head? = some (some (.inr 0)) ∧
    WF.modelOK m' = false := by
  refine ⟨(match Emulated.apply ptE envN mR 0 inpW with | .ok r => r.1 | .error _ => default),
    ⟨0, 4, 2⟩, by decide +kernel⟩

/-- **`tvalid` (non-negative id) is necessary.**  Python accepts `tensor_id = -2` as an alias of tensor 1
    (`tensors[-2]`), but the BATCH_MATMUL it creates then has the operand `-2`. -/
def sgP : Subgraph :=
  { tensors := [T "x" 0 [1,2,32] 0, T "w" 0 [4,32] 1, T "y" 0 [1,2,4] 0],
    ops := [ { code := 0, inputs := [0, 1, -1], outputs := [2], orig := some 0 } ],
    inputs := [0], outputs := [2] }
def mP : Model := { subgraphs := [sgP], buffers := [none, some (.inl 0)], opcodes := [9], sigs := [] }
def inpP : TIn := { tensor := -2, producer := -1, consumers := [0], param := some 0 }

theorem negative_id_not_wf : ∃ m' info, WF.modelOK mP = true ∧
    Emulated.apply ptE envN mP 0 inpP = .ok (m', info) ∧ WF.modelOK m' = false := by
  refine ⟨(match Emulated.apply ptE envN mP 0 inpP with | .ok r => r.1 | .error _ => default),
    ⟨0, 4, 2⟩, by decide +kernel⟩

end EmuExample

end C01
