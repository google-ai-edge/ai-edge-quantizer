import QProofs.SerializeProofs
/-!
# C16b — large-model serialization: GLOBAL statements (model side)

`C16.layout` speaks about one external constant and its successor.  Here every pair of external
constants is shown disjoint (`chain_le`: adjacency gives it for any list of fields, by induction over the
distance; for the offsets the model computes it is `SerializeProofs.offsets_disjoint`), and the final
flatbuffer is shown to be a prefix of the output (so nothing the reader parses is overwritten by the
appended constants).
-/
open Ser SerializeProofs

namespace C16b

/-- a list of `(offset,size)` fields in which each entry ends before its successor begins has every
    entry ending before EVERY later one begins -/
theorem chain_le (offs : List (Nat × Nat))
    (hadj : ∀ (k off size off' size' : Nat), offs[k]? = some (off, size) → offs[k+1]? = some (off', size') →
      off + size ≤ off') :
    ∀ (d j oj sj ok sk : Nat), offs[j]? = some (oj, sj) → offs[j + d + 1]? = some (ok, sk) →
      oj + sj ≤ ok := by
  intro d
  induction d with
  | zero => intro j oj sj ok sk hj hk; exact hadj j oj sj ok sk hj hk
  | succ d ih =>
    intro j oj sj ok sk hj hk
    have hm : j + d + 1 < offs.length := by
      have := (List.getElem?_eq_some_iff.mp hk).1
      omega
    obtain ⟨⟨om, sm⟩, hmm⟩ : ∃ p, offs[j + d + 1]? = some p :=
      ⟨offs[j + d + 1], List.getElem?_eq_getElem hm⟩
    have h1 := ih j oj sj om sm hj hmm
    have h2 := hadj (j + d + 1) om sm ok sk hmm
      (by rw [show j + d + 1 + 1 = j + (d + 1) + 1 by omega]; exact hk)
    omega

/-- **pairwise disjointness**: the byte ranges recorded for any two different external constants do
    not overlap — the earlier one ends at or before the start of the later one — and both lie inside
    the output -/
theorem pairwise_disjoint (fb : List (Option (Nat × Nat)) → List Nat) (hfb : LenInvariant fb)
    (bufs : List (Option (List Nat))) :
    let ext := external bufs
    let dummyLen := (fb (fields bufs (ext.map fun _ => (1, 1)))).length
    let offs := offsets dummyLen (ext.map (·.length))
    let out := serializeLarge fb bufs
    ∀ (j k oj sj ok sk : Nat), j < k → offs[j]? = some (oj, sj) → offs[k]? = some (ok, sk) →
      oj + sj ≤ ok ∧ ok + sk ≤ out.length := by
  intro ext dummyLen offs out j k oj sj ok sk hjk hj hk
  obtain ⟨hlen, hlay⟩ := SerializeProofs.layout fb hfb bufs
  have hk' : k < ext.length := (show offs.length = ext.length from hlen) ▸ (List.getElem?_eq_some_iff.1 hk).1
  exact ⟨offsets_disjoint _ _ j k oj sj ok sk hjk hj hk,
    (hlay k ext[k] ok sk (List.getElem?_eq_getElem hk') hk).2.2.2.1⟩

/-- the output begins with the final flatbuffer, byte for byte: appending the constants (and the
    padding) changes nothing the flatbuffer reader parses -/
theorem flatbuffer_prefix (fb : List (Option (Nat × Nat)) → List Nat)
    (bufs : List (Option (List Nat))) :
    let ext := external bufs
    let dummyLen := (fb (fields bufs (ext.map fun _ => (1, 1)))).length
    let offs := offsets dummyLen (ext.map (·.length))
    ∃ rest, serializeLarge fb bufs = fb (fields bufs offs) ++ rest := by
  intro ext dummyLen offs
  obtain ⟨r, hr⟩ := appendConsts_prefix ext (pad16 (fb (fields bufs offs)))
  refine ⟨List.replicate ((16 - (fb (fields bufs offs)).length % 16) % 16) 0 ++ r, ?_⟩
  show appendConsts (pad16 (fb (fields bufs offs))) ext = _
  rw [hr]
  simp [pad16]

/-- a model without external constants is written as the (padded) flatbuffer alone -/
theorem no_external (fb : List (Option (Nat × Nat)) → List Nat)
    (bufs : List (Option (List Nat))) (h : external bufs = []) :
    serializeLarge fb bufs = pad16 (fb (fields bufs [])) := by
  simp [serializeLarge, h, appendConsts, offsets]

theorem appendConsts_aligned : ∀ (cs : List (List Nat)) (b : List Nat), b.length % 16 = 0 →
    (appendConsts b cs).length % 16 = 0
  | [], b, hb => by simpa [appendConsts] using hb
  | c :: cs, b, _ => by
    rw [appendConsts_cons]
    exact appendConsts_aligned cs _ (by rw [pad16_length]; exact pad_mod _)

/-- the file ends on a 16-byte boundary whatever the writer and the constants are (so a further
    constant appended by the same rule would again start aligned) -/
theorem output_aligned (fb : List (Option (Nat × Nat)) → List Nat)
    (bufs : List (Option (List Nat))) : (serializeLarge fb bufs).length % 16 = 0 := by
  unfold serializeLarge
  exact appendConsts_aligned _ _ (by rw [pad16_length]; exact pad_mod _)

/-! ### non-vacuity: a writer satisfying `LenInvariant`, three constants, all ranges disjoint -/

/-- toy writer: 1 byte for a buffer without external data, 3 bytes (tag, offset, size) otherwise -/
def toyFb (fs : List (Option (Nat × Nat))) : List Nat :=
  fs.flatMap fun o => match o with
    | none => [0]
    | some (a, b) => [1, a, b]

theorem toyFb_len : ∀ fs : List (Option (Nat × Nat)),
    (toyFb fs).length = (fs.map fun o => if o.isSome then 3 else 1).sum
  | [] => rfl
  | none :: fs => by
    have := toyFb_len fs
    simp only [toyFb, List.flatMap_cons, List.length_append] at this ⊢
    simp [this]
  | some (a, b) :: fs => by
    have := toyFb_len fs
    simp only [toyFb, List.flatMap_cons, List.length_append] at this ⊢
    simp [this]

theorem toyFb_lenInvariant : LenInvariant toyFb := by
  intro f g h
  rw [toyFb_len, toyFb_len]
  have : ∀ l : List (Option (Nat × Nat)),
      (l.map fun o => if o.isSome then 3 else 1) = (l.map Option.isSome).map fun b => if b then 3 else 1 := by
    intro l; simp [List.map_map, Function.comp_def]
  rw [this f, this g, h]

example :
    let bufs : List (Option (List Nat)) := [some [], some [7, 8, 9], none, some [5], some (List.replicate 20 3)]
    offsets (toyFb (fields bufs ((external bufs).map fun _ => (1, 1)))).length
        ((external bufs).map (·.length)) = [(16, 3), (32, 1), (48, 20)] ∧
      (serializeLarge toyFb bufs).length = 80 ∧
      slice (serializeLarge toyFb bufs) 48 20 = List.replicate 20 3 := by
  decide +kernel

end C16b
