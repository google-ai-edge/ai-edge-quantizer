import QProofs.SerializeProofs
/-!
# C16 — large-model (external buffer) serialization (model side)

The flatbuffer writer is a parameter `fb`; `LenInvariant fb` says its output length does not
depend on the VALUES of the offset/size fields.  (The real writer drops default-valued (0) fields;
offsets are ≥ 16 and sizes of externalised buffers are ≥ 1 (D13), so no real field is a
default — the harness checks the consequence, equal lengths, on every run.)
-/
open Ser SerializeProofs

namespace C16

/-- every external constant is 16-byte aligned, behind the flatbuffer, in bounds, non-overlapping
    with the next one, has the recorded size, and the recorded slice is exactly its bytes -/
theorem layout (fb : List (Option (Nat × Nat)) → List Nat) (hfb : LenInvariant fb)
    (bufs : List (Option (List Nat))) :
    let ext := external bufs
    let dummyLen := (fb (fields bufs (ext.map fun _ => (1, 1)))).length
    let offs := offsets dummyLen (ext.map (·.length))
    let out := serializeLarge fb bufs
    offs.length = ext.length ∧
    ∀ k c off size, ext[k]? = some c → offs[k]? = some (off, size) →
      size = c.length ∧ off % 16 = 0 ∧ dummyLen ≤ off ∧ off + size ≤ out.length ∧ slice out off size = c ∧
      (∀ off' size', offs[k+1]? = some (off', size') → off + size ≤ off') :=
  SerializeProofs.layout fb hfb bufs

/-- the offset/size fields written for buffer `i` select exactly buffer `i`'s data -/
theorem fields_point_to_data (fb : List (Option (Nat × Nat)) → List Nat) (hfb : LenInvariant fb)
    (bufs : List (Option (List Nat))) (i : Nat) (d : List Nat) (hd : bufs[i]? = some (some d)) (hne : d ≠ []) :
    let ext := external bufs
    let dummyLen := (fb (fields bufs (ext.map fun _ => (1, 1)))).length
    let offs := offsets dummyLen (ext.map (·.length))
    ∃ off, (fields bufs offs)[i]? = some (some (off, d.length)) ∧ slice (serializeLarge fb bufs) off d.length = d := by
  intro ext dummyLen offs
  obtain ⟨hlen, hlay⟩ := SerializeProofs.layout fb hfb bufs
  obtain ⟨k, hk1, hk2⟩ := fieldsAux_index bufs offs i d hd hne
  have hk : k < offs.length := by
    rw [show offs.length = ext.length from hlen]
    exact (List.getElem?_eq_some_iff.mp hk1).1
  obtain ⟨⟨off, size⟩, hos⟩ : ∃ p, offs[k]? = some p := ⟨offs[k], List.getElem?_eq_getElem hk⟩
  obtain ⟨h1, _, _, _, h5, _⟩ := hlay k d off size hk1 hos
  subst h1
  exact ⟨off, by rw [fields_eq, hk2, hos], h5⟩

end C16
