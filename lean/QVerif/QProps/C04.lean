import QProofs.ParamAPI
/-!
# C04 — quantization parameters: op-level rules of the TFLite quantization spec (model side)

The scalar reference laws (positive finite scale, zero point in range, symmetric ⇒ 0) are C17's
theorems; this file proves the op-level rules on the materialisation model.
-/
open Graph Mat Arith Nd

namespace C04

theorem quantizeBias_uq (bias : FArr) (inp w : QParams) (qp : QParams) (q : IArr)
    (h : quantizeBias bias inp w = .ok (qp, q)) : uniformQuantize bias qp = .ok q := by
  obtain ⟨_, _, _, hq⟩ := quantizeBias_ok_iff.1 h
  exact hq

/-- bias: zero points are 0, symmetric, 32 bits (64 for 16-bit activations); the scale array is the
    (squeezed) element-wise float product of input scale and weight scale -/
theorem bias_params (bias : FArr) (inp w : QParams) (qp : QParams) (q : IArr)
    (h : quantizeBias bias inp w = .ok (qp, q)) :
    qp.symmetric = true ∧ qp.bits = (if inp.bits = 16 then 64 else 32) ∧ qp.zp.w = 32 ∧
      (∀ z ∈ qp.zp.arr.data, z = 0) ∧
      ∃ prod, zipB (fun a b => (inp.scale.pr.join w.scale.pr).chk (a * b)) inp.scale.arr w.scale.arr = .ok prod ∧
        qp.scale = ⟨squeeze1 prod, inp.scale.pr.join w.scale.pr⟩ := by
  obtain ⟨prod, hp, rfl, _⟩ := quantizeBias_ok_iff.1 h
  refine ⟨rfl, rfl, rfl, ?_, prod, hp, rfl⟩
  intro z hz
  obtain ⟨_, _, rfl⟩ := List.mem_map.1 hz
  rfl

/-- the fixed output ranges hard-coded in the runtime kernels -/
theorem fixed_ranges :
    (fixedParams true 8).map (fun p => (p.scale.arr.data, p.zp.arr.data, p.symmetric)) = some ([1/256], [-128], false) ∧
    (fixedParams true 16).map (fun p => (p.scale.arr.data, p.zp.arr.data, p.symmetric)) = some ([1/32768], [0], true) ∧
    (fixedParams false 8).map (fun p => (p.scale.arr.data, p.zp.arr.data, p.symmetric)) = some ([1/128], [0], false) ∧
    (fixedParams false 16).map (fun p => (p.scale.arr.data, p.zp.arr.data, p.symmetric)) = some ([1/32768], [0], true) := by
  refine ⟨?_, ?_, ?_, ?_⟩ <;> rfl

/-- a runtime (non-constant) tensor that is handed another tensor's parameters carries exactly those
    parameters: this is how outputs share their input's parameters (reshape, transpose, split,
    strided-slice, average-pool) and concatenation inputs share the output's -/
theorem shared_params_kept (env : Env) (qsvs : Qsvs) (oi : OpInfo) (t : Tensor) (inbound : Bool) (p : Param)
    (r : CReq) (hnc : constData env t = none) (h : wrapper env qsvs oi t inbound (some p) = .ok r) :
    ∃ xfs, tensorXfs oi.cfg inbound false = .ok xfs ∧
      r = (if inbound then ⟨t.name, none, some [⟨oi.opId, xfs, some p⟩]⟩ else ⟨t.name, some ⟨oi.opId, xfs, some p⟩, none⟩) := by
  unfold wrapper at h
  simp only [hnc, Option.isSome_none, Bool.false_and, Bool.false_eq_true, if_false] at h
  -- the tensor is not constant, so the given parameters pass through whatever they are
  have key : mkReq t.name oi inbound (some p) false = .ok r := by
    cases p with
    | uniform qp d => cases d <;> exact h
    | nonlinear b d => exact h
  unfold mkReq at key
  obtain ⟨xfs, hx, hr⟩ := PyM.bind_eq_ok_iff.1 key
  exact ⟨xfs, hx, (PyM.pure_eq_ok_iff.1 hr).symm⟩

end C04
