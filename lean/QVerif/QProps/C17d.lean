import QProofs.BlockwiseHalf
import QProofs.BlockwiseLaws
import QProps.C17
/-!
# C17d — the BLOCKWISE ("emulated sub-channel") weight quantization, as the library computes it

Model: `QModel/Blockwise.lean` (`Blockwise.minMax`, `params`, `quantize`, `run`), tied to the Python functions
`init_tensor_min_max` (BLOCKWISE branch), `_get_tensor_quant_params` (BLOCKWISE branch),
`uniform_quantize_for_emulated_subchannel` and `check_subchannel_config` by the bit-exact differential check
`fam_blockwise.py` (driver command `"blockwise"`).

A weight is `fcWeight o f d pr`: `o` output channels, `f` input features, row-major data `d`, float format `pr`
(`Prec.f32` in the library, `Prec.exact` for the textbook laws); `el`, `rowMin`, `blockMin` … are defined in `QProofs/BlockwiseSpec.lean`.

**Finding D41**: granularity BLOCKWISE is CHANNELWISE up to the data layout: one scale per output channel, from the range of
the whole row; the block size only decides the reshape (`blockwise_is_channelwise`, closed witness
`blockwise_granularity_not_honoured`).  The per-block reference `Blockwise.refQuantize` satisfies the per-BLOCK half-step law.
-/
open Num Nd Arith Blockwise BlockwiseL

set_option autoImplicit false

namespace C17

abbrev fcWeight (o f : Nat) (d : List Rat) (pr : Prec) : FArr := ⟨⟨[o, f], d⟩, pr⟩

/-- ideal arithmetic, symmetric: EVERY value of the calibrated range `[mn, mx]` is in the integer range, hence comes back
    within half a step (the symmetric counterpart of `cover_ideal`) -/
theorem sym_half_step_ideal (bits : Nat) (hb2 : 2 ≤ bits) (hb : bits ≤ 32) (zw : Nat) (mn mx x : Rat)
    (h1 : mn ≤ x) (h2 : x ≤ mx) (z : Int) (s : Rat) (h : zpScale1 .exact bits true mn mx = .ok (z, s))
    (c : Int) (hq : quantize1 .exact .exact zw bits true x s z = .ok c) :
    z = 0 ∧ s = maxR (maxR (absR mn) (absR mx)) (1/10000) / ((qmax bits : Int) : Rat) ∧ 0 < s ∧
    qmin bits + 1 ≤ c ∧ c ≤ qmax bits ∧ |(c : Rat) * s - x| ≤ s / 2 := by
  obtain ⟨hz, hs, hs0, hr⟩ := sym_exact bits hb2 (by omega) mn mx z s h
  obtain ⟨r1, r2⟩ := hr x h1 h2
  subst hz
  have hc := (Arith.quantize1_ok_iff.1 hq).2.2
  obtain ⟨q1, q2⟩ := q_in_range bits hb2 hb true (qSum .exact .exact zw x s 0)
  have hneg : ((qmin bits + (if true = true then 1 else 0) - 0 : Int) : Rat) = -((qmax bits : Int) : Rat) := by
    rw [if_pos rfl]; unfold qmin qmax; push_cast; ring
  have hd := dq_q_ideal bits hb2 hb true zw s hs0 0 x
    (by rw [hneg]; linarith) (by rw [Int.sub_zero]; exact r2)
  rw [← hc] at q1 q2 hd
  simp only [if_true, Int.sub_zero] at q1 hd
  exact ⟨rfl, hs, hs0, q1, q2, hd⟩

/-- float32 arithmetic as numpy performs it, symmetric: EVERY value of the calibrated range `[mn, mx]` comes back within
    half a step plus the float32 slack of `dq_q_rounded` — including the extreme value, which a scale rounded downwards
    leaves marginally outside `qmax · s` -/
theorem sym_half_step_f32 (bits : Nat) (hb2 : 2 ≤ bits) (hb16 : bits ≤ 16) (mn mx x : Rat)
    (hmn : |mn| ≤ NumT.B) (hmx : |mx| ≤ NumT.B) (h1 : mn ≤ x) (h2 : x ≤ mx) (z : Int) (s : Rat)
    (h : zpScale1 .f32 bits true mn mx = .ok (z, s))
    (c : Int) (hq : quantize1 .f32 .f32 (storageBits bits) bits true x s z = .ok c) :
    z = 0 ∧ 0 < s ∧ qmin bits + 1 ≤ c ∧ c ≤ qmax bits ∧
    |dqVal true (storageBits bits) (storageBits bits) .f32 c 0 s - x|
      ≤ s * (1/2 + (2:Rat)^(bits + 3) * ArithRounded.u32) := by
  obtain ⟨hz, hs0, hd⟩ := dq_q_sym_f32 bits hb2 hb16 mn mx x hmn hmx h1 h2 z s h
  subst hz
  have hc := (Arith.quantize1_ok_iff.1 hq).2.2
  obtain ⟨q1, q2⟩ := q_in_range bits hb2 (by omega) true (qSum .f32 .f32 (storageBits bits) x s 0)
  rw [← hc] at q1 q2 hd
  simp only [if_true] at q1
  exact ⟨rfl, hs0, q1, q2, hd⟩

/-- **success**: on finite data (float32 / float64 / ideal arithmetic, magnitudes ≤ 2^63, 2..16 bits) every entry point
    succeeds exactly when the block size is a positive divisor of the row length `f` -/
theorem blockwise_ok_iff (o f bs bits : Nat) (sym : Bool) (d : List Rat) (hd : d.length = o * f) (pr : Prec)
    (ho : 0 < o) (hf : 0 < f) (hpr : NumT.F3264 pr) (hbd : ∀ v ∈ d, |v| ≤ NumT.B) (hb2 : 2 ≤ bits) (hb16 : bits ≤ 16) :
    ((∃ r, minMax (fcWeight o f d pr) bs = .ok r) ↔ (0 < bs ∧ bs ∣ f)) ∧
    ((∃ r, params (fcWeight o f d pr) bs bits sym = .ok r) ↔ (0 < bs ∧ bs ∣ f)) ∧
    ((∃ r, quantize (fcWeight o f d pr) bs bits sym = .ok r) ↔ (0 < bs ∧ bs ∣ f)) ∧
    ((∃ r, run (fcWeight o f d pr) bs bits sym = .ok r) ↔ (0 < bs ∧ bs ∣ f)) := by
  -- `run` ⇒ `quantize` ⇒ `params` ⇒ `minMax` ⇒ the condition ⇒ `run`
  have h1 : (∃ r, run (fcWeight o f d pr) bs bits sym = .ok r) → ∃ r, quantize (fcWeight o f d pr) bs bits sym = .ok r :=
    fun ⟨⟨mn, mx, qp, q⟩, h⟩ => ⟨q, (run_ok _ bs bits sym mn mx qp q h).2.2⟩
  have h2 : (∃ r, quantize (fcWeight o f d pr) bs bits sym = .ok r) → ∃ r, params (fcWeight o f d pr) bs bits sym = .ok r :=
    fun ⟨q, h⟩ => let ⟨qp, hp, _⟩ := PyM.bind_ok _ _ _ h; ⟨qp, hp⟩
  have h3 : (∃ r, params (fcWeight o f d pr) bs bits sym = .ok r) → ∃ r, minMax (fcWeight o f d pr) bs = .ok r :=
    fun ⟨qp, h⟩ => let ⟨mm, hmm, _⟩ := PyM.bind_ok _ _ _ h; ⟨mm, hmm⟩
  have h4 : (∃ r, minMax (fcWeight o f d pr) bs = .ok r) → 0 < bs ∧ bs ∣ f :=
    fun ⟨⟨mn, mx⟩, h⟩ => (minMax_shapes o f bs d pr mn mx h).1
  have h5 : (0 < bs ∧ bs ∣ f) → ∃ r, run (fcWeight o f d pr) bs bits sym = .ok r := fun ⟨hb, hdvd⟩ =>
    let ⟨q, hq⟩ := quantize_total o f bs bits sym d hd pr ho hf hpr hbd hb2 hb16 hb hdvd
    let ⟨mn, mx, qp, hr⟩ := run_of_quantize _ bs bits sym q hq
    ⟨_, hr⟩
  exact ⟨⟨h4, fun h => h3 (h2 (h1 (h5 h)))⟩, ⟨fun h => h4 (h3 h), fun h => h2 (h1 (h5 h))⟩,
    ⟨fun h => h4 (h3 (h2 h)), fun h => h1 (h5 h)⟩, ⟨fun h => h4 (h3 (h2 (h1 h))), h5⟩⟩

/-- **error class**: a block size that is 0 (`check_subchannel_config`) or does not divide `f` (`init_tensor_min_max`) is
    `ValueError` from every entry point, whatever the data; so is a tensor that is not 2-D (`np.transpose(w, (1, 0))`) -/
theorem blockwise_error_class (o f bs bits : Nat) (sym : Bool) (d : List Rat) (pr : Prec) (hb : ¬ (0 < bs ∧ bs ∣ f)) :
    minMax (fcWeight o f d pr) bs = .error .valueError ∧ params (fcWeight o f d pr) bs bits sym = .error .valueError ∧
    quantize (fcWeight o f d pr) bs bits sym = .error .valueError ∧ run (fcWeight o f d pr) bs bits sym = .error .valueError :=
  run_err o f bs bits sym d pr hb

theorem blockwise_error_rank (w : FArr) (bs bits : Nat) (sym : Bool) (h : w.arr.shape.length ≠ 2) :
    run w bs bits sym = .error .valueError := run_err_rank w bs bits sym h

/-- **shapes**: statistics, scales and zero points have shape `[1,1,1,o]` (one cell per OUTPUT CHANNEL, none per block);
    the quantized data has shape `[1, f/bs, bs, o]` with `o * f` elements; no quantized dimension is recorded -/
theorem blockwise_shapes (o f bs bits : Nat) (sym : Bool) (d : List Rat) (pr : Prec) (mn mx : FArr) (qp : QParams) (q : IArr)
    (h : run (fcWeight o f d pr) bs bits sym = .ok (mn, mx, qp, q)) :
    mn.arr.shape = [1, 1, 1, o] ∧ mx.arr.shape = [1, 1, 1, o] ∧ mn.arr.data.length = o ∧ mx.arr.data.length = o ∧
    qp.scale.arr.shape = [1, 1, 1, o] ∧ qp.zp.arr.shape = [1, 1, 1, o] ∧
    qp.scale.arr.data.length = o ∧ qp.zp.arr.data.length = o ∧ qp.qdim = none ∧ qp.bits = bits ∧ qp.symmetric = sym ∧
    q.arr.shape = [1, f / bs, bs, o] ∧ f / bs * bs = f ∧ q.arr.data.length = o * f ∧ q.w = storageBits bits := by
  obtain ⟨hmm, hp, hq⟩ := run_ok _ bs bits sym mn mx qp q h
  obtain ⟨⟨_, hdvd⟩, s1, s2, l1, l2⟩ := minMax_shapes o f bs d pr mn mx hmm
  obtain ⟨_, _, hQ, hP⟩ := (params_iff o f bs bits sym d pr qp).1 hp
  obtain ⟨w1, w2, hC⟩ := quantize_code hp hq
  exact ⟨s1, s2, l1, l2, hQ.sshape, hQ.zshape, hP.scLen, hP.zpLen, hQ.qdim_eq, hQ.bits_eq, hQ.sym_eq, w2,
    Nat.div_mul_cancel hdvd, by rw [hC.qLen, Nat.mul_comm], w1⟩

theorem ravel4 (B bs o b k c : Nat) : ravel [1, B, bs, o] [0, b, k, c] = (b * bs + k) * o + c := by
  simp only [ravel, numel, List.foldl, Nat.one_mul, Nat.zero_mul, Nat.zero_add, Nat.mul_one, Nat.add_zero]
  rw [Nat.add_mul, Nat.mul_assoc, Nat.add_assoc]

/-- **layout**: `data[0][b][k][c] = q(w[c][b*bs + k])`, every element of row `c` being quantized with the ONE
    (zero point, scale) of output channel `c` -/
theorem blockwise_layout (o f bs bits : Nat) (sym : Bool) (d : List Rat) (pr : Prec) (qp : QParams) (q : IArr)
    (hp : params (fcWeight o f d pr) bs bits sym = .ok qp) (hq : quantize (fcWeight o f d pr) bs bits sym = .ok q) :
    ∀ c < o, ∀ b < f / bs, ∀ k < bs,
      quantize1 pr pr (storageBits bits) bits sym (el d f c (b * bs + k))
        (qp.scale.arr.data.getD c 0) (qp.zp.arr.data.getD c 0)
        = .ok (q.arr.data.getD (ravel [1, f / bs, bs, o] [0, b, k, c]) 0) := by
  obtain ⟨⟨_, hdvd⟩, _⟩ := (params_iff o f bs bits sym d pr qp).1 hp
  intro c hc b hb k hk
  rw [ravel4]
  exact (quantize_code hp hq).2.2.chan hc (blk_lt f bs b k hdvd hb hk)

theorem rowMin_spec (d : List Rat) (f c : Nat) (hf : 0 < f) :
    (∃ j < f, rowMin d f c = el d f c j) ∧ ∀ j < f, rowMin d f c ≤ el d f c j :=
  ⟨(segMin_isSel _ f hf).mem, (segMin_isSel _ f hf).all⟩

theorem rowMax_spec (d : List Rat) (f c : Nat) (hf : 0 < f) :
    (∃ j < f, rowMax d f c = el d f c j) ∧ ∀ j < f, el d f c j ≤ rowMax d f c :=
  ⟨(segMax_isSel _ f hf).mem, (segMax_isSel _ f hf).all⟩

/-- **the scale of channel `c` is the reference symmetric formula on the range of the WHOLE row `c`** (all blocks):
    the block size does not enter the parameters at all -/
theorem blockwise_scale_is_row_scale (o f bs bits : Nat) (d : List Rat) (pr : Prec) (qp : QParams)
    (hp : params (fcWeight o f d pr) bs bits true = .ok qp) :
    ∀ c < o, qp.zp.arr.data.getD c 0 = 0 ∧
      qp.scale.arr.data.getD c 0 = symScale pr bits (rowMin d f c) (rowMax d f c) := by
  intro c hc
  exact ArithL.zpScale1_sym_ok (((params_iff o f bs bits true d pr qp).1 hp).2.2.2.par c hc)

/-- … in ideal arithmetic: `max(|row min|, |row max|, 1e-4) / (2^(bits-1) - 1)` -/
theorem blockwise_scale_ideal (o f bs bits : Nat) (hb2 : 2 ≤ bits) (hb : bits ≤ 32) (d : List Rat) (qp : QParams)
    (hp : params (fcWeight o f d .exact) bs bits true = .ok qp) :
    ∀ c < o, qp.scale.arr.data.getD c 0
      = maxR (maxR (absR (rowMin d f c)) (absR (rowMax d f c))) (1/10000) / ((qmax bits : Int) : Rat) := by
  intro c hc
  exact (sym_exact bits hb2 (by omega) _ _ _ _ (((params_iff o f bs bits true d .exact qp).1 hp).2.2.2.par c hc)).2.1

/-- **BLOCKWISE as implemented is CHANNELWISE up to the data layout** (finding D41): whenever the BLOCKWISE quantization of
    a well-formed weight succeeds, so does its ordinary per-channel quantization along dimension 0 (`Blockwise.channelwise`:
    `init_tensor_min_max` with `reduce_dims = (1,)`, `tensor_zp_scale_from_min_max`, `uniform_quantize`), with the SAME scales and
    zero points, and the BLOCKWISE codes are the per-channel codes, transposed -/
theorem blockwise_is_channelwise (o f bs bits : Nat) (sym : Bool) (d : List Rat) (hd : d.length = o * f) (pr : Prec)
    (q : IArr) (h : quantize (fcWeight o f d pr) bs bits sym = .ok q) :
    ∃ qp qp' q', params (fcWeight o f d pr) bs bits sym = .ok qp ∧
      channelwise (fcWeight o f d pr) bits sym = .ok (qp', q') ∧
      qp.scale.arr.data = qp'.scale.arr.data ∧ qp.zp.arr.data = qp'.zp.arr.data ∧
      qp'.scale.arr.shape = [o, 1] ∧ qp.scale.arr.shape = [1, 1, 1, o] ∧
      q'.arr.shape = [o, f] ∧ q.arr.shape = [1, f / bs, bs, o] ∧
      (∀ c < o, ∀ j < f, q.arr.data.getD (j * o + c) 0 = q'.arr.data.getD (c * f + j) 0) ∧
      ∀ c < o, ∀ b < f / bs, ∀ k < bs,
        q.arr.data.getD (ravel [1, f / bs, bs, o] [0, b, k, c]) 0 = q'.arr.data.getD (ravel [o, f] [c, b * bs + k]) 0 := by
  obtain ⟨⟨qp', q'⟩, h'⟩ := channelwise_of_blockwise o f bs bits sym d hd pr q h
  obtain ⟨qp, hp, e1, e2, hcodes⟩ := codes_eq o f bs bits sym d hd pr q qp' q' h h'
  obtain ⟨⟨_, hdvd⟩, _, hQ, _⟩ := (params_iff o f bs bits sym d pr qp).1 hp
  obtain ⟨_, hQ', _, _, w2', _⟩ := (channelwise_iff o f bits sym d hd pr qp' q').1 h'
  refine ⟨qp, qp', q', hp, h', e1, e2, hQ'.sshape, hQ.sshape, w2', (quantize_code hp h).2.1, hcodes, ?_⟩
  intro c hc b hb k hk
  have e : ravel [o, f] [c, b * bs + k] = c * f + (b * bs + k) := by
    simp only [ravel, numel, List.foldl, Nat.one_mul, Nat.mul_one, Nat.add_zero]
  rw [ravel4, e]
  exact hcodes c hc (b * bs + k) (blk_lt f bs b k hdvd hb hk)

/-- `Blockwise.channelwise` IS the model's ordinary materialisation of a FULLY_CONNECTED weight
    under a CHANNELWISE weight configuration (`Mat.initMinMax` followed by `Mat.tensorQuantParams`, the path `Mat.wrapper`
    takes for a constant operand, itself tied to the library by the pipeline correspondence checks) -/
theorem channelwise_is_materialize (env : Mat.Env) (oi : Mat.OpInfo) (t : Graph.Tensor) (tc : Cfg.TCfg) (o f : Nat)
    (d : List Rat) (hname : oi.opName = "FULLY_CONNECTED") (hw : oi.cfg.weight = some tc) (hg : tc.gran = .channelwise)
    (hrank : t.shape.length = 2) :
    (Mat.initMinMax env oi t ⟨[o, f], d⟩ >>= fun mm => Mat.tensorQuantParams env oi (some mm) tc (some ⟨[o, f], d⟩))
      = (channelwise (fcWeight o f d .f32) tc.bits.toNat tc.symmetric).map (fun r => Mat.Param.uniform r.1 (some r.2)) :=
  channelwise_is_mat env oi t tc o f d hname hw hg hrank

/-- its hypotheses describe an ordinary FULLY_CONNECTED operator with an 8-bit per-channel weight configuration -/
example : ∃ (oi : Mat.OpInfo) (t : Graph.Tensor) (tc : Cfg.TCfg),
    oi.opName = "FULLY_CONNECTED" ∧ oi.cfg.weight = some tc ∧ tc.gran = .channelwise ∧ t.shape.length = 2 :=
  ⟨{ sgIdx := 0, op := { code := 0, inputs := [0, 1, -1], outputs := [2] }, opName := "FULLY_CONNECTED", opId := 0,
     cfg := { weight := some { bits := 8, gran := .channelwise }, cp := .integer } },
   { name := "w", dtype := 0, shape := [1, 4], buffer := 1 }, { bits := 8, gran := .channelwise }, rfl, rfl, rfl, rfl⟩

/-- conversely, BLOCKWISE succeeds whenever the per-channel quantization does and the block size is a positive divisor of `f` -/
theorem blockwise_ok_iff_channelwise (o f bs bits : Nat) (sym : Bool) (d : List Rat) (hd : d.length = o * f) (pr : Prec) :
    (∃ q, quantize (fcWeight o f d pr) bs bits sym = .ok q) ↔
      (0 < bs ∧ bs ∣ f ∧ ∃ r, channelwise (fcWeight o f d pr) bits sym = .ok r) :=
  quantize_ok_iff o f bs bits sym d hd pr

/-- **ideal arithmetic**: zero points are 0, scales positive, all codes in the narrow range, and every element is within
    half a step of its original — where the step is that of its output CHANNEL (the range of the whole row), not of its block -/
theorem blockwise_half_step_ideal (o f bs bits : Nat) (hb2 : 2 ≤ bits) (hb : bits ≤ 32) (d : List Rat)
    (qp : QParams) (q : IArr) (hp : params (fcWeight o f d .exact) bs bits true = .ok qp)
    (hq : quantize (fcWeight o f d .exact) bs bits true = .ok q) :
    ∀ c < o, ∀ j < f,
      qp.zp.arr.data.getD c 0 = 0 ∧ 0 < qp.scale.arr.data.getD c 0 ∧
      qmin bits + 1 ≤ q.arr.data.getD (j * o + c) 0 ∧ q.arr.data.getD (j * o + c) 0 ≤ qmax bits ∧
      |((q.arr.data.getD (j * o + c) 0 : Int) : Rat) * qp.scale.arr.data.getD c 0 - el d f c j|
        ≤ qp.scale.arr.data.getD c 0 / 2 := by
  obtain ⟨_, hne, _, hP⟩ := (params_iff o f bs bits true d .exact qp).1 hp
  have hf := (tdata_pos hne).1
  have hC := (quantize_code hp hq).2.2
  intro c hc j hj
  obtain ⟨r1, _, r3, r4, r5, r6⟩ := sym_half_step_ideal bits hb2 hb (storageBits bits) _ _ (el d f c j)
    ((rowMin_spec d f c hf).2 j hj) ((rowMax_spec d f c hf).2 j hj) _ _ (hP.par c hc) _ (hC.chan hc hj)
  exact ⟨r1, r3, r4, r5, r6⟩

/-- **float32 arithmetic as numpy performs it** (weights of magnitude ≤ 2^63, 2..16 bits): the same, the dequantization
    being `uniform_dequantize`, with the float32 slack of `dq_q_rounded` -/
theorem blockwise_half_step_f32 (o f bs bits : Nat) (hb2 : 2 ≤ bits) (hb16 : bits ≤ 16) (d : List Rat)
    (hbd : ∀ v ∈ d, |v| ≤ NumT.B) (qp : QParams) (q : IArr)
    (hp : params (fcWeight o f d .f32) bs bits true = .ok qp)
    (hq : quantize (fcWeight o f d .f32) bs bits true = .ok q) :
    ∀ c < o, ∀ j < f,
      qp.zp.arr.data.getD c 0 = 0 ∧ 0 < qp.scale.arr.data.getD c 0 ∧
      qmin bits + 1 ≤ q.arr.data.getD (j * o + c) 0 ∧ q.arr.data.getD (j * o + c) 0 ≤ qmax bits ∧
      |dqVal true (storageBits bits) (storageBits bits) .f32 (q.arr.data.getD (j * o + c) 0) 0
          (qp.scale.arr.data.getD c 0) - el d f c j|
        ≤ qp.scale.arr.data.getD c 0 * (1/2 + (2:Rat)^(bits + 3) * ArithRounded.u32) := by
  obtain ⟨_, hne, _, hP⟩ := (params_iff o f bs bits true d .f32 qp).1 hp
  have hf := (tdata_pos hne).1
  have hC := (quantize_code hp hq).2.2
  intro c hc j hj
  exact sym_half_step_f32 bits hb2 hb16 _ _ (el d f c j)
    ((segMin_isSel _ f hf).bounded fun k => NumT.getD_bounded d _ hbd)
    ((segMax_isSel _ f hf).bounded fun k => NumT.getD_bounded d _ hbd)
    ((rowMin_spec d f c hf).2 j hj) ((rowMax_spec d f c hf).2 j hj) _ _ (hP.par c hc) _ (hC.chan hc hj)

/-- the per-block reference `Blockwise.refQuantize` (statistics over the block axis only): one scale per (block, channel),
    `max(|block min|, |block max|, 1e-4) / qmax`, and every element is within half of ITS BLOCK's step -/
theorem ref_half_step_ideal (o f bs bits : Nat) (hb2 : 2 ≤ bits) (hb : bits ≤ 32) (d : List Rat)
    (qp : QParams) (q : IArr) (hp : Blockwise.refParams (fcWeight o f d .exact) bs bits true = .ok qp)
    (hq : refQuantize (fcWeight o f d .exact) bs bits true = .ok q) :
    qp.scale.arr.shape = [1, f / bs, 1, o] ∧
    ∀ c < o, ∀ b < f / bs, ∀ k < bs,
      qp.zp.arr.data.getD (b * o + c) 0 = 0 ∧
      qp.scale.arr.data.getD (b * o + c) 0
        = maxR (maxR (absR (blockMin d f bs c b)) (absR (blockMax d f bs c b))) (1/10000) / ((qmax bits : Int) : Rat) ∧
      qmin bits + 1 ≤ q.arr.data.getD ((b * bs + k) * o + c) 0 ∧ q.arr.data.getD ((b * bs + k) * o + c) 0 ≤ qmax bits ∧
      |((q.arr.data.getD ((b * bs + k) * o + c) 0 : Int) : Rat) * qp.scale.arr.data.getD (b * o + c) 0
          - el d f c (b * bs + k)| ≤ qp.scale.arr.data.getD (b * o + c) 0 / 2 := by
  obtain ⟨⟨hbs, hdvd⟩, _, hQ, hP⟩ := (refParams_iff o f bs bits true d .exact qp).1 hp
  have hC := (refQuantize_code hp hq).2.2
  refine ⟨hQ.sshape, ?_⟩
  intro c hc b hb' k hk
  obtain ⟨r1, r2, _, r4, r5, r6⟩ := sym_half_step_ideal bits hb2 hb (storageBits bits) _ _ (el d f c (b * bs + k))
    ((segMin_isSel (fun k => el d f c (b * bs + k)) bs hbs).all k hk)
    ((segMax_isSel (fun k => el d f c (b * bs + k)) bs hbs).all k hk) _ _ (hP.block hc hb') _ (hC.block hdvd hc hb' hk)
  exact ⟨r1, r2, r4, r5, r6⟩

/-- … and in float32 arithmetic as numpy would perform it (weights of magnitude ≤ 2^63, 2..16 bits) -/
theorem ref_half_step_f32 (o f bs bits : Nat) (hb2 : 2 ≤ bits) (hb16 : bits ≤ 16) (d : List Rat)
    (hbd : ∀ v ∈ d, |v| ≤ NumT.B) (qp : QParams) (q : IArr)
    (hp : Blockwise.refParams (fcWeight o f d .f32) bs bits true = .ok qp)
    (hq : refQuantize (fcWeight o f d .f32) bs bits true = .ok q) :
    ∀ c < o, ∀ b < f / bs, ∀ k < bs,
      qp.zp.arr.data.getD (b * o + c) 0 = 0 ∧ 0 < qp.scale.arr.data.getD (b * o + c) 0 ∧
      qmin bits + 1 ≤ q.arr.data.getD ((b * bs + k) * o + c) 0 ∧ q.arr.data.getD ((b * bs + k) * o + c) 0 ≤ qmax bits ∧
      |dqVal true (storageBits bits) (storageBits bits) .f32 (q.arr.data.getD ((b * bs + k) * o + c) 0) 0
          (qp.scale.arr.data.getD (b * o + c) 0) - el d f c (b * bs + k)|
        ≤ qp.scale.arr.data.getD (b * o + c) 0 * (1/2 + (2:Rat)^(bits + 3) * ArithRounded.u32) := by
  obtain ⟨⟨hbs, hdvd⟩, _, _, hP⟩ := (refParams_iff o f bs bits true d .f32 qp).1 hp
  have hC := (refQuantize_code hp hq).2.2
  intro c hc b hb' k hk
  have hsmin := segMin_isSel (fun k => el d f c (b * bs + k)) bs hbs
  have hsmax := segMax_isSel (fun k => el d f c (b * bs + k)) bs hbs
  exact sym_half_step_f32 bits hb2 hb16 _ _ (el d f c (b * bs + k))
    (hsmin.bounded fun k => NumT.getD_bounded d _ hbd) (hsmax.bounded fun k => NumT.getD_bounded d _ hbd)
    (hsmin.all k hk) (hsmax.all k hk) _ _ (hP.block hc hb') _ (hC.block hdvd hc hb' hk)

/-- a `[1, 4]` weight, block size 2: the first block `(1/128, -3/512)` is 128 times smaller than the second `(1, -3/4)`;
    all four values are float32 numbers -/
def witnessD : List Rat := [1/128, -3/512, 1, -3/4]

/-- the float32 number nearest to `1/127` -/
def s127 : Rat := 2113665 / 268435456

/-- **finding D41 as a kernel-checked fact.**  float32 arithmetic exactly as the library performs it (the model is tied to
    the Python code bit for bit), 8 bits, block size 2:
    * the library stores ONE scale `float32(1/127)` for the row and the codes `[1, -1 | 127, -95]`: the small block is
      resolved to `±1`;
    * the per-block reference has the scales `float32(1/127)/128` and `float32(1/127)`, and the codes `[127, -95 | 127, -95]`;
    * the library's stored value of `w[0][1] = -3/512` is off by more than a third of the value, i.e. more than 65 half-steps
      of its block; the reference is within half a step of the block.
    The same holds in ideal arithmetic (`1/127` for `float32(1/127)`). -/
theorem blockwise_granularity_not_honoured :
    -- the library (float32)
    (params (fcWeight 1 4 witnessD .f32) 2 8 true).map (·.scale.arr) = .ok ⟨[1, 1, 1, 1], [s127]⟩ ∧
    quantize (fcWeight 1 4 witnessD .f32) 2 8 true = .ok ⟨⟨[1, 2, 2, 1], [1, -1, 127, -95]⟩, 8⟩ ∧
    -- the per-block reference (float32)
    (Blockwise.refParams (fcWeight 1 4 witnessD .f32) 2 8 true).map (·.scale.arr) = .ok ⟨[1, 2, 1, 1], [s127 / 128, s127]⟩ ∧
    refQuantize (fcWeight 1 4 witnessD .f32) 2 8 true = .ok ⟨⟨[1, 2, 2, 1], [127, -95, 127, -95]⟩, 8⟩ ∧
    -- the element `w[0][1] = -3/512`: library code `-1` at the row's scale, reference code `-95` at its block's scale
    (1/3 : Rat) * |(-3/512 : Rat)| < |(-1 : Rat) * s127 - (-3/512)| ∧
    65 * (s127 / 128 / 2) < |(-1 : Rat) * s127 - (-3/512)| ∧
    |(-95 : Rat) * (s127 / 128) - (-3/512)| ≤ s127 / 128 / 2 ∧
    -- ideal arithmetic
    quantize (fcWeight 1 4 witnessD .exact) 2 8 true = .ok ⟨⟨[1, 2, 2, 1], [1, -1, 127, -95]⟩, 8⟩ ∧
    refQuantize (fcWeight 1 4 witnessD .exact) 2 8 true = .ok ⟨⟨[1, 2, 2, 1], [127, -95, 127, -95]⟩, 8⟩ ∧
    (params (fcWeight 1 4 witnessD .exact) 2 8 true).map (·.scale.arr) = .ok ⟨[1, 1, 1, 1], [1/127]⟩ ∧
    (Blockwise.refParams (fcWeight 1 4 witnessD .exact) 2 8 true).map (·.scale.arr) = .ok ⟨[1, 2, 1, 1], [1/16256, 1/127]⟩ := by
  decide +kernel

/-- in the witness the BLOCKWISE codes are exactly the per-channel codes (instance of `blockwise_is_channelwise`) -/
example : (channelwise (fcWeight 1 4 witnessD .f32) 8 true).map (·.2) = .ok ⟨⟨[1, 4], [1, -1, 127, -95]⟩, 8⟩ := by
  decide +kernel

theorem witnessD_bounded : ∀ v ∈ witnessD, |v| ≤ NumT.B := by
  decide +kernel

/-- `blockwise_ok_iff` and `blockwise_error_class` on the witness (float32): block size 2 succeeds, 3 and 0 do not -/
example : (∃ r, run (fcWeight 1 4 witnessD .f32) 2 8 true = .ok r) :=
  (blockwise_ok_iff 1 4 2 8 true witnessD rfl .f32 (by decide) (by decide) (.inl rfl) witnessD_bounded (by decide)
    (by decide)).2.2.2.2 ⟨by decide, by decide⟩

example : ¬ (∃ r, run (fcWeight 1 4 witnessD .f32) 3 8 true = .ok r) := fun h =>
  absurd ((blockwise_ok_iff 1 4 3 8 true witnessD rfl .f32 (by decide) (by decide) (.inl rfl) witnessD_bounded (by decide)
    (by decide)).2.2.2.1 h).2 (by decide)

example : run (fcWeight 1 4 witnessD .f32) 0 8 true = .error .valueError :=
  (blockwise_error_class 1 4 0 8 true witnessD .f32 (by decide)).2.2.2

/-- the hypotheses `params … = .ok qp`, `quantize … = .ok q` of the theorems about the library's functions hold for the witness -/
example : ∃ qp q, params (fcWeight 1 4 witnessD .f32) 2 8 true = .ok qp ∧ quantize (fcWeight 1 4 witnessD .f32) 2 8 true = .ok q := by
  obtain ⟨⟨mn, mx, qp, q⟩, h⟩ := (blockwise_ok_iff 1 4 2 8 true witnessD rfl .f32 (by decide) (by decide) (.inl rfl)
    witnessD_bounded (by decide) (by decide)).2.2.2.2 ⟨by decide, by decide⟩
  exact ⟨qp, q, (run_ok _ _ _ _ _ _ _ _ h).2.1, (run_ok _ _ _ _ _ _ _ _ h).2.2⟩

example : ∃ qp q, params (fcWeight 1 4 witnessD .exact) 2 8 true = .ok qp ∧ quantize (fcWeight 1 4 witnessD .exact) 2 8 true = .ok q := by
  obtain ⟨⟨mn, mx, qp, q⟩, h⟩ := (blockwise_ok_iff 1 4 2 8 true witnessD rfl .exact (by decide) (by decide) (.inr (.inr rfl))
    witnessD_bounded (by decide) (by decide)).2.2.2.2 ⟨by decide, by decide⟩
  exact ⟨qp, q, (run_ok _ _ _ _ _ _ _ _ h).2.1, (run_ok _ _ _ _ _ _ _ _ h).2.2⟩

/-- … and those of the theorems about the per-block reference -/
example : (Blockwise.refParams (fcWeight 1 4 witnessD .exact) 2 8 true).isOk = true ∧
    (refQuantize (fcWeight 1 4 witnessD .exact) 2 8 true).isOk = true ∧
    (Blockwise.refParams (fcWeight 1 4 witnessD .f32) 2 8 true).isOk = true ∧
    (refQuantize (fcWeight 1 4 witnessD .f32) 2 8 true).isOk = true := by
  decide +kernel

/-- the scalar laws: a channel with range `[-3/4, 1]`, the element `-3/512`, 8 bits -/
example : zpScale1 .exact 8 true (-3/4) 1 = .ok (0, 1/127) ∧ quantize1 .exact .exact 8 8 true (-3/512) (1/127) 0 = .ok (-1) := by
  decide +kernel

example : zpScale1 .f32 8 true (-3/4) 1 = .ok (0, s127) ∧ quantize1 .f32 .f32 8 8 true (-3/512) s127 0 = .ok (-1) := by
  decide +kernel

end C17
