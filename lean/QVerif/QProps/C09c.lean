import QProps.C09
import QProps.C09b
/-!
# C09c — ANY number of resumptions, any way of cutting the dataset

`C09.resume` speaks about one resumption.  A user who calibrates in sessions (D0, then D1 from the
returned result, then D2 …) relies on the statement for every number of sessions: the final
statistics are those of ONE pass over `D0 ++ D1 ++ D2 ++ …`, hence independent of where the dataset
was cut.
-/
open Mat Calib

namespace C09c

/-- `Chain q Ds r`: starting from the result `q`, calibrating on the chunks `Ds` one after another,
    each from the previous result, succeeds every time and ends with `r` -/
def Chain (rx : String → String → Bool) (env : Env) (st : Recipe.State) (sgi : Nat) :
    Qsvs → List (List Contents) → Qsvs → Prop
  | q, [], r => r = q
  | q, D :: Ds, r => ∃ q', calibrate rx env st sgi (some q) D = .ok q' ∧ Chain rx env st sgi q' Ds r

/-- **any number of resumptions** equals one pass over the concatenation, in dataset order -/
theorem resume_many (rx : String → String → Bool) (env : Env) (st : Recipe.State) (sgi : Nat) :
    ∀ (Ds : List (List Contents)) (D0 : List Contents) (q0 r : Qsvs),
      calibrate rx env st sgi none D0 = .ok q0 → Chain rx env st sgi q0 Ds r →
      calibrate rx env st sgi none (D0 ++ Ds.flatten) = .ok r
  | [], D0, q0, r, h0, hc => by
    have hr : r = q0 := hc
    subst hr
    simpa using h0
  | D :: Ds, D0, q0, r, h0, hc => by
    obtain ⟨q', h1, h2⟩ := hc
    have hres := C09.resume rx env st sgi D0 D q0 h0
    have h0' : calibrate rx env st sgi none (D0 ++ D) = .ok q' := by rw [← hres]; exact h1
    have := resume_many rx env st sgi Ds (D0 ++ D) q' r h0' h2
    simpa [List.append_assoc] using this

/-- **where the dataset is cut does not matter**: two sequences of sessions over the same samples in
    the same order end with the same statistics -/
theorem split_irrelevant (rx : String → String → Bool) (env : Env) (st : Recipe.State) (sgi : Nat)
    (D0 E0 : List Contents) (Ds Es : List (List Contents)) (q0 p0 r r' : Qsvs)
    (hsame : D0 ++ Ds.flatten = E0 ++ Es.flatten)
    (hD : calibrate rx env st sgi none D0 = .ok q0) (hE : calibrate rx env st sgi none E0 = .ok p0)
    (cD : Chain rx env st sgi q0 Ds r) (cE : Chain rx env st sgi p0 Es r') : r = r' := by
  have h1 := resume_many rx env st sgi Ds D0 q0 r hD cD
  have h2 := resume_many rx env st sgi Es E0 p0 r' hE cE
  rw [hsame, h2] at h1
  exact (Except.ok.inj h1).symm

/-- non-vacuity: the closed instance of C09b is a chain of one resumption -/
example : Chain C09.Ex.rxAll C09.Ex.env0 C09.Ex.st0 0 C09.Ex.q1 [[C09.Ex.s2]] C09.Ex.qs :=
  ⟨C09.Ex.qs, C09.Ex.facts.run2, rfl⟩

example : calibrate C09.Ex.rxAll C09.Ex.env0 C09.Ex.st0 0 none ([C09.Ex.s1] ++ [[C09.Ex.s2]].flatten)
    = .ok C09.Ex.qs :=
  resume_many _ _ _ _ _ _ _ _ C09.Ex.facts.run1 ⟨C09.Ex.qs, C09.Ex.facts.run2, rfl⟩

end C09c
