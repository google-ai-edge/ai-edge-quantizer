import QProofs.ValidateE2E
/-!
# C18b — validate() reports the true per-tensor error, once per tensor: the WHOLE `compare`

What `Validate.compare` (model of `model_validator.compare_model` +
`ComparisonResult.add_new_signature_results`) does:

* **which names**: a tensor name `n` is reported iff in SOME sample it names a tensor of the
  reference side and a tensor of the target side (`present`).  A sample in which `n` is missing on
  either side is *skipped* for `n` — no error — so the reported value is the mean over the samples in
  which `n` occurs on both sides (`perSample_length`), not over all test inputs.
* **which value**: `meanR` of the per-sample values `metric m (values target) (values ref)`, in
  sample order, each of them `.ok` (`pairVal`: the reference tensor is read first, then the target).
* **which group** (`classify`): `inputs` if `n ∈ ins`, else `outputs` if `n ∈ outs`, else `constants`
  if `n ∈ cs`, else `intermediates`; a name that is both an input and an output is an input.
* **errors**: the error of the first failing comparison (unreadable tensor, or `ValueError` when the
  two flattened tensors differ in length — only the number of elements matters, not the shape); then
  `KeyError` iff the input names are not pairwise distinct or some input name was never compared.
  A name of `outs`/`cs` that was never compared is silently ignored.
-/
open Validate ValidateE2E

namespace C18

/-- **per tensor name, per sample** (distinct tensor names on the reference side of each sample, as
    in the Python dict `ref_tensor_name_to_details`): every per-sample comparison of `n` succeeded;
    `n` is reported iff it is `present`; it is then filed in exactly the group `classify ins outs cs n`
    with exactly the value `meanR xs`, where `xs` are the per-sample values in sample order -/
theorem compare_spec (m : Metric) (samples : List Sample) (ins outs cs : List String) (g : Groups)
    (hnd : ∀ s ∈ samples, (s.ref.map (·.1)).Nodup)
    (h : compare m samples ins outs cs = .ok g) (n : String) :
    ∃ xs : List Rat, perSample m samples n = xs.map .ok ∧ (xs ≠ [] ↔ present samples n) ∧
      ∀ (t : Tag) (v : Rat), (n, v) ∈ get g t ↔
        present samples n ∧ t = classify ins outs cs n ∧ v = meanR xs :=
  ValidateE2E.compare_spec m samples ins outs cs g hnd h n

/-- the same without any assumption on the samples: `trace m samples n` lists the results of all
    comparisons of `n` in evaluation order (a reference side with a repeated name contributes one
    value per occurrence) -/
theorem compare_spec_general (m : Metric) (samples : List Sample) (ins outs cs : List String) (g : Groups)
    (h : compare m samples ins outs cs = .ok g) (n : String) :
    ∃ xs : List Rat, trace m samples n = xs.map .ok ∧
      ∀ (t : Tag) (v : Rat), (n, v) ∈ get g t ↔
        xs ≠ [] ∧ t = classify ins outs cs n ∧ v = meanR xs :=
  ValidateE2E.compare_spec_general m samples ins outs cs g h n

theorem trace_ne_nil_iff (m : Metric) (samples : List Sample) (n : String) :
    trace m samples n ≠ [] ↔ present samples n := ValidateE2E.trace_ne_nil_iff m samples n

theorem pairVal_ok_iff (m : Metric) (td rd : TData) (v : Rat) :
    pairVal m td rd = .ok v ↔
      ∃ t r, values td = .ok t ∧ values rd = .ok r ∧ metric m t r = .ok v :=
  ValidateE2E.pairVal_ok_iff m td rd v

theorem perSample_length (m : Metric) (samples : List Sample) (n : String) :
    (perSample m samples n).length =
      (samples.filter fun s => (Py.dictGet? s.ref n).isSome && (Py.dictGet? s.target n).isSome).length := by
  unfold perSample
  induction samples with
  | nil => rfl
  | cons s ss ih =>
    rw [List.flatMap_cons, List.length_append, ih, List.filter_cons]
    unfold sampleVal
    cases Py.dictGet? s.ref n with
    | none => simp
    | some rd =>
      cases Py.dictGet? s.target n with
      | none => simp
      | some td => simp [Nat.add_comm]

/-- no tensor name is reported twice, across all four groups (no assumption on the samples) -/
theorem compare_nodup (m : Metric) (samples : List Sample) (ins outs cs : List String) (g : Groups)
    (h : compare m samples ins outs cs = .ok g) :
    ((g.inputs ++ g.outputs ++ g.constants ++ g.intermediates).map (·.1)).Nodup :=
  ValidateE2E.compare_nodup m samples ins outs cs g h

/-- every reported value is 0 (both metrics) and every tensor of the model is reported, in its group -/
theorem self_compare (m : Metric) (samples : List Sample) (ins outs cs : List String) (g : Groups)
    (hself : ∀ s ∈ samples, s.target = s.ref) (hnd : ∀ s ∈ samples, (s.ref.map (·.1)).Nodup)
    (h : compare m samples ins outs cs = .ok g) :
    (∀ t, ∀ e ∈ get g t, e.2 = 0) ∧
    (∀ s ∈ samples, ∀ n ∈ s.ref.map (·.1), (n, 0) ∈ get g (classify ins outs cs n)) :=
  ValidateE2E.self_compare m samples ins outs cs g hself hnd h

/-- … and the self-comparison succeeds iff every tensor can be read (dequantized) and the input
    names are distinct tensors of the model -/
theorem self_compare_ok_iff (m : Metric) (samples : List Sample) (ins outs cs : List String)
    (hself : ∀ s ∈ samples, s.target = s.ref) (hnd : ∀ s ∈ samples, (s.ref.map (·.1)).Nodup) :
    (∃ g, compare m samples ins outs cs = .ok g) ↔
      (∀ s ∈ samples, ∀ e ∈ s.ref, ∃ t, values e.2 = .ok t) ∧
      ins.Nodup ∧ ∀ n ∈ ins, ∃ s ∈ samples, n ∈ s.ref.map (·.1) := by
  rw [ValidateE2E.compare_ok_iff]
  have h2 : (∀ n ∈ ins, present samples n) ↔ ∀ n ∈ ins, ∃ s ∈ samples, n ∈ s.ref.map (·.1) :=
    forall₂_congr fun n _ => present_self samples hself n
  rw [h2]
  have h1 : (∀ p ∈ allPairs samples, ∃ v, pairVal m p.2.1 p.2.2 = .ok v) ↔
      ∀ s ∈ samples, ∀ e ∈ s.ref, ∃ t, values e.2 = .ok t := by
    constructor
    · intro hall s hs e he
      have hp : (e.1, e.2, e.2) ∈ allPairs samples := (allPairs_self samples hself hnd _).2 ⟨rfl, s, hs, he⟩
      exact (pairVal_self_ok m e.2).1 (hall _ hp)
    · intro hall p hp
      obtain ⟨h1, s, hs, he⟩ := (allPairs_self samples hself hnd p).1 hp
      rw [h1]
      exact (pairVal_self_ok m p.2.2).2 (hall s hs _ he)
  rw [h1]

theorem compare_nonneg (m : Metric) (samples : List Sample) (ins outs cs : List String) (g : Groups)
    (h : compare m samples ins outs cs = .ok g) (t : Tag) (e : String × Rat) (he : e ∈ get g t) :
    0 ≤ e.2 := ValidateE2E.compare_nonneg m samples ins outs cs g h t e he

/-- same (distinct) tensor names in the same order on both sides of every sample: exchanging
    reference and target gives exactly the same groups -/
theorem compare_mse_symmetric (samples : List Sample) (ins outs cs : List String) (g : Groups)
    (hnames : ∀ s ∈ samples, s.ref.map (·.1) = s.target.map (·.1))
    (hnd : ∀ s ∈ samples, (s.ref.map (·.1)).Nodup) :
    compare .mse (samples.map swap) ins outs cs = .ok g ↔ compare .mse samples ins outs cs = .ok g := by
  rw [compare_ok, compare_ok, allPairs_swap samples hnames hnd]
  simp only [mapM_evalPair_flip, List.map_map]
  rfl

/-- distinct names on each side only (the two sides may have different names, in different orders):
    the swapped run succeeds iff the original does, and the groups have the same entries -/
theorem compare_mse_symmetric_mem (samples : List Sample) (ins outs cs : List String)
    (hR : ∀ s ∈ samples, (s.ref.map (·.1)).Nodup) (hT : ∀ s ∈ samples, (s.target.map (·.1)).Nodup) :
    ((∃ g', compare .mse (samples.map swap) ins outs cs = .ok g') ↔
      (∃ g, compare .mse samples ins outs cs = .ok g)) ∧
    ∀ g g', compare .mse (samples.map swap) ins outs cs = .ok g' → compare .mse samples ins outs cs = .ok g →
      ∀ t e, e ∈ get g' t ↔ e ∈ get g t := by
  have hR' : ∀ s ∈ samples.map swap, (s.ref.map (·.1)).Nodup := by
    intro s hs
    obtain ⟨s0, hs0, rfl⟩ := List.mem_map.1 hs
    exact hT s0 hs0
  constructor
  · rw [ValidateE2E.compare_ok_iff, ValidateE2E.compare_ok_iff]
    have h2 : (∀ n ∈ ins, present (samples.map swap) n) ↔ ∀ n ∈ ins, present samples n :=
      forall₂_congr fun n _ => present_swap samples n
    rw [h2]
    have hflip : ∀ p, p ∈ allPairs (samples.map swap) ↔ flip p ∈ allPairs samples := by
      intro p
      rw [mem_allPairs_nodup _ hR', mem_allPairs_nodup _ hR]
      simp only [List.mem_map, ValidateE2E.flip]
      constructor
      · rintro ⟨_, ⟨s, hs, rfl⟩, h1, h2⟩; exact ⟨s, hs, h2, h1⟩
      · rintro ⟨s, hs, h1, h2⟩; exact ⟨swap s, ⟨s, hs, rfl⟩, h2, h1⟩
    have hsym : ∀ a b : TData, (∃ v, pairVal .mse a b = .ok v) ↔ ∃ v, pairVal .mse b a = .ok v :=
      fun a b => exists_congr fun v => pairVal_mse_symm a b v
    have h1 : (∀ p ∈ allPairs (samples.map swap), ∃ v, pairVal .mse p.2.1 p.2.2 = .ok v) ↔
        ∀ p ∈ allPairs samples, ∃ v, pairVal .mse p.2.1 p.2.2 = .ok v := by
      constructor
      · intro h p hp
        have : flip p ∈ allPairs (samples.map swap) := (hflip (flip p)).2 (by simpa [ValidateE2E.flip] using hp)
        have := h _ this
        simp only [ValidateE2E.flip] at this
        exact (hsym _ _).1 this
      · intro h p hp
        have := h _ ((hflip p).1 hp)
        simp only [ValidateE2E.flip] at this
        exact (hsym _ _).1 this
    rw [h1]
  · intro g g' hg' hg t e
    obtain ⟨n, v⟩ := e
    obtain ⟨xs, htr, hspec⟩ := ValidateE2E.compare_spec_general .mse samples ins outs cs g hg n
    obtain ⟨xs', htr', hspec'⟩ := ValidateE2E.compare_spec_general .mse (samples.map swap) ins outs cs g' hg' n
    rw [trace_eq_perSample _ _ hR] at htr
    rw [trace_eq_perSample _ _ hR'] at htr'
    have : xs' = xs := by
      rw [← okVals_map_ok xs', ← okVals_map_ok xs, ← htr', ← htr]
      exact okVals_perSample_swap samples n
    subst this
    rw [hspec, hspec']

theorem mem_allPairs (samples : List Sample) (p : String × TData × TData) :
    p ∈ allPairs samples ↔
      ∃ s ∈ samples, ∃ e ∈ s.ref, Py.dictGet? s.target e.1 = some p.2.1 ∧ p.1 = e.1 ∧ p.2.2 = e.2 :=
  ValidateE2E.mem_allPairs samples p

theorem compare_ok_iff (m : Metric) (samples : List Sample) (ins outs cs : List String) :
    (∃ g, compare m samples ins outs cs = .ok g) ↔
      (∀ p ∈ allPairs samples, ∃ v, pairVal m p.2.1 p.2.2 = .ok v) ∧
      ins.Nodup ∧ ∀ n ∈ ins, present samples n :=
  ValidateE2E.compare_ok_iff m samples ins outs cs

theorem pairVal_ok_exists (m : Metric) (td rd : TData) :
    (∃ v, pairVal m td rd = .ok v) ↔
      ∃ t r, values td = .ok t ∧ values rd = .ok r ∧ t.length = r.length :=
  ValidateE2E.pairVal_ok_exists m td rd

theorem pairVal_error_iff (m : Metric) (td rd : TData) (e : PyErr) :
    pairVal m td rd = .error e ↔
      values rd = .error e ∨
      (∃ r, values rd = .ok r ∧ values td = .error e) ∨
      (∃ r t, values rd = .ok r ∧ values td = .ok t ∧ t.length ≠ r.length ∧ e = .valueError) := by
  unfold pairVal
  cases values rd with
  | error e' => simp [bind, Except.bind]
  | ok r =>
    cases values td with
    | error e' => simp [bind, Except.bind]
    | ok t => simp [bind, Except.bind, ValidateProofs.metric_error]

theorem compare_error_iff (m : Metric) (samples : List Sample) (ins outs cs : List String) (e : PyErr) :
    compare m samples ins outs cs = .error e ↔
      (∃ l1 p l2, allPairs samples = l1 ++ p :: l2 ∧
          (∀ q ∈ l1, ∃ v, pairVal m q.2.1 q.2.2 = .ok v) ∧ pairVal m p.2.1 p.2.2 = .error e) ∨
      ((∀ p ∈ allPairs samples, ∃ v, pairVal m p.2.1 p.2.2 = .ok v) ∧ e = .keyError ∧
          ¬ (ins.Nodup ∧ ∀ n ∈ ins, present samples n)) :=
  ValidateE2E.compare_error_iff m samples ins outs cs e

section instances
open Arith

deriving instance DecidableEq for Validate.Groups

/-- int8 data with scale 1/2 and zero point 1: dequantizes to `[1/2, -1]` -/
def qp : QParams :=
  { bits := 8, qdim := none, scale := ⟨⟨[1], [1/2]⟩, .f32⟩, zp := ⟨⟨[1], [1]⟩, 8⟩, symmetric := false }
def wq : TData := .quant ⟨⟨[2], [2, -1]⟩, 8⟩ qp
/-- scale and zero point of different shapes: `ValueError` in `uniform_dequantize` -/
def badZp : QParams := { qp with zp := ⟨⟨[2], [1, 1]⟩, 8⟩ }
/-- rank-2 parameters for a rank-1 tensor: outside the model (`unsupported`) -/
def badRank : QParams := { qp with scale := ⟨⟨[1, 1], [1/2]⟩, .f32⟩, zp := ⟨⟨[1, 1], [1]⟩, 8⟩ }

example : values wq = .ok [1/2, -1] := by decide +kernel

/-- two samples, four tensors: `x` input (also listed as an output), `w` constant (float in the
    reference, int8 with parameters in the target), `h` intermediate (missing on the target side of
    the second sample), `y` output; `r` exists only on the reference side -/
def sA : Sample :=
  { ref := [("x", .float [1, 2]), ("w", .float [3/4, -1]), ("h", .float [1, 1]), ("y", .float [3, 0]),
            ("r", .float [7])],
    target := [("x", .float [1, 2]), ("w", wq), ("h", .float [1, 3]), ("y", .float [2, 0])] }
def sB : Sample :=
  { ref := [("x", .float [0, 4]), ("w", .float [3/4, -1]), ("h", .float [5, 5]), ("y", .float [1, 1]),
            ("r", .float [7])],
    target := [("x", .float [0, 4]), ("w", wq), ("y", .float [1, 3])] }

def gA : Groups :=
  { inputs := [("x", 0)], outputs := [("y", 5/4)], constants := [("w", 1/32)], intermediates := [("h", 2)] }

theorem inst_ok : compare .mse [sA, sB] ["x"] ["y", "x"] ["w"] = .ok gA := by decide +kernel
theorem inst_nodup : ∀ s ∈ [sA, sB], (s.ref.map (·.1)).Nodup := by decide +kernel

/-- `compare_spec` at the instance: `y` (two samples: 1/2 and 2), `h` (only the first sample: 2),
    `w` (quantized target: 1/32 twice), `r` (never compared: not reported) -/
example : perSample .mse [sA, sB] "y" = [(1/2 : Rat), 2].map .ok ∧ meanR [(1/2 : Rat), 2] = 5/4 := by
  decide +kernel
example : perSample .mse [sA, sB] "h" = [(2 : Rat)].map .ok := by decide +kernel
example : perSample .mse [sA, sB] "w" = [(1/32 : Rat), 1/32].map .ok := by decide +kernel
example : perSample .mse [sA, sB] "r" = [] := by decide +kernel
example : classify ["x"] ["y", "x"] ["w"] "x" = .inputs ∧ classify ["x"] ["y", "x"] ["w"] "y" = .outputs ∧
    classify ["x"] ["y", "x"] ["w"] "w" = .constants ∧ classify ["x"] ["y", "x"] ["w"] "h" = .intermediates := by
  decide +kernel

/-- the theorem applied to the instance: `h` is an intermediate with the value of the single sample
    in which it occurs on both sides -/
example : ("h", 2) ∈ get gA .intermediates ∧ present [sA, sB] "h" ∧ ¬ present [sA, sB] "r" := by
  obtain ⟨xs, h1, h2, h3⟩ := compare_spec .mse [sA, sB] ["x"] ["y", "x"] ["w"] gA inst_nodup inst_ok "h"
  obtain ⟨ys, k1, k2, _⟩ := compare_spec .mse [sA, sB] ["x"] ["y", "x"] ["w"] gA inst_nodup inst_ok "r"
  have hx : xs = [2] := map_ok_injective (by rw [← h1]; decide +kernel)
  have hy : ys = [] := map_ok_injective (by rw [← k1]; decide +kernel)
  subst hx; subst hy
  refine ⟨by decide +kernel, h2.1 (by simp), fun hp => (k2.2 hp) rfl⟩

/-- the other metric on the same instance -/
example : compare .mdr [sA, sB] ["x"] ["y", "x"] ["w"] =
    .ok { inputs := [("x", 0)], outputs := [("y", 1750000750000/3000004000001)],
          constants := [("w", 125000/750001)], intermediates := [("h", 1000000/1000001)] } := by
  decide +kernel

/-- self-comparison of the quantized side: all 0, every tensor reported -/
def tA : Sample := { ref := sA.target, target := sA.target }
def tB : Sample := { ref := sB.target, target := sB.target }
theorem inst_self : compare .mse [tA, tB] ["x"] ["y", "x"] ["w"] =
    .ok { inputs := [("x", 0)], outputs := [("y", 0)], constants := [("w", 0)], intermediates := [("h", 0)] } := by
  decide +kernel
example : (∀ s ∈ [tA, tB], s.target = s.ref) ∧ ∀ s ∈ [tA, tB], (s.ref.map (·.1)).Nodup :=
  ⟨by intro s hs; simp only [List.mem_cons, List.not_mem_nil, or_false] at hs; rcases hs with rfl | rfl <;> rfl,
   by decide +kernel⟩
example : compare .mdr [tA, tB] ["x"] ["y", "x"] ["w"] =
    .ok { inputs := [("x", 0)], outputs := [("y", 0)], constants := [("w", 0)], intermediates := [("h", 0)] } := by
  decide +kernel

/-- symmetry: an instance with the same names on both sides (the first four reference tensors of `sA`
    and of `sB`, each against the target side of `sA`) -/
def uA : Sample := { ref := sA.ref.take 4, target := sA.target }
def uB : Sample := { ref := sB.ref.take 4, target := sA.target }
example : (∀ s ∈ [uA, uB], s.ref.map (·.1) = s.target.map (·.1)) ∧ ∀ s ∈ [uA, uB], (s.ref.map (·.1)).Nodup := by
  decide +kernel
example : compare .mse ([uA, uB].map swap) ["x"] ["y", "x"] ["w"] = compare .mse [uA, uB] ["x"] ["y", "x"] ["w"] ∧
    compare .mse [uA, uB] ["x"] ["y", "x"] ["w"] =
      .ok { inputs := [("x", 5/4)], outputs := [("y", 3/4)], constants := [("w", 1/32)],
            intermediates := [("h", 6)] } := by
  decide +kernel
/-- … and the weaker hypotheses of `compare_mse_symmetric_mem` at `[sA, sB]` (different names on the
    two sides); the groups agree (here even as lists) -/
example : (∀ s ∈ [sA, sB], (s.target.map (·.1)).Nodup) ∧
    compare .mse ([sA, sB].map swap) ["x"] ["y", "x"] ["w"] = .ok gA := by decide +kernel

/-! ### error behaviour, and why the hypotheses are needed -/

/-- different numbers of elements: `ValueError` (only the flattened length matters) -/
example : compare .mse [{ ref := [("x", .float [1, 2])], target := [("x", .float [1, 2, 3])] }] ["x"] [] [] =
    .error .valueError := by decide +kernel
/-- an input name that is never compared (missing on the target side): `KeyError` -/
example : compare .mse [{ ref := [("x", .float [1]), ("y", .float [1])], target := [("y", .float [1])] }] ["x"] ["y"] [] =
    .error .keyError := by decide +kernel
/-- a repeated input name: `KeyError` (the second `result.pop`) -/
example : compare .mse [{ ref := [("x", .float [1])], target := [("x", .float [1])] }] ["x", "x"] [] [] =
    .error .keyError := by decide +kernel
/-- an output / constant name that is never compared is silently ignored -/
example : compare .mse [{ ref := [("x", .float [1])], target := [("x", .float [1])] }] ["x"] ["y"] ["c"] =
    .ok { inputs := [("x", 0)], outputs := [], constants := [], intermediates := [] } := by decide +kernel
/-- a target tensor whose parameters cannot be applied (scale and zero point of different shapes):
    the error of the dequantization -/
example : compare .mse [{ ref := [("w", .float [1, 2])], target := [("w", .quant ⟨⟨[2], [2, -1]⟩, 8⟩ badZp)] }]
    [] [] ["w"] = .error .valueError := by decide +kernel

/-- the hypothesis "distinct names on the reference side" of `self_compare` is needed *in the model*
    (a Python dict cannot repeat a key): with a repeated name the later occurrence is compared with
    the first target tensor of that name -/
example : compare .mse [{ ref := [("a", .float [1]), ("a", .float [2])],
                          target := [("a", .float [1]), ("a", .float [2])] }] [] [] [] =
    .ok { inputs := [], outputs := [], constants := [], intermediates := [("a", 1/2)] } := by decide +kernel

/-- `compare_mse_symmetric` is about successful runs: on failing runs the reported error depends on
    the side, because the reference tensor is read first -/
example :
    let bad1 : TData := .quant ⟨⟨[2], [2, -1]⟩, 8⟩ badZp
    let bad2 : TData := .quant ⟨⟨[2], [2, -1]⟩, 8⟩ badRank
    let s : Sample := { ref := [("w", bad1)], target := [("w", bad2)] }
    compare .mse [s] [] [] [] = .error .valueError ∧ compare .mse [swap s] [] [] [] = .error .unsupported := by
  decide +kernel

end instances

end C18
