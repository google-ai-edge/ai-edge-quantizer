import QProofs.CalibProofs
/-!
# C09 — calibration statistics are exact, order-faithful and resumable

The interpreter is external: the per-sample tensor contents are an input of the model.  The
previous result passed in is an immutable value in the model, so "not modified" is checked on the
real code by the harness (deep equality before/after).
-/
open Mat Calib

namespace C09

/-- **resumption**: calibrating on `D1` and continuing on `D2` from the returned result gives
    exactly the statistics of one pass over `D1 ++ D2` (for every model, recipe, data) -/
theorem resume (rx : String → String → Bool) (env : Env) (st : Recipe.State) (sgi : Nat)
    (D1 D2 : List Contents) (q1 : Qsvs)
    (h1 : calibrate rx env st sgi none D1 = .ok q1) :
    calibrate rx env st sgi (some q1) D2 = calibrate rx env st sgi none (D1 ++ D2) :=
  CalibProofs.resume rx env st sgi D1 D2 q1 h1

/-- the first sample initialises: merging into an entry without statistics takes the new values -/
theorem first_sample_initialises (n : Qsv) : ema none n = .ok n := rfl

end C09
