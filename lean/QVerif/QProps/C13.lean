import QProofs.RecipeHistory
/-!
# C13 — accepted (op, config) pairs are well-formed for the runtime; others are refused

Decision-logic half (complete, over the tables regenerated from the live code) plus the
classification of every accepted point into a runtime mode with legal parameters.
The interpreter half ("the runtime prepares it") is executed by the harness.
-/
open Cfg Recipe

namespace C13

/-- runtime mode table: the legal shapes of a min/max config for an operator -/
def modeOK (op : String) (c : OpCfg) : Bool :=
  match c.weight with
  | none => false
  | some w =>
    w.dtype == .int && (w.bits == 4 || w.bits == 8) && w.blockSize == 0 && w.gran != .blockwise &&
    !c.skipChecks &&
    (match c.cp, c.act with
     | .integer, some a =>   -- static range
        a.dtype == .int && (a.bits == 8 || a.bits == 16) && a.gran == .tensorwise &&
        (a.bits != 16 || a.symmetric) && w.symmetric && !c.explicitDeq
     | .integer, none =>     -- dynamic range
        Tables.drqOps.contains op && w.symmetric && !c.explicitDeq
     | .float, none =>       -- weight only
        Tables.woOps.contains op && c.explicitDeq
     | .float, some _ => false)

/-- what is evaluated about the regenerated policy tables, in one evaluation -/
theorem table_facts :
    Policy.unrollPolicy Tables.policyRawJson = Tables.defaultPolicyUnrolled ∧
    (Py.dictGet? Tables.policyRegistry Tables.algMinMax = some (some Tables.defaultPolicyUnrolled) ∧
      Py.dictGet? Tables.policyRegistry Tables.algFloatCasting = some (some [])) ∧
    (Py.dictGet? Tables.checkRegistry Tables.algMinMax = some "naive_min_max_quantize.check_op_quantization_config" ∧
      Py.dictGet? Tables.checkRegistry Tables.algFloatCasting = some "float_casting.check_op_quantization_config") ∧
    Tables.registry.all (fun e => (Py.dictGet? Tables.checkRegistry e.1).isSome &&
      (Py.dictGet? Tables.policyRegistry e.1).isSome) = true ∧
    Tables.defaultPolicyUnrolled.all (fun e =>
      Policy.registered Tables.algMinMax e.1 && e.2.all (fun c => modeOK e.1 c && ctorOk c)) = true ∧
    Policy.accepts Tables.algMinMax "FULLY_CONNECTED"
      { weight := some { bits := 8, symmetric := true, gran := .channelwise }, cp := .integer } = true := by
  decide +kernel

/-- the unrolling code (`_unroll_json_config`, `update_default_config_policy`) produces exactly the
    policy object that the live module exposes: kernel-checked against the model of the unrolling -/
theorem unroll_matches : Policy.unrollPolicy Tables.policyRawJson = Tables.defaultPolicyUnrolled :=
  table_facts.1

theorem registered_policies :
    Py.dictGet? Tables.policyRegistry Tables.algMinMax = some (some Tables.defaultPolicyUnrolled) ∧
    Py.dictGet? Tables.policyRegistry Tables.algFloatCasting = some (some []) :=
  table_facts.2.1

/-- every registered algorithm has a check function and a policy entry (no `KeyError` path) -/
theorem registries_consistent :
    Tables.registry.all (fun e => (Py.dictGet? Tables.checkRegistry e.1).isSome &&
      (Py.dictGet? Tables.policyRegistry e.1).isSome) = true :=
  table_facts.2.2.2.1

theorem skip_accepts (alg op : String) (c : OpCfg) (h : c.skipChecks = true) : Policy.accepts alg op c = true := by
  unfold Policy.accepts; simp [h]

/-- every unsupported combination is refused at update time for a specific operator -/
theorem refuse_update (st : State) (regex op : String) (cfg : Option OpCfg) (alg : String)
    (hop : op ≠ Tables.allOpsKey) (halg : alg ≠ Tables.algNoQuantize)
    (h : Policy.accepts alg op (cfg.getD {}) = false) :
    add st regex op cfg alg = .error .valueError :=
  RecipeHistory.add_rejected st ⟨regex, op, cfg, alg⟩
    (by simp [RecipeHistory.accepted, hop, halg, h])

/-- … and accepted ones are never refused -/
theorem accept_update (st : State) (regex op : String) (cfg : Option OpCfg) (alg : String)
    (h : Policy.accepts alg op (cfg.getD {}) = true) :
    ∃ st', add st regex op cfg alg = .ok st' :=
  ⟨_, RecipeHistory.add_accepted st ⟨regex, op, cfg, alg⟩ (by simp [RecipeHistory.accepted, h])⟩

theorem accepts_unfold (alg op : String) (c : OpCfg) (hs : c.skipChecks = false)
    (h : Policy.accepts alg op c = true) :
    Policy.registered alg op = true ∧ ∃ fn, Py.dictGet? Tables.checkRegistry alg = some fn ∧
      Policy.algCheck fn ((Py.dictGet? Tables.policyRegistry alg).getD none) op c = true := by
  unfold Policy.accepts at h
  simp only [hs, Bool.false_or, Bool.and_eq_true] at h
  refine ⟨h.1, ?_⟩
  cases hfn : Py.dictGet? Tables.checkRegistry alg with
  | none => simp [hfn] at h
  | some fn => exact ⟨fn, rfl, by simpa [hfn] using h.2⟩

theorem algCheck_minmax (p : Option (List (String × List OpCfg))) (op : String) (c : OpCfg) :
    Policy.algCheck "naive_min_max_quantize.check_op_quantization_config" p op c = Policy.minMaxCheck p op c := by
  have h : ("naive_min_max_quantize.check_op_quantization_config" == "naive_min_max_quantize.check_op_quantization_config") = true := by decide
  unfold Policy.algCheck; rw [if_pos h]

theorem algCheck_fc (p : Option (List (String × List OpCfg))) (op : String) (c : OpCfg) :
    Policy.algCheck "float_casting.check_op_quantization_config" p op c = Policy.floatCastingCheck p op c := by
  have h1 : ¬ ("float_casting.check_op_quantization_config" == "naive_min_max_quantize.check_op_quantization_config") = true := by decide
  have h2 : ("float_casting.check_op_quantization_config" == "float_casting.check_op_quantization_config") = true := by decide
  unfold Policy.algCheck; rw [if_neg h1, if_pos h2]

/-- every entry of the (regenerated) policy is a legal runtime mode for its operator,
    and only registered operators appear in the policy -/
theorem policy_entries_legal :
    Tables.defaultPolicyUnrolled.all (fun e =>
      Policy.registered Tables.algMinMax e.1 && e.2.all (fun c => modeOK e.1 c && ctorOk c)) = true :=
  table_facts.2.2.2.2.1

/-- **an accepted min/max config is an entry of the default policy for its operator**, for *every* config (not only
    lattice points): what holds of the table holds of what is accepted -/
theorem accepted_minmax_mem (op : String) (c : OpCfg) (hs : c.skipChecks = false)
    (h : Policy.accepts Tables.algMinMax op c = true) :
    ∃ cfgs, (op, cfgs) ∈ Tables.defaultPolicyUnrolled ∧ c ∈ cfgs := by
  obtain ⟨_, fn, hfn, hchk⟩ := accepts_unfold _ _ _ hs h
  obtain rfl : "naive_min_max_quantize.check_op_quantization_config" = fn :=
    Option.some.inj (table_facts.2.2.1.1 ▸ hfn)
  rw [registered_policies.1, algCheck_minmax] at hchk
  simp only [Option.getD_some] at hchk
  unfold Policy.minMaxCheck at hchk
  cases hw : c.weight with
  | none => simp [hw] at hchk
  | some w =>
    simp only [hw, Bool.and_eq_true] at hchk
    have hpol := hchk.1.2
    unfold Policy.policyCheck at hpol
    cases hd : Py.dictGet? Tables.defaultPolicyUnrolled op with
    | none => simp [hd] at hpol
    | some cfgs => exact ⟨cfgs, Py.dictGet?_mem _ _ _ hd, by simpa [hd] using hpol⟩

theorem accepted_minmax_of_policy (P : String → OpCfg → Bool)
    (hP : Tables.defaultPolicyUnrolled.all (fun e => e.2.all (P e.1)) = true) (op : String) (c : OpCfg)
    (hs : c.skipChecks = false) (h : Policy.accepts Tables.algMinMax op c = true) : P op c = true :=
  let ⟨_, he, hc⟩ := accepted_minmax_mem op c hs h
  List.all_eq_true.1 (List.all_eq_true.1 hP _ he) c hc

/-- **accepted ⇒ legal mode** for the min/max algorithm, for *every* config (not only lattice points) -/
theorem accepted_minmax_legal (op : String) (c : OpCfg) (hs : c.skipChecks = false)
    (h : Policy.accepts Tables.algMinMax op c = true) : modeOK op c = true := by
  obtain ⟨cfgs, he, hc⟩ := accepted_minmax_mem op c hs h
  have := List.all_eq_true.1 policy_entries_legal _ he
  simp only [Bool.and_eq_true, List.all_eq_true] at this
  exact (this.2 c hc).1

/-- accepted float-casting configs are float16 weight-only on a supported operator -/
theorem accepted_float_casting (op : String) (c : OpCfg) (hs : c.skipChecks = false)
    (h : Policy.accepts Tables.algFloatCasting op c = true) :
    Tables.fcSupportedOps.contains op = true ∧ c.cp = .float ∧ c.act = none ∧
      ∃ w, c.weight = some w ∧ w.bits = 16 ∧ w.dtype = .float := by
  obtain ⟨_, fn, hfn, hchk⟩ := accepts_unfold _ _ _ hs h
  have hfn' : fn = "float_casting.check_op_quantization_config" :=
    (Option.some.inj (table_facts.2.2.1.2 ▸ hfn)).symm
  subst hfn'
  rw [registered_policies.2, algCheck_fc] at hchk
  simp only [Option.getD_some] at hchk
  unfold Policy.floatCastingCheck at hchk
  simp only [Bool.and_eq_true, beq_iff_eq, Option.isNone_iff_eq_none] at hchk
  obtain ⟨⟨⟨⟨_, hcp⟩, hact⟩, hop⟩, hw⟩ := hchk
  refine ⟨hop, hcp, hact, ?_⟩
  cases hwc : c.weight with
  | none => simp [hwc] at hw
  | some w =>
    simp only [hwc, Bool.and_eq_true, beq_iff_eq] at hw
    exact ⟨w, rfl, hw.1, hw.2⟩

/-- non-vacuity: the accepted set is not empty, e.g. int8 channel-wise DRQ on FULLY_CONNECTED -/
example : Policy.accepts Tables.algMinMax "FULLY_CONNECTED"
    { weight := some { bits := 8, symmetric := true, gran := .channelwise }, cp := .integer } = true :=
  table_facts.2.2.2.2.2

end C13
