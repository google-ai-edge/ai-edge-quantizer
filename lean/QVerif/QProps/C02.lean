import QProofs.PipelineWF
/-!
# C02 — quantization preserves the graph skeleton and the model I/O contract
-/
open Graph Perform Skeleton

namespace C02

/-- rewiring consumers (the only place where an original operator is modified) keeps the number
    and order of operators, their opcode, results and options (`frame`), and changes operand
    slots only from the transformed tensor `t` to the tensor `n` derived from it -/
theorem rewire_only_target (ops ops' : List Op) (cs : List Int) (t n : Int) (hn : n ≠ t)
    (h : rewire ops cs t n = .ok ops') :
    ops'.length = ops.length ∧
      ∀ (i : Nat) o, ops[i]? = some o → ∃ o', ops'[i]? = some o' ∧ GraphSkeleton.RewiredOp t n o o' := by
  have _ := hn  -- not needed: `GraphStep.rew` is idempotent for every `n`
  exact GraphSkeleton.rewire_spec ops ops' cs t n h

/-- **erasing the inserted QUANTIZE/DEQUANTIZE operators of the performer's result gives back the
    input graph** (same ops, order, operands, results; no tensor renamed/reshaped/dropped; inputs
    unchanged; graph outputs and signature outputs denote the same original tensors; signatures
    keep key and argument names) -/
theorem performer_skeleton (pt : PTable) (m m' : Model) (tis : List TInsts)
    (hwf : WF.modelOK m = true) (htag : origTagged m = true)
    (hok : ∀ ti ∈ tis, GraphInv.TInstsOK pt m ti)
    (h : transformGraph pt m tis = .ok m') : sameModelSkeleton m m' = true :=
  SkeletonProof.transformGraph_skeleton pt m m' tis hwf htag hok h

/-- … and so does the whole graph stage, for requests of the registered algorithms' shape -/
theorem modify_skeleton (pt : PTable) (m m' : Model) (reqs : List TReq)
    (hwf : WF.modelOK m = true) (htag : origTagged m = true) (hnames : GenInstsOK.namesUnique m)
    (hreq : ∀ r ∈ reqs, GenInstsOK.ReqOK pt m r)
    (h : Perform.modify pt m reqs = .ok m') : sameModelSkeleton m m' = true := by
  unfold Perform.modify at h
  obtain ⟨tis, hg, h⟩ := PyM.bind_ok _ _ _ h
  exact performer_skeleton pt m m' tis hwf htag (GenInstsOK.genInsts_ok pt m reqs tis hwf hreq hg) h

/-- **C02, end to end**: for every model in converter normal form, every recipe, regex semantics
    and statistics, the graph returned by `quantize()` has exactly the input's skeleton and I/O contract -/
theorem quantize_skeleton (rx : String → String → Bool) (env : Mat.Env) (st : Recipe.State) (qsvs : Option Mat.Qsvs)
    (m' : Model) (tbl : List Mat.Param) (hnf : PipelineWF.NF env st)
    (h : Pipeline.quantizePure rx env st qsvs = .ok (m', tbl)) : Skeleton.sameModelSkeleton env.model m' = true :=
  PipelineWF.quantizePure_skeleton rx env st qsvs m' tbl hnf h

end C02
