import QProofs.RecipeHistory
/-!
# C11 — recipe resolution follows the last-applicable-rule-wins model

`rx` is Python's `re.search` as a parameter; every theorem holds for every `rx`.
Histories are lists of `Cmd` (the `update_quantization_recipe` calls); a failing
call leaves the state unchanged (`Recipe.add` is a function into `Except`).
-/
open Cfg Recipe

namespace C11

/-- a rule is applicable to `(op, scope)` — the regex part is handled by `flat` -/
def applicable (op : String) (r : Rule) : Bool :=
  (r.operation == Tables.allOpsKey || r.operation == op) &&
  (r.alg == Tables.algNoQuantize || Policy.accepts r.alg op r.cfg)

/-- all rules whose regex is found in the scope, scopes in state order, rules in scope order -/
def flat (rx : String → String → Bool) (st : State) (scope : String) : List Rule :=
  st.flatMap fun e => if rx e.1 scope then e.2 else []

/-- the declarative resolution: the last applicable rule, else no-quantize with the default config -/
def resolveSpec (rx : String → String → Bool) (st : State) (op scope : String) : String × OpCfg :=
  (((flat rx st scope).filter (applicable op)).getLast?.map fun r => (r.alg, r.cfg)).getD
    (Tables.algNoQuantize, {})

theorem foldl_last {α β} (P : α → Bool) (f : α → β) (l : List α) (acc : β) :
    l.foldl (fun acc a => if P a then f a else acc) acc =
      ((l.filter P).getLast?.map f).getD acc := by
  induction l generalizing acc with
  | nil => simp
  | cons x xs ih =>
    simp only [List.foldl_cons]
    rw [ih]
    by_cases hx : P x
    · simp only [hx, if_true, List.filter_cons_of_pos]
      cases hxs : (xs.filter P) with
      | nil => simp
      | cons y ys =>
        cases h : (y :: ys).getLast? with
        | none => simp at h
        | some a => simp [List.getLast?_cons_cons, h]
    · simp [hx]

theorem ite_guards {α} (a b : Bool) (x y : α) :
    (if !a then x else if !b then x else y) = if a && b then y else x := by
  cases a <;> cases b <;> rfl

theorem inner_eq (op : String) (rules : List Rule) (acc : String × OpCfg) :
    rules.foldl (fun acc r =>
        if r.operation != Tables.allOpsKey && r.operation != op then acc
        else if r.alg != Tables.algNoQuantize && !Policy.accepts r.alg op r.cfg then acc
        else (r.alg, r.cfg)) acc
      = ((rules.filter (applicable op)).getLast?.map fun r => (r.alg, r.cfg)).getD acc := by
  rw [← foldl_last (applicable op) (fun r => (r.alg, r.cfg)) rules acc]
  congr 1
  funext acc r
  simp only [applicable, bne, ← Bool.not_or]
  exact ite_guards _ _ _ _

/-- **C11 (resolution)**: the code's nested loops compute exactly "the last applicable rule
    wins, scanning scopes in state order and rules in scope order; default = no-quantize". -/
theorem resolve_eq_spec (rx : String → String → Bool) (st : State) (op scope : String) :
    resolve rx st op scope = resolveSpec rx st op scope := by
  unfold resolve resolveSpec flat
  generalize (Tables.algNoQuantize, ({} : OpCfg)) = acc
  induction st generalizing acc with
  | nil => simp
  | cons e es ih =>
    simp only [List.foldl_cons, List.flatMap_cons]
    rw [ih]
    by_cases hm : rx e.1 scope
    · simp only [hm, if_true]
      rw [inner_eq, List.filter_append, List.getLast?_append]
      cases h1 : (List.filter (applicable op) (List.flatMap (fun e => if rx e.1 scope = true then e.2 else []) es)).getLast? with
      | some r => simp
      | none =>
        cases h2 : (List.filter (applicable op) e.2).getLast? <;> simp
    · simp [hm]

theorem mem_flat {rx : String → String → Bool} {st : State} {scope : String} {r : Rule} :
    r ∈ flat rx st scope ↔ ∃ e ∈ st, rx e.1 scope = true ∧ r ∈ e.2 := by
  unfold flat
  rw [List.mem_flatMap]
  refine exists_congr fun e => and_congr_right fun _ => ?_
  by_cases h : rx e.1 scope = true
  · rw [if_pos h]; exact (and_iff_right h).symm
  · rw [if_neg h]
    exact Iff.intro (fun h' => nomatch h') (fun h' => absurd h'.1 h)

theorem applicable_iff {op : String} {r : Rule} :
    applicable op r = true ↔ (r.operation = Tables.allOpsKey ∨ r.operation = op) ∧
      (r.alg = Tables.algNoQuantize ∨ Policy.accepts r.alg op r.cfg = true) := by
  simp only [applicable, Bool.and_eq_true, Bool.or_eq_true, beq_iff_eq]

/-- **what resolution returns**: the default when no rule of a matching scope applies, else such a rule -/
theorem resolve_cases (rx : String → String → Bool) (st : State) (op scope : String) :
    ((∀ r ∈ flat rx st scope, applicable op r = false) ∧ resolve rx st op scope = (Tables.algNoQuantize, {})) ∨
    ∃ r ∈ flat rx st scope, applicable op r = true ∧ resolve rx st op scope = (r.alg, r.cfg) := by
  rw [resolve_eq_spec]; unfold resolveSpec
  cases h : ((flat rx st scope).filter (applicable op)).getLast? with
  | none =>
    rw [List.getLast?_eq_none_iff, List.filter_eq_nil_iff] at h
    exact .inl ⟨fun r hr => Bool.eq_false_iff.2 (h r hr), rfl⟩
  | some r =>
    obtain ⟨hr, ha⟩ := List.mem_filter.1 (List.mem_of_getLast? h)
    exact .inr ⟨r, hr, ha, rfl⟩

theorem resolve_cfg (Q : OpCfg → Prop) (rx : String → String → Bool) (st : State) (op scope : String)
    (h0 : Q {}) (h : ∀ e ∈ st, ∀ r ∈ e.2, Q r.cfg) : Q (resolve rx st op scope).2 := by
  rcases resolve_cases rx st op scope with ⟨_, hr⟩ | ⟨r, hr, _, hres⟩
  · rw [hr]; exact h0
  · obtain ⟨e, he, _, hre⟩ := mem_flat.1 hr
    rw [hres]; exact h e he r hre

theorem resolve_default (rx : String → String → Bool) (st : State) (op scope : String)
    (h : ∀ r ∈ flat rx st scope, applicable op r = false) :
    resolve rx st op scope = (Tables.algNoQuantize, {}) :=
  (resolve_cases rx st op scope).elim (·.2) fun ⟨r, hr, ha, _⟩ => nomatch (h r hr).symm.trans ha

/-- whatever resolution returns is either no-quantize or a config the algorithm's support
    check accepts for that very operator (an unsupported rule under `'*'` is never selected) -/
theorem resolve_sound (rx : String → String → Bool) (st : State) (op scope : String) :
    (resolve rx st op scope).1 = Tables.algNoQuantize ∨
      Policy.accepts (resolve rx st op scope).1 op (resolve rx st op scope).2 = true := by
  rcases resolve_cases rx st op scope with ⟨_, h⟩ | ⟨r, _, ha, h⟩
  · exact .inl (congrArg Prod.fst h)
  · rw [h]; exact (applicable_iff.1 ha).2

/-- an update fails only with `ValueError`, and only for a specific operator (not `'*'`) whose algorithm's
    support check refuses the config -/
theorem failed_add_is_valueError (st : State) (regex op : String) (cfg : Option OpCfg) (alg : String) (e : PyErr)
    (h : add st regex op cfg alg = .error e) :
    e = .valueError ∧ op ≠ Tables.allOpsKey ∧ alg ≠ Tables.algNoQuantize
      ∧ Policy.accepts alg op (cfg.getD {}) = false := by
  cases hacc : RecipeHistory.accepted ⟨regex, op, cfg, alg⟩ with
  | true => rw [RecipeHistory.add_accepted st ⟨regex, op, cfg, alg⟩ hacc] at h; cases h
  | false =>
    rw [RecipeHistory.add_rejected st ⟨regex, op, cfg, alg⟩ hacc] at h
    cases h
    simpa [RecipeHistory.accepted, not_or, and_assoc] using hacc

/-- adding `'*'` resets the scope to that single rule, whatever was there, and never fails -/
theorem add_star_resets (st : State) (regex : String) (cfg : Option OpCfg) (alg : String) :
    ∃ st', add st regex Tables.allOpsKey cfg alg = .ok st' ∧
      Py.dictGet? st' regex = some [⟨regex, Tables.allOpsKey, alg, cfg.getD {}⟩] := by
  refine ⟨_, RecipeHistory.add_accepted st ⟨regex, Tables.allOpsKey, cfg, alg⟩ (by simp [RecipeHistory.accepted]), ?_⟩
  rw [Py.dictGet?_dictSet, if_pos rfl]
  cases Py.dictGet? st regex <;> rfl

/-- non-vacuity: a concrete history where a later unsupported `'*'` rule is skipped and the
    earlier supported specific rule wins -/
example :
    let wo8 : OpCfg := { weight := some { bits := 8, symmetric := true, gran := .channelwise }, cp := .float, explicitDeq := true }
    let bad : OpCfg := { weight := some { bits := 16, symmetric := true }, cp := .integer }
    let st : State := [(".*", [⟨".*", "FULLY_CONNECTED", Tables.algMinMax, wo8⟩]), ("a", [⟨"a", "*", Tables.algMinMax, bad⟩])]
    resolve (fun _ _ => true) st "FULLY_CONNECTED" "a;" = (Tables.algMinMax, wo8) := by
  decide +kernel

end C11
