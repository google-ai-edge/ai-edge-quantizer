import QProofs.MatTotalPipe
import QProofs.MatTotalSound
import QProofs.PipelineWFExamples
import QProofs.MatTotalCheck
import QProps.C08
/-!
# C08c — the materialisation stage `Mat.generate` (`ParamsGenerator.generate_quantization_parameters`):
inventory of its raise sites, and totality up to the numeric sites

Under the normal-form hypotheses `Hyp` and `Unshared` no STRUCTURAL site can fire: `generate` returns, or it stops at
a NUMERIC site (a failure of `tensor_zp_scale_from_min_max`, `uniform_quantize`, `symmetric_quantize_bias_tensor` or
the float16 cast on the actual data).  The side conditions on what resolution selects hold for every shipped recipe
(`shipped_resolution`) and for every recipe state without `skip_checks` (`resolved_registered`).
-/
open Graph Mat Cfg Recipe MatTotal

namespace C08

/-- a raise site of `generate`; `num = true`: numeric, `num = false`: structural (constructors: `GenSite` in `QProofs/MatTotal.lean`,
    `StepSite` in `MatLoop.lean`, `OpSite` … `TensorSite` in `MatSites.lean`) -/
abbrev GenSite := @MatTotal.GenSite
abbrev StepSite := @MatTotal.StepSite
abbrev OpSite := @MatTotal.OpSite
abbrev TensorSite := @MatTotal.TensorSite

/-- **C08, inventory**: every error of the materialisation stage arises at one of the listed sites -/
theorem generate_error_sites (rx : String → String → Bool) (env : Env) (st : Recipe.State) (qsvs : Option Qsvs)
    (e : PyErr) (h : Mat.generate rx env st qsvs = .error e) : ∃ num, GenSite rx env st qsvs num e :=
  generate_sited rx env st qsvs e h

/-- the dispatch of `kindOf` is the one of `C08.knownFn`: a function is modelled iff its kind is known -/
theorem knownFn_iff_kind :
    Tables.registry.all (fun e => e.2.all (fun p => knownFn e.1 p.2 == !(kindOf e.1 p.2).isUnknown)) = true :=
  default_facts.2.2.2.1

/-- **what each registered materialize function does** (`Kind`): `std c gi` = `materialize_standard_op`
    with constraint `c`, the operand positions `gi` ignored; `conv` / `convT` = standard op, then the
    bias; `fixed` = hard-coded output range; `cast a w b` = float casting with data / weight / bias
    positions.  The shape hypotheses `OpShape` of `Hyp` are stated per kind. -/
theorem registry_kinds :
    Tables.registry.map (fun e => (e.1, e.2.map (fun p => (p.1, kindOf e.1 p.2)))) =
    [("min_max_uniform_quantize",
       [("INPUT", .std .none []), ("OUTPUT", .std .none []), ("FULLY_CONNECTED", .conv), ("BATCH_MATMUL", .std .none []),
        ("CONV_2D", .conv), ("DEPTHWISE_CONV_2D", .conv), ("CONV_2D_TRANSPOSE", .convT), ("RESHAPE", .std .sameAsInput [1]),
        ("AVERAGE_POOL_2D", .std .sameAsInput []), ("EMBEDDING_LOOKUP", .std .none [0]), ("SOFTMAX", .fixed true),
        ("TANH", .fixed false), ("TRANSPOSE", .std .sameAsInput [1]), ("GELU", .std .none []), ("ADD", .std .none []),
        ("SUB", .std .none []), ("MUL", .std .none []), ("MEAN", .std .none [1]), ("RSQRT", .std .none []),
        ("CONCATENATION", .std .sameAsOutput []), ("STRIDED_SLICE", .std .sameAsInput [1, 2, 3]),
        ("SPLIT", .std .sameAsInput [0]), ("LOGISTIC", .fixed true)]),
     ("float_casting",
       [("FULLY_CONNECTED", .cast 0 1 2), ("CONV_2D", .cast 0 1 2), ("DEPTHWISE_CONV_2D", .cast 0 1 2),
        ("CONV_2D_TRANSPOSE", .cast 2 1 3), ("EMBEDDING_LOOKUP", .cast 0 1 2)])] :=
  Pipe.kind_facts.2.2

/-- the normal-form hypotheses (fields documented in `QProofs/MatTotalGen.lean`) -/
abbrev Hyp := @MatTotal.Hyp
/-- no constant is shared: every constant buffer is referenced by one tensor, which one operand slot of
    one reader reads -/
abbrev Unshared := @MatTotal.Unshared
abbrev StatsComplete := @MatTotal.StatsComplete

/-- **no structural raise site** under the normal-form hypotheses -/
theorem generate_structural_excluded (rx : String → String → Bool) (env : Env) (st : Recipe.State)
    (qsvs : Option Qsvs) (H : Hyp rx env st qsvs) (U : Unshared env.model) (e : PyErr) :
    ¬ GenSite rx env st qsvs false e :=
  genSite_struct_absurd rx env st qsvs H U e

/-- **C08, materialisation stage (partial: up to the numeric sites)**: under the normal-form hypotheses
    `generate` returns, or it raises at a NUMERIC site -/
theorem generate_total_partial (rx : String → String → Bool) (env : Env) (st : Recipe.State) (qsvs : Option Qsvs)
    (H : Hyp rx env st qsvs) (U : Unshared env.model) :
    (∃ reqs, Mat.generate rx env st qsvs = .ok reqs) ∨
    ∃ e, Mat.generate rx env st qsvs = .error e ∧ GenSite rx env st qsvs true e :=
  generate_cases rx env st qsvs H U

/-- **the numeric sites are real**: a numeric site makes the stage fail (with that error, or one raised
    earlier in program order) -- the classification of `generate_total_partial` is tight -/
theorem numeric_site_fails (rx : String → String → Bool) (env : Env) (st : Recipe.State) (qsvs : Option Qsvs)
    (e : PyErr) (h : GenSite rx env st qsvs true e) : ∃ e', Mat.generate rx env st qsvs = .error e' :=
  genSite_sound rx env st qsvs e h

/-- no numeric site holds (equivalently, by `numeric_site_fails` and `generate_total_partial`: the stage
    does not stop at one) -/
def NumericOK (rx : String → String → Bool) (env : Env) (st : Recipe.State) (qsvs : Option Qsvs) : Prop :=
  ∀ e, ¬ GenSite rx env st qsvs true e

theorem numericOK_of_ok (rx : String → String → Bool) (env : Env) (st : Recipe.State) (qsvs : Option Qsvs)
    (reqs : List CReq) (h : Mat.generate rx env st qsvs = .ok reqs) : NumericOK rx env st qsvs :=
  no_numeric_site_of_ok rx env st qsvs reqs h

theorem generate_total_of_numericOK (rx : String → String → Bool) (env : Env) (st : Recipe.State) (qsvs : Option Qsvs)
    (H : Hyp rx env st qsvs) (U : Unshared env.model) (hnum : NumericOK rx env st qsvs) :
    ∃ reqs, Mat.generate rx env st qsvs = .ok reqs :=
  (generate_cases rx env st qsvs H U).resolve_right fun ⟨e, _, h⟩ => hnum e h

/-- **"calibrated when it requires calibration"**: after `calibrate()` (C10) on at least one sample the
    statistics hypothesis `Hyp.stats` holds -- for a model with one subgraph, a recipe without
    `skip_checks`, and same-as-input operators whose tensors are runtime tensors -/
theorem stats_of_calibration (rx : String → String → Bool) (env : Env) (st : Recipe.State) (sg : Subgraph)
    (hone : env.model.subgraphs = [sg]) (hns : NoSkip st)
    (hpass : ∀ q ∈ Pipe.allOps sg, ∀ k scope ops fn, Selected rx env st sg q k scope ops fn →
      (kindOf (Recipe.resolve rx st k scope).1 fn).isPass = true →
      ∀ a ∈ q.1.inputs ++ q.1.outputs, a ≠ -1 → ∀ t, tensorAt sg a = .ok t → constData env t = none)
    (previous : Option Qsvs) (samples : List Calib.Contents) (hne : samples ≠ []) (qs : Qsvs)
    (hneed : Recipe.needCalibration st = true)
    (h : Calib.calibrate rx env st 0 previous samples = .ok qs) : StatsComplete rx env st qs :=
  MatTotal.stats_of_calibration rx env st sg hone hns hpass previous samples hne qs hneed h

/-- under a recipe without `skip_checks` rules, whatever resolution selects for an operator is
    `no_quantize`, or an algorithm with a registered materialize function that the model's dispatch
    knows, with a config that is a legal runtime mode (`C13.modeOK` for min/max; float16 weight-only
    for float casting) -/
theorem resolved_registered (rx : String → String → Bool) (st : Recipe.State) (hns : NoSkip st) (k scope : String)
    (hne : (Recipe.resolve rx st k scope).1 ≠ Tables.algNoQuantize) :
    CfgGood (Recipe.resolve rx st k scope).1 k (Recipe.resolve rx st k scope).2 ∧
    ∃ ops fn, Py.dictGet? Tables.registry (Recipe.resolve rx st k scope).1 = some ops ∧ Py.dictGet? ops k = some fn ∧
      (kindOf (Recipe.resolve rx st k scope).1 fn).isUnknown = false :=
  resolve_selected rx st hns k scope hne

/-- **every shipped recipe, every operator name of the coverage table**: the recipe loads, has no
    `skip_checks` rule, and what it selects for the operator (for a scope its regex matches) is
    `no_quantize` or a registered, modelled function with a legal min/max mode -/
theorem shipped_resolution :
    Tables.shippedRecipes.all (fun e =>
      match e.2 with
      | .arr l =>
        (match (load false l).1 with
         | .ok st => noSkipB st && Tables.opNames.all (fun k =>
             let r := Recipe.resolve (fun _ _ => true) st k ""
             r.1 == Tables.algNoQuantize ||
               (match (Py.dictGet? Tables.registry r.1).bind (fun ops => Py.dictGet? ops k) with
                | some fn => !(kindOf r.1 fn).isUnknown && r.1 == Tables.algMinMax && C13.modeOK k r.2
                | none => false))
         | .error _ => false)
      | _ => false) = true :=
  default_facts.2.2.2.2.1

/-- which operators of the coverage table each shipped recipe really quantizes (the others are
    silently left float: the `'*'` rule is filtered by the per-operator policy check) -/
theorem shipped_coverage :
    Tables.shippedRecipes.map (fun e =>
      (e.1, match e.2 with
        | .arr l => (match (load false l).1 with
          | .ok st => Tables.opNames.filter (fun k => (Recipe.resolve (fun _ _ => true) st k "").1 != Tables.algNoQuantize)
          | .error _ => [])
        | _ => [])) =
    [("file:default_a16w8_recipe.json",
        ["INPUT", "OUTPUT", "FULLY_CONNECTED", "BATCH_MATMUL", "DEPTHWISE_CONV_2D", "CONV_2D", "CONV_2D_TRANSPOSE",
         "AVERAGE_POOL_2D", "RESHAPE", "SOFTMAX", "TANH", "TRANSPOSE", "GELU", "ADD", "SUB", "MUL", "MEAN", "RSQRT",
         "CONCATENATION", "STRIDED_SLICE", "SPLIT", "LOGISTIC"]),
     ("file:default_a8w8_recipe.json",
        ["INPUT", "OUTPUT", "FULLY_CONNECTED", "BATCH_MATMUL", "DEPTHWISE_CONV_2D", "CONV_2D", "CONV_2D_TRANSPOSE",
         "AVERAGE_POOL_2D", "RESHAPE", "SOFTMAX", "TANH", "TRANSPOSE", "GELU", "ADD", "SUB", "MUL", "MEAN", "RSQRT",
         "CONCATENATION", "STRIDED_SLICE", "SPLIT", "LOGISTIC"]),
     ("file:default_af32w4float_recipe.json", ["FULLY_CONNECTED", "BATCH_MATMUL", "EMBEDDING_LOOKUP"]),
     ("file:default_af32w8float_recipe.json",
        ["FULLY_CONNECTED", "BATCH_MATMUL", "DEPTHWISE_CONV_2D", "CONV_2D", "CONV_2D_TRANSPOSE", "EMBEDDING_LOOKUP"]),
     ("file:dynamic_wi8_afp32_recipe.json",
        ["FULLY_CONNECTED", "BATCH_MATMUL", "DEPTHWISE_CONV_2D", "CONV_2D", "CONV_2D_TRANSPOSE", "EMBEDDING_LOOKUP"]),
     ("file:sample_advanced_usage_recipe.json",
        ["INPUT", "OUTPUT", "FULLY_CONNECTED", "BATCH_MATMUL", "DEPTHWISE_CONV_2D", "CONV_2D_TRANSPOSE", "AVERAGE_POOL_2D",
         "RESHAPE", "SOFTMAX", "TANH", "TRANSPOSE", "GELU", "ADD", "SUB", "MUL", "MEAN", "RSQRT", "CONCATENATION",
         "STRIDED_SLICE", "SPLIT", "LOGISTIC"]),
     ("func:dynamic_wi8_afp32",
        ["FULLY_CONNECTED", "BATCH_MATMUL", "DEPTHWISE_CONV_2D", "CONV_2D", "CONV_2D_TRANSPOSE", "EMBEDDING_LOOKUP"])] :=
  default_facts.2.2.2.2.2

/-- **C08, `quantize()` (partial: up to the numeric sites of the materialisation stage)**: under the
    normal-form hypotheses and for a non-empty recipe, `quantize()` returns a well-formed model, or it
    raises at a NUMERIC site of the materialisation stage -- the graph stage cannot raise
    (`C08.modify_total`, whose request-level hypotheses `ReqOK`, `ReqParamsKnown`, `NoMixed` are derived
    here for the generated requests) -/
theorem quantize_total_partial (rx : String → String → Bool) (env : Env) (st : Recipe.State) (qsvs : Option Qsvs)
    (H : Hyp rx env st qsvs) (U : Unshared env.model) (hrec : (Recipe.getRecipe st).isEmpty = false) :
    (∃ m' tbl, Pipeline.quantizePure rx env st qsvs = .ok (m', tbl) ∧ WF.modelOK m' = true) ∨
    ∃ e, Pipeline.quantizePure rx env st qsvs = .error e ∧ GenSite rx env st qsvs true e := by
  rcases generate_total_partial rx env st qsvs H U with ⟨reqs, hgen⟩ | ⟨e, hgen, hsite⟩
  · obtain ⟨m', hq, hwf⟩ := quantize_of_generate rx env st qsvs H U hrec reqs hgen
    exact .inl ⟨m', _, hq, hwf⟩
  · exact .inr ⟨e, PipelineWF.quantizePure_error_of_generate hrec hgen, hsite⟩

theorem quantize_total_of_numericOK (rx : String → String → Bool) (env : Env) (st : Recipe.State) (qsvs : Option Qsvs)
    (H : Hyp rx env st qsvs) (U : Unshared env.model) (hrec : (Recipe.getRecipe st).isEmpty = false)
    (hnum : NumericOK rx env st qsvs) :
    ∃ m' tbl, Pipeline.quantizePure rx env st qsvs = .ok (m', tbl) ∧ WF.modelOK m' = true := by
  obtain ⟨reqs, hgen⟩ := generate_total_of_numericOK rx env st qsvs H U hnum
  obtain ⟨m', hq, hwf⟩ := quantize_of_generate rx env st qsvs H U hrec reqs hgen
  exact ⟨m', _, hq, hwf⟩

namespace Inst
open Pipe

def T (n : String) (sh : List Int) (b : Nat) : Tensor := { name := n, dtype := 0, shape := sh, buffer := b }
def opFC : Op := { code := 0, inputs := [0, 1], outputs := [2], orig := some 0 }
def opTanh : Op := { code := 1, inputs := [2], outputs := [3], orig := some 1 }
/-- `y := FULLY_CONNECTED(x, w)`, `z := TANH(y)`; `x` graph input, `w` constant, `z` graph output -/
def sg : Subgraph :=
  { tensors := [T "x" [1, 2] 0, T "w" [2, 2] 1, T "y" [1, 2] 0, T "z" [1, 2] 0], ops := [opFC, opTanh],
    inputs := [0], outputs := [3] }
def m : Model := { subgraphs := [sg], buffers := [none, some (.inl 0)], opcodes := [9, 28], sigs := [] }
def env : Env := { model := m, consts := [(1, [1, 2, 3, 4])], adjY := [] }
def f32 (l : List Rat) : Arith.FArr := ⟨⟨[1, 1], l⟩, .f32⟩
def qs : Qsvs := [("x", some (f32 [-1], f32 [1])), ("y", some (f32 [-2], f32 [2])), ("z", some (f32 [-1], f32 [1]))]
def rxAll : String → String → Bool := fun _ _ => true

def cfgA8W8 : OpCfg :=
  { act := some { bits := 8, symmetric := false }, weight := some { bits := 8, symmetric := true, gran := .channelwise },
    cp := .integer }
/-- the loaded state of `recipes/default_a8w8_recipe.json` … -/
def st : Recipe.State := [(".*", [⟨".*", "*", Tables.algMinMax, cfgA8W8⟩])]

def errIs {α} (x : PyM α) (e : PyErr) : Bool := match x with | .error e' => e' == e | .ok _ => false

/-- **a numeric site**: statistics whose range overflows float32.  All hypotheses of
    `generate_total_partial` hold; the stage stops with `nonfinite` (IEEE would produce `inf`), at a
    numeric site -- the second disjunct of the theorem is realised, `NumericOK` cannot be dropped -/
def qsBig : Qsvs :=
  [("x", some (f32 [-(2 : Rat) ^ 127], f32 [(2 : Rat) ^ 127])), ("y", some (f32 [-2], f32 [2])), ("z", some (f32 [-1], f32 [1]))]

/-- `inputsNodup`: a graph input listed twice (the model is still well-formed in the sense of `WF.modelOK`):
    the INPUT pseudo-operator makes two producer requests for it -- RuntimeError of
    `_update_model_quant_results` -/
def envDup : Env := { env with model := { m with subgraphs := [{ sg with inputs := [0, 0] }] } }

/-- `Unshared.oneReader`: the weight is also a graph output; the OUTPUT pseudo-operator (selected by the
    `'*'` rule) asks for activation parameters, FULLY_CONNECTED for weight parameters -- RuntimeError of
    `_check_buffer_sharing` -/
def envOut : Env := { env with model := { m with subgraphs := [{ sg with outputs := [3, 1] }] } }

/-- `shape` (fixed-range operators have one result): a TANH with two results -- ValueError -/
def env2 : Env :=
  { env with model := { m with subgraphs :=
      [{ tensors := sg.tensors ++ [T "z2" [1, 2] 0], ops := [opFC, { opTanh with outputs := [3, 4] }], inputs := [0], outputs := [3] }] } }

/-- `shape` (`ConvShape.biasConst`): a runtime bias under static-range quantization is outside the model
    (`unsupported`; the Python code would read `None.astype`) -/
def envB : Env :=
  { env with model := { m with subgraphs :=
      [{ tensors := sg.tensors ++ [T "b" [2] 0], ops := [{ opFC with inputs := [0, 1, 4] }, opTanh], inputs := [0, 4], outputs := [3] }] } }

/-- `noSkip`: a `skip_checks` rule with a CHANNELWISE activation config (refused by the policy otherwise):
    the quantized dimension of an activation is looked up in the weight table -- KeyError -/
def stSkip : Recipe.State :=
  [(".*", [⟨".*", "*", Tables.algMinMax, { cfgA8W8 with act := some { bits := 8, gran := .channelwise }, skipChecks := true }⟩])]

/-- what `quantize()` returns on the instance: the four tensors retyped to int8 with parameter ids 0–3, the weight buffer
    rewritten, and the parameter table (activations asymmetric per tensor, the weight symmetric per output channel with its
    quantized values, the TANH result with the fixed range of the operator) -/
def mQ : Model :=
  { subgraphs := [{ tensors := [{ T "x" [1, 2] 0 with dtype := 9, quant := some 0 }, { T "w" [2, 2] 1 with dtype := 9, quant := some 1 },
                                { T "y" [1, 2] 0 with dtype := 9, quant := some 2 }, { T "z" [1, 2] 0 with dtype := 9, quant := some 3 }],
                    ops := [opFC, opTanh], inputs := [0], outputs := [3] }],
    buffers := [none, some (.inr 1)], opcodes := [9, 28], sigs := [] }
def tblQ : List Param :=
  [.uniform { bits := 8, qdim := none, scale := ⟨⟨[1, 1], [8421505 / 1073741824]⟩, .f32⟩, zp := ⟨⟨[1, 1], [-1]⟩, 8⟩, symmetric := false } none,
   .uniform { bits := 8, qdim := some 0, scale := ⟨⟨[2, 1], [2113665 / 134217728, 2113665 / 67108864]⟩, .f32⟩, zp := ⟨⟨[2, 1], [0, 0]⟩, 8⟩,
              symmetric := true } (some ⟨⟨[2, 2], [64, 127, 95, 127]⟩, 8⟩),
   .uniform { bits := 8, qdim := none, scale := ⟨⟨[1, 1], [8421505 / 536870912]⟩, .f32⟩, zp := ⟨⟨[1, 1], [-1]⟩, 8⟩, symmetric := false } none,
   .uniform { bits := 8, qdim := none, scale := ⟨⟨[], [1 / 128]⟩, .f64⟩, zp := ⟨⟨[], [0]⟩, 64⟩, symmetric := false } none]

/-- what is checked about the instance by running the model, in one `decide` -/
theorem facts :
    (match Py.dictGet? Tables.shippedRecipes "file:default_a8w8_recipe.json" with
     | some (.arr l) => (match (load false l).1 with | .ok s => decide (s = st) | .error _ => false)
     | _ => false) = true ∧
    hypB rxAll env st (some qs) = true ∧ hypB rxAll env st (some qsBig) = true ∧ unsharedB env.model = true ∧
    (match Mat.generate rxAll env st (some qs) with | .ok r => r.length | .error _ => 0) = 4 ∧
    Pipeline.quantizePure rxAll env st (some qs) = .ok (mQ, tblQ) ∧
    (match Pipeline.quantizePure rxAll env st (some qs) with
     | .ok r => r.1.subgraphs.map (fun (s : Subgraph) => s.tensors.map (fun (t : Tensor) => (t.name, t.dtype, t.quant))) ==
           [[("x", 9, some 0), ("w", 9, some 1), ("y", 9, some 2), ("z", 9, some 3)]] &&
         r.1.subgraphs.map (fun (s : Subgraph) => s.ops.map (fun (o : Op) => o.code)) == [[0, 1]] &&
         r.1.opcodes == [9, 28] && r.1.buffers == [none, some (.inr 1)] && WF.modelOK r.1
     | .error _ => false) = true ∧
    errIs (Mat.generate rxAll env st (some qsBig)) .nonfinite = true := by
  decide +kernel

/-- one failing run of `Mat.generate` per structural hypothesis: the examples that end the section, in their order -/
theorem variants :
    errIs (Mat.generate rxAll env st none) .runtimeError = true ∧
    errIs (Mat.generate rxAll env st (some [("x", some (f32 [-1], f32 [1])), ("y", some (f32 [-2], f32 [2]))]))
      .valueError = true ∧
    (errIs (Mat.generate rxAll PipelineWFExample.envB st (some [("y", some (f32 [1], f32 [4]))])) .keyError = true ∧
      errIs (Mat.generate rxAll PipelineWFExample.envB st (some PipelineWFExample.qsB)) .keyError = false) ∧
    (WF.modelOK envDup.model = true ∧ errIs (Mat.generate rxAll envDup st (some qs)) .runtimeError = true) ∧
    errIs (Mat.generate rxAll { env with consts := [] } st (some qs)) .valueError = true ∧
    (WF.modelOK envOut.model = true ∧ errIs (Mat.generate rxAll envOut st (some qs)) .runtimeError = true) ∧
    (WF.modelOK env2.model = true ∧
      errIs (Mat.generate rxAll env2 st (some (qs ++ [("z2", some (f32 [-1], f32 [1]))]))) .valueError = true) ∧
    (WF.modelOK envB.model = true ∧
      errIs (Mat.generate rxAll envB st (some (qs ++ [("b", some (f32 [-1], f32 [1]))]))) .unsupported = true) ∧
    errIs (Mat.generate rxAll env stSkip (some qs)) .keyError = true := by
  decide +kernel

/-- … is what loading the shipped file, unchanged, yields -/
theorem st_shipped :
    (match Py.dictGet? Tables.shippedRecipes "file:default_a8w8_recipe.json" with
     | some (.arr l) => (match (load false l).1 with | .ok s => decide (s = st) | .error _ => false)
     | _ => false) = true := facts.1

theorem hyp : Hyp rxAll env st (some qs) := hypB_sound _ _ _ _ facts.2.1

theorem nf : PipelineWF.NF env st := hyp.nf

theorem unshared : Unshared env.model := unsharedB_sound _ facts.2.2.2.1

def qFC : Op × Option String × Int := (opFC, none, ((0 : Nat) : Int))
def qTanh : Op × Option String × Int := (opTanh, none, ((1 : Nat) : Int))

theorem entries (q : Op × Option String × Int) (h : q ∈ allOps sg) :
    q = qFC ∨ q = qTanh ∨ q = inEntry sg ∨ q = outEntry sg := by
  rcases mem_allOps_iff.1 h with ⟨j, op, hop, rfl⟩ | h | h
  · rcases j with _ | _ | j
    · left; simp only [sg, List.getElem?_cons_zero, Option.some.injEq] at hop; subst hop; rfl
    · right; left; simp only [sg, List.getElem?_cons_succ, List.getElem?_cons_zero, Option.some.injEq] at hop; subst hop; rfl
    · simp [sg] at hop
  · exact .inr (.inr (.inl h))
  · exact .inr (.inr (.inr h))

/-- `NumericOK` holds on the instance: ALL hypotheses of `generate_total_of_numericOK` are satisfied -/
theorem numericOK : NumericOK rxAll env st (some qs) := by
  cases hg : Mat.generate rxAll env st (some qs) with
  | ok reqs => exact numericOK_of_ok _ _ _ _ reqs hg
  | error e =>
    obtain ⟨_, _, _, _, hlen, _⟩ := facts
    rw [hg] at hlen
    cases hlen

/-- as `generate_total_partial` says: all its hypotheses hold, and it is the first disjunct that is realised -/
example : (∃ reqs, Mat.generate rxAll env st (some qs) = .ok reqs) ∨
    ∃ e, Mat.generate rxAll env st (some qs) = .error e ∧ GenSite rxAll env st (some qs) true e :=
  generate_total_partial rxAll env st (some qs) hyp unshared

example : ∃ reqs, Mat.generate rxAll env st (some qs) = .ok reqs :=
  generate_total_of_numericOK rxAll env st (some qs) hyp unshared numericOK

theorem run : Pipeline.quantizePure rxAll env st (some qs) = .ok (mQ, tblQ) := facts.2.2.2.2.2.1

/-- the whole `quantize()` runs on the instance: a fully integer model -- the `'*'` rule also covers the INPUT / OUTPUT
    pseudo-operators, so the graph input and output become int8 too and no QUANTIZE / DEQUANTIZE is inserted -/
theorem quantize_runs :
    (match Pipeline.quantizePure rxAll env st (some qs) with
     | .ok r => r.1.subgraphs.map (fun (s : Subgraph) => s.tensors.map (fun (t : Tensor) => (t.name, t.dtype, t.quant))) ==
           [[("x", 9, some 0), ("w", 9, some 1), ("y", 9, some 2), ("z", 9, some 3)]] &&
         r.1.subgraphs.map (fun (s : Subgraph) => s.ops.map (fun (o : Op) => o.code)) == [[0, 1]] &&
         r.1.opcodes == [9, 28] && r.1.buffers == [none, some (.inr 1)] && WF.modelOK r.1
     | .error _ => false) = true := facts.2.2.2.2.2.2.1

example : (∃ m' tbl, Pipeline.quantizePure rxAll env st (some qs) = .ok (m', tbl) ∧ WF.modelOK m' = true) ∨
    ∃ e, Pipeline.quantizePure rxAll env st (some qs) = .error e ∧ GenSite rxAll env st (some qs) true e :=
  quantize_total_partial rxAll env st (some qs) hyp unshared (by decide)

theorem big_error : errIs (Mat.generate rxAll env st (some qsBig)) .nonfinite = true := facts.2.2.2.2.2.2.2

theorem big_numeric_site : ∃ e, Mat.generate rxAll env st (some qsBig) = .error e ∧ GenSite rxAll env st (some qsBig) true e := by
  rcases generate_total_partial rxAll env st (some qsBig) (hypB_sound _ _ _ _ facts.2.2.1) unshared with
    ⟨reqs, h⟩ | h
  · have := big_error
    rw [h] at this
    cases this
  · exact h

/-- `statsGiven`: a static-range recipe without statistics -- RuntimeError -/
example : errIs (Mat.generate rxAll env st none) .runtimeError = true := variants.1

/-- `stats`: no entry for the runtime tensor `z` -- ValueError -/
example : errIs (Mat.generate rxAll env st (some [("x", some (f32 [-1], f32 [1])), ("y", some (f32 [-2], f32 [2]))]))
    .valueError = true := variants.2.1

/-- `stats`, the same-as-input clause: RESHAPE of a CONSTANT (`PipelineWFExample.envB`) with statistics for the
    result only.  The constant's parameters come from its data, but the result's statistics entry is copied
    from the operand's -- KeyError (with the entry that `calibrate()` initialises for constants it returns) -/
example : errIs (Mat.generate rxAll PipelineWFExample.envB st (some [("y", some (f32 [1], f32 [4]))])) .keyError = true ∧
    errIs (Mat.generate rxAll PipelineWFExample.envB st (some PipelineWFExample.qsB)) .keyError = false :=
  variants.2.2.1

example : WF.modelOK envDup.model = true ∧ errIs (Mat.generate rxAll envDup st (some qs)) .runtimeError = true :=
  variants.2.2.2.1

/-- `constNE`: the weight has no data -- ValueError ("min and max must be provided") -/
example : errIs (Mat.generate rxAll { env with consts := [] } st (some qs)) .valueError = true :=
  variants.2.2.2.2.1

example : WF.modelOK envOut.model = true ∧ errIs (Mat.generate rxAll envOut st (some qs)) .runtimeError = true :=
  variants.2.2.2.2.2.1

example : WF.modelOK env2.model = true ∧
    errIs (Mat.generate rxAll env2 st (some (qs ++ [("z2", some (f32 [-1], f32 [1]))]))) .valueError = true :=
  variants.2.2.2.2.2.2.1

example : WF.modelOK envB.model = true ∧
    errIs (Mat.generate rxAll envB st (some (qs ++ [("b", some (f32 [-1], f32 [1]))]))) .unsupported = true :=
  variants.2.2.2.2.2.2.2.1

example : errIs (Mat.generate rxAll env stSkip (some qs)) .keyError = true := variants.2.2.2.2.2.2.2.2

end Inst

end C08
