import QProofs.NumericSessions
import QProps.C08c
/-!
# C08d — the numeric raise sites of `Mat.generate` are excluded on bounded inputs; `quantize()` is total

Under `Hyp`, `Unshared` the materialisation stage returns OR stops at a NUMERIC site (`C08c`).  Here `NumericOK`
is discharged under `Bounded`, with the explicit bound `B = 2^63 ≈ 9.2e18` on constants and statistics.  Powers of two in
the normal exponent range are fixed points of the model's rounding (`PrecL.rn_two_zpow`) and rounding is monotone, so every
intermediate is bounded by a power of two without loss: scales lie in `[2^-30, 2^63]` (`min_bound = 1e-4 ≥ 2^-14`,
divided by `qmax − qmin < 2^16`), bias scales `s_in · s_w` in `[2^-60, 2^126]`, quotients below `2^123`.
* No order `min ≤ max` is needed (`zpScale1_inverted`): the formula widens the range to contain 0.
* The statistics need not bound the data: `uniform_quantize` clips after rounding; only `data / scale` must be finite.
* `B` is within 8 binary orders of the best bound: data and weights of magnitude `2^71` give scales whose float32 product
  overflows, a bias of `2^80` overflows `bias / (s_in·s_w)` (`NumT.bias_overflow`); beyond `2^127` the min/max formula
  itself overflows (`zpScale1_overflow`, finding D14).
* Scales below `2^-30` (whose product may underflow to 0: findings D25/D33, `NumT.bias_underflow`) never come out of
  `tensor_zp_scale_from_min_max`: `min_bound` keeps every range at least `1e-4` wide.
Each clause of `Bounded` is shown necessary by a closed run (`Inst`, `InstB`, `InstC`).  Last, where `Bounded.stats` comes from:
the moving average of `calibrate()` keeps float32 statistics ordered and within `B` (`ema_ordered`, `stats_bounded_of_calibration`).
-/
open Graph Mat MatTotal Arith Num Nd

namespace C08

abbrev B : Rat := NumT.B

theorem B_eq : B = 9223372036854775808 := by unfold B NumT.B; norm_num

/-- float32, float64 or `exact` (statistics of integer tensors; python numbers -- see `C08e`) -/
abbrev F3264 := @NumT.F3264
/-- finite statistics: float32 / float64 / `exact` arrays of one shape, magnitudes at most `B` -/
abbrev StatFin := @NumT.StatFin
/-- operand shape `s` broadcasts to `r` without enlarging it -/
abbrev Compat := @NumT.Compat

/-- **one channel of `tensor_zp_scale_from_min_max`**: total for 2..16 bits on `|min|, |max| ≤ B`, whatever their order;
    the scale lies in `[2^-30, B]` -/
theorem zpScale1_total (pr : Prec) (hpr : F3264 pr) (bits : Nat) (hb2 : 2 ≤ bits) (hb16 : bits ≤ 16) (sym : Bool)
    (mn mx : Rat) (hmn : |mn| ≤ B) (hmx : |mx| ≤ B) :
    ∃ z s, zpScale1 pr bits sym mn mx = .ok (z, s) ∧ (2:Rat)^(-30:Int) ≤ s ∧ s ≤ B :=
  NumT.zpScale1_total pr hpr bits hb2 hb16 sym mn mx hmn hmx

/-- **`tensor_zp_scale_from_min_max`** is total on finite statistics -/
theorem zpScale_total (bits : Nat) (hb : bits = 4 ∨ bits = 8 ∨ bits = 16) (sym : Bool) (mn mx : FArr) (S : StatFin mn mx) :
    ∃ zs, zpScale bits sym mn mx = .ok zs :=
  NumT.zpScale_total bits (by omega) (by omega) sym mn mx S

/-- **`uniform_quantize`** is total: finite float data, parameters whose shape broadcasts to the data's, scales of at
    least `2^-60`, zero points within the 64-bit range -/
theorem uniformQuantize_total (x : FArr) (qp : QParams) (hx : F3264 x.pr) (hxb : ∀ v ∈ x.arr.data, |v| ≤ B)
    (G : NumT.QPGood ((2:Rat)^(-60:Int)) qp) (hc : Compat qp.scale.arr.shape x.arr.shape) :
    ∃ q, uniformQuantize x qp = .ok q :=
  NumT.uniformQuantize_total x qp hx hxb G hc

/-- **`uniform_quantize` with parameters that came from `tensor_zp_scale_from_min_max`**: the statistics need NOT bound the
    data (`uniform_quantize` clips); their shape must broadcast to the data's (all ones, or the channel dimension kept) -/
theorem quantize_own_total (d : Arr Rat) (bits : Nat) (hb : bits = 4 ∨ bits = 8 ∨ bits = 16) (sym : Bool) (qdim : Option Nat)
    (mn mx : FArr) (S : StatFin mn mx) (hd : ∀ v ∈ d.data, |v| ≤ B) (hc : Compat mn.arr.shape d.shape)
    (zp : IArr) (scale : FArr) (h : zpScale bits sym mn mx = .ok (zp, scale)) :
    ∃ q, uniformQuantize ⟨d, .f32⟩ { bits := bits, qdim := qdim, scale := scale, zp := zp, symmetric := sym } = .ok q := by
  obtain ⟨G, hsh, _⟩ := NumT.zpScale_good bits (by omega) (by omega) sym mn mx S qdim zp scale h
  exact NumT.uniformQuantize_total ⟨d, .f32⟩ _ (.inl rfl) hd (G.mono NumT.sLo_ge60) (by rw [hsh]; exact hc)

/-- **`symmetric_quantize_bias_tensor`** is total: a finite bias vector with one element per channel, a per-tensor data
    scale and a per-tensor / per-channel weight scale, both in `[2^-30, B]` -- the exact condition on the scales: their
    float32 product neither overflows nor underflows to 0 (`NumT.scaleProd_total`: it lies in `[2^-60, 2^126]`) -/
theorem quantizeBias_total (bd : Arr Rat) (n : Nat) (qi qw : QParams) (hbs : bd.shape = [n]) (hbb : ∀ v ∈ bd.data, |v| ≤ B)
    (Gi : NumT.QPGood ((2:Rat)^(-30:Int)) qi) (Gw : NumT.QPGood ((2:Rat)^(-30:Int)) qw)
    (hiB : ∀ s ∈ qi.scale.arr.data, s ≤ B) (hwB : ∀ s ∈ qw.scale.arr.data, s ≤ B)
    (hones : ∀ d ∈ qi.scale.arr.shape, d = 1) (hone : NumT.OneDim qw.scale.arr.shape)
    (hch : numel qw.scale.arr.shape = 1 ∨ numel qw.scale.arr.shape = n) :
    ∃ r, quantizeBias ⟨bd, .f32⟩ qi qw = .ok r :=
  NumT.quantizeBias_total bd n qi qw hbs hbb Gi Gw hiB hwB hones hone hch

/-- **the float16 cast** is total on the finite float16 range (beyond it IEEE arithmetic yields `inf`; the model
    reports `nonfinite`: outside the model) -/
theorem f16_total (x : Rat) (h : |x| ≤ 65504) : ∃ y, Prec.f16.chk x = .ok y := NumT.f16_total x h

/-- beyond the float32 range the min/max formula really fails (finding D14) -/
theorem zpScale1_overflow :
    NumT.isNonfinite (zpScale1 .f32 8 false (-(2:Rat)^127) ((2:Rat)^127)) = true ∧
    NumT.isNonfinite (zpScale1 .f32 8 true (-(2:Rat)^135) ((2:Rat)^135)) = true := by
  constructor <;> decide +kernel

theorem zpScale1_inverted :
    (match zpScale1 .f32 8 false 5 (-3) with | .ok _ => true | .error _ => false) = true := by decide +kernel

/-- the float16 cast fails from `65520` on -/
theorem f16_overflow : NumT.isNonfinite (Prec.f16.chk 65520) = true ∧
    (match Prec.f16.chk 65519 with | .ok v => v == 65504 | .error _ => false) = true := by
  constructor <;> decide +kernel

/-- non-vacuity of `zpScale_total`: the statistics `[-1, 1]` (shape `[1,1]`) -/
example : ∃ zs, zpScale 8 false (Inst.f32 [-1]) (Inst.f32 [1]) = .ok zs :=
  zpScale_total 8 (.inr (.inl rfl)) false _ _
    (statGoodB_sound (Inst.f32 [-1], Inst.f32 [1]) (by decide +kernel)).fin

/-- non-vacuity of `quantize_own_total`: the weight `[[1,2],[3,4]]` with its per-channel statistics (shape `[2,1]`) -/
example : ∃ zp scale q, zpScale 8 true ⟨⟨[2, 1], [1, 3]⟩, .f32⟩ ⟨⟨[2, 1], [2, 4]⟩, .f32⟩ = .ok (zp, scale) ∧
    uniformQuantize ⟨⟨[2, 2], [1, 2, 3, 4]⟩, .f32⟩ { bits := 8, qdim := some 0, scale := scale, zp := zp, symmetric := true } = .ok q := by
  have S : StatFin ⟨⟨[2, 1], [1, 3]⟩, .f32⟩ ⟨⟨[2, 1], [2, 4]⟩, .f32⟩ :=
    ⟨.inl rfl, .inl rfl, rfl, fun v hv => finB_sound v (by revert v; decide +kernel), fun v hv => finB_sound v (by revert v; decide +kernel)⟩
  obtain ⟨⟨zp, scale⟩, h⟩ := zpScale_total 8 (.inr (.inl rfl)) true _ _ S
  obtain ⟨q, hq⟩ := quantize_own_total ⟨[2, 2], [1, 2, 3, 4]⟩ 8 (.inr (.inl rfl)) true (some 0) _ _ S
    (fun v hv => finB_sound v (by revert v; decide +kernel))
    (List.Forall₂.cons (.inr rfl) (List.Forall₂.cons (.inl rfl) List.Forall₂.nil)) zp scale h
  exact ⟨zp, scale, q, h, hq⟩

/-- non-vacuity of `quantizeBias_total`: a per-tensor data scale `0.01`, per-channel weight scales `[0.02, 0.04]`, the
    bias `[1/2, -1/4]` -/
example : ∃ r, quantizeBias ⟨⟨[2], [1/2, -1/4]⟩, .f32⟩
    { bits := 8, qdim := none, scale := ⟨⟨[1, 1], [1/100]⟩, .f32⟩, zp := ⟨⟨[1, 1], [3]⟩, 8⟩, symmetric := false }
    { bits := 8, qdim := some 0, scale := ⟨⟨[2, 1], [1/50, 1/25]⟩, .f32⟩, zp := ⟨⟨[2, 1], [0, 0]⟩, 8⟩, symmetric := true } = .ok r := by
  have h30 : (2:Rat)^(-30:Int) ≤ 1/100 := by norm_num
  have hB : (1:Rat) ≤ B := NumT.one_le_B
  refine quantizeBias_total _ 2 _ _ rfl (fun v hv => finB_sound v (by revert v; decide +kernel))
    ⟨.inl rfl, rfl, rfl, rfl, ?_, ?_⟩ ⟨.inl rfl, rfl, rfl, rfl, ?_, ?_⟩ ?_ ?_ (by decide +kernel) (by unfold NumT.OneDim; decide +kernel) (.inr rfl)
  · intro s hs
    simp only [List.mem_singleton] at hs
    subst hs; exact h30
  · intro z hz
    simp only [List.mem_singleton] at hz
    subst hz; norm_num
  · intro s hs
    simp only [List.mem_cons, List.mem_nil_iff, or_false] at hs
    rcases hs with rfl | rfl <;> norm_num
  · intro z hz
    simp only [List.mem_cons, List.mem_nil_iff, or_false] at hz
    rcases hz with rfl | rfl <;> norm_num
  · intro s hs
    simp only [List.mem_singleton] at hs
    subst hs; linarith
  · intro s hs
    simp only [List.mem_cons, List.mem_nil_iff, or_false] at hs
    rcases hs with rfl | rfl <;> linarith

/-- good statistics entry: finite (`StatFin`) and per-tensor (all dimensions 1) -/
abbrev StatGood := @MatTotal.StatGood
/-- the names whose statistics entry matters: float32 runtime tensors of operators selected for min/max, and the float32
    operand of a same-as-input operator; entries of integer tensors are never read -/
abbrev StatName := @MatTotal.StatName
/-- **bounded inputs**:
    * `consts`: every constant has magnitudes at most `B`;
    * `stats`: every relevant statistics entry (`StatName`) is good (`StatGood`);
    * `concat`: a CONSTANT float operand of a same-as-output operator (CONCATENATION) has the rank of the statistics of the
      result -- it is quantized with the result's parameters;
    * `bias`: a bias under static-range quantization is a vector with one element per output channel of the weight
      (dimension `Tables.weightQDim`), and the data operand of the operator is a runtime tensor;
    * `cast`: the weights of a float-cast operator are within the float16 range `±65504`. -/
abbrev Bounded := @MatTotal.Bounded

/-- **C08, numeric half**: on bounded inputs no numeric raise site fires -/
theorem numericOK_of_bounded (rx : String → String → Bool) (env : Env) (st : Recipe.State) (qsvs : Option Qsvs)
    (H : Hyp rx env st qsvs) (Bd : Bounded rx env st qsvs) : NumericOK rx env st qsvs :=
  fun e => genSite_num_absurd rx env st qsvs H Bd e

/-- **C08, materialisation stage**: `generate_quantization_parameters` returns -/
theorem generate_total (rx : String → String → Bool) (env : Env) (st : Recipe.State) (qsvs : Option Qsvs)
    (H : Hyp rx env st qsvs) (U : Unshared env.model) (Bd : Bounded rx env st qsvs) :
    ∃ reqs, Mat.generate rx env st qsvs = .ok reqs :=
  generate_total_of_numericOK rx env st qsvs H U (numericOK_of_bounded rx env st qsvs H Bd)

/-- **C08, `quantize()`**: on a normal-form model without shared constants, with complete and bounded statistics and
    bounded constants, under a non-empty recipe without `skip_checks`, `quantize()` returns a well-formed model -/
theorem quantize_total (rx : String → String → Bool) (env : Env) (st : Recipe.State) (qsvs : Option Qsvs)
    (H : Hyp rx env st qsvs) (U : Unshared env.model) (Bd : Bounded rx env st qsvs)
    (hrec : (Recipe.getRecipe st).isEmpty = false) :
    ∃ m' tbl, Pipeline.quantizePure rx env st qsvs = .ok (m', tbl) ∧ WF.modelOK m' = true :=
  quantize_total_of_numericOK rx env st qsvs H U hrec (numericOK_of_bounded rx env st qsvs H Bd)

/-! ## NON-VACUITY: the instance of `C08c` (FULLY_CONNECTED + TANH under `default_a8w8`) is bounded -/

namespace Inst

/-- `stats`, one shape for `min` and `max`: shapes `[1,2]` and `[1,3]` do not broadcast -/
def qsShape : Qsvs :=
  [("x", some (⟨⟨[1, 2], [-1, -1]⟩, .f32⟩, ⟨⟨[1, 3], [1, 1, 1]⟩, .f32⟩)), ("y", some (f32 [-2], f32 [2])), ("z", some (f32 [-1], f32 [1]))]

/-- `stats`, float32 / float64: float16 statistics `±60000` are finite -/
def qsHalf : Qsvs :=
  [("x", some (⟨⟨[1, 1], [-60000]⟩, .f16⟩, ⟨⟨[1, 1], [60000]⟩, .f16⟩)), ("y", some (f32 [-2], f32 [2])), ("z", some (f32 [-1], f32 [1]))]

/-- what is checked by running the model, in one kernel evaluation -/
theorem evaluated :
    boundedB rxAll env st qs = true ∧
    errIs (Mat.generate rxAll { env with consts := [(1, [1, 2, 3, (2:Rat)^135])] } st (some qs)) .nonfinite = true ∧
    errIs (Mat.generate rxAll env st (some qsShape)) .valueError = true ∧
    errIs (Mat.generate rxAll env st (some qsHalf)) .nonfinite = true := by
  decide +kernel

theorem bounded : Bounded rxAll env st (some qs) := boundedB_sound _ _ _ _ evaluated.1

/-- ALL hypotheses of `quantize_total` hold on the instance -/
example : ∃ m' tbl, Pipeline.quantizePure rxAll env st (some qs) = .ok (m', tbl) ∧ WF.modelOK m' = true :=
  quantize_total rxAll env st (some qs) hyp unshared bounded (by decide +kernel)

example : NumericOK rxAll env st (some qs) := numericOK_of_bounded rxAll env st (some qs) hyp bounded

/-! ### each clause of `Bounded` is needed (closed witnesses; `big_numeric_site` of `C08c` is the one for `B`) -/

/-- `stats`, magnitude: `C08.Inst.big_error` (statistics `±2^127` overflow float32 in `max − min`) -/
example : errIs (Mat.generate rxAll env st (some qsBig)) .nonfinite = true := big_error

/-- `consts`, magnitude: a weight of `2^128` is not a float32; its scale `2^128/127` is finite, the site is reached in
    the statistics of the weight -- with `2^135` the symmetric scale itself overflows -/
example : errIs (Mat.generate rxAll { env with consts := [(1, [1, 2, 3, (2:Rat)^135])] } st (some qs)) .nonfinite = true :=
  evaluated.2.1

/-- `stats`, one shape for `min` and `max` (`qsShape`): ValueError at the numeric site `TensorSite.zpScale` -/
example : errIs (Mat.generate rxAll env st (some qsShape)) .valueError = true := evaluated.2.2.1

/-- `stats`, float32 / float64 (`qsHalf`): `max − min` overflows float16 -/
example : errIs (Mat.generate rxAll env st (some qsHalf)) .nonfinite = true := evaluated.2.2.2

end Inst

/-! ## NON-VACUITY of the bias clause: FULLY_CONNECTED WITH A BIAS + TANH under `default_a8w8` -/

namespace InstB
open Pipe
open Inst (T f32 rxAll st opTanh qTanh qs errIs)

def opFC : Op := { code := 0, inputs := [0, 1, 4], outputs := [2], orig := some 0 }
/-- `y := FULLY_CONNECTED(x, w, b)`, `z := TANH(y)`; `w`, `b` constants, bias `b` of length 2 = rows of `w` -/
def sg : Subgraph :=
  { tensors := [T "x" [1, 2] 0, T "w" [2, 2] 1, T "y" [1, 2] 0, T "z" [1, 2] 0, T "b" [2] 2], ops := [opFC, opTanh],
    inputs := [0], outputs := [3] }
def m : Model := { subgraphs := [sg], buffers := [none, some (.inl 0), some (.inl 1)], opcodes := [9, 28], sigs := [] }
def env : Env := { model := m, consts := [(1, [1, 2, 3, 4]), (2, [1/2, -1/4])], adjY := [] }
def qFC : Op × Option String × Int := (opFC, none, ((0 : Nat) : Int))

theorem entries (q : Op × Option String × Int) (h : q ∈ allOps sg) :
    q = qFC ∨ q = qTanh ∨ q = inEntry sg ∨ q = outEntry sg := by
  rcases mem_allOps_iff.1 h with ⟨j, op, hop, rfl⟩ | h | h
  · rcases j with _ | _ | j
    · left; simp only [sg, List.getElem?_cons_zero, Option.some.injEq] at hop; subst hop; rfl
    · right; left; simp only [sg, List.getElem?_cons_succ, List.getElem?_cons_zero, Option.some.injEq] at hop; subst hop; rfl
    · simp [sg] at hop
  · exact .inr (.inr (.inl h))
  · exact .inr (.inr (.inr h))

/-! ### variants on which the clauses of `Bounded` about shapes fail -/

/-- `bias` (one element per output channel): a bias of length 3 for a weight with 2 rows -/
def envLen : Env := { env with
  model := { m with subgraphs := [{ sg with tensors := [T "x" [1, 2] 0, T "w" [2, 2] 1, T "y" [1, 2] 0, T "z" [1, 2] 0, T "b" [3] 2] }] },
  consts := [(1, [1, 2, 3, 4]), (2, [1/2, -1/4, 1])] }

/-- `stats` (per-tensor entries): statistics of the data operand `x` of shape `[3]` -/
def qsWide : Qsvs :=
  [("x", some (⟨⟨[3], [-1, -1, -1]⟩, .f32⟩, ⟨⟨[3], [1, 1, 1]⟩, .f32⟩)), ("y", some (f32 [-2], f32 [2])), ("z", some (f32 [-1], f32 [1]))]

/-- `bias` (the data operand is a runtime tensor): a CONSTANT data operand `x` of shape `[3,2]` -/
def envConstIn : Env := { env with
  model := { m with
    subgraphs := [{ sg with tensors := [T "x" [3, 2] 3, T "w" [2, 2] 1, T "y" [3, 2] 0, T "z" [3, 2] 0, T "b" [2] 2], inputs := [] }],
    buffers := [none, some (.inl 0), some (.inl 1), some (.inl 2)] },
  consts := [(1, [1, 2, 3, 4]), (2, [1/2, -1/4]), (3, [1, 2, 3, 4, 5, 6])] }

/-- the same runs WITHOUT the bias operand -/
def noBias (e : Env) : Env :=
  { e with model := { e.model with subgraphs := e.model.subgraphs.map fun s =>
      { s with ops := s.ops.map fun o => { o with inputs := o.inputs.take 2 } } } }

/-- what is checked by running the model, in one kernel evaluation; the runs are those shown at the end of the section, in
    their order -/
theorem runs :
    hypB rxAll env st (some qs) = true ∧ unsharedB env.model = true ∧
    boundedB rxAll env st qs = true ∧
    (match Mat.generate rxAll env st (some qs) with | .ok r => r.length | .error _ => 0) = 5 ∧
    errIs (Mat.generate rxAll envLen st (some qs)) .valueError = true ∧
    (match Mat.generate rxAll env st (some qsWide) with | .ok _ => false | .error _ => true) = true ∧
    errIs (Mat.generate rxAll envConstIn st (some qs)) .valueError = true ∧
    (match Mat.generate rxAll (noBias envLen) st (some qs) with | .ok r => r.length | .error _ => 0) = 4 ∧
    (match Mat.generate rxAll (noBias env) st (some qsWide) with | .ok r => r.length | .error _ => 0) = 4 ∧
    (match Mat.generate rxAll (noBias envConstIn) st (some qs) with | .ok r => r.length | .error _ => 0) = 4 := by
  decide +kernel

theorem hyp : Hyp rxAll env st (some qs) := hypB_sound _ _ _ _ runs.1

theorem unshared : Unshared env.model := unsharedB_sound _ runs.2.1

/-- the instance is bounded; the bias clause is used in earnest: the bias `b` has 2 = `w.shape[0]` elements
    (`weightQDim FULLY_CONNECTED = 0`), the data operand `x` is a runtime tensor -/
theorem bounded : Bounded rxAll env st (some qs) := boundedB_sound _ _ _ _ runs.2.2.1

/-- ALL hypotheses of `quantize_total` hold on the instance with a bias -/
theorem quantize_ok : ∃ m' tbl, Pipeline.quantizePure rxAll env st (some qs) = .ok (m', tbl) ∧ WF.modelOK m' = true :=
  quantize_total rxAll env st (some qs) hyp unshared bounded (by decide +kernel)

/-! ### the clauses of `Bounded` about shapes are needed -/

/-- (cross-check by kernel evaluation: five requests) -/
example : (match Mat.generate rxAll env st (some qs) with | .ok r => r.length | .error _ => 0) = 5 := runs.2.2.2.1

/-- `bias` (one element per output channel, `envLen`): ValueError (broadcast) at the numeric site `BiasSite.quantize` -/
example : errIs (Mat.generate rxAll envLen st (some qs)) .valueError = true := runs.2.2.2.2.1

/-- `stats` (per-tensor entries, `qsWide`): the scale product has shape `[2,3]`, which no bias vector matches:
    `unsupported` (the `fix_quantization_params_rank` fall-through; Python raises ValueError) -/
example : (match Mat.generate rxAll env st (some qsWide) with | .ok _ => false | .error _ => true) = true := runs.2.2.2.2.2.1

/-- `bias` (the data operand is a runtime tensor, `envConstIn`): the constant `x` gets per-channel parameters of shape
    `[3,1]` (weight config, dimension 0), which do not broadcast against the weight's `[2,1]` -- ValueError -/
example : errIs (Mat.generate rxAll envConstIn st (some qs)) .valueError = true := runs.2.2.2.2.2.2.1

/-- … and in all three cases the same run WITHOUT the bias operand succeeds: the failures are failures of the bias -/
example : (match Mat.generate rxAll (noBias envLen) st (some qs) with | .ok r => r.length | .error _ => 0) = 4 ∧
    (match Mat.generate rxAll (noBias env) st (some qsWide) with | .ok r => r.length | .error _ => 0) = 4 ∧
    (match Mat.generate rxAll (noBias envConstIn) st (some qs) with | .ok r => r.length | .error _ => 0) = 4 :=
  runs.2.2.2.2.2.2.2

end InstB

/-! ## the clauses `concat` and `cast` are needed -/

namespace InstC
open Inst (T f32 rxAll st errIs)

def opCat : Op := { code := 0, inputs := [0, 1], outputs := [2], orig := some 0 }
/-- `y := CONCATENATION(x, c)` with a constant `c` of shape `cshape` -/
def sgCat (cshape : List Int) : Subgraph :=
  { tensors := [T "x" [1, 2] 0, T "c" cshape 1, T "y" [1, 4] 0], ops := [opCat], inputs := [0], outputs := [2] }
def envCat (cshape : List Int) : Env :=
  { model := { subgraphs := [sgCat cshape], buffers := [none, some (.inl 0)], opcodes := [2], sigs := [] },
    consts := [(1, [1, 2])], adjY := [] }
def qsCat : Qsvs := [("x", some (f32 [-1], f32 [1])), ("y", some (f32 [-2], f32 [2]))]

/-- float16 weight-only quantization of FULLY_CONNECTED (accepted by the policy) -/
def st16 : Recipe.State :=
  [(".*", [⟨".*", "FULLY_CONNECTED", Tables.algFloatCasting, { act := none, weight := some { bits := 16, dtype := .float }, cp := .float }⟩])]

/-- the runs of this section, in one kernel evaluation -/
theorem runs :
    (errIs (Mat.generate rxAll (envCat [2]) st (some qsCat)) .unsupported = true ∧
      (match Mat.generate rxAll (envCat [1, 2]) st (some qsCat) with | .ok r => r.length | .error _ => 0) = 3) ∧
    errIs (Mat.generate rxAll { Inst.env with consts := [(1, [1, 2, 3, 65520])] } st16 none) .nonfinite = true ∧
    (match Mat.generate rxAll { Inst.env with consts := [(1, [1, 2, 3, 65504])] } st16 none with
      | .ok r => r.length | .error _ => 0) = 4 := by
  decide +kernel

/-- `concat`: a constant operand of rank 1 cannot be quantized with the rank-2 parameters of the result (`unsupported`: the
    `fix_quantization_params_rank` fall-through; the Python code raises ValueError); with a rank-2 constant the run succeeds -/
example : errIs (Mat.generate rxAll (envCat [2]) st (some qsCat)) .unsupported = true ∧
    (match Mat.generate rxAll (envCat [1, 2]) st (some qsCat) with | .ok r => r.length | .error _ => 0) = 3 :=
  runs.1

/-- `cast`: a weight of `65520` overflows float16 (`nonfinite`: IEEE arithmetic stores `inf`); `65504` is fine -/
example : errIs (Mat.generate rxAll { Inst.env with consts := [(1, [1, 2, 3, 65520])] } st16 none) .nonfinite = true ∧
    (match Mat.generate rxAll { Inst.env with consts := [(1, [1, 2, 3, 65504])] } st16 none with
      | .ok r => r.length | .error _ => 0) = 4 :=
  runs.2

end InstC

/-! ## Statistics recorded by `calibrate()` satisfy `Bounded.stats` -/

/-- one element of `_update_moving_average` on float32 statistics: `rn32 (rn32 (c1·w) + rn32 (c2·u))` -/
abbrev emaE := @MatTotal.emaE
/-- good AND ordered float32 statistics: `StatGood` with float32 arrays and `min ≤ max` -/
abbrev StatOrd := @MatTotal.StatOrd

/-- the moving average is monotone in the old and in the new value (`C17.rn_mono`; the weights are non-negative) … -/
theorem emaE_mono {w w' u u' : Rat} (hw : w ≤ w') (hu : u ≤ u') : emaE w u ≤ emaE w' u' := MatTotal.emaEl_mono .f32 hw hu

/-- … and `B = 2^63` is a fixed point of it: it keeps magnitudes within `B` -/
theorem emaE_bounded {w u : Rat} (hw : |w| ≤ B) (hu : |u| ≤ B) : |emaE w u| ≤ B := MatTotal.emaEl_bounded .f32 (.inl rfl) hw hu

/-- **`moving_average_update` keeps `min ≤ max`** (and finiteness, and the per-tensor shape): the rounded moving average
    of ordered pairs is ordered -/
theorem ema_ordered (mn mx nmn nmx : FArr) (O : StatOrd mn mx) (N : StatOrd nmn nmx) (v : Mat.Qsv)
    (h : Calib.ema (some (mn, mx)) (some (nmn, nmx)) = .ok v) : ∃ a b, v = some (a, b) ∧ StatOrd a b :=
  MatTotal.ema_ord mn mx nmn nmx O N v h

theorem StatOrd.good {mn mx : FArr} (h : StatOrd mn mx) : StatGood mn mx := MatTotal.StatOrd.good h

/-- **after a fresh `calibrate()` the clause `Bounded.stats` holds, and the recorded ranges are ordered** -- for a model
    with one subgraph and unique tensor names, at least one sample, same-as-input operators on runtime tensors (the
    hypotheses of `C08.stats_of_calibration`), whenever all tensor contents of all samples are float32 with magnitudes at
    most `B` -/
theorem stats_bounded_of_calibration (rx : String → String → Bool) (env : Env) (st : Recipe.State) (sg : Subgraph)
    (hone : env.model.subgraphs = [sg]) (hnd : (sg.tensors.map (·.name)).Nodup)
    (hpass : ∀ q ∈ Pipe.allOps sg, ∀ k scope ops fn, Selected rx env st sg q k scope ops fn →
      (kindOf (Recipe.resolve rx st k scope).1 fn).isPass = true →
      ∀ a ∈ q.1.inputs ++ q.1.outputs, a ≠ -1 → ∀ t, tensorAt sg a = .ok t → constData env t = none)
    (samples : List Calib.Contents) (hne : samples ≠ []) (qs : Qsvs)
    (hneed : Recipe.needCalibration st = true)
    (h : Calib.calibrate rx env st 0 none samples = .ok qs)
    (hcont : ∀ c ∈ samples, ∀ n d, Py.dictGet? c n = some d → d.pr = .f32 ∧ ∀ v ∈ d.arr.data, |v| ≤ B) :
    ∀ n, StatName rx env st n → ∀ mn mx, Py.dictGet? qs n = some (some (mn, mx)) → StatOrd mn mx :=
  MatTotal.stats_bounded_of_calibration rx env st sg hone hnd hpass samples qs hneed h hcont

/-- non-vacuity of `ema_ordered`: the statistics `[-1, 1]` and `[-2, 3]` -/
example : ∃ a b, Calib.ema (some (Inst.f32 [-1], Inst.f32 [1])) (some (Inst.f32 [-2], Inst.f32 [3])) = .ok (some (a, b)) ∧
    StatOrd a b := by
  have O : StatOrd (Inst.f32 [-1]) (Inst.f32 [1]) :=
    ⟨rfl, rfl, rfl, by decide +kernel, fun v hv => finB_sound v (by revert v; decide +kernel),
      fun v hv => finB_sound v (by revert v; decide +kernel), by
        intro k; rcases k with _ | k
        · decide +kernel
        · simp [Inst.f32]⟩
  have N : StatOrd (Inst.f32 [-2]) (Inst.f32 [3]) :=
    ⟨rfl, rfl, rfl, by decide +kernel, fun v hv => finB_sound v (by revert v; decide +kernel),
      fun v hv => finB_sound v (by revert v; decide +kernel), by
        intro k; rcases k with _ | k
        · decide +kernel
        · simp [Inst.f32]⟩
  cases h : Calib.ema (some (Inst.f32 [-1], Inst.f32 [1])) (some (Inst.f32 [-2], Inst.f32 [3])) with
  | error e =>
    have : (match Calib.ema (some (Inst.f32 [-1], Inst.f32 [1])) (some (Inst.f32 [-2], Inst.f32 [3])) with
      | .ok _ => true | .error _ => false) = true := by decide +kernel
    rw [h] at this
    cases this
  | ok v =>
    obtain ⟨a, b, rfl, hab⟩ := ema_ordered _ _ _ _ O N v h
    exact ⟨a, b, rfl, hab⟩

end C08
