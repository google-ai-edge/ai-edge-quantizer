import QProofs.EmuSemMain
/-!
# C06c — the EMULATED_SUBCHANNEL operator pattern computes FULLY_CONNECTED on the dequantized blockwise weight

`QProps/C06.lean` covers the float-compute modes realised by an inserted DEQUANTIZE.  BLOCKWISE weights are
realised differently: `transformations/emulated_subchannel.py` (graph-level model `QModel/Emulated.lean`,
well-formedness `QProps/C01c.lean`) REPLACES the FULLY_CONNECTED operator by

    RESHAPE(x : [d0, d1, B*S] → [d0*d1, B, 1, S]) → BATCH_MATMUL(·, Q : [1, B, S, C]) → MUL(·, scale)
      → SUM(axis 1, keep_dims) → RESHAPE(→ shape of the result tensor) [→ ADD(bias)] [→ RELU]

This file states what that pattern COMPUTES, over the denotational semantics `QModel/EmuSem.lean`.

## Assumptions

* The runtime's kernels implement the operators of `QModel/EmuSem.lean` (row-major dense tensors; RESHAPE keeps the
  data; BATCH_MATMUL without adjoints broadcasting the leading dimension 1 of its right operand; MUL with numpy
  broadcasting; SUM over axis 1 with keep_dims; ADD of a `[C]` vector along the last dimension; RELU;
  FULLY_CONNECTED `y[n][c] = Σ_f x[n][f] * w[c][f] + bias[c]`) on float32, rounding each arithmetic operation.
  The theorems are about the EXACT operators over `Rat` — the same discipline as `C06.weight_only_equiv`, which is
  about abstract kernels: what is proved is that the REWRITE is the identity of the mathematical function, not
  that float32 evaluation of the two sides agrees bit for bit (it does not: the summation order differs,
  `Σ_b (Σ_k …) * s` against `Σ_f …`).
* The integer codes are read as the numbers they denote (`Q : Nd.Arr Rat` holds integers in the instances).
* `Q[0][b][k][c]` is the code of `w[c][b*S + k]` (`uniform_quantize_for_emulated_subchannel`: transpose, then
  reshape) — this is the DEFINITION `EmuSem.dequantBlock`; `EmuWitness.no_transpose_differs` shows it matters.
* The last dimension of the activation equals the weight's input dimension `F = B*S` (hypothesis `hx`).
* No data-length hypothesis is needed: `EmuSem.get` answers 0 outside the data on both sides alike.
-/
open EmuSem

namespace C06

/-- the dequantized weight: `ŵ[c][b*S + k] = Q[0][b][k][c] * scale[0][b or 0][0][c]` -/
theorem dequantBlock_elements {q scale : T} {B S C e : Nat} (hq : q.shape = [1, B, S, C])
    (hs : scale.shape = [1, e, 1, C]) (he : e = 1 ∨ e = B) :
    ∃ wq, dequantBlock q scale = some wq ∧ wq.shape = [C, B * S] ∧ wq.data.length = C * (B * S) ∧
      ∀ c b k, c < C → b < B → k < S →
        get wq (c * (B * S) + (b * S + k)) =
          get q (flat4 B S C 0 b k c) * get scale (flat4 e 1 C 0 (bi e b) 0 c) :=
  EmuSemProofs.dequantBlock_spec hq hs he

theorem fullyConnected_elements {x w : T} {bias : Option T} {d0 d1 F C : Nat} (keep : Bool)
    (hx : x.shape = [d0, d1, F]) (hw : w.shape = [C, F]) (hb : ∀ b, bias = some b → b.shape = [C]) :
    ∃ y, fullyConnected keep x w bias = some y ∧ y.shape = fcOutShape keep d0 d1 C ∧
      y.data.length = d0 * d1 * C ∧
      ∀ n c, n < d0 * d1 → c < C →
        get y (n * C + c) = sumN F (fun f => get x (n * F + f) * get w (c * F + f)) + biasAt bias c :=
  EmuSemProofs.fullyConnected_spec keep hx hw (EmuSemProofs.biasOK_of hb)

/-- every operator of the pattern accepts its operands and the intermediate tensors have exactly the shapes the
    transformation records for the new tensors (`bmm_input_shape`, `intermediate_tensor_shape` twice,
    `sum_output_shape`; `bmmShape`, `midShape`, `sumShape` of `Emulated.io`) -/
theorem emulated_pattern_stage_shapes (d0 d1 B S C e : Nat) (x q scale : T) (hx : x.shape = [d0, d1, B * S])
    (hq : q.shape = [1, B, S, C]) (hs : scale.shape = [1, e, 1, C]) (he : e = 1 ∨ e = B) :
    ∃ t1 t2 t3 t4 : T, reshape x [d0 * d1, B, 1, S] = some t1 ∧ t1.shape = [d0 * d1, B, 1, S] ∧
      batchMatMul t1 q = some t2 ∧ t2.shape = [d0 * d1, B, 1, C] ∧
      mulBroadcast t2 scale = some t3 ∧ t3.shape = [d0 * d1, B, 1, C] ∧
      sumAxis1KeepDims t3 = some t4 ∧ t4.shape = [d0 * d1, 1, 1, C] := by
  obtain ⟨t1, t2, t3, t4, h, _⟩ := EmuSemProofs.pattern_core hx hq hs he
  exact ⟨t1, t2, t3, t4, h⟩

/-- **C06c (a)**: for all shapes and all data, with the scales laid out `[1, 1, 1, C]` (`e = 1`) or
    `[1, B, 1, C]` (`e = B`), the pattern RESHAPE → BATCH_MATMUL → MUL → SUM → RESHAPE succeeds and yields
    exactly FULLY_CONNECTED (no bias) of `x` with the dequantized weight, in the shape of the operator's result
    tensor (`[d0, d1, C]` with keep_num_dims, `[d0*d1, C]` without). -/
theorem emulated_pattern_computes_fc (keep : Bool) (d0 d1 B S C e : Nat) (x q scale : T)
    (hx : x.shape = [d0, d1, B * S]) (hq : q.shape = [1, B, S, C]) (hs : scale.shape = [1, e, 1, C])
    (he : e = 1 ∨ e = B) :
    ∃ wq y : T, dequantBlock q scale = some wq ∧ wq.shape = [C, B * S] ∧
      fullyConnected keep x wq none = some y ∧
      pattern (fcOutShape keep d0 d1 C) x q scale none false = some y :=
  EmuSemProofs.pattern_eq_fc keep false hx hq hs he rfl

/-- (a), one scale per output channel: the layout the library's statistics produce -/
theorem emulated_pattern_computes_fc_per_channel (keep : Bool) (d0 d1 B S C : Nat) (x q scale : T)
    (hx : x.shape = [d0, d1, B * S]) (hq : q.shape = [1, B, S, C]) (hs : scale.shape = [1, 1, 1, C]) :
    ∃ wq y : T, dequantBlock q scale = some wq ∧ wq.shape = [C, B * S] ∧
      fullyConnected keep x wq none = some y ∧
      pattern (fcOutShape keep d0 d1 C) x q scale none false = some y :=
  emulated_pattern_computes_fc keep d0 d1 B S C 1 x q scale hx hq hs (Or.inl rfl)

/-- (a), one scale per block and output channel -/
theorem emulated_pattern_computes_fc_per_block (keep : Bool) (d0 d1 B S C : Nat) (x q scale : T)
    (hx : x.shape = [d0, d1, B * S]) (hq : q.shape = [1, B, S, C]) (hs : scale.shape = [1, B, 1, C]) :
    ∃ wq y : T, dequantBlock q scale = some wq ∧ wq.shape = [C, B * S] ∧
      fullyConnected keep x wq none = some y ∧
      pattern (fcOutShape keep d0 d1 C) x q scale none false = some y :=
  emulated_pattern_computes_fc keep d0 d1 B S C B x q scale hx hq hs (Or.inr rfl)

/-- **C06c (b)**: with the optional ADD (present iff the operator had a bias operand, of shape `[C]`) and the
    optional RELU (present iff the fused activation function was RELU) the pattern yields the reference operator
    with that bias and that fused activation function. -/
theorem emulated_pattern_computes_fc_act (keep relu? : Bool) (d0 d1 B S C e : Nat) (x q scale : T)
    (bias : Option T) (hx : x.shape = [d0, d1, B * S]) (hq : q.shape = [1, B, S, C])
    (hs : scale.shape = [1, e, 1, C]) (he : e = 1 ∨ e = B) (hb : ∀ b, bias = some b → b.shape = [C]) :
    ∃ wq y : T, dequantBlock q scale = some wq ∧ wq.shape = [C, B * S] ∧
      fullyConnectedAct keep x wq bias relu? = some y ∧
      pattern (fcOutShape keep d0 d1 C) x q scale bias relu? = some y :=
  EmuSemProofs.pattern_eq_fcAct keep relu? hx hq hs he (EmuSemProofs.biasOK_of hb)

/-- (b), ADD only: `fullyConnected x ŵ bias` -/
theorem emulated_pattern_bias (keep : Bool) (d0 d1 B S C e : Nat) (x q scale b : T)
    (hx : x.shape = [d0, d1, B * S]) (hq : q.shape = [1, B, S, C]) (hs : scale.shape = [1, e, 1, C])
    (he : e = 1 ∨ e = B) (hb : b.shape = [C]) :
    ∃ wq y : T, dequantBlock q scale = some wq ∧ fullyConnected keep x wq (some b) = some y ∧
      pattern (fcOutShape keep d0 d1 C) x q scale (some b) false = some y := by
  obtain ⟨wq, y, h1, _, h2, h3⟩ := EmuSemProofs.pattern_eq_fc keep false (bias := some b) hx hq hs he
    (EmuSemProofs.biasOK_of (by intro b' h; cases h; exact hb))
  exact ⟨wq, y, h1, h2, h3⟩

/-- (b), ADD and RELU: `relu (fullyConnected x ŵ bias)` -/
theorem emulated_pattern_bias_relu (keep : Bool) (d0 d1 B S C e : Nat) (x q scale b : T)
    (hx : x.shape = [d0, d1, B * S]) (hq : q.shape = [1, B, S, C]) (hs : scale.shape = [1, e, 1, C])
    (he : e = 1 ∨ e = B) (hb : b.shape = [C]) :
    ∃ wq y : T, dequantBlock q scale = some wq ∧ fullyConnected keep x wq (some b) = some y ∧
      pattern (fcOutShape keep d0 d1 C) x q scale (some b) true = some (relu y) := by
  obtain ⟨wq, y, h1, _, h2, h3⟩ := EmuSemProofs.pattern_eq_fc keep true (bias := some b) hx hq hs he
    (EmuSemProofs.biasOK_of (by intro b' h; cases h; exact hb))
  exact ⟨wq, y, h1, h2, h3⟩

/-- (b), RELU only: `relu (fullyConnected x ŵ)` -/
theorem emulated_pattern_relu (keep : Bool) (d0 d1 B S C e : Nat) (x q scale : T)
    (hx : x.shape = [d0, d1, B * S]) (hq : q.shape = [1, B, S, C]) (hs : scale.shape = [1, e, 1, C])
    (he : e = 1 ∨ e = B) :
    ∃ wq y : T, dequantBlock q scale = some wq ∧ fullyConnected keep x wq none = some y ∧
      pattern (fcOutShape keep d0 d1 C) x q scale none true = some (relu y) := by
  obtain ⟨wq, y, h1, _, h2, h3⟩ := EmuSemProofs.pattern_eq_fc keep true (bias := none) hx hq hs he rfl
  exact ⟨wq, y, h1, h2, h3⟩

/-- **C06c (c)**: let `w : [C, B*S]` be the float weight and suppose the value law of the stored codes gives
    `|ŵ[c][f] − w[c][f]| ≤ err c` for the dequantized weight `ŵ`.  Then the pattern and the float operator (same
    bias, same fused activation) both succeed, with the same shape, and every output differs by at most
    `(Σ_f |x[n][f]|) * err c`. -/
theorem emulated_pattern_close_to_float (keep relu? : Bool) (d0 d1 B S C e : Nat) (x q scale w : T)
    (bias : Option T) (hx : x.shape = [d0, d1, B * S]) (hq : q.shape = [1, B, S, C])
    (hs : scale.shape = [1, e, 1, C]) (he : e = 1 ∨ e = B) (hb : ∀ b, bias = some b → b.shape = [C])
    (hw : w.shape = [C, B * S]) (err : Nat → Rat)
    (hval : ∀ wq, dequantBlock q scale = some wq → ∀ c f, c < C → f < B * S →
      |get wq (c * (B * S) + f) - get w (c * (B * S) + f)| ≤ err c) :
    ∃ p y : T, pattern (fcOutShape keep d0 d1 C) x q scale bias relu? = some p ∧
      fullyConnectedAct keep x w bias relu? = some y ∧ p.shape = y.shape ∧
      ∀ n c, n < d0 * d1 → c < C →
        |get p (n * C + c) - get y (n * C + c)| ≤ sumN (B * S) (fun f => |get x (n * (B * S) + f)|) * err c :=
  EmuSemProofs.pattern_close_to_fc keep relu? hx hq hs he (EmuSemProofs.biasOK_of hb) hw err hval

/-! Closed instances: `d0 = 1, d1 = 2, B = 2, S = 2, C = 3` -/

deriving instance DecidableEq for Nd.Arr

namespace EmuWitness

def x : T := ⟨[1, 2, 4], [1, -2, 3, 1/2, 0, 5, -1, 2]⟩
/-- codes `[1, 2, 2, 3]`: `Q[0][b][k][c]` is the code of `w[c][2*b + k]` -/
def q : T := ⟨[1, 2, 2, 3], [3, -1, 2, 0, 4, -5, 7, 1, -2, -3, 2, 6]⟩
/-- the same codes in the weight's own layout `[C, F]`, merely RESHAPED to `[1, 2, 2, 3]` (no transpose) -/
def qNoTranspose : T := ⟨[1, 2, 2, 3], [3, 0, 7, -3, -1, 4, 1, 2, 2, -5, -2, 6]⟩
/-- one scale per channel -/
def sc : T := ⟨[1, 1, 1, 3], [1/2, 1/4, 2]⟩
/-- one scale per block and channel -/
def sb : T := ⟨[1, 2, 1, 3], [1/2, 1/4, 2, 1, 1/8, 3]⟩
def bias : T := ⟨[3], [1, -100, 1/3]⟩
/-- a float weight within `err = [1/4, 1/16, 1/2]` (per row) of the per-block dequantized weight -/
def w : T := ⟨[3, 4], [13/8, -1/10, 29/4, -3, -1/4, 17/16, 1/8, 3/16, 9/2, -10, -19/3, 73/4]⟩
def err : Nat → Rat := fun c => [1/4, 1/16, 1/2].getD c 0

theorem wq_per_channel : dequantBlock q sc =
    some ⟨[3, 4], [3/2, 0, 7/2, -3/2, -1/4, 1, 1/4, 1/2, 4, -10, -4, 12]⟩ := by decide +kernel
theorem wq_per_block : dequantBlock q sb =
    some ⟨[3, 4], [3/2, 0, 7, -3, -1/4, 1, 1/8, 1/4, 4, -10, -6, 18]⟩ := by decide +kernel

theorem pattern_per_channel : pattern [1, 2, 3] x q sc none false =
    some ⟨[1, 2, 3], [45/4, -5/4, 18, -13/2, 23/4, -22]⟩ := by decide +kernel
/-- … and the reference evaluated on the dequantized weight: the same tensor -/
theorem fc_per_channel :
    fullyConnected true x ⟨[3, 4], [3/2, 0, 7/2, -3/2, -1/4, 1, 1/4, 1/2, 4, -10, -4, 12]⟩ none =
    some ⟨[1, 2, 3], [45/4, -5/4, 18, -13/2, 23/4, -22]⟩ := by decide +kernel

/-- per-block scales: no tail / ADD / ADD and RELU / result tensor recorded without keep_num_dims -/
theorem pattern_per_block : pattern [1, 2, 3] x q sb none false =
    some ⟨[1, 2, 3], [21, -7/4, 15, -13, 43/8, -8]⟩ := by decide +kernel
theorem pattern_per_block_bias : pattern [1, 2, 3] x q sb (some bias) false =
    some ⟨[1, 2, 3], [22, -407/4, 46/3, -12, -757/8, -23/3]⟩ := by decide +kernel
theorem pattern_per_block_bias_relu : pattern [1, 2, 3] x q sb (some bias) true =
    some ⟨[1, 2, 3], [22, 0, 46/3, 0, 0, 0]⟩ := by decide +kernel
theorem pattern_per_block_flat : pattern [2, 3] x q sb (some bias) true =
    some ⟨[2, 3], [22, 0, 46/3, 0, 0, 0]⟩ := by decide +kernel
theorem fc_per_block_bias_relu :
    fullyConnectedAct true x ⟨[3, 4], [3/2, 0, 7, -3, -1/4, 1, 1/8, 1/4, 4, -10, -6, 18]⟩ (some bias) true =
    some ⟨[1, 2, 3], [22, 0, 46/3, 0, 0, 0]⟩ := by decide +kernel

/-- the hypotheses of (a) hold for the instance (both layouts), and the theorem's conclusion is the evaluated
    tensor -/
example : ∃ wq y : T, dequantBlock q sc = some wq ∧ wq.shape = [3, 2 * 2] ∧
    fullyConnected true x wq none = some y ∧ pattern [1, 2, 3] x q sc none false = some y :=
  emulated_pattern_computes_fc_per_channel true 1 2 2 2 3 x q sc rfl rfl rfl
example : ∃ wq y : T, dequantBlock q sb = some wq ∧ wq.shape = [3, 2 * 2] ∧
    fullyConnected true x wq none = some y ∧ pattern [1, 2, 3] x q sb none false = some y :=
  emulated_pattern_computes_fc_per_block true 1 2 2 2 3 x q sb rfl rfl rfl
example : ∃ wq y : T, dequantBlock q sb = some wq ∧ fullyConnected false x wq (some bias) = some y ∧
    pattern [1 * 2, 3] x q sb (some bias) true = some (relu y) :=
  emulated_pattern_bias_relu false 1 2 2 2 3 2 x q sb bias rfl rfl rfl (Or.inr rfl) rfl

/-- the value-law hypothesis of (c) holds for `w`, `err` -/
theorem hval : ∀ wq, dequantBlock q sb = some wq → ∀ c f, c < 3 → f < 2 * 2 →
    |get wq (c * (2 * 2) + f) - get w (c * (2 * 2) + f)| ≤ err c := by
  intro wq h
  rw [wq_per_block] at h
  cases h
  have h' : ∀ c, c < 3 → ∀ f, f < 2 * 2 →
      |get ⟨[3, 4], [3/2, 0, 7, -3, -1/4, 1, 1/8, 1/4, 4, -10, -6, 18]⟩ (c * (2 * 2) + f) -
        get w (c * (2 * 2) + f)| ≤ err c := by decide +kernel
  exact fun c f hc hf => h' c hc f hf

theorem fc_float : fullyConnectedAct true x w (some bias) false =
    some ⟨[1, 2, 3], [923/40, -3261/32, 359/24, -51/4, -1511/16, -41/6]⟩ := by decide +kernel

/-- (c) applied to the instance -/
example : ∃ p y : T, pattern [1, 2, 3] x q sb (some bias) false = some p ∧
    fullyConnectedAct true x w (some bias) false = some y ∧ p.shape = y.shape ∧
    ∀ n c, n < 1 * 2 → c < 3 →
      |get p (n * 3 + c) - get y (n * 3 + c)| ≤ sumN (2 * 2) (fun f => |get x (n * (2 * 2) + f)|) * err c :=
  emulated_pattern_close_to_float true false 1 2 2 2 3 2 x q sb w (some bias) rfl rfl rfl (Or.inr rfl)
    (by intro b h; cases h; rfl) rfl err hval

/-- … and the bound is not slack by orders of magnitude: output `[0][0][0]` moves by `43/40`, the bound is `13/8` -/
example : |(22 : Rat) - 923/40| = 43/40 ∧ sumN (2 * 2) (fun f => |get x f|) * err 0 = 13/8 := by
  decide +kernel

/-! ### the order matters: variants of the pattern that do NOT compute the operator -/

/-- the pattern (no tail) with the SUM over axis `ax` -/
def patternAxis (ax : Nat) (outShape : List Nat) (x q scale : T) : Option T :=
  match x.shape, q.shape with
  | [d0, d1, _], [_, b, s, _] =>
    (reshape x [d0 * d1, b, 1, s]).bind fun t1 =>
    (batchMatMul t1 q).bind fun t2 =>
    (mulBroadcast t2 scale).bind fun t3 =>
    (sumAxisKeepDims ax t3).bind fun t4 =>
    reshape t4 outShape
  | _, _ => none

theorem patternAxis_one (outShape : List Nat) (x q scale : T) :
    patternAxis 1 outShape x q scale = pattern outShape x q scale none false := by
  unfold patternAxis pattern
  split
  · rename_i hx hq
    simp [hx, hq, sumAxis1KeepDims, addBiasOpt]
  · rename_i h
    split
    · rename_i hx hq
      exact (h _ _ _ _ _ _ _ hx hq).elim
    · rfl

/-- SUM over axis 2 (the unit axis) or 3 (the channels): the last RESHAPE is rejected (12 resp. 4 elements for 6) -/
theorem axis2_fails : patternAxis 2 [1, 2, 3] x q sc = none := by decide +kernel
theorem axis3_fails : patternAxis 3 [1, 2, 3] x q sc = none := by decide +kernel

/-- SUM over axis 0 (the rows; here `d0*d1 = B`): every operator accepts its operands, the result has the
    right shape — and the wrong values -/
theorem axis0_differs : patternAxis 0 [1, 2, 3] x q sc = some ⟨[1, 2, 3], [3/2, 11/4, -26, 13/4, 7/4, 22]⟩ ∧
    patternAxis 0 [1, 2, 3] x q sc ≠ pattern [1, 2, 3] x q sc none false := by decide +kernel

/-- the codes in the weight's own layout, reshaped WITHOUT the transpose of
    `uniform_quantize_for_emulated_subchannel`: shapes fit, values differ -/
theorem no_transpose_differs :
    pattern [1, 2, 3] x qNoTranspose sc none false = some ⟨[1, 2, 3], [19/4, 7/4, 16, -13, -11/4, 60]⟩ ∧
    pattern [1, 2, 3] x qNoTranspose sc none false ≠ pattern [1, 2, 3] x q sc none false := by decide +kernel

/-- the two scale layouts give different operators: per-block scales are not a notational variant -/
theorem layouts_differ : pattern [1, 2, 3] x q sb none false ≠ pattern [1, 2, 3] x q sc none false := by
  decide +kernel

end EmuWitness

end C06
