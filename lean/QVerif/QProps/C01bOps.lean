import QProps.C01b
/-!
# C01b, exploration of mixed neighbours beyond FULLY_CONNECTED (kernel-checked)

`C01.E2E.mixed_ops_table`: two adjacent operators out of {FULLY_CONNECTED, ADD with a constant second operand,
RESHAPE, SOFTMAX}, each in every mode it supports ({none, weight-only, dynamic range, static int8, static
int16, float16} for FULLY_CONNECTED; {none, static int8, static int16} for the others): 225 runs of
`quantizePure`, every one evaluated by the kernel.  No output violates the table of `KernelSig.accepts`.
-/
open Graph Mat

set_option autoImplicit false

namespace C01

namespace E2E


structure Tmpl where
  opName : String
  code : Nat
  /-- operands, from: data tensor, weight, shape, constant -/
  ins : Int → Int → Int → Int → List Int
  modes : List Mode

def tFC : Tmpl := ⟨"FULLY_CONNECTED", 9, fun t w _ _ => [t, w, -1], Mode.all⟩
def tADD : Tmpl := ⟨"ADD", 0, fun t _ _ c => [t, c], [.none, .srq8, .srq16]⟩
def tRESHAPE : Tmpl := ⟨"RESHAPE", 22, fun t _ s _ => [t, s], [.none, .srq8, .srq16]⟩
def tSOFTMAX : Tmpl := ⟨"SOFTMAX", 25, fun t _ _ _ => [t], [.none, .srq8, .srq16]⟩
def tmpls : List Tmpl := [tFC, tADD, tRESHAPE, tSOFTMAX]

def codes : List Nat := [9, 0, 22, 25]
def ci (c : Nat) : Nat := (codes.findIdx? (· == c)).getD 0

/-- `h := op1(x, …)`, `y := op2(h, …)`; tensors: 0 `x`, 1 `w1`, 2 `h`, 3 `w2`, 4 `y`, 5 / 7 shapes (int32
    constants), 6 / 8 float32 constants -/
def mChain (a b : Tmpl) : Model :=
  { subgraphs := [{ tensors := [T "x" [1,2] 0, T "w1" [2,2] 1, T "h" [1,2] 0, T "w2" [2,2] 2, T "y" [1,2] 0,
                      T "s1" [2] 3 2, T "c1" [1,2] 4, T "s2" [2] 5 2, T "c2" [1,2] 6],
                    ops := [{ code := ci a.code, inputs := a.ins 0 1 5 6, outputs := [2], orig := some 0 },
                            { code := ci b.code, inputs := b.ins 2 3 7 8, outputs := [4], orig := some 1 }],
                    inputs := [0], outputs := [4] }],
    buffers := [none, some (.inl 0), some (.inl 1), some (.inl 2), some (.inl 3), some (.inl 4), some (.inl 5)],
    opcodes := codes, sigs := [] }
def envChain (a b : Tmpl) : Env :=
  { model := mChain a b, consts := [(1, [1,2,3,4]), (2, [1,-2,3,5]), (4, [1,2]), (6, [2,5])], adjY := [] }

/-- all verdicts for the operator pair (a, b) -/
def pairVerdicts (a b : Tmpl) : List (Option Bool) :=
  a.modes.flatMap fun ma => b.modes.map fun mb =>
    verdict (envChain a b) (stOf "h;" a.opName ma "y;" b.opName mb)

/-- (runs whose output is accepted, runs whose output VIOLATES the table, refused runs) -/
def summary (l : List (Option Bool)) : Nat × Nat × Nat :=
  (l.countP (· == some true), l.countP (· == some false), l.countP (· == none))

/-- the signatures of the input models are in the table (they are float models) -/
theorem chain_inputs_float :
    (tmpls.all fun a => tmpls.all fun b => KernelSig.modelOK (mChain a b)) = true := by decide +kernel

/-- **C01.E2E.mixed_ops_table** (kernel-checked): 16 operator pairs × all their mode pairs (225 runs):
    (accepted, VIOLATING, refused) -- no output violates the table; the only refused runs are the empty
    recipes (none, none) -/
theorem mixed_ops_table :
    (tmpls.map fun a => tmpls.map fun b => summary (pairVerdicts a b)) =
      [[(35, 0, 1), (17, 0, 1), (17, 0, 1), (17, 0, 1)],
       [(17, 0, 1), (8, 0, 1), (8, 0, 1), (8, 0, 1)],
       [(17, 0, 1), (8, 0, 1), (8, 0, 1), (8, 0, 1)],
       [(17, 0, 1), (8, 0, 1), (8, 0, 1), (8, 0, 1)]] := by decide +kernel

end E2E

end C01
