import QProps.C10
import QProps.C09c
/-!
# C10c — statistics are never missing after ANY sequence of calibration sessions

`C10.stats_complete` speaks about one `calibrate()` call.  Combined with `C09c.resume_many` it holds
for every way of calibrating in sessions: as soon as one sample was seen in some session, every
non-constant operand/result of every selected operator has recorded statistics in the final result
(so `quantize()` with that result cannot fail for missing statistics, `C10.calibrated_lookup_never_missing`).
-/
open Graph Mat Calib

namespace C10c

theorem stats_complete_after_sessions (rx : String → String → Bool) (env : Env) (st : Recipe.State)
    (sgi : Nat) (sg : Subgraph) (hsg : env.model.subgraphs[sgi]? = some sg)
    (D0 : List Contents) (Ds : List (List Contents)) (q0 r : Qsvs)
    (h0 : calibrate rx env st sgi none D0 = .ok q0) (hc : C09c.Chain rx env st sgi q0 Ds r)
    (hne : D0 ++ Ds.flatten ≠ [])
    (hneed : Recipe.needCalibration st = true)
    (op : Op) (k scope : String) (hop : CalibProofs.IsOp env sg op k) (hscope : opScope sg op = .ok scope)
    (hsel : (Recipe.resolve rx st k scope).1 = Tables.algMinMax)
    (i : Int) (hi : i ∈ op.inputs ++ op.outputs) (hi1 : i ≠ -1) (t : Tensor) (ht : tensorAt sg i = .ok t)
    (hnc : constAny env t = none) :
    ∃ mn mx, Py.dictGet? r t.name = some (some (mn, mx)) :=
  C10.stats_complete rx env st sgi sg hsg none (D0 ++ Ds.flatten) hne r hneed
    (C09c.resume_many rx env st sgi Ds D0 q0 r h0 hc) op k scope hop hscope hsel i hi hi1 t ht hnc

end C10c
