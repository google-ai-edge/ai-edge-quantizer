import QProofs.ArithRounded
/-!
# C17 under IEEE rounding (float32/float64 arithmetic exactly as numpy performs it)
-/
open Num Arith

namespace C17

/-- the unclipped cast of the zero point is safe (the code comment "It's safe to cast zp to qtype without clipping"):
    it always lies in the integer range -/
theorem zp_in_range (pr : Prec) (hpr : pr = .f32 ∨ pr = .f64) (bits : Nat) (hb2 : 2 ≤ bits) (hb16 : bits ≤ 16)
    (mn mx : Rat) (hmm : mn ≤ mx) (zp : Int) (s : Rat)
    (h : zpScale1 pr bits false mn mx = .ok (zp, s)) : qmin bits ≤ zp ∧ zp ≤ qmax bits :=
  ArithRounded.zp_in_range pr hpr bits hb2 hb16 mn mx hmm zp s h

/-- quantize(dequantize(q)) = q for **every** integer code and every scale in [2^-100, 2^100], with the dtypes the library uses:
    `uniform_dequantize` subtracts in int32 and multiplies by the float32 scale in float64; `uniform_quantize` then works on
    float64 data with the float32 reciprocal scale -/
theorem q_dq_rounded (bits : Nat) (hb2 : 2 ≤ bits) (hb16 : bits ≤ 16) (narrow : Bool)
    (qw zw : Nat) (hqw : qw = 8 ∨ qw = 16) (hzw : zw = 8 ∨ zw = 16)
    (s : Rat) (hs1 : (2:Rat)^(-100:Int) ≤ s) (hs2 : s ≤ (2:Rat)^(100:Int))
    (zp c : Int) (hz1 : qmin bits ≤ zp) (hz2 : zp ≤ qmax bits)
    (hc1 : qmin bits + (if narrow then 1 else 0) ≤ c) (hc2 : c ≤ qmax bits) :
    roundClip bits narrow (qSum .f64 .f32 zw (dqVal true qw zw .f32 c zp s) s zp) = c :=
  ArithRounded.q_dq_rounded bits hb2 hb16 narrow qw zw hqw hzw s hs1 hs2 zp c hz1 hz2 hc1 hc2

/-- dequantize(quantize(x)) is within half a step (+ explicit float32 slack) of every in-range x -/
theorem dq_q_rounded (bits : Nat) (hb2 : 2 ≤ bits) (hb16 : bits ≤ 16) (narrow : Bool)
    (zw : Nat) (hzw : zw = 8 ∨ zw = 16)
    (s : Rat) (hs1 : (2:Rat)^(-100:Int) ≤ s) (hs2 : s ≤ (2:Rat)^(100:Int))
    (zp : Int) (hz1 : qmin bits ≤ zp) (hz2 : zp ≤ qmax bits) (x : Rat)
    (hlo : ((qmin bits + (if narrow then 1 else 0) - zp : Int) : Rat) * s ≤ x)
    (hhi : x ≤ ((qmax bits - zp : Int) : Rat) * s) :
    |dqVal true (storageBits bits) zw .f32 (roundClip bits narrow (qSum .f32 .f32 zw x s zp)) zp s - x|
      ≤ s * (1/2 + (2:Rat)^(bits + 3) * ArithRounded.u32) :=
  ArithRounded.dq_q_rounded bits hb2 hb16 narrow zw hzw s hs1 hs2 zp hz1 hz2 x hlo hhi

end C17
